import RedoModel.Core.Upd
namespace P

theorem setDb_eq_upd (w : World) (f : Nat) (r : Rec) : setDb w f r = upd w f (w.fs f) r w.clock := by
  unfold setDb upd
  congr 1
  funext x
  by_cases h : x = f <;> simp [h]

/-- frame of a build of a target `< b`: ids `≥ b` untouched, verified files stay verified and unchanged, sources' files untouched -/
structure BExt (g : Graph) (R b : Nat) (w w' : World) : Prop where
  above : ∀ x, b ≤ x → w'.db x = w.db x ∧ w'.fs x = w.fs x
  ver : ∀ x, VerR w R x → VerR w' R x ∧ w'.fs x = w.fs x
  src : ∀ x, g x = none → w'.fs x = w.fs x

theorem BExt.refl (g R b w) : BExt g R b w w := ⟨fun _ _ => ⟨rfl, rfl⟩, fun _ h => ⟨h, rfl⟩, fun _ _ => rfl⟩

theorem BExt.mono {g R b b' w w'} (h : BExt g R b w w') (hb : b ≤ b') : BExt g R b' w w' :=
  ⟨fun x hx => h.above x (Nat.le_trans hb hx), h.ver, h.src⟩

theorem BExt.trans {g R b w w' w''} (h1 : BExt g R b w w') (h2 : BExt g R b w' w'') : BExt g R b w w'' :=
  ⟨fun x hx => ⟨(h2.above x hx).1.trans (h1.above x hx).1, (h2.above x hx).2.trans (h1.above x hx).2⟩,
   fun x hv => ⟨(h2.ver x (h1.ver x hv).1).1, (h2.ver x (h1.ver x hv).1).2.trans (h1.ver x hv).2⟩,
   fun x hs => (h2.src x hs).trans (h1.src x hs)⟩

theorem CkExt.toBExt {g R b w w'} (h : CkExt R b w w') : BExt g R b w w' :=
  ⟨fun x hx => ⟨h.above hx, by rw [h.1]⟩, fun x hv => ⟨VerR_ext h hv, by rw [h.1]⟩, fun x _ => by rw [h.1]⟩

theorem upd_BExt {g R w t} (hnv : ¬ VerR w R t) (ft r' c') (hsrc : g t = none → ft = w.fs t) :
    BExt g R (t+1) w (upd w t ft r' c') := by
  refine ⟨fun x hx => ?_, fun x hv => ?_, fun x hs => ?_⟩
  · have : x ≠ t := by omega
    exact ⟨upd_db_other _ _ _ _ _ this, upd_fs_other _ _ _ _ _ this⟩
  · have : x ≠ t := fun e => hnv (e ▸ hv)
    refine ⟨?_, upd_fs_other _ _ _ _ _ this⟩
    unfold VerR; rw [upd_db_other _ _ _ _ _ this]; exact hv
  · by_cases hx : x = t
    · subst hx; rw [upd_fs_self]; exact hsrc hs
    · exact upd_fs_other _ _ _ _ _ hx

/-- `set_static` on a source whose recorded stamp is not current: the source is verified in this run. -/
theorem Inv.setStatic {g R w t} (hR : 0 < R) (hi : Inv g R w) (hnv : ¬ VerR w R t) (hgt : g t = none)
    (hne : (w.db t).stamp ≠ some (curStamp w t)) :
    Inv g R (P.setStatic w t R) ∧ BExt g R (t+1) w (P.setStatic w t R) ∧ VerR (P.setStatic w t R) R t := by
  have hform : P.setStatic w t R = upd w t (w.fs t)
      { w.db t with stamp := some (curStamp w t), changed := some R, failed := none, gen := false } w.clock := by
    unfold P.setStatic; simp only [hne, if_false]; exact setDb_eq_upd _ _ _
  rw [hform]
  have hv : VerR (upd w t (w.fs t)
      { w.db t with stamp := some (curStamp w t), changed := some R, failed := none, gen := false } w.clock) R t := by
    unfold VerR; rw [upd_db_self]; exact ⟨rfl, Or.inr rfl⟩
  refine ⟨?_, upd_BExt hnv _ _ _ (fun _ => rfl), hv⟩
  refine Inv_upd hR hi hnv _ _ _ ⟨fun ch h => by cases h; exact Nat.le_refl _, hi.ckLe t, fun _ => rfl, fun _ => nofun,
    fun _ h => (h rfl).elim, hi.stampPos t⟩ (fun M hM => upd_detect_changed rfl hM) ?_ ?_
  · intro sc hsc; rw [hgt] at hsc; cases hsc
  · intro _
    refine ⟨?_, UpToDate.source hgt, fun sc hsc => by rw [hgt] at hsc; cases hsc⟩
    unfold RecCur; rw [upd_db_self]; exact ⟨rfl, by simp, by simp [curStamp, upd]⟩

/-- `set_failed` on a target not verified in this run; a source is failed only when its file is missing. -/
theorem Inv.setFailed {g R w t} (hR : 0 < R) (hi : Inv g R w) (hnv : ¬ VerR w R t)
    (hsrc : g t = none → w.fs t = none) :
    Inv g R (P.setFailed w t R) ∧ BExt g R (t+1) w (P.setFailed w t R) := by
  have hform : P.setFailed w t R = upd w t (w.fs t)
      { (if (w.db t).stamp = some (curStamp w t) then w.db t
         else { w.db t with stamp := some (curStamp w t), changed := some R })
          with failed := some R, gen := decide (curStamp w t ≠ 0) } w.clock := by
    unfold P.setFailed; exact setDb_eq_upd _ _ _
  have hcur : g t = none → curStamp w t = 0 := fun h => by unfold curStamp; rw [hsrc h]
  rw [hform]
  refine ⟨?_, upd_BExt hnv _ _ _ (fun _ => rfl)⟩
  refine Inv_upd hR hi hnv _ _ _ ?_ (fun M _ => upd_detect_failed (Option.some_ne_none R) M) ?_ ?_
  · by_cases hs : (w.db t).stamp = some (curStamp w t)
    · simp only [hs, if_true]
      exact ⟨hi.chLe t, hi.ckLe t, fun h => by simp [hcur h], fun _ => hi.stampCh t (by rw [hs]; simp),
        fun h _ => congrArg some (hcur h), hi.stampPos t⟩
    · simp only [hs, if_false]
      exact ⟨fun ch h => by cases h; exact Nat.le_refl _, hi.ckLe t, fun h => by simp [hcur h], fun _ => nofun,
        fun h _ => congrArg some (hcur h), hi.stampPos t⟩
  · intro sc' _ hrc; unfold RecCur at hrc; rw [upd_db_self] at hrc; simp at hrc
  · intro hv; unfold VerR at hv; rw [upd_db_self] at hv; simp at hv

def BldSpec (g : Graph) (R : Nat) (bld : World → Nat → Bool × World) (d : Nat) : Prop :=
  ∀ w ok w', Inv g R w → bld w d = (ok, w') →
    Inv g R w' ∧ BExt g R (d+1) w w' ∧ (ok = true → VerR w' R d)

/-- A predicate of worlds that survives the four writes of a build of run `R`, and so can be carried along the
invariant through `build` (`build_specA`). -/
structure Rides (R : Nat) (A : World → Prop) : Prop where
  ckExt : ∀ {b w w'}, A w → CkExt R b w w' → A w'
  setStatic : ∀ {w t}, A w → (w.fs t).isSome = true → A (setStatic w t R)
  setFailed : ∀ {w} t, A w → A (setFailed w t R)
  built : ∀ {w} t tag cs deps, A w → A (upd w t (some { content := .out tag cs, stamp := w.clock + 1 })
    { w.db t with gen := true, stamp := some (w.clock + 1), changed := some R, failed := none, deps := deps } (w.clock + 1))

theorem Rides.true (R : Nat) : Rides R fun _ => True := ⟨fun _ _ => trivial, fun _ _ => trivial, fun _ _ => trivial,
  fun _ _ _ _ _ => trivial⟩

/-- `BldSpec` with a rider `A`. -/
def BldSpecA (A : World → Prop) (g : Graph) (R : Nat) (bld : World → Nat → Bool × World) (d : Nat) : Prop :=
  ∀ w ok w', Inv g R w → A w → bld w d = (ok, w') →
    Inv g R w' ∧ A w' ∧ BExt g R (d+1) w w' ∧ (ok = true → VerR w' R d)

/-- The builds a script asks for, one after the other. -/
theorem runDeps_specA {A : World → Prop} {g R} (bld : World → Nat → Bool × World) (t : Nat) (ds : List Nat) (w : World)
    (hs : ∀ d ∈ ds, d < t ∧ BldSpecA A g R bld d) (hi : Inv g R w) (ha : A w) :
    Inv g R (runDeps bld w ds).2.1 ∧ A (runDeps bld w ds).2.1 ∧ BExt g R t w (runDeps bld w ds).2.1 ∧
    ((runDeps bld w ds).1 = true →
      (runDeps bld w ds).2.2 = ds.map (contentOf (runDeps bld w ds).2.1) ∧ ∀ d ∈ ds, VerR (runDeps bld w ds).2.1 R d) := by
  fun_induction runDeps bld w ds with
  | case1 w => exact ⟨hi, ha, BExt.refl _ _ _ _, fun _ => ⟨rfl, nofun⟩⟩
  | case2 w d ds w1 hb =>
    obtain ⟨hi1, ha1, he1, -⟩ := (hs d List.mem_cons_self).2 w _ w1 hi ha hb
    exact ⟨hi1, ha1, he1.mono (hs d List.mem_cons_self).1, nofun⟩
  | case3 w d ds w1 hb c ok w2 cs hr ih =>
    obtain ⟨hi1, ha1, he1, hv1⟩ := (hs d List.mem_cons_self).2 w _ w1 hi ha hb
    obtain ⟨hi2, ha2, he2, hv2⟩ := ih (fun x hx => hs x (List.mem_cons_of_mem _ hx)) hi1 ha1
    rw [hr] at hi2 ha2 he2 hv2
    dsimp only at hi2 ha2 he2 hv2 ⊢
    refine ⟨hi2, ha2, (he1.mono (hs d List.mem_cons_self).1).trans he2, fun hok => ?_⟩
    obtain ⟨hcs, hvs⟩ := hv2 hok
    have hd2 := he2.ver d (hv1 rfl)
    refine ⟨?_, List.forall_mem_cons.2 ⟨hd2.1, hvs⟩⟩
    -- the content read right after the build of `d` is still there at the end
    rw [List.map_cons, hcs]
    congr 1
    unfold contentOf
    rw [hd2.2]
    rfl

theorem runDeps_spec {g R} (bld : World → Nat → Bool × World) (t : Nat) :
    ∀ ds, (∀ d ∈ ds, d < t ∧ BldSpec g R bld d) → ∀ w ok w' cs, Inv g R w → runDeps bld w ds = (ok, w', cs) →
      Inv g R w' ∧ BExt g R t w w' ∧ (ok = true → cs = ds.map (contentOf w') ∧ ∀ d ∈ ds, VerR w' R d) := by
  intro ds hs w ok w' cs hi he
  have h := runDeps_specA (A := fun _ => True) bld t ds w
    (fun d hd => ⟨(hs d hd).1, fun w ok w' hi _ he => have ⟨a, b, c⟩ := (hs d hd).2 w ok w' hi he; ⟨a, trivial, b, c⟩⟩)
    hi trivial
  rw [he] at h
  exact ⟨h.1, h.2.2.1, h.2.2.2⟩

end P
