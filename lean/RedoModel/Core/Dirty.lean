import RedoModel.Core.Sound
namespace P

/-- what one dirtiness call guarantees -/
def ChkSpec (g : Graph) (R m : Nat) (chk : World → Nat → Bool × World) (d : Nat) : Prop :=
  ∀ w b w', Inv g R w → chk w d = (b, w') →
    Inv g R w' ∧ CkExt R (d+1) w w' ∧ (b = true → CkExt R d w w') ∧ (b = false → VerR w' R d ∧ ¬ Detect w m d)

/-- `ChkSpec` with its converse added: with fuel `n` above the file and a bound `m` that hides no change of this run, a
file verified in this run is found clean. -/
def ChkSpecC (g : Graph) (R m n : Nat) (chk : World → Nat → Bool × World) (d : Nat) : Prop :=
  ∀ w b w', Inv g R w → chk w d = (b, w') →
    Inv g R w' ∧ CkExt R (d+1) w w' ∧ (b = true → CkExt R d w w') ∧ (b = false → VerR w' R d ∧ ¬ Detect w m d) ∧
    (d < n → R ≤ m → VerR w R d → b = false)

theorem foldDirty_spec {g R m n} (chk : World → Nat → Bool × World) (bnd : Nat) :
    ∀ (ds : List Nat), (∀ d ∈ ds, d < bnd ∧ ChkSpecC g R m n chk d) →
    ∀ w b w', Inv g R w → foldDirty chk w ds = (b, w') →
      Inv g R w' ∧ CkExt R bnd w w' ∧ (b = false → ∀ d ∈ ds, VerR w' R d ∧ ¬ Detect w m d) ∧
      (bnd ≤ n → R ≤ m → (∀ d ∈ ds, VerR w R d) → b = false)
  | [], _, w, b, w', hi, he => by
    simp only [foldDirty, Prod.mk.injEq] at he
    obtain ⟨rfl, rfl⟩ := he
    exact ⟨hi, CkExt.refl _ _ _, fun _ d hd => by simp at hd, fun _ _ _ => rfl⟩
  | d :: ds, hs, w, b, w', hi, he => by
    have hd := hs d (by simp)
    unfold foldDirty at he
    cases hc : chk w d with
    | mk b1 w1 =>
      rw [hc] at he
      obtain ⟨hi1, he1, _, hb1, hv1⟩ := hd.2 w b1 w1 hi hc
      cases b1 with
      | true =>
        simp only [Prod.mk.injEq] at he
        obtain ⟨rfl, rfl⟩ := he
        exact ⟨hi1, he1.mono hd.1, nofun, fun hn hm hv => hv1 (Nat.lt_of_lt_of_le hd.1 hn) hm (hv d (by simp))⟩
      | false =>
        simp only at he
        obtain ⟨hi2, he2, hb2, hv2⟩ := foldDirty_spec chk bnd ds (fun x hx => hs x (List.mem_cons_of_mem _ hx)) w1 b w' hi1 he
        refine ⟨hi2, (he1.mono hd.1).trans he2, fun hb x hx => ?_,
          fun hn hm hv => hv2 hn hm fun x hx => VerR_ext he1 (hv x (List.mem_cons_of_mem _ hx))⟩
        simp only [List.mem_cons] at hx
        rcases hx with rfl | hx
        · exact ⟨VerR_ext he2 (hb1 rfl).1, (hb1 rfl).2⟩
        · obtain ⟨a, c⟩ := hb2 hb x hx
          exact ⟨a, fun hdet => c ((Detect_ext (he1.mono hd.1) m x).2 hdet)⟩

/-- The four tests that let a level of the check go on to the file's dependencies are what `Detect` denies. -/
theorem not_detect {w : World} {f mx ch : Nat} (hfn : (w.db f).failed = none) (hch : (w.db f).changed = some ch)
    (hle : ¬ ch > mx) (hst : (w.db f).stamp = some (curStamp w f)) : ¬ Detect w mx f := by
  rintro (h | h | ⟨c, hc, hgt⟩ | h)
  · exact h hfn
  · rw [hch] at h; cases h
  · rw [hch] at hc; cases hc; exact hle hgt
  · exact h hst

/-- The walk over the recorded dependencies of a current record: they are the script's, all below `f`. -/
theorem walk_spec {g R n} (hg : Ordered g) {w : World} {f m : Nat} (hi : Inv g R w) (hrc : RecCur w f)
    {chk : World → Nat → Bool × World} (hchk : ∀ d, ChkSpecC g R m n chk d) {b : Bool} {w2 : World}
    (hfold : foldDirty chk w (if (w.db f).gen = true then (w.db f).deps else []) = (b, w2)) :
    Inv g R w2 ∧ CkExt R f w w2 ∧
      (b = false → ∀ sc, g f = some sc → ∀ d ∈ sc.deps, VerR w2 R d ∧ ¬ Detect w m d) ∧
      (f ≤ n → R ≤ m → VerR w R f → b = false) := by
  -- the recorded dependencies are the script's
  have hds : ∀ d, d ∈ (if (w.db f).gen = true then (w.db f).deps else []) ↔ ∃ sc, g f = some sc ∧ d ∈ sc.deps := by
    intro d
    cases hgf : g f with
    | none => rw [hi.srcNotGen f hgf]; simp
    | some sc => obtain ⟨h1, h2, _⟩ := hi.recA f sc hgf hrc; rw [h1, h2]; simp
  obtain ⟨hi2, he2, hb2, hv2⟩ := foldDirty_spec _ f _
    (fun d hd => have ⟨sc, hgf, hdm⟩ := (hds d).1 hd; ⟨hg f sc hgf d hdm, hchk d⟩) w _ w2 hi hfold
  exact ⟨hi2, he2, fun hb sc hgf d hd => hb2 hb d ((hds d).2 ⟨sc, hgf, hd⟩),
    fun hn hm hv => hv2 hn hm fun d hd => have ⟨sc, hgf, hdm⟩ := (hds d).1 hd; (hi.ver f hv).2.2 sc hgf d hdm⟩

theorem isDirty_specC {g R} (hg : Ordered g) (n f mx : Nat) :
    ChkSpecC g R mx n (fun w d => isDirty R n w d mx) f := by
  intro w b w' hi he
  dsimp only at he
  -- `dirty` on the record alone: nothing is written, and a file verified in this run passes every test
  have triv : ∀ {w : World} {n f mx : Nat}, Inv g R w → (f < n → R ≤ mx → VerR w R f → False) →
      Inv g R w ∧ CkExt R (f+1) w w ∧ (true = true → CkExt R f w w) ∧
      (true = false → VerR w R f ∧ ¬ Detect w mx f) ∧ (f < n → R ≤ mx → VerR w R f → true = false) :=
    fun hi h => ⟨hi, CkExt.refl _ _ _, fun _ => CkExt.refl _ _ _, nofun, fun a b c => (h a b c).elim⟩
  revert b w'
  fun_induction isDirty R n w f mx with
  | case1 w f mx => rintro _ _ ⟨⟩; exact triv hi fun h _ _ => by omega
  | case2 n w f mx r hfail =>
    rintro _ _ ⟨⟩; exact triv hi fun _ _ hv => by simp [r, hv.1] at hfail
  | case3 n w f mx r _ hch =>
    rintro _ _ ⟨⟩; exact triv hi fun _ _ hv => (hi.ver f hv).1.2.1 hch
  | case4 n w f mx r _ ch hch hgt =>
    rintro _ _ ⟨⟩; exact triv hi fun _ hm _ => by have := hi.chLe f ch hch; omega
  | case6 n w f mx r _ ch _ _ _ hst =>
    rintro _ _ ⟨⟩; exact triv hi fun _ _ hv => hst (hi.ver f hv).1.2.2
  | case5 n w f mx r hfail ch hch hle hck =>
    -- already checked in this run
    rintro _ _ ⟨⟩
    have hfn : (w.db f).failed = none := by simpa [r] using hfail
    have hv : VerR w R f := ⟨hfn, Or.inl hck⟩
    exact ⟨hi, CkExt.refl _ _ _, nofun, fun _ => ⟨hv, not_detect hfn hch hle (hi.ver f hv).1.2.2⟩, fun _ _ _ => rfl⟩
  | case7 n w f mx r hfail ch hch hle hck hst m w2 hfold ih =>
    -- a dependency is dirty
    rintro _ _ ⟨⟩
    have hrc : RecCur w f := ⟨by simpa [r] using hfail, by rw [show (w.db f).changed = some ch from hch]; simp,
      Decidable.of_not_not hst⟩
    obtain ⟨hi2, he2, -, hv2⟩ := walk_spec hg hi hrc (fun d w1 b1 w1' hi1 he1 => ih w1 d hi1 b1 w1' he1) hfold
    refine ⟨hi2, he2.mono (Nat.le_succ f), fun _ => he2, nofun, fun hn hm hv => hv2 (Nat.le_of_lt_succ hn) ?_ hv⟩
    -- verified, yet not checked in this run: changed in this run
    have : ch = R := by
      rcases hv.2 with h | h
      · exact absurd h hck
      · rw [show (w.db f).changed = some ch from hch] at h; exact Option.some.inj h
    omega
  | case8 n w f mx r hfail ch hch hle hck hst m w2 hfold ih =>
    -- every dependency is clean: `f`'s own record is untouched by the calls below (they only touch ids < f)
    rintro _ _ ⟨⟩
    have hfn : (w.db f).failed = none := by simpa [r] using hfail
    have hst : (w.db f).stamp = some (curStamp w f) := Decidable.of_not_not hst
    have hrc : RecCur w f := ⟨hfn, by rw [show (w.db f).changed = some ch from hch]; simp, hst⟩
    obtain ⟨hi2, he2, hb2, -⟩ := walk_spec hg hi hrc (fun d w1 b1 w1' hi1 he1 => ih w1 d hi1 b1 w1' he1) hfold
    have hsame : w2.db f = w.db f := he2.above (Nat.le_refl f)
    have hMof : Mof (w.db f) = m := by unfold Mof; rw [show (w.db f).changed = some ch from hch]; rfl
    obtain ⟨hi3, hv3⟩ := hi2.setChecked ((RecCur_ext he2 f).2 hrc) fun sc hgf d hd =>
      ⟨(hb2 rfl sc hgf d hd).1, by rw [hsame, hMof, Detect_ext he2]; exact (hb2 rfl sc hgf d hd).2⟩
    exact ⟨hi3, (he2.mono (Nat.le_succ f)).trans (setChecked_ext w2 f R), nofun,
      fun _ => ⟨hv3, not_detect hfn hch hle hst⟩, fun _ _ _ => rfl⟩

theorem isDirty_spec {g R} (hg : Ordered g) :
    ∀ n f mx, ChkSpec g R mx (fun w d => isDirty R n w d mx) f := fun n f mx w b w' hi he =>
  have ⟨a, b, c, d, _⟩ := isDirty_specC hg n f mx w b w' hi he
  ⟨a, b, c, d⟩

/-- A source is reported dirty, fuel in hand, only when its recorded stamp is not that of the file or the file is
missing: by the cases of one level of the check. -/
theorem dirty_src {g R w} (hi : Inv g R w) {n t mx w1} (hn : 0 < n) (hm : R ≤ mx) (hgt : g t = none)
    (hd : isDirty R n w t mx = (true, w1)) : (w.db t).stamp ≠ some (curStamp w t) ∨ curStamp w t = 0 := by
  revert hd
  fun_induction isDirty R n w t mx with
  | case1 => omega
  | case2 n w t mx r hfail =>
    intro _
    have := hi.srcFailed t hgt (by intro e; simp [r, e] at hfail)
    by_cases h0 : curStamp w t = 0
    · exact Or.inr h0
    · exact Or.inl (by rw [this]; intro e; exact h0 (Option.some.inj e).symm)
  | case3 n w t mx r _ hch => exact fun _ => Or.inl fun e => hi.stampCh t (by rw [e]; simp) hch
  | case4 n w t mx r _ ch hch hgt' => have := hi.chLe t ch hch; omega
  | case5 => rintro ⟨⟩
  | case6 n w t mx r _ ch _ _ _ hst => exact fun _ => Or.inl hst
  | case7 n w t mx r _ ch _ _ _ _ m w2 hfold => simp [r, hi.srcNotGen t hgt, foldDirty] at hfold
  | case8 => rintro ⟨⟩

end P
