import RedoModel.Core.Main
import RedoModel.Core.Hist
/-!
C01 for the plain-target core over whole histories (`Core/Hist.lean`): source edits, removals of any
file, and earlier runs (successful, partial or failed).

Between two commands the invariant `Inv g R w` of the last run `R` is *not* the right statement: an edit
of a source that run `R` verified breaks its `ver` clause (see `inv_reachable_false`).  What is carried is
`Btw g R w`: `Inv` for the *next* run id `R+1` (where nothing is verified yet), all recorded run ids `≤ R`,
and `Aux`: stamps are bounded by the clock (so a user's stamp `clock+1` is fresh) and a recorded stamp `0`
("missing") only occurs on failed records (so a removal is always visible).
-/
namespace P

/-! ### the auxiliary invariant -/

structure Aux (w : World) : Prop where
  fsB : ∀ f x, w.fs f = some x → 1 ≤ x.stamp ∧ x.stamp ≤ w.clock
  dbB : ∀ f s, (w.db f).stamp = some s → s ≤ w.clock
  z : ∀ f, (w.db f).stamp = some 0 → (w.db f).failed ≠ none

theorem Aux.curStamp_le {w} (ha : Aux w) (f : Nat) : curStamp w f ≤ w.clock := by
  unfold curStamp
  cases h : w.fs f with
  | none => exact Nat.zero_le _
  | some x => exact (ha.fsB f x h).2

theorem Aux.curStamp_pos {w} (ha : Aux w) {f : Nat} (h : (w.fs f).isSome = true) : 1 ≤ curStamp w f := by
  unfold curStamp
  cases hx : w.fs f with
  | none => rw [hx] at h; simp at h
  | some x => exact (ha.fsB f x hx).1

theorem Aux.ckExt {R b w w'} (ha : Aux w) (h : CkExt R b w w') : Aux w' := by
  refine ⟨fun f x hx => ?_, fun f s hs => ?_, fun f hs => ?_⟩
  · rw [h.1] at hx; rw [h.2.1]; exact ha.fsB f x hx
  · obtain ⟨_, _, f3, _⟩ := h.fields f
    rw [f3] at hs; rw [h.2.1]; exact ha.dbB f s hs
  · obtain ⟨f1, _, f3, _⟩ := h.fields f
    rw [f3] at hs; rw [f1]; exact ha.z f hs

theorem Aux.upd {w} (ha : Aux w) (t : Nat) (ft : Option File) (r' : Rec) (c' : Nat) (hc : w.clock ≤ c')
    (hft : ∀ x, ft = some x → 1 ≤ x.stamp ∧ x.stamp ≤ c')
    (hs : ∀ s, r'.stamp = some s → s ≤ c')
    (hz : r'.stamp = some 0 → r'.failed ≠ none) : Aux (P.upd w t ft r' c') := by
  refine ⟨fun f x hx => ?_, fun f s hs' => ?_, fun f hs' => ?_⟩
  · by_cases hf : f = t
    · subst hf; rw [upd_fs_self] at hx; exact hft x hx
    · rw [upd_fs_other _ _ _ _ _ hf] at hx
      have := ha.fsB f x hx
      exact ⟨this.1, Nat.le_trans this.2 hc⟩
  · by_cases hf : f = t
    · subst hf; rw [upd_db_self] at hs'; exact hs s hs'
    · rw [upd_db_other _ _ _ _ _ hf] at hs'
      exact Nat.le_trans (ha.dbB f s hs') hc
  · by_cases hf : f = t
    · subst hf; rw [upd_db_self] at hs' ⊢; exact hz hs'
    · rw [upd_db_other _ _ _ _ _ hf] at hs' ⊢; exact ha.z f hs'

theorem Aux.setDb {w} (ha : Aux w) (t : Nat) (r : Rec) (hs : ∀ s, r.stamp = some s → s ≤ w.clock)
    (hz : r.stamp = some 0 → r.failed ≠ none) : Aux (P.setDb w t r) := by
  rw [setDb_eq_upd]
  exact ha.upd t _ _ _ (Nat.le_refl _) (fun x hx => ha.fsB t x hx) hs hz

theorem Aux.setStatic {w} (ha : Aux w) {t : Nat} (R : Nat) (hex : (w.fs t).isSome = true) :
    Aux (P.setStatic w t R) := by
  have hpos := ha.curStamp_pos hex
  have hle := ha.curStamp_le t
  unfold P.setStatic
  by_cases hs : (w.db t).stamp = some (curStamp w t)
  · simp only [hs, if_true]
    exact ha.setDb t _ (fun s h => by simp only [Option.some.injEq] at h; omega)
      (fun h => by simp only [Option.some.injEq] at h; omega)
  · simp only [hs, if_false]
    exact ha.setDb t _ (fun s h => by simp only [Option.some.injEq] at h; omega)
      (fun h => by simp only [Option.some.injEq] at h; omega)

theorem Aux.setFailed {w} (ha : Aux w) (t R : Nat) : Aux (P.setFailed w t R) := by
  have hle := ha.curStamp_le t
  unfold P.setFailed
  refine ha.setDb t _ (fun s h => ?_) (fun _ => by simp)
  by_cases hs : (w.db t).stamp = some (curStamp w t)
  · simp only [hs, if_true, Option.some.injEq] at h; omega
  · simp only [hs, if_false, Option.some.injEq] at h; omega

theorem Rides.aux (R : Nat) : Rides R Aux where
  ckExt := fun ha h => ha.ckExt h
  setStatic := fun ha hex => ha.setStatic R hex
  setFailed := fun t ha => ha.setFailed t R
  built := fun t _ _ _ ha => ha.upd t _ _ _ (Nat.le_succ _)
    (fun x hx => by cases hx; exact ⟨Nat.succ_le_succ (Nat.zero_le _), Nat.le_refl _⟩)
    (fun s h => by simp only [Option.some.injEq] at h; omega) (fun h => by simp only [Option.some.injEq] at h; omega)

/-! ### several targets in one command -/

/-- A command's loop over its targets is the loop of a script over its dependencies, the contents read dropped. -/
theorem buildAll_eq_runDeps (g : Graph) (R k n : Nat) (w : World) (ts : List Nat) :
    buildAll g R k n w ts =
      ((runDeps (fun w d => build g R k n w d) w ts).1, (runDeps (fun w d => build g R k n w d) w ts).2.1) := by
  fun_induction buildAll g R k n w ts with
  | case1 w => rfl
  | case2 w t ts w1 hb => simp only [runDeps, hb]
  | case3 w t ts w1 hb ih => simp only [runDeps, hb, ih]

theorem buildAll_spec {g R} (hg : Ordered g) (hR : 0 < R) (k n : Nat) (ts : List Nat) (hts : ∀ t ∈ ts, t < k) (w : World)
    (hi : Inv g R w) (ha : Aux w) :
    Inv g R (buildAll g R k n w ts).2 ∧ Aux (buildAll g R k n w ts).2 ∧ BExt g R k w (buildAll g R k n w ts).2 ∧
      ((buildAll g R k n w ts).1 = true → ∀ t ∈ ts, VerR (buildAll g R k n w ts).2 R t) := by
  have h := runDeps_specA (A := Aux) (fun w d => build g R k n w d) k ts w
    (fun t ht => ⟨hts t ht, build_specA (Rides.aux R) hg hR k n t (hts t ht)⟩) hi ha
  rw [buildAll_eq_runDeps]
  exact ⟨h.1, h.2.1, h.2.2.1, fun hok => (h.2.2.2 hok).2⟩

/-! ### the invariant between two commands -/

structure Btw (g : Graph) (R : Nat) (w : World) : Prop where
  inv : Inv g (R + 1) w
  chLe : ∀ f ch, (w.db f).changed = some ch → ch ≤ R
  ckLe : ∀ f ck, (w.db f).checked = some ck → ck ≤ R
  aux : Aux w

theorem Btw.notVer {g R w} (h : Btw g R w) (f : Nat) : ¬ VerR w (R + 1) f := by
  intro hv
  rcases hv.2 with e | e
  · have := h.ckLe f _ e; omega
  · have := h.chLe f _ e; omega

/-- after a run, before the next command -/
theorem Btw.ofInv {g R w} (hi : Inv g R w) (ha : Aux w) : Btw g R w :=
  ⟨hi.nextRun, hi.chLe, hi.ckLe, ha⟩

theorem Inv.init (g : Graph) (R : Nat) : Inv g R init.w :=
  Inv.of_recOk (fun _ => ⟨nofun, nofun, fun _ => rfl, fun h => (h rfl).elim, fun _ h => (h rfl).elim, nofun⟩)
    (fun _ _ _ hrc => absurd rfl hrc.2.1) (fun _ hv => by rcases hv.2 with e | e <;> cases e)

theorem Btw.init (g : Graph) : Btw g init.R init.w :=
  ⟨Inv.init g _, nofun, nofun, ⟨nofun, nofun, nofun⟩⟩

/-- The user replaces the file `f` (no record is touched, the clock does not go back, a new file carries a stamp
within the clock) in a way the record of `f` shows: it is failed, or its stamp is not that of the new file.  A write
like those of a build (`Inv_upd`, `Aux.upd`), in a run in which nothing is verified yet. -/
theorem Btw.edit {g R w} (h : Btw g R w) (f : Nat) (ft : Option File) (c' : Nat) (hck : w.clock ≤ c')
    (hnew : ∀ y, ft = some y → 1 ≤ y.stamp ∧ y.stamp ≤ c')
    (hvis : (w.db f).failed ≠ none ∨ (w.db f).stamp ≠ some (curStamp (upd w f ft (w.db f) c') f)) :
    Btw g R (upd w f ft (w.db f) c') := by
  have hi := h.inv
  have hdb : (upd w f ft (w.db f) c').db = w.db := by rw [upd_keep]
  have hnc : ¬ RecCur (upd w f ft (w.db f) c') f := fun hrc => by
    unfold RecCur at hrc; rw [upd_db_self] at hrc
    exact hvis.elim (· hrc.1) (· hrc.2.2)
  have hnv : ¬ VerR (upd w f ft (w.db f) c') (R + 1) f := by unfold VerR; rw [upd_db_self]; exact h.notVer f
  exact ⟨Inv_upd (Nat.succ_pos R) hi (h.notVer f) ft _ c' { hi.recOk f with stampPos := fun y hy => (hnew y hy).1 }
      (fun M _ => hvis.elim (upd_detect_failed · M) (upd_detect_stamp · M)) (fun _ _ hrc => (hnc hrc).elim)
      (fun hv => (hnv hv).elim), by rw [hdb]; exact h.chLe, by rw [hdb]; exact h.ckLe,
    h.aux.upd f ft _ c' hck hnew (fun s hs => Nat.le_trans (h.aux.dbB f s hs) hck) (h.aux.z f)⟩

/-- the user creates or edits a file: fresh stamp, so every recorded reader sees the change -/
theorem Btw.write {g R w} (h : Btw g R w) (f v : Nat) : Btw g R (writeFile w f v) := by
  rw [show writeFile w f v = _ from (upd_keep w f _ _).symm]
  refine h.edit f _ _ (Nat.le_succ _) (fun y hy => ?_) (Or.inr fun e => ?_)
  · cases hy; exact ⟨Nat.succ_pos _, Nat.le_refl _⟩
  · have := h.aux.dbB f _ e
    simp only [curStamp, upd_fs_self] at this
    omega

/-- the user removes a file (source or target): the recorded stamp is never the "missing" stamp of a
non-failed record, so every recorded reader (and the file's own record) sees the removal -/
theorem Btw.remove {g R w} (h : Btw g R w) (f : Nat) : Btw g R (removeFile w f) := by
  rw [show removeFile w f = _ from (upd_keep w f none w.clock).symm]
  refine h.edit f _ _ (Nat.le_refl _) nofun ?_
  rw [show curStamp (upd w f none (w.db f) w.clock) f = 0 by simp [curStamp, upd]]
  by_cases e : (w.db f).stamp = some 0
  · exact Or.inl (h.aux.z f e)
  · exact Or.inr e

/-- a command: a new run with id `R+1` -/
theorem Btw.buildAll {g R w} (hg : Ordered g) (h : Btw g R w) (k n : Nat) {ts : List Nat} (hts : ∀ t ∈ ts, t < k) :
    Inv g (R + 1) (P.buildAll g (R + 1) k n w ts).2 ∧ Aux (P.buildAll g (R + 1) k n w ts).2 ∧
    ((P.buildAll g (R + 1) k n w ts).1 = true → ∀ t ∈ ts, UpToDate g (P.buildAll g (R + 1) k n w ts).2.fs t) := by
  obtain ⟨hi', ha', _, hv⟩ := buildAll_spec hg (Nat.succ_pos R) k n ts hts w h.inv h.aux
  exact ⟨hi', ha', fun hok t ht => (hi'.ver t (hv hok t ht)).2.1⟩

theorem Btw.step {g : Graph} (hg : Ordered g) (k n : Nat) {s : HState} (h : Btw g s.R s.w) {op : Op} (hwf : op.WF g k) :
    Btw g (step g k n s op).1.R (step g k n s op).1.w := by
  cases op with
  | write f v => exact h.write f v
  | remove f => exact h.remove f
  -- `step` on a command reduces to the two components of `buildAll`
  | build ts => exact Btw.ofInv (h.buildAll hg k n hwf).1 (h.buildAll hg k n hwf).2.1

theorem Btw.run {g : Graph} (hg : Ordered g) (k n : Nat) :
    ∀ (ops : List Op) (s : HState), Btw g s.R s.w → (∀ op ∈ ops, op.WF g k) →
      Btw g (run g k n s ops).R (run g k n s ops).w
  | [], _, h, _ => h
  | op :: ops, s, h, hwf => by
    simp only [P.run]
    exact Btw.run hg k n ops _ (h.step hg k n (hwf op (by simp))) (fun o ho => hwf o (List.mem_cons_of_mem _ ho))

theorem btw_reachable {g : Graph} (hg : Ordered g) (k n : Nat) (ops : List Op) (hwf : ∀ op ∈ ops, op.WF g k) :
    Btw g (run g k n init ops).R (run g k n init ops).w :=
  Btw.run hg k n ops init (Btw.init g) hwf

/-! ### main theorems -/

/-- The invariant *of the next run* holds in every state reachable by a well-formed history.
(With `s.R` instead of `s.R + 1` the statement is false, see `inv_reachable_false`.) -/
theorem inv_reachable_next {g : Graph} (hg : Ordered g) (k n : Nat) (ops : List Op) (hwf : ∀ op ∈ ops, op.WF g k) :
    Inv g ((run g k n init ops).R + 1) (run g k n init ops).w :=
  (btw_reachable hg k n ops hwf).inv

theorem run_append (g : Graph) (k n : Nat) : ∀ (ops : List Op) (s : HState) (op : Op),
    run g k n s (ops ++ [op]) = (step g k n (run g k n s ops) op).1
  | [], _, _ => rfl
  | o :: ops, s, op => by
    simp only [List.cons_append, P.run]
    exact run_append g k n ops _ op

/-- When no user operation follows the last command, the invariant of the *last* run holds: in the initial state
and right after every command. -/
theorem inv_reachable_partial {g : Graph} (hg : Ordered g) (k n : Nat) (ops : List Op) (hwf : ∀ op ∈ ops, op.WF g k)
    (hlast : ops = [] ∨ ∃ pre ts, ops = pre ++ [.build ts]) :
    Inv g (run g k n init ops).R (run g k n init ops).w := by
  rcases hlast with rfl | ⟨pre, ts, rfl⟩
  · exact Inv.init g _
  · rw [run_append]
    exact ((btw_reachable hg k n pre fun o ho => hwf o (List.mem_append_left _ ho)).buildAll hg k n
      (hwf (.build ts) (by simp))).1

/-- C01 for the plain-target core, over all histories: whenever `redo-ifchange ts` exits 0, every target named
is up to date (recursively: everything it depends on holds what its script produces from up-to-date inputs). -/
theorem no_stale_history {g : Graph} (hg : Ordered g) (k n : Nat) (ops : List Op) (hwf : ∀ op ∈ ops, op.WF g k)
    (ts : List Nat) (hts : ∀ t ∈ ts, t < k) :
    let s := run g k n init ops
    (step g k n s (.build ts)).2 = some true → ∀ t ∈ ts, UpToDate g (step g k n s (.build ts)).1.w.fs t := by
  exact fun hok => ((btw_reachable hg k n ops hwf).buildAll hg k n hts).2.2 (Option.some.inj hok)

/-! ### the invariant of the *last* run does not hold in every reachable state -/

/-- one source, no rule -/
def cexG : Graph := fun _ => none
/-- edit, build (run 2 verifies the source: `changed = 2`, recorded stamp 1), edit again (current stamp 2) -/
def cexOps : List Op := [.write 0 7, .build [0], .write 0 8]

theorem cexG_ordered : Ordered cexG := fun t sc h => by cases h
theorem cexOps_wf : ∀ op ∈ cexOps, op.WF cexG 1 := by
  intro op h
  simp only [cexOps, List.mem_cons, List.mem_nil_iff, or_false] at h
  rcases h with rfl | rfl | rfl
  · exact ⟨rfl, Nat.lt_succ_self 0⟩
  · intro t ht; simp only [List.mem_cons, List.mem_nil_iff, or_false] at ht; subst ht; exact Nat.lt_succ_self 0
  · exact ⟨rfl, Nat.lt_succ_self 0⟩

/-- Counterexample to `Inv g s.R s.w` for all reachable `s`: after the second edit the source is still
"verified in run 2" (`VerR`), but its recorded stamp (1) is not the current one (2), so `Inv.ver` fails. -/
theorem inv_reachable_false :
    ¬ Inv cexG (run cexG 1 1 init cexOps).R (run cexG 1 1 init cexOps).w := by
  intro h
  have hv : VerR (run cexG 1 1 init cexOps).w (run cexG 1 1 init cexOps).R 0 := ⟨by decide, Or.inr (by decide)⟩
  have := (h.ver 0 hv).1.2.2
  revert this
  decide

/-! ### non-vacuity -/

/-- source 0; target 1 reads 0; target 2 reads 1 and 0 -/
def exG : Graph := fun t => match t with
  | 1 => some ⟨10, [0]⟩
  | 2 => some ⟨20, [1, 0]⟩
  | _ => none

theorem exG_ordered : Ordered exG := by
  intro t sc h d hd
  match t, h with
  | 1, h => simp only [exG, Option.some.injEq] at h; subst h; simp at hd; omega
  | 2, h => simp only [exG, Option.some.injEq] at h; subst h; simp at hd; omega

/-- edit, build, edit again, delete the intermediate target -/
def exOps : List Op := [.write 0 7, .build [2], .write 0 8, .remove 1]

theorem exOps_wf : ∀ op ∈ exOps, op.WF exG 3 := by
  intro op h
  simp only [exOps, List.mem_cons, List.mem_nil_iff, or_false] at h
  rcases h with rfl | rfl | rfl | rfl
  · exact ⟨rfl, by decide⟩
  · intro t ht; simp only [List.mem_cons, List.mem_nil_iff, or_false] at ht; subst ht; decide
  · exact ⟨rfl, by decide⟩
  · show 1 < 3; decide

/-- the history [write 0 7, build [2], write 0 8, remove 1, build [2]]: the last build exits 0 … -/
example : (step exG 3 3 (run exG 3 3 init exOps) (.build [2])).2 = some true := by decide

/-- … it really rebuilt both targets from the new source … -/
example : contentOf (step exG 3 3 (run exG 3 3 init exOps) (.build [2])).1.w 2
    = some (.out 20 [some (.out 10 [some (.src 8)]), some (.src 8)]) := rfl

/-- … and `no_stale_history` applies to it. -/
example : UpToDate exG (step exG 3 3 (run exG 3 3 init exOps) (.build [2])).1.w.fs 2 :=
  no_stale_history exG_ordered 3 3 exOps exOps_wf [2] (by decide) (by decide) 2 (by simp)

/-- a history with a failed build first (source 0 missing, so `redo-ifchange 2` fails and records 0, 1, 2 as
failed), then the source appears and the next build succeeds -/
example : (step exG 3 3 init (.build [2])).2 = some false
    ∧ (step exG 3 3 (run exG 3 3 init [.build [2], .write 0 5]) (.build [2, 1])).2 = some true := by decide

example : Inv exG ((run exG 3 3 init exOps).R + 1) (run exG 3 3 init exOps).w :=
  inv_reachable_next exG_ordered 3 3 exOps exOps_wf

example : Inv exG (run exG 3 3 init (exOps ++ [.build [2]])).R (run exG 3 3 init (exOps ++ [.build [2]])).w :=
  inv_reachable_partial exG_ordered 3 3 _
    (by
      intro op h
      rcases List.mem_append.1 h with h | h
      · exact exOps_wf op h
      · simp only [List.mem_cons, List.mem_nil_iff, or_false] at h; subst h
        intro t ht; simp only [List.mem_cons, List.mem_nil_iff, or_false] at ht; subst ht; decide)
    (Or.inr ⟨exOps, [2], rfl⟩)

end P
