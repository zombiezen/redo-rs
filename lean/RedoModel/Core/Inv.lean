import RedoModel.Core.Basic
/-! The plain-target core: what "up to date" means over a static ranked graph, and the run invariant `Inv`. -/
namespace P

def Ordered (g : Graph) : Prop := ∀ t sc, g t = some sc → ∀ d ∈ sc.deps, d < t

inductive UpToDate (g : Graph) (fs : Nat → Option File) : Nat → Prop
  | source {f} : g f = none → UpToDate g fs f
  | target {t sc} : g t = some sc → (∀ d ∈ sc.deps, UpToDate g fs d) →
      (fs t).map (·.content) = some (.out sc.tag (sc.deps.map (fun d => (fs d).map (·.content)))) →
      UpToDate g fs t

def RecCur (w : World) (f : Nat) : Prop :=
  (w.db f).failed = none ∧ (w.db f).changed ≠ none ∧ (w.db f).stamp = some (curStamp w f)

/-- a change of `d` is visible to a parent whose max(changed,checked) is `M` -/
def Detect (w : World) (M : Nat) (d : Nat) : Prop :=
  (w.db d).failed ≠ none ∨ (w.db d).changed = none ∨
  (∃ ch, (w.db d).changed = some ch ∧ ch > M) ∨ (w.db d).stamp ≠ some (curStamp w d)

def Mof (r : Rec) : Nat := max (r.changed.getD 0) (r.checked.getD 0)

def VerR (w : World) (R : Nat) (f : Nat) : Prop :=
  (w.db f).failed = none ∧ ((w.db f).checked = some R ∨ (w.db f).changed = some R)

structure Inv (g : Graph) (R : Nat) (w : World) : Prop where
  chLe : ∀ f ch, (w.db f).changed = some ch → ch ≤ R
  ckLe : ∀ f ck, (w.db f).checked = some ck → ck ≤ R
  srcNotGen : ∀ f, g f = none → (w.db f).gen = false
  stampCh : ∀ f, (w.db f).stamp ≠ none → (w.db f).changed ≠ none
  srcFailed : ∀ f, g f = none → (w.db f).failed ≠ none → (w.db f).stamp = some 0
  stampPos : ∀ f x, w.fs f = some x → 1 ≤ x.stamp
  recA : ∀ t sc, g t = some sc → RecCur w t →
      (w.db t).gen = true ∧ (w.db t).deps = sc.deps ∧
      ∃ cs, contentOf w t = some (.out sc.tag cs) ∧ cs.length = sc.deps.length ∧
        ∀ p ∈ List.zip sc.deps cs, p.2 ≠ contentOf w p.1 → Detect w (Mof (w.db t)) p.1
  ver : ∀ f, VerR w R f → RecCur w f ∧ UpToDate g w.fs f ∧
      (∀ sc, g f = some sc → ∀ d ∈ sc.deps, VerR w R d)

/-- `w'` differs from `w` only by `checked := some R` on some ids `< b` -/
def CkExt (R : Nat) (b : Nat) (w w' : World) : Prop :=
  w'.fs = w.fs ∧ w'.clock = w.clock ∧
  ∀ x, w'.db x = w.db x ∨ (x < b ∧ w'.db x = { w.db x with checked := some R })

theorem CkExt.refl (R b w) : CkExt R b w w := ⟨rfl, rfl, fun _ => Or.inl rfl⟩

theorem CkExt.mono {R b b' w w'} (h : CkExt R b w w') (hb : b ≤ b') : CkExt R b' w w' :=
  ⟨h.1, h.2.1, fun x => (h.2.2 x).imp id (fun ⟨hx, e⟩ => ⟨Nat.lt_of_lt_of_le hx hb, e⟩)⟩

theorem CkExt.trans {R b w w' w''} (h1 : CkExt R b w w') (h2 : CkExt R b w' w'') : CkExt R b w w'' := by
  refine ⟨h2.1.trans h1.1, h2.2.1.trans h1.2.1, fun x => ?_⟩
  rcases h1.2.2 x with e1 | ⟨hx1, e1⟩ <;> rcases h2.2.2 x with e2 | ⟨hx2, e2⟩
  · exact Or.inl (e2.trans e1)
  · exact Or.inr ⟨hx2, by rw [e2, e1]⟩
  · exact Or.inr ⟨hx1, by rw [e2, e1]⟩
  · exact Or.inr ⟨hx1, by rw [e2, e1]⟩

theorem CkExt.curStamp {R b w w'} (h : CkExt R b w w') (f) : curStamp w' f = curStamp w f := by
  unfold P.curStamp; rw [h.1]
theorem CkExt.contentOf {R b w w'} (h : CkExt R b w w') (f) : contentOf w' f = contentOf w f := by
  unfold P.contentOf; rw [h.1]

theorem CkExt.fields {R b w w'} (h : CkExt R b w w') (x) :
    (w'.db x).failed = (w.db x).failed ∧ (w'.db x).changed = (w.db x).changed ∧
    (w'.db x).stamp = (w.db x).stamp ∧ (w'.db x).gen = (w.db x).gen ∧ (w'.db x).deps = (w.db x).deps ∧
    ((w'.db x).checked = (w.db x).checked ∨ (w'.db x).checked = some R) := by
  rcases h.2.2 x with e | ⟨_, e⟩ <;> rw [e] <;> simp

theorem CkExt.above {R b w w'} (h : CkExt R b w w') {x} (hx : b ≤ x) : w'.db x = w.db x := by
  rcases h.2.2 x with e | ⟨hx', _⟩
  · exact e
  · omega

theorem Detect_ext {R b w w'} (h : CkExt R b w w') (M d) : Detect w' M d ↔ Detect w M d := by
  obtain ⟨f1, f2, f3, _, _, _⟩ := h.fields d
  unfold Detect; rw [f1, f2, f3, h.curStamp]

theorem RecCur_ext {R b w w'} (h : CkExt R b w w') (f) : RecCur w' f ↔ RecCur w f := by
  obtain ⟨f1, f2, f3, _, _, _⟩ := h.fields f
  unfold RecCur; rw [f1, f2, f3, h.curStamp]

theorem VerR_ext {R b w w'} (h : CkExt R b w w') {f} (hv : VerR w R f) : VerR w' R f := by
  obtain ⟨f1, f2, _, _, _, f6⟩ := h.fields f
  unfold VerR at *; rw [f1, f2]
  refine ⟨hv.1, ?_⟩
  rcases hv.2 with h1 | h1
  · rcases f6 with e | e
    · exact Or.inl (e.trans h1)
    · exact Or.inl e
  · exact Or.inr h1

end P
