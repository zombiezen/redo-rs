import RedoModel.Core.Build
/-! The plain-target core: a build keeps the invariant (`build_spec`), and a successful one leaves its target up to date
(`build_sound`); a new run keeps it too. -/
namespace P


/-- The check at the head of a build answers `dirty`: what is known of the world it leaves. -/
theorem build_dirty {A : World → Prop} {g R} (hA : Rides R A) (hg : Ordered g) {k t : Nat} (htk : t < k) {w w1 : World}
    (hi : Inv g R w) (ha : A w) (hd : isDirty R k w t R = (true, w1)) :
    Inv g R w1 ∧ A w1 ∧ CkExt R (t+1) w w1 ∧ ¬ VerR w1 R t ∧ w1.db t = w.db t ∧ curStamp w1 t = curStamp w t := by
  obtain ⟨hi1, hce, hstrict, -, hclean⟩ := isDirty_specC (R := R) hg k t R w true w1 hi hd
  have hsame : w1.db t = w.db t := (hstrict rfl).above (Nat.le_refl t)
  refine ⟨hi1, hA.ckExt ha hce, hce, ?_, hsame, (hstrict rfl).curStamp t⟩
  unfold VerR
  rw [hsame]
  exact fun hv => Bool.noConfusion (hclean htk (Nat.le_refl R) hv)

/-- A build keeps the invariant and what rides along, changes nothing from its target upwards, and verifies the
target if it succeeds: by the cases of `build`. -/
theorem build_specA {A : World → Prop} {g R} (hA : Rides R A) (hg : Ordered g) (hR : 0 < R) (k n t : Nat) (htk : t < k) :
    BldSpecA A g R (fun w d => build g R k n w d) t := by
  intro w ok w' hi ha he
  dsimp only at he
  -- the targets a script asks for
  have nested : ∀ {n t}, (∀ w d, d < k → Inv g R w → A w → ∀ ok w', build g R k n w d = (ok, w') →
        Inv g R w' ∧ A w' ∧ BExt g R (d + 1) w w' ∧ (ok = true → VerR w' R d)) → t < k → ∀ sc, g t = some sc →
      ∀ d ∈ sc.deps, d < t ∧ BldSpecA A g R (fun w d => build g R k n w d) d := fun ih htk sc hgt d hdm =>
    ⟨hg _ sc hgt d hdm, fun w ok w' hi ha he => ih w d (by have := hg _ sc hgt d hdm; omega) hi ha ok w' he⟩
  revert ok w'
  fun_induction build g R k n w t with
  | case1 w t => rintro _ _ ⟨⟩; exact ⟨hi, ha, BExt.refl _ _ _ _, nofun⟩
  | case2 n w t w1 hd =>
    rintro _ _ ⟨⟩
    obtain ⟨hi1, hce, -, hclean⟩ := isDirty_spec (R := R) hg k t R w false w1 hi hd
    exact ⟨hi1, hA.ckExt ha hce, hce.toBExt, fun _ => (hclean rfl).1⟩
  | case3 n w t w1 hd hgt hex =>
    -- an existing source: `set_static`
    rintro _ _ ⟨⟩
    obtain ⟨hi1, ha1, hce, hnv1, hsame, hcur⟩ := build_dirty hA hg htk hi ha hd
    obtain ⟨x, hx⟩ := Option.isSome_iff_exists.1 hex
    have hpos : 1 ≤ curStamp w1 t := by unfold curStamp; rw [hx]; exact hi1.stampPos t x hx
    have hne : (w1.db t).stamp ≠ some (curStamp w1 t) := by
      rw [hsame, hcur]
      rcases dirty_src hi (Nat.zero_lt_of_lt htk) (Nat.le_refl R) hgt hd with h | h
      · exact h
      · omega
    obtain ⟨hi2, he2, hv2⟩ := hi1.setStatic hR hnv1 hgt hne
    exact ⟨hi2, hA.setStatic ha1 hex, hce.toBExt.trans he2, fun _ => hv2⟩
  | case4 n w t w1 hd hgt hex =>
    -- a missing file without rule: `set_failed`
    rintro _ _ ⟨⟩
    obtain ⟨hi1, ha1, hce, hnv1, -, -⟩ := build_dirty hA hg htk hi ha hd
    obtain ⟨hi2, he2⟩ := hi1.setFailed hR hnv1 (fun _ => by simpa using hex)
    exact ⟨hi2, hA.setFailed t ha1, hce.toBExt.trans he2, nofun⟩
  | case5 n w t w1 hd sc hgt w3 cs hr ih =>
    -- a dependency failed
    rintro _ _ ⟨⟩
    obtain ⟨hi1, ha1, hce, hnv1, -, -⟩ := build_dirty hA hg htk hi ha hd
    obtain ⟨hi3, ha3, he3, -⟩ := runDeps_specA _ t sc.deps w1
      (nested ih htk sc hgt) hi1 ha1
    rw [hr] at hi3 ha3 he3
    dsimp only at hi3 ha3 he3
    have hnv3 : ¬ VerR w3 R t := by unfold VerR at hnv1 ⊢; rw [(he3.above t (Nat.le_refl t)).1]; exact hnv1
    obtain ⟨hi4, he4⟩ := hi3.setFailed hR hnv3 (fun h => by rw [hgt] at h; cases h)
    exact ⟨hi4, hA.setFailed t ha3, (hce.toBExt.trans (he3.mono (Nat.le_succ t))).trans he4, nofun⟩
  | case6 n w t w1 hd sc hgt w3 cs hr st r' ih =>
    -- the script ran: the new file and record
    dsimp only [st, r']
    clear r' st
    rintro _ _ ⟨⟩
    obtain ⟨hi1, ha1, hce, hnv1, -, -⟩ := build_dirty hA hg htk hi ha hd
    obtain ⟨hi3, ha3, he3, hv3⟩ := runDeps_specA _ t sc.deps w1
      (nested ih htk sc hgt) hi1 ha1
    rw [hr] at hi3 ha3 he3 hv3
    dsimp only at hi3 ha3 he3 hv3
    have hnv3 : ¬ VerR w3 R t := by unfold VerR at hnv1 ⊢; rw [(he3.above t (Nat.le_refl t)).1]; exact hnv1
    obtain ⟨hcs, hvs⟩ := hv3 rfl
    have hdne : ∀ d ∈ sc.deps, d ≠ t := fun d hdm e => by have := hg t sc hgt d hdm; omega
    refine ⟨?_, hA.built t _ _ _ ha3,
      (hce.toBExt.trans (he3.mono (Nat.le_succ t))).trans (upd_BExt hnv3 _ _ _ (fun h => by rw [hgt] at h; cases h)),
      fun _ => by unfold VerR; rw [upd_db_self]; exact ⟨rfl, Or.inr rfl⟩⟩
    have hsrc : g t ≠ none := by rw [hgt]; nofun
    refine Inv_upd hR hi3 hnv3 _ _ _ ⟨fun ch h => by cases h; exact Nat.le_refl _, hi3.ckLe t, fun h => (hsrc h).elim,
      fun _ => nofun, fun h => (hsrc h).elim, fun y hy => by cases hy; exact Nat.succ_pos _⟩
      (fun M hM => upd_detect_changed rfl hM) ?_ ?_
    · intro sc' hsc' _
      rw [hgt] at hsc'; cases hsc'
      refine ⟨rfl, rfl, cs, by simp [contentOf, upd], by rw [hcs]; simp, ?_⟩
      intro p hp hne
      exfalso; apply hne
      have hp1 : p.1 ∈ sc.deps := (List.of_mem_zip hp).1
      rw [upd_contentOf_other _ _ _ _ _ (hdne p.1 hp1)]
      rw [hcs] at hp
      exact List.snd_eq_of_mem_zip_map (contentOf w3) sc.deps p hp
    · intro _
      refine ⟨?_, ?_, fun sc' hsc' d hdm => by
        rw [hgt] at hsc'; cases hsc'; exact hvs d hdm⟩
      · unfold RecCur; rw [upd_db_self]; exact ⟨rfl, by simp, by simp [curStamp, upd]⟩
      refine UpToDate.target hgt (fun d hdm => upToDate_upd hi3 hnv3 _ _ _ (hvs d hdm)) ?_
      simp only [upd, if_true]
      rw [hcs]
      simp only [Option.map_some]
      congr 2
      apply List.map_congr_left
      intro d hdm
      simp [contentOf, hdne d hdm]

theorem build_spec {g R} (hg : Ordered g) (hR : 0 < R) (k : Nat) :
    ∀ n t, t < k → BldSpec g R (fun w d => build g R k n w d) t := fun n t htk w ok w' hi he =>
  have ⟨a, _, b, c⟩ := build_specA (Rides.true R) hg hR k n t htk w ok w' hi trivial he
  ⟨a, b, c⟩

/-- a successful `redo-ifchange t` leaves `t` up to date, and the invariant holds afterwards -/
theorem build_sound {g R} (hg : Ordered g) (hR : 0 < R) {k n t w w'} (htk : t < k)
    (hi : Inv g R w) (he : build g R k n w t = (true, w')) : UpToDate g w'.fs t ∧ Inv g R w' := by
  obtain ⟨hi', _, hv⟩ := build_spec hg hR k n t htk w true w' hi he
  exact ⟨(hi'.ver t (hv rfl)).2.1, hi'⟩

/-- starting a new run keeps the invariant (nothing is verified yet in the new run) -/
theorem Inv.nextRun {g R w} (hi : Inv g R w) : Inv g (R+1) w := by
  refine Inv.of_recOk (fun x => (hi.recOk x).mono (Nat.le_succ R)) hi.recA fun f hv => ?_
  exfalso
  rcases hv.2 with h | h
  · have := hi.ckLe f _ h; omega
  · have := hi.chLe f _ h; omega
end P
