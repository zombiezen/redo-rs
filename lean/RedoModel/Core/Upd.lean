import RedoModel.Core.Dirty
namespace P


theorem upd_db_other (w t ft r' c') {x} (h : x ≠ t) : (upd w t ft r' c').db x = w.db x := by simp [upd, h]
theorem upd_fs_other (w t ft r' c') {x} (h : x ≠ t) : (upd w t ft r' c').fs x = w.fs x := by simp [upd, h]
theorem upd_db_self (w t ft r' c') : (upd w t ft r' c').db t = r' := by simp [upd]
theorem upd_fs_self (w t ft r' c') : (upd w t ft r' c').fs t = ft := by simp [upd]
theorem upd_curStamp_other (w t ft r' c') {x} (h : x ≠ t) : curStamp (upd w t ft r' c') x = curStamp w x := by
  simp [curStamp, upd, h]
theorem upd_contentOf_other (w t ft r' c') {x} (h : x ≠ t) : contentOf (upd w t ft r' c') x = contentOf w x := by
  simp [contentOf, upd, h]

theorem upd_keep (w : World) (t : Nat) (ft : Option File) (c' : Nat) :
    upd w t ft (w.db t) c' = { w with fs := fun x => if x = t then ft else w.fs x, clock := c' } := by
  unfold upd
  congr 1
  funext x
  by_cases h : x = t <;> simp [h]

/-! How the record written for `t` shows its readers that `t` changed (`hdet` of `Inv_upd`): it is failed, it changed in
this run, or its stamp is not the file's. -/

theorem upd_detect_failed {w t ft r' c'} (h : r'.failed ≠ none) (M : Nat) : Detect (upd w t ft r' c') M t :=
  Or.inl (by rw [upd_db_self]; exact h)
theorem upd_detect_changed {w t ft r' c' R M} (h : r'.changed = some R) (hM : M < R) : Detect (upd w t ft r' c') M t :=
  Or.inr (Or.inr (Or.inl ⟨R, by rw [upd_db_self]; exact h, hM⟩))
theorem upd_detect_stamp {w t ft r' c'} (h : r'.stamp ≠ some (curStamp (upd w t ft r' c') t)) (M : Nat) :
    Detect (upd w t ft r' c') M t :=
  Or.inr (Or.inr (Or.inr (by rw [upd_db_self]; exact h)))

theorem Mof_le {g R w} (hi : Inv g R w) (u : Nat) : Mof (w.db u) ≤ R := by
  unfold Mof
  have h1 : (w.db u).changed.getD 0 ≤ R := by
    cases h : (w.db u).changed with
    | none => simp
    | some c => simpa using hi.chLe u c h
  have h2 : (w.db u).checked.getD 0 ≤ R := by
    cases h : (w.db u).checked with
    | none => simp
    | some c => simpa using hi.ckLe u c h
  omega

theorem Mof_eq_R {R : Nat} {r : Rec} (h : Mof r = R) (hR : 0 < R) : r.changed = some R ∨ r.checked = some R := by
  unfold Mof at h
  cases hc : r.changed with
  | none =>
    cases hk : r.checked with
    | none => rw [hc, hk] at h; simp at h; omega
    | some k => rw [hc, hk] at h; simp at h; right; rw [h]
  | some c =>
    cases hk : r.checked with
    | none => rw [hc, hk] at h; simp at h; left; rw [h]
    | some k =>
      rw [hc, hk] at h; simp at h
      by_cases hck : c = R
      · left; rw [hck]
      · right; have : k = R := by omega
        rw [this]

/-- verified files stay up to date when an unverified file is rewritten: no verified file reads it -/
theorem upToDate_upd {g R w} (hi : Inv g R w) {t} (hnv : ¬ VerR w R t) (ft r' c') {x} (hv : VerR w R x) :
    UpToDate g (upd w t ft r' c').fs x := by
  have hu := (hi.ver x hv).2.1
  induction hu with
  | source hs => exact UpToDate.source hs
  | @target x sc hsc _ hcont ih =>
    have hd := (hi.ver x hv).2.2 sc hsc
    have hne : ∀ {y}, VerR w R y → y ≠ t := fun hy e => hnv (e ▸ hy)
    refine UpToDate.target hsc (fun d hdm => ih d hdm (hd d hdm)) ?_
    rw [upd_fs_other _ _ _ _ _ (hne hv), hcont]
    congr 2
    exact List.map_congr_left fun d hdm => by rw [upd_fs_other _ _ _ _ _ (hne (hd d hdm))]

/-- The one transport of the invariant across a write: file and record of `t`, not verified in this run, are
replaced; the new record passes the clauses about single records and shows, at every level below `R`, that `t` changed. -/
theorem Inv_upd {g R w} (hR : 0 < R) (hi : Inv g R w) {t} (hnv : ¬ VerR w R t)
    (ft : Option File) (r' : Rec) (c' : Nat) (hok : RecOk g R t r' ft)
    (hdet : ∀ M, M < R → Detect (upd w t ft r' c') M t)
    (hA : ∀ sc, g t = some sc → RecCur (upd w t ft r' c') t →
        r'.gen = true ∧ r'.deps = sc.deps ∧
        ∃ cs, contentOf (upd w t ft r' c') t = some (.out sc.tag cs) ∧ cs.length = sc.deps.length ∧
          ∀ p ∈ List.zip sc.deps cs, p.2 ≠ contentOf (upd w t ft r' c') p.1 →
            Detect (upd w t ft r' c') (Mof r') p.1)
    (hV : VerR (upd w t ft r' c') R t → RecCur (upd w t ft r' c') t ∧ UpToDate g (upd w t ft r' c').fs t ∧
        (∀ sc, g t = some sc → ∀ d ∈ sc.deps, VerR w R d)) :
    Inv g R (upd w t ft r' c') := by
  have hver_other : ∀ x, x ≠ t → (VerR (upd w t ft r' c') R x ↔ VerR w R x) := by
    intro x hx; unfold VerR; rw [upd_db_other _ _ _ _ _ hx]
  have hrc_other : ∀ x, x ≠ t → (RecCur (upd w t ft r' c') x ↔ RecCur w x) := by
    intro x hx; unfold RecCur; rw [upd_db_other _ _ _ _ _ hx, upd_curStamp_other _ _ _ _ _ hx]
  refine Inv.of_recOk (fun x => ?_) ?_ ?_
  · by_cases hx : x = t
    · subst hx; rw [upd_db_self, upd_fs_self]; exact hok
    · rw [upd_db_other _ _ _ _ _ hx, upd_fs_other _ _ _ _ _ hx]; exact hi.recOk x
  · intro u sc hgu hrc
    by_cases hu : u = t
    · subst hu; rw [upd_db_self]; exact hA sc hgu hrc
    · have hrc' := (hrc_other u hu).1 hrc
      obtain ⟨h1, h2, cs, hc, hlen, hz⟩ := hi.recA u sc hgu hrc'
      rw [upd_db_other _ _ _ _ _ hu]
      refine ⟨h1, h2, cs, by rw [upd_contentOf_other _ _ _ _ _ hu]; exact hc, hlen, ?_⟩
      intro p hp hne
      by_cases hpt : p.1 = t
      · -- the rewritten file: a reader at level `R` would be verified, and `t` with it
        rw [hpt]
        refine hdet _ (Nat.lt_of_le_of_ne (Mof_le hi u) fun heq => hnv ?_)
        have hvu : VerR w R u := ⟨hrc'.1, (Mof_eq_R heq hR).symm⟩
        exact hpt ▸ (hi.ver u hvu).2.2 sc hgu p.1 (List.of_mem_zip hp).1
      · rw [upd_contentOf_other _ _ _ _ _ hpt] at hne
        have := hz p hp hne
        unfold Detect at this ⊢
        rw [upd_db_other _ _ _ _ _ hpt, upd_curStamp_other _ _ _ _ _ hpt]; exact this
  · intro x hx
    by_cases hxt : x = t
    · subst hxt
      obtain ⟨a, b, c⟩ := hV hx
      exact ⟨a, b, fun sc hsc d hd => (hver_other d fun e => hnv (e ▸ c sc hsc d hd)).2 (c sc hsc d hd)⟩
    · have hx' := (hver_other x hxt).1 hx
      obtain ⟨a, _, c⟩ := hi.ver x hx'
      exact ⟨(hrc_other x hxt).2 a, upToDate_upd hi hnv ft r' c' hx',
        fun sc hsc d hd => (hver_other d fun e => hnv (e ▸ c sc hsc d hd)).2 (c sc hsc d hd)⟩

end P
