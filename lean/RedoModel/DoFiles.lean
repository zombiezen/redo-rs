import RedoModel.Paths
/-
Model of .do rule enumeration and script arguments:

* `paths::DefaultDoFiles`, `paths::path_splits`, `paths::possible_do_files` (src/paths.rs)
* the argument construction of `builder::BuildJob::start_self` (src/builder.rs:191-223)
* the listing loop of `redo-whichdo` (src/bin/redo/whichdo.rs:43-52)

Input is any absolute path; it is cleaned first (as the Rust does) and then handled as
components.  A path that cleans to `/` has no final component: the Rust aborts there
(`Option::unwrap`), the model answers `none`.
-/
namespace RedoModel.DoFiles
open RedoModel.Paths

structure Cand where
  doDir : List Char      -- absolute directory of the .do file
  doFile : List Char     -- its file name
  baseDir : List Char    -- target's directory relative to doDir
  baseName : List Char   -- target relative to doDir, matched extension stripped
  ext : List Char        -- matched extension ("" for `x.do` and `default.do`)
  deriving DecidableEq, Repr

/-- All ways to cut `f` immediately before a `.`: (prefix, suffix starting with the dot), leftmost first. -/
def dotCuts : List Char → List (List Char × List Char)
  | [] => []
  | c :: cs =>
    let rest := (dotCuts cs).map (fun (a, b) => (c :: a, b))
    if c = '.' then ([], c :: cs) :: rest else rest

/-- `DefaultDoFiles`: (do file name, base name, extension), longest extension first, `default.do` last. -/
def defaultDoFiles (f : List Char) : List (List Char × List Char × List Char) :=
  (dotCuts f).map (fun (b, e) => ("default".toList ++ e ++ ".do".toList, b, e))
    ++ [("default.do".toList, f, [])]

/-- `path_splits` of the target's directory, nearest directory first:
(components of the do directory, components from there down to the target's directory). -/
def dirSplits (dirs : List (List Char)) : List (List (List Char) × List (List Char)) :=
  (List.range (dirs.length + 1)).reverse.map (fun k => (dirs.take k, dirs.drop k))

def candsIn (f : List Char) (d : List (List Char) × List (List Char)) : List Cand :=
  (defaultDoFiles f).map (fun (doFile, b, e) =>
    { doDir := render true d.1, doFile := doFile, baseDir := joinSlash d.2,
      baseName := pushPath (joinSlash d.2) b, ext := e })

/-- Candidates for a target given as directory components and file name. -/
def candidates (dirs : List (List Char)) (f : List Char) : List Cand :=
  { doDir := render true dirs, doFile := f ++ ".do".toList, baseDir := [], baseName := f, ext := [] }
    :: (dirSplits dirs).flatMap (candsIn f)

/-- `possible_do_files p` for an absolute `p`. -/
def possibleDoFiles (p : List Char) : Option (List Cand) :=
  match (cleanComps true (comps p)).reverse with
  | [] => none
  | f :: revDirs => some (candidates revDirs.reverse f)

/-- `$1`; `arg2` is `$2`, `tmpName` the un-relativised `$3` (it is passed relative to `doDir`). -/
def arg1 (c : Cand) : List Char := c.baseName ++ c.ext
def arg2 (c : Cand) : List Char := c.baseName
def tmpName (c : Cand) : List Char := pushPath c.doDir (c.baseName ++ c.ext ++ ".redo.tmp".toList)
def doPath (c : Cand) : List Char := pushPath c.doDir c.doFile

/-- What `redo-whichdo` prints (as absolute do-file paths, before `relpath` to the cwd):
every candidate up to and including the first that exists; `found = false` when none exists. -/
def whichdo (exist : List Char → Bool) : List Cand → List (List Char) × Bool
  | [] => ([], false)
  | c :: cs =>
    if exist (doPath c) then ([doPath c], true)
    else let (l, b) := whichdo exist cs; (doPath c :: l, b)

/-- `paths::find_do_file`: the chosen candidate and the candidates recorded as absent before it. -/
def findDoFile (exist : List Char → Bool) : List Cand → Option Cand × List Cand
  | [] => (none, [])
  | c :: cs =>
    if exist (doPath c) then (some c, [])
    else let (r, l) := findDoFile exist cs; (r, c :: l)

end RedoModel.DoFiles
