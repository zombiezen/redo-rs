import RedoModel.LogRec
import RedoModel.Lemmas.Paths
/-!
Lemmas about the replay half of `RedoModel/LogRec.lean` (`lines`, `catlog`, `redoLog`): what one line and a whole log
contribute to the output (`Step`, `Run`), what a complete replay appends (`GoodChunk`; `already` holds cleaned names),
how much fuel is enough, and against which directory the names in a log are resolved (`DoNames`).
-/
namespace RedoModel.LogRec
open RedoModel.Paths

deriving instance DecidableEq for St

instance {ε α : Type} [DecidableEq ε] [DecidableEq α] : DecidableEq (Except ε α) := fun a b =>
  match a, b with
  | .ok x, .ok y => if h : x = y then isTrue (by rw [h]) else isFalse (fun e => h (by cases e; rfl))
  | .error x, .error y => if h : x = y then isTrue (by rw [h]) else isFalse (fun e => h (by cases e; rfl))
  | .ok _, .error _ => isFalse (fun e => by cases e)
  | .error _, .ok _ => isFalse (fun e => by cases e)

/-! ### Which log lines are shown verbatim -/

/-- The lines `lines` emits as `.raw`: everything that is not a record, records whose kind is
none of `unchanged`, `do`, `waiting`, `locked`, `unlocked`, `done` (e.g. `resumed`, or anything unknown), and `done`
records whose text is not of the form `<status> <name>` (`parseDoneText` fails: written by a script, not by redo). -/
def isRawLine (l : List Char) : Bool :=
  match parse l with
  | .error _ => true
  | .ok g =>
    if g.kind = kUnchanged then false
    else if g.kind = kDo ∨ g.kind = kWaiting ∨ g.kind = kLocked ∨ g.kind = kUnlocked then false
    else if g.kind = kDone then (parseDoneText g.text).isNone
    else true

/-- What a replay shows of a log: its raw lines, cleaned. -/
def rawLines (ls : List (List Char)) : List (List Char) := (ls.filter isRawLine).map cleanLine

theorem rawLines_nil : rawLines [] = [] := rfl

theorem rawLines_append (a b : List (List Char)) : rawLines (a ++ b) = rawLines a ++ rawLines b := by
  simp [rawLines]

theorem rawLines_cons (l : List Char) (ls : List (List Char)) :
    rawLines (l :: ls) = (if isRawLine l then [cleanLine l] else []) ++ rawLines ls := by
  unfold rawLines
  by_cases h : isRawLine l <;> simp [h]

theorem isRawLine_of_noPrefix {l : List Char} (h : isPrefix pre l = false) : isRawLine l = true := by
  unfold isRawLine parse
  simp [h]

theorem rawLines_of_plain {ls : List (List Char)} (h : ∀ l ∈ ls, isPrefix pre l = false) :
    rawLines ls = ls.map cleanLine := by
  unfold rawLines
  congr 1
  exact List.filter_eq_self.2 (fun l hl => isRawLine_of_noPrefix (h l hl))

theorem isRawLine_iff (l : List Char) :
    isRawLine l = true ↔ ∀ g, parse l = .ok g →
      g.kind ≠ kUnchanged ∧ g.kind ≠ kDo ∧ g.kind ≠ kWaiting ∧ g.kind ≠ kLocked ∧ g.kind ≠ kUnlocked ∧
      (g.kind = kDone → parseDoneText g.text = none) := by
  unfold isRawLine
  cases parse l with
  | error e => simp
  | ok g =>
    simp only [Except.ok.injEq, forall_eq']
    grind [Option.isNone_iff_eq_none]

/-! ### Reading the output -/

def isRaw : Out → Bool
  | .raw _ => true
  | .record _ _ => false

/-- The raw lines attributed to target `x` in a chronological output. -/
def rawsOf (x : List Char) (c : List Tagged) : List (List Char) :=
  c.filterMap (fun e => if e.tag = x then (match e.out with | .raw l => some l | .record _ _ => none) else none)

theorem rawsOf_nil (x : List Char) : rawsOf x [] = [] := rfl

theorem rawsOf_append (x : List Char) (a b : List Tagged) : rawsOf x (a ++ b) = rawsOf x a ++ rawsOf x b := by
  simp [rawsOf, List.filterMap_append]

theorem rawsOf_cons_raw (x : List Char) (l : List Char) (c : List Tagged) :
    rawsOf x (⟨x, .raw l⟩ :: c) = l :: rawsOf x c := by
  simp [rawsOf]

theorem rawsOf_cons_record (x y k tx : List Char) (c : List Tagged) :
    rawsOf x (⟨y, .record k tx⟩ :: c) = rawsOf x c := by
  by_cases h : y = x <;> simp [rawsOf, h]

theorem rawsOf_cons_ne {x : List Char} {e : Tagged} (h : e.tag ≠ x) (c : List Tagged) :
    rawsOf x (e :: c) = rawsOf x c := by
  simp [rawsOf, h]

theorem rawsOf_eq_nil {x : List Char} {c : List Tagged} (h : ∀ e ∈ c, e.tag ≠ x) : rawsOf x c = [] :=
  List.filterMap_eq_nil_iff.2 (fun e he => if_neg (h e he))

theorem rawsOf_filter_ne {x t : List Char} (hx : x ≠ t) (c : List Tagged) :
    rawsOf x (c.filter (fun e => decide (e.tag ≠ t))) = rawsOf x c := by
  induction c with
  | nil => rfl
  | cons e es ih =>
    by_cases h : e.tag = t
    · rw [List.filter_cons_of_neg (by simp [h]), ih, rawsOf_cons_ne (fun h2 => hx (h2.symm.trans h))]
    · rw [List.filter_cons_of_pos (by simp [h])]
      show rawsOf x ([e] ++ _) = rawsOf x ([e] ++ es)
      rw [rawsOf_append, rawsOf_append, ih]

theorem filter_raw_eq (x : List Char) (c : List Tagged) :
    c.filter (fun e => decide (e.tag = x) && isRaw e.out) = (rawsOf x c).map (fun l => ⟨x, .raw l⟩) := by
  induction c with
  | nil => rfl
  | cons e es ih =>
    obtain ⟨tg, o⟩ := e
    by_cases h : tg = x
    · subst h
      cases o with
      | raw l => rw [rawsOf_cons_raw, List.filter_cons_of_pos (by simp [isRaw]), ih]; rfl
      | record k tx => rw [rawsOf_cons_record, List.filter_cons_of_neg (by simp [isRaw]), ih]
    · rw [rawsOf_cons_ne h, List.filter_cons_of_neg (by simp [h]), ih]

/-- The entries a call appended, in chronological order (`out` is most-recent-first). -/
def newOut (st st' : St) : List Tagged := (st'.out.take (st'.out.length - st.out.length)).reverse

theorem newOut_eq {st st' : St} {c : List Tagged} (h : st'.out = c.reverse ++ st.out) : newOut st st' = c := by
  unfold newOut
  rw [h]
  have : (c.reverse ++ st.out).length - st.out.length = c.reverse.length := by simp
  rw [this, List.take_left]
  simp

/-! ### One line of the loop -/

/-- What the loop does with one line before it goes on to the next (the numbers are `interrupted` and
`lines_written`): nothing more, stop with an error, or first replay `x` from the state `st` — after which the cleaned
name of `x` is marked as shown and what the replay wrote is added to both numbers. -/
inductive Act
  | next (st : St) (intr w : Nat)
  | fail (e : CErr)
  | sub (x : List Char) (st : St) (intr w : Nat)

-- Stands before `announce`, although it could use it: `pending` below shares an auxiliary proof (that `==` on names
-- is lawful, behind the test `∈ st.already`) with the first definition of this file that needs it, and Lean names
-- that proof after that definition, which is to be this one.
def lineStep (optU optR : Bool) (t l : List Char) (st : St) (intr w : Nat) : Act :=
  match parse l with
  | .error _ => .next (emit (if intr ≠ 0 then emit st t (.record kResumed t) else st) t (.raw (cleanLine l))) 0 (w + 1)
  | .ok g =>
    let x := resolve t g.text
    let st' := if normpath x ∈ st.already then st else emit st t (.record kDo (normpath x))
    let shown : St := { st' with already := normpath x :: st'.already }
    if g.kind = kUnchanged then
      if optU then (if optR then .sub x st' intr w else .next shown intr w) else .next st intr w
    else if g.kind = kDo ∨ g.kind = kWaiting ∨ g.kind = kLocked ∨ g.kind = kUnlocked then
      let n := if normpath x ∈ st.already then 0 else 1
      if optR then (if g.text.isEmpty then .fail .emptyText else .sub x st' (intr + n) (w + n))
      else .next shown (intr + n) (w + n)
    else if g.kind = kDone then
      match parseDoneText g.text with
      | none => .next (emit st t (.raw (cleanLine l))) intr (w + 1)
      | some (rv, name) => .next (emit st t (.record kDone (rv ++ ' ' :: normpath (resolve t name)))) intr (w + 1)
    else .next (emit st t (.raw (cleanLine l))) intr (w + 1)

/-- The state in which the log of `t` turns to the cleaned name `x`: announced by a `do` record unless `x` was shown
before. -/
def announce (st : St) (t x : List Char) : St := if x ∈ st.already then st else emit st t (.record kDo x)

theorem lines_nil (recurse : List Char → St → Except CErr (St × Nat)) (optU optR : Bool) (t : List Char)
    (st : St) (intr w : Nat) : lines recurse optU optR t [] st intr w = .ok (st, w) := by
  rw [lines]

theorem lines_cons (recurse : List Char → St → Except CErr (St × Nat)) (optU optR : Bool) (t l : List Char)
    (ls : List (List Char)) (st : St) (intr w : Nat) :
    lines recurse optU optR t (l :: ls) st intr w =
      match lineStep optU optR t l st intr w with
      | .next st1 i1 w1 => lines recurse optU optR t ls st1 i1 w1
      | .fail e => .error e
      | .sub x s i1 w1 =>
        match recurse x s with
        | .error e => .error e
        | .ok (s', got) =>
          lines recurse optU optR t ls { s' with already := normpath x :: s'.already } (i1 + got) (w1 + got) := by
  rw [lines]
  unfold lineStep
  cases parse l with
  | error e => rfl
  | ok g =>
    dsimp only
    -- the kind is decided first and the tests rewritten with the answer: a `split` on this goal, which holds the bodies
    -- of `lines` and of `lineStep` together, is slow to check
    by_cases h1 : g.kind = kUnchanged
    · simp only [if_pos h1]
      cases optU <;> cases optR <;> rfl
    · by_cases h2 : g.kind = kDo ∨ g.kind = kWaiting ∨ g.kind = kLocked ∨ g.kind = kUnlocked
      · simp only [if_neg h1, if_pos h2]
        by_cases h3 : normpath (resolve t g.text) ∈ st.already <;> simp only [h3, if_true, if_false] <;>
          cases optR <;> cases g.text.isEmpty <;> rfl
      · by_cases h5 : g.kind = kDone
        · simp only [if_neg h1, if_neg h2, if_pos h5]
          cases parseDoneText g.text <;> rfl
        · simp only [if_neg h1, if_neg h2, if_neg h5]

/-! ### Structure of the output of one log -/

/-- Every `do` record among `own` carries the cleaned name that a record text of the line `l` has when resolved
against the directory of `t`. -/
def DoSpec (t l : List Char) (own : List Tagged) : Prop :=
  ∀ e ∈ own, ∀ x, e.out = .record kDo x → ∃ g, parse l = .ok g ∧ x = normpath (resolve t g.text)

/-- `own` is what a line `l` of the log of `t` prints by itself; `raw` says whether the line is shown verbatim. -/
structure Own (t l : List Char) (raw : Bool) (own : List Tagged) : Prop where
  tag : ∀ e ∈ own, e.tag = t
  raws : rawsOf t own = if raw then [cleanLine l] else []
  len : own.length ≤ 2
  dos : DoSpec t l own

theorem Own.nil (t l : List Char) : Own t l false [] :=
  ⟨by simp, rfl, by simp, by simp [DoSpec]⟩

theorem Own.raw (t l : List Char) : Own t l true [⟨t, .raw (cleanLine l)⟩] :=
  ⟨by simp, by simp [rawsOf], by simp, by simp [DoSpec]⟩

theorem Own.resumed_raw (t l : List Char) : Own t l true [⟨t, .record kResumed t⟩, ⟨t, .raw (cleanLine l)⟩] :=
  ⟨by simp, by simp [rawsOf], by simp, by simp [DoSpec, (by decide : kResumed ≠ kDo)]⟩

theorem Own.done (t l x : List Char) : Own t l false [⟨t, .record kDone x⟩] :=
  ⟨by simp, by simp [rawsOf], by simp, by simp [DoSpec, (by decide : kDone ≠ kDo)]⟩

theorem Own.do {t l : List Char} {g : Rec} (hp : parse l = .ok g) :
    Own t l false [⟨t, .record kDo (normpath (resolve t g.text))⟩] :=
  ⟨by simp, by simp [rawsOf], by simp, by simp [DoSpec, hp]⟩

theorem announce_already (st : St) (t x : List Char) : (announce st t x).already = st.already := by
  unfold announce
  split <;> rfl

theorem announce_own {t l : List Char} {g : Rec} (hp : parse l = .ok g) (st : St) :
    ∃ own, Own t l false own ∧ (own = [] ∨ own = [⟨t, .record kDo (normpath (resolve t g.text))⟩]) ∧
      announce st t (normpath (resolve t g.text)) = { st with out := own.reverse ++ st.out } := by
  unfold announce
  split
  · exact ⟨[], Own.nil t l, Or.inl rfl, rfl⟩
  · exact ⟨_, Own.do hp, Or.inr rfl, rfl⟩

theorem lineStep_spec (optU optR : Bool) (t l : List Char) (st : St) (intr w : Nat) :
    match lineStep optU optR t l st intr w with
    | .next st1 _ _ => ∃ own, Own t l (isRawLine l) own ∧ st1.out = own.reverse ++ st.out ∧
        (st1.already = st.already ∨ ∃ g, parse l = .ok g ∧ st1.already = normpath (resolve t g.text) :: st.already)
    | .fail e => e = .emptyText
    | .sub x s _ _ => ∃ g, parse l = .ok g ∧ isRawLine l = false ∧ x = resolve t g.text ∧
        s = announce st t (normpath x) := by
  unfold lineStep isRawLine
  cases hp : parse l with
  | error e =>
    by_cases hi : intr ≠ 0
    · exact ⟨_, Own.resumed_raw t l, by simp [hi, emit], Or.inl (by simp [hi, emit])⟩
    · exact ⟨_, Own.raw t l, by simp [hi, emit], Or.inl (by simp [hi, emit])⟩
  | ok g =>
    obtain ⟨own, ho, -, hown⟩ := announce_own (t := t) hp st
    dsimp only
    by_cases h1 : g.kind = kUnchanged
    · simp only [if_pos h1]
      cases optU <;> cases optR
      · exact ⟨[], Own.nil t l, rfl, Or.inl rfl⟩
      · exact ⟨[], Own.nil t l, rfl, Or.inl rfl⟩
      · exact ⟨own, ho, congrArg St.out hown, Or.inr ⟨g, rfl, congrArg (_ :: ·.already) hown⟩⟩
      · exact ⟨g, rfl, trivial, rfl, rfl⟩
    · by_cases h2 : g.kind = kDo ∨ g.kind = kWaiting ∨ g.kind = kLocked ∨ g.kind = kUnlocked
      · simp only [if_neg h1, if_pos h2]
        cases optR
        · exact ⟨own, ho, congrArg St.out hown, Or.inr ⟨g, rfl, congrArg (_ :: ·.already) hown⟩⟩
        · cases g.text.isEmpty
          · exact ⟨g, rfl, trivial, rfl, rfl⟩
          · rfl
      · by_cases h5 : g.kind = kDone
        · simp only [if_neg h1, if_neg h2, if_pos h5]
          cases parseDoneText g.text with
          | none => exact ⟨_, Own.raw t l, rfl, Or.inl rfl⟩
          | some v => exact ⟨_, Own.done t l _, rfl, Or.inl rfl⟩
        · simp only [if_neg h1, if_neg h2, if_neg h5]
          exact ⟨_, Own.raw t l, rfl, Or.inl rfl⟩

/-- What one line `l` of the log of `t` contributes, from state `st` to state `st'`: either only entries of
its own (tagged `t`; the raw ones are exactly `cleanLine l` if `l` is a raw line, nothing otherwise), or an
optional `do` record of its own followed by one complete sub-replay `recurse (resolve t g.text)`. -/
inductive Step (recurse : List Char → St → Except CErr (St × Nat)) (t l : List Char) (st st' : St) : Prop
  | own (own : List Tagged)
      (htag : ∀ e ∈ own, e.tag = t)
      (hraw : rawsOf t own = if isRawLine l then [cleanLine l] else [])
      (hlen : own.length ≤ 2)
      (hout : st'.out = own.reverse ++ st.out)
      (hal : st'.already = st.already ∨ ∃ g, parse l = .ok g ∧ st'.already = normpath (resolve t g.text) :: st.already)
      (hdo : DoSpec t l own)
  | sub (g : Rec) (own : List Tagged) (stB : St) (got : Nat)
      (hp : parse l = .ok g)
      (hnr : isRawLine l = false)
      (hown : own = [] ∨ own = [⟨t, .record kDo (normpath (resolve t g.text))⟩])
      (hrec : recurse (resolve t g.text) { st with out := own.reverse ++ st.out } = .ok (stB, got))
      (hst' : st' = { stB with already := normpath (resolve t g.text) :: stB.already })

inductive Run (recurse : List Char → St → Except CErr (St × Nat)) (t : List Char) :
    List (List Char) → St → St → Prop
  | nil (st : St) : Run recurse t [] st st
  | cons {l : List Char} {ls : List (List Char)} {st st1 st2 : St} :
      Step recurse t l st st1 → Run recurse t ls st1 st2 → Run recurse t (l :: ls) st st2

theorem lines_run (recurse : List Char → St → Except CErr (St × Nat)) (optU optR : Bool) (t : List Char) :
    ∀ (ls : List (List Char)) (st : St) (intr w : Nat) (st' : St) (n : Nat),
      lines recurse optU optR t ls st intr w = .ok (st', n) → Run recurse t ls st st'
  | [], st, intr, w, st', n, h => by
    rw [lines_nil] at h
    cases h
    exact Run.nil st
  | l :: ls, st, intr, w, st', n, h => by
    rw [lines_cons] at h
    have hs := lineStep_spec optU optR t l st intr w
    generalize lineStep optU optR t l st intr w = a at h hs
    cases a with
    | next st1 i1 w1 =>
      obtain ⟨own, ho, hout, hal⟩ := hs
      exact Run.cons (Step.own own ho.tag ho.raws ho.len hout hal ho.dos)
        (lines_run recurse optU optR t ls st1 i1 w1 st' n h)
    | fail e => cases h
    | sub x s i1 w1 =>
      obtain ⟨g, hp, hr, rfl, rfl⟩ := hs
      obtain ⟨own, -, hown, hs⟩ := announce_own (t := t) hp st
      rw [hs] at h
      dsimp only at h
      generalize hrr : recurse (resolve t g.text) _ = rr at h
      cases rr with
      | error e => cases h
      | ok v =>
        exact Run.cons (Step.sub g own v.1 v.2 hp hr hown hrr rfl) (lines_run recurse optU optR t ls _ _ _ st' n h)

/-! ### What a complete replay appends -/
/-- A chronological chunk `c` appended while `already` grew from `a` to `a'`: it only speaks about targets
whose *cleaned* name was not in `a` and is in `a'`, a cleaned name is spoken for under one spelling only, and for
every target it shows nothing or that target's log (its lines after ungluing) once. -/
structure GoodChunk (F : Forest) (a : List (List Char)) (c : List Tagged) (a' : List (List Char)) : Prop where
  sub : a ⊆ a'
  tags : ∀ e ∈ c, normpath e.tag ∉ a ∧ normpath e.tag ∈ a'
  uniq : ∀ e1 ∈ c, ∀ e2 ∈ c, normpath e1.tag = normpath e2.tag → e1.tag = e2.tag
  raws : ∀ y, rawsOf y c = [] ∨ ∃ ls, lookup F (normpath y) = some (some ls) ∧ rawsOf y c = rawLines (unglue ls)

theorem GoodChunk.nil (F : Forest) {a a' : List (List Char)} (h : a ⊆ a') : GoodChunk F a [] a' :=
  ⟨h, fun _ he => (by cases he), fun _ he => (by cases he), fun _ => Or.inl rfl⟩

theorem GoodChunk.weaken {F : Forest} {a a' a'' : List (List Char)} {c : List Tagged}
    (h : GoodChunk F a c a') (hs : a' ⊆ a'') : GoodChunk F a c a'' :=
  ⟨fun _ hx => hs (h.sub hx), fun e he => ⟨(h.tags e he).1, hs (h.tags e he).2⟩, h.uniq, h.raws⟩

theorem GoodChunk.append {F : Forest} {a a1 a2 : List (List Char)} {c1 c2 : List Tagged}
    (h1 : GoodChunk F a c1 a1) (h2 : GoodChunk F a1 c2 a2) : GoodChunk F a (c1 ++ c2) a2 := by
  refine ⟨fun _ hx => h2.sub (h1.sub hx), ?_, ?_, ?_⟩
  · intro e he
    rcases List.mem_append.1 he with he | he
    · exact ⟨(h1.tags e he).1, h2.sub (h1.tags e he).2⟩
    · exact ⟨fun hin => (h2.tags e he).1 (h1.sub hin), (h2.tags e he).2⟩
  · intro e1 he1 e2 he2 hn
    rcases List.mem_append.1 he1 with he1 | he1 <;> rcases List.mem_append.1 he2 with he2 | he2
    · exact h1.uniq e1 he1 e2 he2 hn
    · exact absurd (hn ▸ (h1.tags e1 he1).2) (h2.tags e2 he2).1
    · exact absurd (hn ▸ (h1.tags e2 he2).2) (h2.tags e1 he1).1
    · exact h2.uniq e1 he1 e2 he2 hn
  · intro y
    rw [rawsOf_append]
    by_cases hy : normpath y ∈ a1
    · have : rawsOf y c2 = [] := rawsOf_eq_nil (fun e he heq => (h2.tags e he).1 (heq ▸ hy))
      rw [this, List.append_nil]
      exact h1.raws y
    · have : rawsOf y c1 = [] := rawsOf_eq_nil (fun e he heq => hy (heq ▸ (h1.tags e he).2))
      rw [this, List.nil_append]
      exact h2.raws y

/-- The specification every `recurse` argument of `lines` has to meet. -/
def RecSpec (F : Forest) (recurse : List Char → St → Except CErr (St × Nat)) : Prop :=
  ∀ x s s' n, recurse x s = .ok (s', n) →
    ∃ c, s'.out = c.reverse ++ s.out ∧ GoodChunk F s.already c s'.already

/-- What the line loop of `t` over the lines `ls` appends: the entries not tagged `t` form a good chunk,
and the raw entries tagged `t` are the raw lines of `ls`. -/
structure LoopChunk (F : Forest) (t : List Char) (ls : List (List Char)) (a : List (List Char))
    (c : List Tagged) (a' : List (List Char)) : Prop where
  others : GoodChunk F a (c.filter (fun e => decide (e.tag ≠ t))) a'
  mine : rawsOf t c = rawLines ls

theorem LoopChunk.append {F : Forest} {t : List Char} {ls1 ls2 : List (List Char)} {a a1 a2 : List (List Char)}
    {c1 c2 : List Tagged} (h1 : LoopChunk F t ls1 a c1 a1) (h2 : LoopChunk F t ls2 a1 c2 a2) :
    LoopChunk F t (ls1 ++ ls2) a (c1 ++ c2) a2 := by
  refine ⟨?_, ?_⟩
  · rw [List.filter_append]
    exact h1.others.append h2.others
  · rw [rawsOf_append, rawLines_append, h1.mine, h2.mine]

theorem filter_ne_of_all_eq {t : List Char} {c : List Tagged} (h : ∀ e ∈ c, e.tag = t) :
    c.filter (fun e => decide (e.tag ≠ t)) = [] := by
  rw [List.filter_eq_nil_iff]
  intro e he
  simp [h e he]

theorem filter_ne_of_all_ne {t : List Char} {c : List Tagged} (h : ∀ e ∈ c, e.tag ≠ t) :
    c.filter (fun e => decide (e.tag ≠ t)) = c := by
  rw [List.filter_eq_self]
  intro e he
  simp [h e he]

theorem step_chunk {F : Forest} {recurse : List Char → St → Except CErr (St × Nat)} (hrec : RecSpec F recurse)
    {t l : List Char} {st st1 : St} (ht : normpath t ∈ st.already) (h : Step recurse t l st st1) :
    ∃ c, st1.out = c.reverse ++ st.out ∧ LoopChunk F t [l] st.already c st1.already := by
  cases h with
  | own own htag hraw hlen hout hal hdo =>
    refine ⟨own, hout, ?_, ?_⟩
    · rw [filter_ne_of_all_eq htag]
      apply GoodChunk.nil
      rcases hal with e | ⟨g, _, e⟩ <;> rw [e]
      · exact fun _ h => h
      · exact fun _ h => List.mem_cons_of_mem _ h
    · rw [hraw, rawLines_cons, rawLines_nil, List.append_nil]
  | sub g own stB got hp hnr hown hrc hst' =>
    obtain ⟨c, hc, hg⟩ := hrec _ _ _ _ hrc
    dsimp only at hc hg
    have htag : ∀ e ∈ own, e.tag = t := by
      rcases hown with e | e <;> subst e
      · intro e he; cases he
      · intro e he; simp at he; subst he; rfl
    have hne : ∀ e ∈ c, e.tag ≠ t := fun e he heq => (hg.tags e he).1 (heq ▸ ht)
    subst hst'
    refine ⟨own ++ c, by simp [hc], ?_, ?_⟩
    · rw [List.filter_append, filter_ne_of_all_eq htag, filter_ne_of_all_ne hne, List.nil_append]
      exact hg.weaken (fun _ h => List.mem_cons_of_mem _ h)
    · rw [rawsOf_append, rawsOf_eq_nil hne, List.append_nil, rawLines_cons, hnr, rawLines_nil]
      rcases hown with e | e <;> subst e
      · rfl
      · rw [rawsOf_cons_record]; rfl

theorem run_chunk {F : Forest} {recurse : List Char → St → Except CErr (St × Nat)} (hrec : RecSpec F recurse)
    {t : List Char} {ls : List (List Char)} {st st' : St} (ht : normpath t ∈ st.already) (h : Run recurse t ls st st') :
    ∃ c, st'.out = c.reverse ++ st.out ∧ LoopChunk F t ls st.already c st'.already := by
  induction h with
  | nil st => exact ⟨[], by simp, GoodChunk.nil F (fun _ h => h), rfl⟩
  | cons hs _ ih =>
    obtain ⟨c1, ho1, hl1⟩ := step_chunk hrec ht hs
    obtain ⟨c2, ho2, hl2⟩ := ih (hl1.others.sub ht)
    exact ⟨c1 ++ c2, by rw [ho2, ho1]; simp, hl1.append hl2⟩

theorem lookup_mem {F : Forest} {t : List Char} {v : Option (List (List Char))} (h : lookup F t = some v) :
    t ∈ F.map Prod.fst := by
  unfold lookup at h
  split at h
  · cases h
  · next e hf =>
    have he := List.find?_some hf
    exact beq_iff_eq.1 he ▸ List.mem_map_of_mem (List.mem_of_find?_eq_some hf)

/-- The line loop of `t`, entered with the cleaned name of `t` just added to `already`, appends a good chunk. -/
theorem LoopChunk.good {F : Forest} {t : List Char} {ls : List (List Char)} {a a' : List (List Char)}
    {c : List Tagged} (h : LoopChunk F t (unglue ls) (normpath t :: a) c a') (hl : lookup F (normpath t) = some (some ls))
    (hta : normpath t ∉ a) : GoodChunk F a c a' := by
  have hsub : a ⊆ a' := fun _ hx => h.others.sub (List.mem_cons_of_mem _ hx)
  have hta' : normpath t ∈ a' := h.others.sub (List.mem_cons_self ..)
  have hoth : ∀ e ∈ c, e.tag ≠ t → e ∈ c.filter (fun e => decide (e.tag ≠ t)) :=
    fun e he het => List.mem_filter.2 ⟨he, by simp [het]⟩
  have hnt : ∀ e ∈ c, e.tag ≠ t → normpath e.tag ≠ normpath t :=
    fun e he het hn => (h.others.tags e (hoth e he het)).1 (hn ▸ List.mem_cons_self ..)
  refine ⟨hsub, ?_, ?_, ?_⟩
  · intro e he
    by_cases het : e.tag = t
    · rw [het]; exact ⟨hta, hta'⟩
    · have := h.others.tags e (hoth e he het)
      exact ⟨fun hin => this.1 (List.mem_cons_of_mem _ hin), this.2⟩
  · intro e1 he1 e2 he2 hn
    by_cases h1 : e1.tag = t <;> by_cases h2 : e2.tag = t
    · rw [h1, h2]
    · exact absurd (h1 ▸ hn.symm) (hnt e2 he2 h2)
    · exact absurd (h2 ▸ hn) (hnt e1 he1 h1)
    · exact h.others.uniq e1 (hoth e1 he1 h1) e2 (hoth e2 he2 h2) hn
  · intro y
    by_cases hy : y = t
    · subst hy; exact Or.inr ⟨ls, hl, h.mine⟩
    · rw [← rawsOf_filter_ne hy c]
      exact h.others.raws y

/-! ### `catlog` -/

theorem catlog_ok {F : Forest} {optU optR : Bool} {fuel : Nat} {t : List Char} {st st' : St} {n : Nat}
    (h : catlog F optU optR fuel t st = .ok (st', n)) :
    normpath t ∈ st.already ∧ st' = st ∨
    normpath t ∉ st.already ∧
      (lookup F (normpath t) = some none ∧ st' = { st with already := normpath t :: st.already } ∨
       ∃ fuel' ls, fuel = fuel' + 1 ∧ lookup F (normpath t) = some (some ls) ∧
        lines (catlog F optU optR fuel') optU optR t (unglue ls) { st with already := normpath t :: st.already } 0 0 =
          .ok (st', n)) := by
  cases fuel with
  | zero => rw [catlog] at h; cases h
  | succ fuel' =>
    rw [catlog] at h
    split at h
    · next ht => cases h; exact Or.inl ⟨ht, rfl⟩
    · next ht =>
      refine Or.inr ⟨ht, ?_⟩
      dsimp only at h
      split at h
      · cases h
      · next hl => cases h; exact Or.inl ⟨hl, rfl⟩
      · next ls hl => exact Or.inr ⟨fuel', ls, rfl, hl, h⟩

/-- Main invariant: every successful `catlog` call appends a good chunk. -/
theorem catlog_good (F : Forest) (optU optR : Bool) (fuel : Nat) : RecSpec F (catlog F optU optR fuel) := by
  induction fuel with
  | zero => intro x s s' n h; rw [catlog] at h; cases h
  | succ fuel ih =>
    intro x s s' n h
    rcases catlog_ok h with ⟨_, rfl⟩ | ⟨hx, ⟨_, rfl⟩ | ⟨f, ls, hf, hl, hlines⟩⟩
    · exact ⟨[], by simp, GoodChunk.nil F (fun _ h => h)⟩
    · exact ⟨[], by simp, GoodChunk.nil F (fun _ h => List.mem_cons_of_mem _ h)⟩
    · cases hf
      obtain ⟨c, hc, hloop⟩ := run_chunk ih (List.mem_cons_self ..) (lines_run _ _ _ _ _ _ _ _ _ _ hlines)
      exact ⟨c, hc, hloop.good hl hx⟩

theorem catlog_run {F : Forest} {optU optR : Bool} {fuel : Nat} {t : List Char} {st st' : St} {n : Nat}
    {ls : List (List Char)} (h : catlog F optU optR fuel t st = .ok (st', n)) (ht : normpath t ∉ st.already)
    (hl : lookup F (normpath t) = some (some ls)) :
    ∃ fuel', fuel = fuel' + 1 ∧
      Run (catlog F optU optR fuel') t (unglue ls) { st with already := normpath t :: st.already } st' := by
  rcases catlog_ok h with ⟨ht', _⟩ | ⟨_, ⟨hl', _⟩ | ⟨f, ls', hf, hl', hlines⟩⟩
  · exact absurd ht' ht
  · rw [hl] at hl'; cases hl'
  · rw [hl] at hl'; cases hl'
    exact ⟨f, hf, lines_run _ _ _ _ _ _ _ _ _ _ hlines⟩

theorem catlog_loop {F : Forest} {optU optR : Bool} {fuel : Nat} {t : List Char} {st st' : St} {n : Nat}
    {ls : List (List Char)} (h : catlog F optU optR fuel t st = .ok (st', n)) (ht : normpath t ∉ st.already)
    (hl : lookup F (normpath t) = some (some ls)) :
    ∃ c, st'.out = c.reverse ++ st.out ∧ LoopChunk F t (unglue ls) (normpath t :: st.already) c st'.already := by
  obtain ⟨f, _, hrun⟩ := catlog_run h ht hl
  exact run_chunk (catlog_good F optU optR f) (List.mem_cons_self ..) hrun

theorem catlog_mem_already {F : Forest} {optU optR : Bool} {fuel : Nat} {t : List Char} {st st' : St} {n : Nat}
    (h : catlog F optU optR fuel t st = .ok (st', n)) : normpath t ∈ st'.already := by
  rcases catlog_ok h with ⟨ht, rfl⟩ | ⟨ht, ⟨_, rfl⟩ | ⟨_, ls, _, hl, _⟩⟩
  · exact ht
  · exact List.mem_cons_self ..
  · obtain ⟨c, _, hloop⟩ := catlog_loop h ht hl
    exact hloop.others.sub (List.mem_cons_self ..)

theorem catlog_foreign {F : Forest} {optU optR : Bool} {fuel : Nat} {t : List Char} {st st' : St} {n : Nat}
    (h : catlog F optU optR fuel t st = .ok (st', n)) :
    ∀ e ∈ newOut st st', e.tag ≠ t → normpath e.tag ≠ normpath t := by
  rcases catlog_ok h with ⟨_, rfl⟩ | ⟨ht, ⟨_, rfl⟩ | ⟨_, ls, _, hl, _⟩⟩
  · rw [newOut_eq (c := []) (by rfl)]; exact fun _ he => nomatch he
  · rw [newOut_eq (c := []) (by rfl)]; exact fun _ he => nomatch he
  · obtain ⟨c, hc, hloop⟩ := catlog_loop h ht hl
    rw [newOut_eq hc]
    intro e he het hn
    exact (hloop.others.tags e (List.mem_filter.2 ⟨he, by simp [het]⟩)).1 (hn ▸ List.mem_cons_self ..)

theorem catlog_raws {F : Forest} {optU optR : Bool} {fuel : Nat} {t : List Char} {st st' : St} {n : Nat}
    {ls : List (List Char)} (h : catlog F optU optR fuel t st = .ok (st', n)) (ht : normpath t ∉ st.already)
    (hl : lookup F (normpath t) = some (some ls)) : rawsOf t (newOut st st') = rawLines (unglue ls) := by
  obtain ⟨c, hc, hloop⟩ := catlog_loop h ht hl
  rw [newOut_eq hc]
  exact hloop.mine
/-! ### The top-level loop -/

theorem GoodChunk.once_per_cleaned {F : Forest} {a a' : List (List Char)} {c : List Tagged}
    (h : GoodChunk F a c a') {x y : List Char} (hxy : x ≠ y) (hn : normpath x = normpath y) :
    rawsOf x c = [] ∨ rawsOf y c = [] := by
  by_cases hex : ∃ e ∈ c, e.tag = x
  · obtain ⟨e, he, hex⟩ := hex
    right
    apply rawsOf_eq_nil
    intro e2 he2 he2y
    have := h.uniq e he e2 he2 (by rw [hex, he2y, hn])
    exact hxy (by rw [← hex, this, he2y])
  · left
    exact rawsOf_eq_nil (fun e he heq => hex ⟨e, he, heq⟩)

/-- Invariant of the output of a whole `redo-log` run: per target, nothing raw before its cleaned name is marked,
and nothing or its log once; and two spellings of one cleaned name are never both shown. -/
def InvSt (F : Forest) (st : St) : Prop :=
  (∀ y, (normpath y ∉ st.already → rawsOf y st.out.reverse = []) ∧
    (rawsOf y st.out.reverse = [] ∨ ∃ ls, lookup F (normpath y) = some (some ls) ∧ rawsOf y st.out.reverse = rawLines (unglue ls))) ∧
  ∀ x y, x ≠ y → normpath x = normpath y → rawsOf x st.out.reverse = [] ∨ rawsOf y st.out.reverse = []

theorem InvSt.init (F : Forest) (a : List (List Char)) : InvSt F ⟨a, []⟩ :=
  ⟨fun _ => ⟨fun _ => rfl, Or.inl rfl⟩, fun _ _ _ _ => Or.inl rfl⟩

theorem InvSt.chunk {F : Forest} {st st' : St} {c : List Tagged} (hi : InvSt F st)
    (hc : st'.out = c.reverse ++ st.out) (hg : GoodChunk F st.already c st'.already) : InvSt F st' := by
  have ho : st'.out.reverse = st.out.reverse ++ c := by rw [hc]; simp
  have hold : ∀ y, normpath y ∈ st.already → rawsOf y c = [] :=
    fun y hy => rawsOf_eq_nil (fun e he heq => (hg.tags e he).1 (heq ▸ hy))
  refine ⟨?_, ?_⟩
  · intro y
    rw [ho, rawsOf_append]
    by_cases hy : normpath y ∈ st.already
    · rw [hold y hy, List.append_nil]
      exact ⟨fun hn => absurd (hg.sub hy) hn, (hi.1 y).2⟩
    · rw [(hi.1 y).1 hy, List.nil_append]
      refine ⟨fun hn => rawsOf_eq_nil (fun e he heq => hn (heq ▸ (hg.tags e he).2)), hg.raws y⟩
  · intro x y hxy hn
    rw [ho, rawsOf_append, rawsOf_append]
    by_cases hy : normpath y ∈ st.already
    · rw [hold y hy, hold x (hn ▸ hy), List.append_nil, List.append_nil]
      exact hi.2 x y hxy hn
    · rw [(hi.1 y).1 hy, (hi.1 x).1 (hn ▸ hy), List.nil_append, List.nil_append]
      exact hg.once_per_cleaned hxy hn

theorem rawsOf_emit_record (y : List Char) (st : St) (tag k x : List Char) :
    rawsOf y (emit st tag (.record k x)).out.reverse = rawsOf y st.out.reverse := by
  simp only [emit, List.reverse_cons, rawsOf_append, rawsOf_cons_record, rawsOf_nil, List.append_nil]

theorem InvSt.emit_record {F : Forest} {st : St} (hi : InvSt F st) (tag k x : List Char) :
    InvSt F (emit st tag (.record k x)) := by
  refine ⟨fun y => ?_, fun x' y hxy hn => ?_⟩
  · rw [rawsOf_emit_record]; exact hi.1 y
  · rw [rawsOf_emit_record, rawsOf_emit_record]; exact hi.2 x' y hxy hn

theorem redoLog_cons_ok {F : Forest} {optU optR : Bool} {fuel : Nat} {t : List Char} {ts : List (List Char)}
    {st st' : St} (h : redoLog F optU optR fuel (t :: ts) st = .ok st') :
    ∃ st1 n, catlog F optU optR fuel t (emit st [] (.record kDo (normpath t))) = .ok (st1, n) ∧
      redoLog F optU optR fuel ts st1 = .ok st' := by
  rw [redoLog] at h
  split at h
  · cases h
  · next st1 n hc => exact ⟨st1, n, hc, h⟩

theorem redoLog_inv {F : Forest} {optU optR : Bool} {fuel : Nat} (ts : List (List Char)) (st st' : St)
    (hi : InvSt F st) (h : redoLog F optU optR fuel ts st = .ok st') : InvSt F st' := by
  fun_induction redoLog F optU optR fuel ts st with
  | case1 => cases h; exact hi
  | case2 => cases h
  | case3 t ts st st1 n hc ih =>
    obtain ⟨c, hout, hg⟩ := catlog_good F optU optR fuel _ _ _ _ hc
    exact ih ((hi.emit_record [] kDo (normpath t)).chunk hout hg) h

theorem redoLog_frozen {F : Forest} {optU optR : Bool} {fuel : Nat} {y : List Char} (ts : List (List Char))
    (st st' : St) (hy : normpath y ∈ st.already) (h : redoLog F optU optR fuel ts st = .ok st') :
    normpath y ∈ st'.already ∧ rawsOf y st'.out.reverse = rawsOf y st.out.reverse := by
  fun_induction redoLog F optU optR fuel ts st with
  | case1 => cases h; exact ⟨hy, rfl⟩
  | case2 => cases h
  | case3 t ts st st1 n hc ih =>
    obtain ⟨c, hout, hg⟩ := catlog_good F optU optR fuel _ _ _ _ hc
    obtain ⟨h1, h2⟩ := ih (hg.sub hy) h
    refine ⟨h1, ?_⟩
    rw [h2, hout, List.reverse_append, List.reverse_reverse, rawsOf_append, rawsOf_emit_record,
      rawsOf_eq_nil (fun e he heq => (hg.tags e he).1 (heq ▸ hy)), List.append_nil]

/-! ### Fuel -/

/-- `rec2` extends `rec1`: wherever `rec1` does not run out of fuel, `rec2` agrees. -/
def Extends (rec1 rec2 : List Char → St → Except CErr (St × Nat)) : Prop :=
  ∀ x s, rec1 x s = rec2 x s ∨ rec1 x s = .error .outOfFuel

theorem lines_congr {rec1 rec2 : List Char → St → Except CErr (St × Nat)} (H : Extends rec1 rec2)
    (optU optR : Bool) (t : List Char) : ∀ (ls : List (List Char)) (st : St) (intr w : Nat),
    lines rec1 optU optR t ls st intr w = lines rec2 optU optR t ls st intr w ∨
    lines rec1 optU optR t ls st intr w = .error .outOfFuel
  | [], st, intr, w => by left; rw [lines_nil, lines_nil]
  | l :: ls, st, intr, w => by
    rw [lines_cons, lines_cons]
    cases lineStep optU optR t l st intr w with
    | next st1 i1 w1 => exact lines_congr H optU optR t ls st1 i1 w1
    | fail e => exact Or.inl rfl
    | sub x s i1 w1 =>
      dsimp only
      rcases H x s with e | e
      · rw [← e]
        cases rec1 x s with
        | error e => exact Or.inl rfl
        | ok v => exact lines_congr H optU optR t ls _ _ _
      · rw [e]; exact Or.inr rfl

theorem catlog_fuel_succ (F : Forest) (optU optR : Bool) :
    ∀ fuel, Extends (catlog F optU optR fuel) (catlog F optU optR (fuel + 1))
  | 0 => fun x s => Or.inr (by rw [catlog])
  | fuel + 1 => by
    intro x s
    rw [catlog, catlog]
    split
    · exact Or.inl rfl
    · dsimp only
      split
      · exact Or.inl rfl
      · exact Or.inl rfl
      · exact lines_congr (catlog_fuel_succ F optU optR fuel) optU optR x _ _ 0 0

theorem catlog_fuel_mono {F : Forest} {optU optR : Bool} {fuel : Nat} {t : List Char} {st : St}
    (h : catlog F optU optR fuel t st ≠ .error .outOfFuel) :
    ∀ k, catlog F optU optR (fuel + k) t st = catlog F optU optR fuel t st
  | 0 => rfl
  | k + 1 => by
    have ih := catlog_fuel_mono h k
    rcases catlog_fuel_succ F optU optR (fuel + k) t st with e | e
    · rw [← ih, e]; rfl
    · rw [ih] at e; exact absurd e h

/-- Cleaned names of the keys of the forest (each once) that are not yet in `already`. -/
def pending (F : Forest) (a : List (List Char)) : Nat :=
  (F.map (fun e => normpath e.1)).eraseDups.countP (fun k => decide (k ∉ a))

theorem countP_lt_of_mem {α : Type} {p q : α → Bool} {t : α} {l : List α} (himp : ∀ x ∈ l, p x = true → q x = true)
    (ht : t ∈ l) (hq : q t = true) (hp : p t = false) : l.countP p < l.countP q := by
  have h1 : (l.filter p).countP q = l.countP p := by
    rw [List.countP_eq_length_filter (p := p), List.countP_eq_length]
    exact fun x hx => himp x (List.mem_filter.1 hx).1 (List.mem_filter.1 hx).2
  have h2 : 0 < (l.filter (fun x => !p x)).countP q :=
    List.countP_pos_iff.2 ⟨t, List.mem_filter.2 ⟨ht, by simp [hp]⟩, hq⟩
  rw [List.countP_eq_countP_filter_add l q p]
  omega

theorem pending_mono (F : Forest) {a a' : List (List Char)} (h : a ⊆ a') : pending F a' ≤ pending F a := by
  unfold pending
  apply List.countP_mono_left
  intro x _ hx
  simp only [decide_eq_true_eq] at hx ⊢
  exact fun hin => hx (h hin)

theorem pending_lt (F : Forest) {a : List (List Char)} {t : List Char} (ht : normpath t ∈ F.map Prod.fst)
    (hta : normpath t ∉ a) : pending F (normpath t :: a) < pending F a := by
  unfold pending
  apply countP_lt_of_mem (t := normpath t)
  · intro x _ hx
    simp only [decide_eq_true_eq, List.mem_cons, not_or] at hx ⊢
    exact hx.2
  · rw [List.mem_eraseDups]
    obtain ⟨e, he, hk⟩ := List.mem_map.1 ht
    exact List.mem_map.2 ⟨e, he, by rw [hk, normpath_idem]⟩
  · simpa using hta
  · simp

theorem lines_noOOF {F : Forest} {recurse : List Char → St → Except CErr (St × Nat)} (hrec : RecSpec F recurse)
    {a : List (List Char)} (hn : ∀ x s, a ⊆ s.already → recurse x s ≠ .error .outOfFuel)
    (optU optR : Bool) (t : List Char) : ∀ (ls : List (List Char)) (st : St) (intr w : Nat), a ⊆ st.already →
    lines recurse optU optR t ls st intr w ≠ .error .outOfFuel
  | [], st, intr, w, _ => by rw [lines_nil]; exact nofun
  | l :: ls, st, intr, w, ha => by
    rw [lines_cons]
    have hs := lineStep_spec optU optR t l st intr w
    generalize lineStep optU optR t l st intr w = a' at hs
    cases a' with
    | next st1 i1 w1 =>
      obtain ⟨own, -, -, hal⟩ := hs
      refine lines_noOOF hrec hn optU optR t ls st1 i1 w1 ?_
      rcases hal with e | ⟨g, -, e⟩ <;> rw [e]
      · exact ha
      · exact fun _ hx => List.mem_cons_of_mem _ (ha hx)
    | fail e => rw [hs]; exact nofun
    | sub x s i1 w1 =>
      obtain ⟨g, -, -, -, rfl⟩ := hs
      have hsa : a ⊆ (announce st t (normpath x)).already := by rw [announce_already]; exact ha
      have h1 := hn x _ hsa
      dsimp only
      cases hrr : recurse x (announce st t (normpath x)) with
      | error e => exact fun h => h1 (hrr.trans h)
      | ok v =>
        obtain ⟨c, -, hg⟩ := hrec _ _ _ _ hrr
        exact lines_noOOF hrec hn optU optR t ls _ _ _ (fun _ hx => List.mem_cons_of_mem _ (hg.sub (hsa hx)))

/-- Fuel bound: one unit per forest key not yet in `already`, plus one. -/
theorem catlog_no_outOfFuel (F : Forest) (optU optR : Bool) :
    ∀ (fuel : Nat) (t : List Char) (st : St), pending F st.already + 1 ≤ fuel →
      catlog F optU optR fuel t st ≠ .error .outOfFuel
  | 0, _, _, h => by omega
  | fuel + 1, t, st, h => by
    rw [catlog]
    split
    · exact nofun
    · next ht =>
      dsimp only
      split
      · exact nofun
      · exact nofun
      · next ls hl =>
        have hlt := pending_lt F (lookup_mem hl) ht
        refine lines_noOOF (catlog_good F optU optR fuel) (a := normpath t :: st.already) (fun x s hs => ?_)
          optU optR t _ _ 0 0 (fun _ h => h)
        have := pending_mono F hs
        exact catlog_no_outOfFuel F optU optR fuel x s (by omega)

theorem redoLog_no_outOfFuel (F : Forest) (optU optR : Bool) (fuel : Nat) (ts : List (List Char)) (st : St)
    (h : pending F st.already + 1 ≤ fuel) : redoLog F optU optR fuel ts st ≠ .error .outOfFuel := by
  fun_induction redoLog F optU optR fuel ts st with
  | case1 => exact nofun
  | case2 t ts st e hc =>
    exact fun he => catlog_no_outOfFuel F optU optR fuel t (emit st [] (.record kDo (normpath t))) h
      (Except.error.inj he ▸ hc)
  | case3 t ts st st1 n hc ih =>
    obtain ⟨c, _, hg⟩ := catlog_good F optU optR fuel _ _ _ _ hc
    have := pending_mono F hg.sub
    exact ih (by simp only [emit] at this; omega)

theorem length_eraseDups_le : ∀ (n : Nat) (l : List (List Char)), l.length ≤ n → l.eraseDups.length ≤ l.length
  | _, [], _ => by simp
  | 0, _ :: _, h => by simp at h
  | n + 1, a :: l, h => by
    rw [List.eraseDups_cons]
    have h1 : (l.filter fun b => !b == a).length ≤ l.length := List.length_filter_le _ _
    have h2 := length_eraseDups_le n (l.filter fun b => !b == a) (by simp at h; omega)
    simp only [List.length_cons]
    omega

theorem pending_le_length (F : Forest) (a : List (List Char)) : pending F a ≤ F.length := by
  unfold pending
  have h1 := List.countP_le_length (p := fun k => decide (k ∉ a)) (l := (F.map (fun e => normpath e.1)).eraseDups)
  have h2 := length_eraseDups_le _ (F.map (fun e => normpath e.1)) (Nat.le_refl _)
  simp only [List.length_map] at h2
  omega

/-! ### A malformed `done` record is not an error -/

theorem lines_ne_badDone {recurse : List Char → St → Except CErr (St × Nat)}
    (hn : ∀ x s, recurse x s ≠ .error .badDone) (optU optR : Bool) (t : List Char) :
    ∀ (ls : List (List Char)) (st : St) (intr w : Nat), lines recurse optU optR t ls st intr w ≠ .error .badDone
  | [], st, intr, w => by rw [lines_nil]; exact nofun
  | l :: ls, st, intr, w => by
    rw [lines_cons]
    have hs := lineStep_spec optU optR t l st intr w
    generalize lineStep optU optR t l st intr w = a at hs
    cases a with
    | next st1 i1 w1 => exact lines_ne_badDone hn optU optR t ls st1 i1 w1
    | fail e => rw [hs]; exact nofun
    | sub x s i1 w1 =>
      dsimp only
      cases hrr : recurse x s with
      | error e => exact fun h => hn x s (hrr.trans h)
      | ok v => exact lines_ne_badDone hn optU optR t ls _ _ _

theorem catlog_ne_badDone (F : Forest) (optU optR : Bool) :
    ∀ (fuel : Nat) (t : List Char) (st : St), catlog F optU optR fuel t st ≠ .error .badDone
  | 0, _, _ => by rw [catlog]; exact nofun
  | fuel + 1, t, st => by
    rw [catlog]
    split
    · exact nofun
    · dsimp only
      split
      · exact nofun
      · exact nofun
      · exact lines_ne_badDone (catlog_ne_badDone F optU optR fuel) optU optR t _ _ 0 0

theorem redoLog_ne_badDone (F : Forest) (optU optR : Bool) (fuel : Nat) (ts : List (List Char)) (st : St) :
    redoLog F optU optR fuel ts st ≠ .error .badDone := by
  fun_induction redoLog F optU optR fuel ts st with
  | case1 => exact nofun
  | case2 t ts st e hc => exact fun h => catlog_ne_badDone F optU optR fuel _ _ (Except.error.inj h ▸ hc)
  | case3 _ _ _ _ _ _ ih => exact ih

/-! ### Names in a log are resolved against the directory of the log's target

What the `do` records of a replay carry, and which file a sub-replay reads. -/

/-- The `do` records tagged `t` in `c` name record texts of `ls`, resolved against the directory of `t`. -/
def DoNames (t : List Char) (ls : List (List Char)) (c : List Tagged) : Prop :=
  ∀ e ∈ c, e.tag = t → ∀ y, e.out = .record kDo y →
    ∃ l ∈ ls, ∃ g, parse l = .ok g ∧ y = normpath (joinP (dirOf t) g.text)

theorem step_doNames {F : Forest} {recurse : List Char → St → Except CErr (St × Nat)} (hrec : RecSpec F recurse)
    {t l : List Char} {st st1 : St} (ht : normpath t ∈ st.already) (h : Step recurse t l st st1) :
    ∃ c, st1.out = c.reverse ++ st.out ∧ DoNames t [l] c := by
  cases h with
  | own own htag hraw hlen hout hal hdo =>
    refine ⟨own, hout, fun e he _ y hy => ?_⟩
    obtain ⟨g, hp, hy⟩ := hdo e he y hy
    exact ⟨l, List.mem_cons_self .., g, hp, hy⟩
  | sub g own stB got hp hnr hown hrc hst' =>
    obtain ⟨c, hc, hg⟩ := hrec _ _ _ _ hrc
    dsimp only at hc hg
    subst hst'
    refine ⟨own ++ c, by simp [hc], fun e he het y hy => ?_⟩
    rcases List.mem_append.1 he with he | he
    · rcases hown with e' | e' <;> subst e'
      · cases he
      · simp at he; subst he
        simp only [Out.record.injEq] at hy
        exact ⟨l, List.mem_cons_self .., g, hp, hy.2.symm⟩
    · exact absurd (het ▸ ht) (hg.tags e he).1

theorem run_doNames {F : Forest} {recurse : List Char → St → Except CErr (St × Nat)} (hrec : RecSpec F recurse)
    {t : List Char} {ls : List (List Char)} {st st' : St} (ht : normpath t ∈ st.already)
    (h : Run recurse t ls st st') : ∃ c, st'.out = c.reverse ++ st.out ∧ DoNames t ls c := by
  induction h with
  | nil st => exact ⟨[], by simp, fun _ he => by cases he⟩
  | @cons l ls st st1 st2 hs _ ih =>
    obtain ⟨c1, ho1, hd1⟩ := step_doNames hrec ht hs
    obtain ⟨_, _, hl⟩ := step_chunk hrec ht hs
    obtain ⟨c2, ho2, hd2⟩ := ih (hl.others.sub ht)
    refine ⟨c1 ++ c2, by rw [ho2, ho1]; simp, fun e he het y hy => ?_⟩
    rcases List.mem_append.1 he with he | he
    · obtain ⟨l', hl', r⟩ := hd1 e he het y hy
      simp only [List.mem_cons, List.not_mem_nil, or_false] at hl'
      exact ⟨l', hl' ▸ List.mem_cons_self .., r⟩
    · obtain ⟨l', hl', r⟩ := hd2 e he het y hy
      exact ⟨l', List.mem_cons_of_mem _ hl', r⟩

/-- A sub-replay step of the log of `t` is one call of `catlog` on the record text joined to the directory of `t`;
its optional own entry is the `do` record carrying the cleaned form of that very name. -/
theorem step_sub_call {recurse : List Char → St → Except CErr (St × Nat)} {t l : List Char} {st st1 : St}
    (h : Step recurse t l st st1) :
    (∃ own : List Tagged, st1.out = own.reverse ++ st.out ∧ ∀ e ∈ own, e.tag = t) ∨
    ∃ (g : Rec) (s sB : St) (k : Nat), parse l = .ok g ∧ recurse (joinP (dirOf t) g.text) s = .ok (sB, k) ∧
      s.already = st.already ∧
      (s.out = st.out ∨ s.out = ⟨t, .record kDo (normpath (joinP (dirOf t) g.text))⟩ :: st.out) ∧
      st1 = { sB with already := normpath (joinP (dirOf t) g.text) :: sB.already } := by
  cases h with
  | own own htag hraw hlen hout hal hdo => exact Or.inl ⟨own, hout, htag⟩
  | sub g own stB got hp hnr hown hrc hst' =>
    refine Or.inr ⟨g, _, stB, got, hp, hrc, rfl, ?_, hst'⟩
    rcases hown with e | e <;> subst e
    · left; rfl
    · right; rfl

end RedoModel.LogRec
