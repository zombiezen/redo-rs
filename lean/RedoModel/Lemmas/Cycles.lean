import RedoModel.Cycles
/-!
# `REDO_CYCLES` — helper lemmas for `Props/C12c.lean`
Model: `RedoModel/Cycles.lean`.  Split/join round trips, then the set semantics of `add`/`addAll`/`check`
for every write-back order that merely rearranges; kernel-checked instances in the namespace `Ex`.
-/
namespace RedoModel.Cycles

/-- The only thing assumed of the hash set's iteration order: it rearranges the items. -/
def Rearranges (ord : List (List Char) → List (List Char)) : Prop := ∀ l, (ord l).Perm l

theorem go_ne_nil (acc s : List Char) : splitColon.go acc s ≠ [] := by
  induction s generalizing acc with
  | nil => simp [splitColon.go]
  | cons c cs ih =>
    unfold splitColon.go
    split
    · simp
    · exact ih _

theorem go_colon_free (acc s : List Char) (hacc : ':' ∉ acc) : ∀ x ∈ splitColon.go acc s, ':' ∉ x := by
  induction s generalizing acc with
  | nil =>
    intro x hx
    simp only [splitColon.go, List.mem_singleton] at hx
    subst hx
    simpa using hacc
  | cons c cs ih =>
    intro x hx
    unfold splitColon.go at hx
    split at hx
    · rcases List.mem_cons.1 hx with h | h
      · subst h
        simpa using hacc
      · exact ih [] (by simp) x h
    · rename_i hc
      refine ih (c :: acc) ?_ x hx
      intro hm
      rcases List.mem_cons.1 hm with h | h
      · exact hc h.symm
      · exact hacc h

/-- Reading a colon-free stretch only accumulates. -/
theorem go_append_colon_free (acc x rest : List Char) (hx : ':' ∉ x) :
    splitColon.go acc (x ++ rest) = splitColon.go (x.reverse ++ acc) rest := by
  induction x generalizing acc with
  | nil => simp
  | cons c cs ih =>
    have hc : c ≠ ':' := fun h => hx (by simp [h])
    have hcs : ':' ∉ cs := fun h => hx (List.mem_cons_of_mem _ h)
    rw [List.cons_append, splitColon.go, if_neg hc, ih _ hcs]
    simp

theorem go_last (acc x : List Char) (hx : ':' ∉ x) : splitColon.go acc x = [acc.reverse ++ x] := by
  have := go_append_colon_free acc x [] hx
  simp only [List.append_nil] at this
  rw [this]
  simp [splitColon.go]

theorem go_item (acc x rest : List Char) (hx : ':' ∉ x) :
    splitColon.go acc (x ++ ':' :: rest) = (acc.reverse ++ x) :: splitColon.go [] rest := by
  rw [go_append_colon_free acc x _ hx, splitColon.go, if_pos rfl]
  simp

theorem joinColon_cons (x : List Char) (r : List (List Char)) (hr : r ≠ []) :
    joinColon (x :: r) = x ++ ':' :: joinColon r := by
  cases r with
  | nil => exact absurd rfl hr
  | cons y r => rfl

theorem join_go (acc s : List Char) : joinColon (splitColon.go acc s) = acc.reverse ++ s := by
  induction s generalizing acc with
  | nil => simp [splitColon.go, joinColon]
  | cons c cs ih =>
    unfold splitColon.go
    split
    · rename_i hc
      rw [joinColon_cons _ _ (go_ne_nil _ _), ih, hc]
      simp
    · rw [ih]
      simp

theorem split_ne_nil (s : List Char) : splitColon s ≠ [] := go_ne_nil [] s

theorem split_colon_free (s : List Char) : ∀ x ∈ splitColon s, ':' ∉ x :=
  go_colon_free [] s (by simp)

theorem join_split (s : List Char) : joinColon (splitColon s) = s := by
  have := join_go [] s
  simpa [splitColon] using this

theorem split_join (l : List (List Char)) (hne : l ≠ []) (hcf : ∀ x ∈ l, ':' ∉ x) :
    splitColon (joinColon l) = l := by
  induction l with
  | nil => exact absurd rfl hne
  | cons x r ih =>
    cases r with
    | nil =>
      have := go_last [] x (hcf x (by simp))
      simpa [splitColon, joinColon] using this
    | cons y r =>
      have hx : ':' ∉ x := hcf x (by simp)
      have ih' := ih (by simp) (fun z hz => hcf z (List.mem_cons_of_mem _ hz))
      show splitColon.go [] (x ++ ':' :: joinColon (y :: r)) = x :: y :: r
      rw [go_item [] x _ hx]
      show ([].reverse ++ x) :: splitColon (joinColon (y :: r)) = _
      rw [ih']
      simp

/-- The empty list of items has no representation: joining nothing gives the empty string, which splits
into one empty item. -/
theorem split_join_nil : splitColon (joinColon []) = [[]] := rfl

theorem items_colon_free (v : Option (List Char)) : ∀ x ∈ items v, ':' ∉ x := by
  cases v with
  | none => intro x hx; simp [items] at hx
  | some s => exact split_colon_free s

theorem check_iff (v : Option (List Char)) (fid : List Char) : check v fid = true ↔ fid ∈ items v := by
  simp [check]

/-- What `add` writes back when the lock is new, read again: a rearrangement of the old set plus the lock. -/
theorem items_add_new (ord) (hord : Rearranges ord) (v : Option (List Char)) (fid : List Char)
    (hfid : ':' ∉ fid) (hnew : check v fid = false) :
    add ord v fid = some (joinColon (ord ((items v).eraseDups ++ [fid]))) ∧
    (items (add ord v fid)).Perm ((items v).eraseDups ++ [fid]) := by
  have hadd : add ord v fid = some (joinColon (ord ((items v).eraseDups ++ [fid]))) := by
    unfold add
    unfold check at hnew
    rw [hnew]
    simp
  have hp := hord ((items v).eraseDups ++ [fid])
  refine ⟨hadd, ?_⟩
  rw [hadd]
  show (splitColon _).Perm _
  rw [split_join]
  · exact hp
  · intro h
    rw [h] at hp
    have := hp.length_eq
    simp at this
  · intro x hx
    have hx' := hp.mem_iff.1 hx
    rcases List.mem_append.1 hx' with h | h
    · exact items_colon_free v x (List.mem_eraseDups.1 h)
    · simp only [List.mem_singleton] at h
      subst h
      exact hfid

theorem add_idempotent (ord) (v : Option (List Char)) (fid : List Char) (h : check v fid = true) :
    add ord v fid = v := by
  unfold add
  unfold check at h
  rw [h]
  simp

theorem add_exact (ord) (hord : Rearranges ord) (v : Option (List Char)) (fid : List Char)
    (hfid : ':' ∉ fid) (x : List Char) :
    x ∈ items (add ord v fid) ↔ (x ∈ items v ∨ x = fid) := by
  cases hc : check v fid with
  | true =>
    rw [add_idempotent ord v fid hc]
    have := (check_iff v fid).1 hc
    constructor
    · exact Or.inl
    · rintro (h | h)
      · exact h
      · subst h; exact this
  | false =>
    have hp := (items_add_new ord hord v fid hfid hc).2
    rw [hp.mem_iff, List.mem_append, List.mem_eraseDups, List.mem_singleton]

theorem check_after_add (ord) (hord : Rearranges ord) (v : Option (List Char)) (fid : List Char)
    (hfid : ':' ∉ fid) : check (add ord v fid) fid = true :=
  (check_iff _ _).2 ((add_exact ord hord v fid hfid fid).2 (Or.inr rfl))

theorem add_monotone (ord) (hord : Rearranges ord) (v : Option (List Char)) (fid : List Char)
    (hfid : ':' ∉ fid) (x : List Char) (h : check v x = true) : check (add ord v fid) x = true :=
  (check_iff _ _).2 ((add_exact ord hord v fid hfid x).2 (Or.inl ((check_iff _ _).1 h)))

/-- A new lock is written back without repeated items even when the inherited variable had some. -/
theorem add_new_nodup_count (ord) (hord : Rearranges ord) (v : Option (List Char)) (fid : List Char)
    (hfid : ':' ∉ fid) (hnew : check v fid = false) :
    (items (add ord v fid)).length = (items v).eraseDups.length + 1 := by
  have := (items_add_new ord hord v fid hfid hnew).2.length_eq
  simpa using this

theorem mem_items_addAll (ord) (hord : Rearranges ord) (fs : List (List Char)) :
    ∀ (v : Option (List Char)), (∀ f ∈ fs, ':' ∉ f) →
      ∀ x, x ∈ items (addAll ord v fs) ↔ (x ∈ items v ∨ x ∈ fs) := by
  induction fs with
  | nil => intro v _ x; simp [addAll]
  | cons f fs ih =>
    intro v hfs x
    have hf : ':' ∉ f := hfs f (by simp)
    rw [addAll, ih (add ord v f) (fun g hg => hfs g (List.mem_cons_of_mem _ hg)) x,
      add_exact ord hord v f hf x, List.mem_cons, or_assoc]

theorem ancestor_set (ord) (hord : Rearranges ord) (v : Option (List Char)) (fs : List (List Char))
    (hfs : ∀ f ∈ fs, ':' ∉ f) (x : List Char) :
    check (addAll ord v fs) x = true ↔ (x ∈ items v ∨ x ∈ fs) := by
  rw [check_iff, mem_items_addAll ord hord fs v hfs x]

theorem ancestor_set_unset (ord) (hord : Rearranges ord) (fs : List (List Char))
    (hfs : ∀ f ∈ fs, ':' ∉ f) (x : List Char) :
    check (addAll ord none fs) x = true ↔ x ∈ fs := by
  rw [ancestor_set ord hord none fs hfs x]
  simp [items]

theorem fid_colon_free (f : List Char) (h : IsFid f) : ':' ∉ f := by
  intro hm
  have := h.2 ':' hm
  revert this
  decide

theorem rearranges_id : Rearranges id := fun _ => List.Perm.refl _
theorem rearranges_reverse : Rearranges List.reverse := fun l => List.reverse_perm l

end RedoModel.Cycles

/-!
# `REDO_CYCLES` — kernel-checked instances (non-vacuity, corner cases, necessity of the hypotheses)
-/
namespace RedoModel.Cycles.Ex

def one : List Char := ['1']
def ten : List Char := ['1', '0']
def hundred : List Char := ['1', '0', '0']

theorem one_fid : IsFid one := ⟨by decide, by decide⟩
theorem ten_fid : IsFid ten := ⟨by decide, by decide⟩
theorem hundred_fid : IsFid hundred := ⟨by decide, by decide⟩

/-- Reversing is not the identity on the items at hand. -/
theorem reverse_not_id : [ten, hundred].reverse ≠ [ten, hundred] := by decide

/-- Ancestors holding 10 and 100, set written back in reversed order: the variable reads `100:10`. -/
theorem chain_value : addAll List.reverse none [ten, hundred] = some "100:10".toList := by
  rw [String.toList_ofList]
  decide +kernel

/-- … and 1 is not refused although it is a prefix of both; 10 and 100 are. -/
theorem prefix_distinguished :
    check (addAll List.reverse none [ten, hundred]) one = false ∧
    check (addAll List.reverse none [ten, hundred]) ten = true ∧
    check (addAll List.reverse none [ten, hundred]) hundred = true ∧
    check (addAll List.reverse none [hundred]) ten = false ∧
    check (addAll List.reverse none [one]) ten = false ∧
    check (addAll List.reverse none [one]) hundred = false := by decide +kernel

/-- A third level adds 1: the reversed write-back gives `1:10:100`, all three are refused, 0 and 1000 are not. -/
theorem chain3 :
    addAll List.reverse none [ten, hundred, one] = some "1:10:100".toList ∧
    check (addAll List.reverse none [ten, hundred, one]) one = true ∧
    check (addAll List.reverse none [ten, hundred, one]) ['0'] = false ∧
    check (addAll List.reverse none [ten, hundred, one]) ['1', '0', '0', '0'] = false := by
  rw [String.toList_ofList]
  decide +kernel

/-- Corners of the inherited variable.  Unset: no items.  Set but empty: ONE item, the empty string (so the
empty id would be refused — no lock id is empty, `IsFid`).  Repeated and empty items (`1:1:`) survive a
no-op `add`, and are written back once each by an `add` of a new lock. -/
theorem corners :
    items none = [] ∧ items (some []) = [[]] ∧ check (some []) [] = true ∧ check none [] = false ∧
    items (some "1:1:".toList) = [one, one, []] ∧
    add List.reverse (some "1:1:".toList) one = some "1:1:".toList ∧
    add List.reverse (some "1:1:".toList) ten = some "10::1".toList ∧
    add List.reverse (some []) ten = some "10:".toList ∧
    add List.reverse none ten = some "10".toList := by
  rw [String.toList_ofList, String.toList_ofList, String.toList_ofList, String.toList_ofList]
  decide +kernel

/-- The hypothesis `':' ∉ fid` of `add_exact`/`check_after_add` cannot be dropped: an id containing a colon
is not found again after being added (it reads back as two items). -/
theorem colon_needed : check (add id none [':']) [':'] = false ∧ items (add id none [':']) = [[], []] := by
  decide

/-- The hypothesis `Rearranges ord` cannot be dropped: an order that loses an item loses an ancestor's lock. -/
theorem rearranges_needed :
    check (add (fun l => l.drop 1) (some ten) hundred) ten = false := by decide

end RedoModel.Cycles.Ex
