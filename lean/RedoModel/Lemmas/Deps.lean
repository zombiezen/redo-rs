import RedoModel.Deps
import RedoModel.Lemmas.DepsPrim
/-! The dirtiness check of the serial engine model: one level of it with the case principle every proof about it uses
(`isDirtyStep_cases`; `goDeps_cons_cases` for one row of the walk over the dependencies), and what it can change in
the world (`isDirty_writes_snap`, for worlds and copies of records under conditions; `isDirty_writes` without
conditions).  Then what a whole command, a user operation and a history can do: a query only consumes a run id
(`query_world`), `runCmd_cases`, `applyOp_cases`, `history_inv`. -/
namespace RedoModel.Deps

/-- Everything of a world that the dirtiness check cannot change. -/
def SameButRecs (w w' : World) : Prop :=
  w'.fs = w.fs ∧ w'.deps = w.deps ∧ w'.runCounter = w.runCounter ∧ w'.clock = w.clock ∧
  w'.nextRow = w.nextRow ∧ w'.progs = w.progs ∧ w'.rules = w.rules

theorem SameButRecs.refl (w : World) : SameButRecs w w := ⟨rfl, rfl, rfl, rfl, rfl, rfl, rfl⟩

theorem SameButRecs.trans {a b c : World} (h1 : SameButRecs a b) (h2 : SameButRecs b c) : SameButRecs a c := by
  obtain ⟨a1, a2, a3, a4, a5, a6, a7⟩ := h1
  obtain ⟨b1, b2, b3, b4, b5, b6, b7⟩ := h2
  exact ⟨b1.trans a1, b2.trans a2, b3.trans a3, b4.trans a4, b5.trans a5, b6.trans a6, b7.trans a7⟩

theorem SameButRecs.setRec (w : World) (f : Nat) (r : Rec) : SameButRecs w (setRec w f r) :=
  ⟨rfl, rfl, rfl, rfl, rfl, rfl, rfl⟩

theorem SameButRecs.ev (w : World) (e : Ev) : SameButRecs w (ev w e) :=
  ⟨rfl, rfl, rfl, rfl, rfl, rfl, rfl⟩

/-! ### One level of the dirtiness check -/

/-- The body of `isDirty`, with the recursive call as a parameter. -/
def isDirtyStep (ood : Bool) (R : Nat)
    (rec : World → List Nat → Nat → Nat → List Nat → Option Rec → DR × World × List Nat)
    (w : World) (cache : List Nat) (f mx : Nat) (seen : List Nat) (pre : Option Rec) : DR × World × List Nat :=
    if f ∈ seen then (.cyclic, w, cache) else
    let r := pre.getD (getRec w R f)
    if r.failed.isSome then (.dirty, w, cache) else
    match r.changed with
    | none => (.dirty, w, cache)
    | some ch =>
      if ch > mx then (.dirty, w, cache) else
      if (if ood then decide (f ∈ cache) else isCheckedR r R) then (.clean, w, cache) else
      match r.stamp with
      | none => (.dirty, w, cache)
      | some old =>
        let new := readStamp w f
        if old ≠ new then
          let w := if new = .missing ∧ r.isGenerated then
              setRec w f { r with isGenerated := false, isOverride := false, failed := some 0 } else w
          (if r.csum.isSome then .need [f] else .dirty, w, cache)
        else
          let mx' := max ch (r.checked.getD 0)
          match goDeps (fun w cache s snap => rec w cache s mx' (f :: seen) (some snap)) r.csum.isSome f
              (depsWithRecs w R r f) w cache [] with
          | (some dr, w, cache) => (dr, w, cache)
          | (none, w, cache) =>
            let w := if r.isOverride && !ood then ev w (.warnOverride f) else w
            if ood then (.clean, w, f :: cache)
            else (.clean, setRec w f { r with checked := some R }, cache)

theorem isDirty_succ (ood : Bool) (R fuel : Nat) (w : World) (cache : List Nat) (f mx : Nat) (seen : List Nat)
    (pre : Option Rec) :
    isDirty ood R (fuel + 1) w cache f mx seen pre = isDirtyStep ood R (isDirty ood R fuel) w cache f mx seen pre := by
  rfl

theorem ite_elim {α : Sort _} {P : α → Prop} {c : Prop} [Decidable c] {a b : α} (h1 : c → P a) (h2 : ¬ c → P b) :
    P (if c then a else b) := by
  split
  · exact h1 ‹_›
  · exact h2 ‹_›

/-- The ways through one level of the check.  `r` is the record the check works on.  The verdict is `dirty` without a
look at the file when the record alone says so (the case gives the reason, and for a missing stamp that the file was not
checked before); `clean` when the file was checked before (in this run, or by this `redo-ood`); otherwise the stamp is
compared, and if it is the recorded one the dependencies are walked, with result `g`: `found` is a walk that ends early,
`walked` one that finds all of them clean.  These cases come with every test passed on the way. -/
theorem isDirtyStep_cases {ood : Bool} {R : Nat}
    {rec : World → List Nat → Nat → Nat → List Nat → Option Rec → DR × World × List Nat}
    {w : World} {cache : List Nat} {f mx : Nat} {seen : List Nat} {pre : Option Rec}
    {P : DR × World × List Nat → Prop} {r : Rec} (hr : r = pre.getD (getRec w R f))
    (cyclic : f ∈ seen → P (.cyclic, w, cache))
    (dirty : f ∉ seen →
      r.failed.isSome = true ∨ r.changed = none ∨ (∃ ch, r.changed = some ch ∧ mx < ch) ∨
        ((bif ood then decide (f ∈ cache) else isCheckedR r R) = false ∧ r.stamp = none) →
      P (.dirty, w, cache))
    (checked : ∀ ch, f ∉ seen → r.failed = none → r.changed = some ch → ch ≤ mx →
      (bif ood then decide (f ∈ cache) else isCheckedR r R) = true → P (.clean, w, cache))
    (restamped : ∀ ch old, f ∉ seen → r.failed = none → r.changed = some ch → ch ≤ mx →
      (bif ood then decide (f ∈ cache) else isCheckedR r R) = false → r.stamp = some old → old ≠ readStamp w f →
      P (if r.csum.isSome then .need [f] else .dirty,
         if readStamp w f = .missing ∧ r.isGenerated then
           setRec w f { r with isGenerated := false, isOverride := false, failed := some 0 } else w,
         cache))
    (found : ∀ ch dr g, f ∉ seen → r.failed = none → r.changed = some ch → ch ≤ mx →
      (bif ood then decide (f ∈ cache) else isCheckedR r R) = false → r.stamp = some (readStamp w f) →
      g = goDeps (fun w cache s snap => rec w cache s (max ch (r.checked.getD 0)) (f :: seen) (some snap)) r.csum.isSome f
        (depsWithRecs w R r f) w cache [] → g.1 = some dr → P (dr, g.2.1, g.2.2))
    (walked : ∀ ch g, f ∉ seen → r.failed = none → r.changed = some ch → ch ≤ mx →
      (bif ood then decide (f ∈ cache) else isCheckedR r R) = false → r.stamp = some (readStamp w f) →
      g = goDeps (fun w cache s snap => rec w cache s (max ch (r.checked.getD 0)) (f :: seen) (some snap)) r.csum.isSome f
        (depsWithRecs w R r f) w cache [] → g.1 = none →
      P (bif ood then (.clean, g.2.1, f :: g.2.2)
         else (.clean, setRec (if r.isOverride then ev g.2.1 (.warnOverride f) else g.2.1) f { r with checked := some R },
           g.2.2))) :
    P (isDirtyStep ood R rec w cache f mx seen pre) := by
  unfold isDirtyStep
  refine ite_elim cyclic fun hns => ?_
  rw [← hr]
  clear hr
  -- with the record as its fields the two `match`es are on the variables `chg` and `st`, and `cases` on them leaves
  -- the hypotheses' `r.changed`, `r.stamp` in step with the goal (`split` on the whole term is slow to check)
  obtain ⟨row, gen, ov, ck, chg, fl, st, cs⟩ := r
  refine ite_elim (fun h => dirty hns (.inl h)) fun hf => ?_
  replace hf : fl = none := by simpa using hf
  cases chg with
  | none => exact dirty hns (.inr (.inl rfl))
  | some ch =>
  refine ite_elim (fun h => dirty hns (.inr (.inr (.inl ⟨ch, rfl, h⟩)))) fun hle => ?_
  replace hle : ch ≤ mx := Nat.le_of_not_lt hle
  have hb : ∀ x : Bool, (if ood = true then decide (f ∈ cache) else x) = (bif ood then decide (f ∈ cache) else x) := by
    cases ood <;> intro _ <;> rfl
  dsimp only
  rw [hb]
  refine ite_elim (checked ch hns hf rfl hle) fun hck => ?_
  replace hck := Bool.eq_false_iff.2 hck
  cases st with
  | none => exact dirty hns (.inr (.inr (.inr ⟨hck, rfl⟩)))
  | some old =>
  refine ite_elim (restamped ch old hns hf rfl hle hck rfl) fun heq => ?_
  replace heq : old = readStamp w f := Decidable.of_not_not heq
  subst heq
  generalize hg : goDeps _ _ _ _ _ _ _ = g
  obtain ⟨o, w1, c1⟩ := g
  cases o with
  | some dr => exact found ch dr _ hns hf rfl hle hck rfl hg.symm rfl
  | none =>
    have := walked ch _ hns hf rfl hle hck rfl hg.symm rfl
    cases ood
    · simpa using this
    · simpa using this

/-- The ways through one row of the walk over the dependencies: the object of a `c` row exists (the walk ends) or not, the
source of an `m` row is checked, with result `sub`. -/
theorem goDeps_cons_cases (chk : World → List Nat → Nat → Rec → DR × World × List Nat) (hasCsum : Bool) (f : Nat)
    (d : Dep) (snap : Rec) (ds : List (Dep × Rec)) (w : World) (cache must : List Nat)
    (P : Option DR × World × List Nat → Prop)
    (hc : d.modeM = false → existsF w d.source = true →
      P (some (if hasCsum then .need [f] else .dirty), w, cache))
    (hc' : d.modeM = false → existsF w d.source = false → P (goDeps chk hasCsum f ds w cache must))
    (hm : d.modeM = true → ∀ sub w1 c1, chk w cache d.source snap = (sub, w1, c1) →
      P (match sub with
        | .cyclic => (some .cyclic, w1, c1)
        | .clean => goDeps chk hasCsum f ds w1 c1 must
        | .dirty => (some (if hasCsum then .need [f] else .dirty), w1, c1)
        | .need ts => goDeps chk hasCsum f ds w1 c1 (must ++ ts))) :
    P (goDeps chk hasCsum f ((d, snap) :: ds) w cache must) := by
  rw [goDeps]
  cases hmm : d.modeM with
  | true =>
    simp only [if_true]
    have := hm hmm
    generalize chk w cache d.source snap = res at this
    obtain ⟨sub, w1, c1⟩ := res
    have h := this sub w1 c1 rfl
    cases sub <;> exact h
  | false =>
    simp only [Bool.false_eq_true, if_false]
    cases he : existsF w d.source with
    | true => simp only [if_true]; exact hc hmm he
    | false => simp only [Bool.false_eq_true, if_false]; exact hc' hmm he

theorem shouldBuild_world (cx : Ctx) (fuel t : Nat) (w : World) :
    (shouldBuild cx fuel t w).2 = w ∨
    (shouldBuild cx fuel t w).2 = (isDirty false cx.runid fuel w [] t cx.runid [] none).2.1 := by
  unfold shouldBuild
  split
  · exact .inl rfl
  · dsimp only
    split
    · exact .inl rfl
    · exact .inr rfl

/-! ### What the check can change

In the section below `Rel` is the relation shown to hold from the world before to the world after, `P` what is known
of every world on the way, and `Q w f r` what is known of a copy `r` of the record of `f` that the check holds while
the world is `w`: how the copy stands to the database.  `Rel` keeps both. -/

section
variable {Rel : World → World → Prop} {P : World → Prop} {Q : World → Nat → Rec → Prop} (refl : ∀ w, Rel w w)
  (trans : ∀ {a b c}, Rel a b → Rel b c → Rel a c) (keepP : ∀ {w w'}, Rel w w' → P w → P w')
  (keepQ : ∀ {w w' f r}, Rel w w' → P w → Q w f r → Q w' f r)
include refl trans keepP keepQ

theorem goDeps_rel_snap (chk : World → List Nat → Nat → Rec → DR × World × List Nat)
    (hchk : ∀ w c s r, P w → Q w s r → Rel w (chk w c s r).2.1) (hasCsum : Bool) (f : Nat) :
    ∀ (ds : List (Dep × Rec)) (w : World) (cache must : List Nat), P w → (∀ p ∈ ds, Q w p.1.source p.2) →
      Rel w (goDeps chk hasCsum f ds w cache must).2.1
  | [], w, cache, must, _, _ => by rw [goDeps]; exact refl w
  | (d, snap) :: ds, w, cache, must, hw, hq => by
    have hrest : ∀ w1, Rel w w1 → ∀ p ∈ ds, Q w1 p.1.source p.2 :=
      fun w1 h p hp => keepQ h hw (hq p (List.mem_cons_of_mem _ hp))
    rw [goDeps]
    by_cases hm : d.modeM = true
    · simp only [hm, if_true]
      have h1 := hchk w cache d.source snap hw (hq _ List.mem_cons_self)
      generalize chk w cache d.source snap = r at h1
      obtain ⟨sub, w1, c1⟩ := r
      cases sub with
      | cyclic => exact h1
      | clean => exact trans h1 (goDeps_rel_snap chk hchk hasCsum f ds w1 c1 must (keepP h1 hw) (hrest w1 h1))
      | dirty => exact h1
      | need ts => exact trans h1 (goDeps_rel_snap chk hchk hasCsum f ds w1 c1 (must ++ ts) (keepP h1 hw) (hrest w1 h1))
    · simp only [hm, Bool.false_eq_true, if_false]
      by_cases hex : existsF w d.source = true
      · simp only [hex, if_true]; exact refl w
      · simp only [hex, Bool.false_eq_true, if_false]
        exact goDeps_rel_snap chk hchk hasCsum f ds w cache must hw (hrest w (refl w))

/-- The check changes the world by two kinds of record writes (`vanish`: a target that vanished becomes a source marked
dirty; `mark`: a file found clean by `redo-ifchange` is marked checked), each of a copy with the tests it passed, and
by the override warning of `redo-ifchange`: a reflexive, transitive relation that holds across these holds across the
check. -/
theorem isDirty_writes_snap {ood : Bool} {R : Nat} (getRec : ∀ w f, P w → Q w f (getRec w R f))
    (vanish : ∀ w f (r : Rec), P w → Q w f r → r.stamp ≠ some (readStamp w f) → readStamp w f = .missing →
      r.isGenerated = true → Rel w (setRec w f { r with isGenerated := false, isOverride := false, failed := some 0 }))
    (mark : ood = false → ∀ w f (r : Rec), P w → Q w f r → r.failed = none → r.changed ≠ none →
      Rel w (setRec w f { r with checked := some R }))
    (warn : ood = false → ∀ w f, Rel w (ev w (.warnOverride f))) :
    ∀ (fuel : Nat) (w : World) (cache : List Nat) (f mx : Nat) (seen : List Nat) (pre : Option Rec), P w →
      (∀ s, pre = some s → Q w f s) → Rel w (isDirty ood R fuel w cache f mx seen pre).2.1
  | 0, w, _, _, _, _, _, _, _ => refl w
  | fuel + 1, w, cache, f, mx, seen, pre, hw, hpre => by
    have hr : Q w f (pre.getD (Deps.getRec w R f)) := by
      cases pre with
      | none => exact getRec w f hw
      | some s => exact hpre s rfl
    have hg : ∀ mx' hc, Rel w (goDeps
        (fun w cache s snap => isDirty ood R fuel w cache s mx' (f :: seen) (some snap)) hc f
        (depsWithRecs w R (pre.getD (Deps.getRec w R f)) f) w cache []).2.1 :=
      fun mx' hc => goDeps_rel_snap (Rel := Rel) (P := P) (Q := Q) refl trans keepP keepQ _
        (fun w c s r hw (hq : Q w s r) => isDirty_writes_snap getRec vanish mark warn fuel w c s _ _ _ hw
          (fun s' e => by cases e; exact hq)) hc f _ w cache [] hw
        (fun p hp => by
          obtain ⟨d, _, rfl⟩ := List.mem_map.1 hp
          exact getRec w _ hw)
    rw [isDirty_succ]
    refine isDirtyStep_cases (P := fun x => Rel w x.2.1) rfl (fun _ => refl w) (fun _ _ => refl w)
      (fun _ _ _ _ _ _ => refl w) ?_ ?_ ?_
    · intro _ old _ _ _ _ _ hst hne
      dsimp only
      split
      · rename_i hv
        exact vanish w f _ hw hr (by rw [hst]; exact fun e => hne (Option.some.inj e)) hv.1 hv.2
      · exact refl w
    · intro _ _ g _ _ _ _ _ _ hg' _
      subst hg'
      exact hg _ _
    · intro ch g _ hf hc _ _ _ hg' _
      subst hg'
      cases ood
      · have h1 := hg (max ch ((pre.getD (Deps.getRec w R f)).checked.getD 0)) (pre.getD (Deps.getRec w R f)).csum.isSome
        have hm : ∀ w', Rel w w' → Rel w (setRec w' f { (pre.getD (Deps.getRec w R f)) with checked := some R }) :=
          fun w' h => trans h (mark rfl w' f _ (keepP h hw) (keepQ h hw hr) hf (by rw [hc]; exact Option.some_ne_none _))
        split
        · exact hm _ (trans h1 (warn rfl _ f))
        · exact hm _ h1
      · exact hg _ _

theorem shouldBuild_writes_snap {cx : Ctx} (getRec : ∀ w f, P w → Q w f (getRec w cx.runid f))
    (vanish : ∀ w f (r : Rec), P w → Q w f r → r.stamp ≠ some (readStamp w f) → readStamp w f = .missing →
      r.isGenerated = true → Rel w (setRec w f { r with isGenerated := false, isOverride := false, failed := some 0 }))
    (mark : ∀ w f (r : Rec), P w → Q w f r → r.failed = none → r.changed ≠ none →
      Rel w (setRec w f { r with checked := some cx.runid }))
    (warn : ∀ w f, Rel w (ev w (.warnOverride f))) (fuel t : Nat) (w : World) (hw : P w) :
    Rel w (shouldBuild cx fuel t w).2 := by
  rcases shouldBuild_world cx fuel t w with h | h <;> rw [h]
  · exact refl w
  · exact isDirty_writes_snap (Q := Q) refl trans keepP keepQ getRec vanish (fun _ => mark) (fun _ => warn) fuel w [] t
      cx.runid [] none hw (fun s e => nomatch e)

end

/-! The same when `Q r` speaks of the copy alone. -/

section
variable {Rel : World → World → Prop} {P : World → Prop} {Q : Rec → Prop} (refl : ∀ w, Rel w w)
  (trans : ∀ {a b c}, Rel a b → Rel b c → Rel a c) (keepP : ∀ {w w'}, Rel w w' → P w → P w')
include refl trans keepP

theorem isDirty_writes_on {ood : Bool} {R : Nat} (getRec : ∀ w f, P w → Q (getRec w R f))
    (vanish : ∀ w f (r : Rec), P w → Q r →
      Rel w (setRec w f { r with isGenerated := false, isOverride := false, failed := some 0 }))
    (mark : ood = false → ∀ w f (r : Rec), P w → Q r → r.failed = none → r.changed ≠ none →
      Rel w (setRec w f { r with checked := some R }))
    (warn : ood = false → ∀ w f, Rel w (ev w (.warnOverride f)))
    (fuel : Nat) (w : World) (cache : List Nat) (f mx : Nat) (seen : List Nat) (pre : Option Rec) (hw : P w)
    (hpre : ∀ s, pre = some s → Q s) : Rel w (isDirty ood R fuel w cache f mx seen pre).2.1 :=
  isDirty_writes_snap (Q := fun _ _ r => Q r) refl trans keepP (fun _ _ h => h) getRec
    (fun w f r hw hr _ _ _ => vanish w f r hw hr) mark warn fuel w cache f mx seen pre hw hpre

theorem shouldBuild_writes_on {cx : Ctx} (getRec : ∀ w f, P w → Q (getRec w cx.runid f))
    (vanish : ∀ w f (r : Rec), P w → Q r →
      Rel w (setRec w f { r with isGenerated := false, isOverride := false, failed := some 0 }))
    (mark : ∀ w f (r : Rec), P w → Q r → r.failed = none → r.changed ≠ none →
      Rel w (setRec w f { r with checked := some cx.runid }))
    (warn : ∀ w f, Rel w (ev w (.warnOverride f))) (fuel t : Nat) (w : World) (hw : P w) :
    Rel w (shouldBuild cx fuel t w).2 :=
  shouldBuild_writes_snap (Q := fun _ _ r => Q r) refl trans keepP (fun _ _ h => h) getRec
    (fun w f r hw hr _ _ _ => vanish w f r hw hr) mark warn fuel t w hw

end

theorem isDirty_writes {Rel : World → World → Prop} {ood : Bool} {R : Nat} (refl : ∀ w, Rel w w)
    (trans : ∀ {a b c}, Rel a b → Rel b c → Rel a c)
    (vanish : ∀ w f (r : Rec), Rel w (setRec w f { r with isGenerated := false, isOverride := false, failed := some 0 }))
    (mark : ood = false → ∀ w f (r : Rec), r.failed = none → Rel w (setRec w f { r with checked := some R }))
    (warn : ood = false → ∀ w f, Rel w (ev w (.warnOverride f)))
    (fuel : Nat) (w : World) (cache : List Nat) (f mx : Nat) (seen : List Nat) (pre : Option Rec) :
    Rel w (isDirty ood R fuel w cache f mx seen pre).2.1 :=
  isDirty_writes_on (P := fun _ => True) (Q := fun _ => True) refl trans (fun _ _ => trivial) (fun _ _ _ => trivial)
    (fun w f r _ _ => vanish w f r) (fun h w f r _ _ hf _ => mark h w f r hf) warn fuel w cache f mx seen pre trivial
    (fun _ _ => trivial)

theorem shouldBuild_writes {Rel : World → World → Prop} {cx : Ctx} (refl : ∀ w, Rel w w)
    (trans : ∀ {a b c}, Rel a b → Rel b c → Rel a c)
    (vanish : ∀ w f (r : Rec), Rel w (setRec w f { r with isGenerated := false, isOverride := false, failed := some 0 }))
    (mark : ∀ w f (r : Rec), r.failed = none → Rel w (setRec w f { r with checked := some cx.runid }))
    (warn : ∀ w f, Rel w (ev w (.warnOverride f))) (fuel t : Nat) (w : World) :
    Rel w (shouldBuild cx fuel t w).2 :=
  shouldBuild_writes_on (P := fun _ => True) (Q := fun _ => True) refl trans (fun _ _ => trivial) (fun _ _ _ => trivial)
    (fun w f r _ _ => vanish w f r) (fun w f r _ _ hf _ => mark w f r hf) warn fuel t w trivial

structure DirtyRel (Rel : World → World → Prop) : Prop where
  refl : ∀ w, Rel w w
  trans : ∀ {a b c}, Rel a b → Rel b c → Rel a c
  setRec : ∀ w f r, Rel w (setRec w f r)
  evWarn : ∀ w t, Rel w (ev w (.warnOverride t))

theorem isDirty_rel {Rel : World → World → Prop} (hR : DirtyRel Rel) (ood : Bool) (R fuel : Nat) (w : World)
    (cache : List Nat) (f mx : Nat) (seen : List Nat) (pre : Option Rec) :
    Rel w (isDirty ood R fuel w cache f mx seen pre).2.1 :=
  isDirty_writes hR.refl hR.trans (fun w f _ => hR.setRec w f _) (fun _ w f _ _ => hR.setRec w f _)
    (fun _ => hR.evWarn) fuel w cache f mx seen pre

theorem shouldBuild_rel {Rel : World → World → Prop} (hR : DirtyRel Rel) (cx : Ctx) (fuel t : Nat) (w : World) :
    Rel w (shouldBuild cx fuel t w).2 :=
  shouldBuild_writes hR.refl hR.trans (fun w f _ => hR.setRec w f _) (fun w f _ _ => hR.setRec w f _) hR.evWarn fuel t w

theorem SameButRecs.dirtyRel : DirtyRel SameButRecs :=
  ⟨SameButRecs.refl, SameButRecs.trans, SameButRecs.setRec, fun w _ => SameButRecs.ev w _⟩

/-- The dirtiness check only writes records (and the ghost trace): no file, dependency row,
run id or clock changes. -/
theorem isDirty_frame (ood : Bool) (R fuel : Nat) (w : World) (cache : List Nat) (f mx : Nat) (seen : List Nat)
    (pre : Option Rec) : SameButRecs w (isDirty ood R fuel w cache f mx seen pre).2.1 :=
  isDirty_rel SameButRecs.dirtyRel ood R fuel w cache f mx seen pre

/-! ### Whole commands, user operations, histories -/

def OnlyRecs (w w' : World) : Prop := w' = { w with recs := w'.recs }

theorem OnlyRecs.refl (w : World) : OnlyRecs w w := rfl

theorem OnlyRecs.trans {a b c : World} (h1 : OnlyRecs a b) (h2 : OnlyRecs b c) : OnlyRecs a c := by
  unfold OnlyRecs at *
  rw [h2, h1]

theorem OnlyRecs.setRec (w : World) (f : Nat) (r : Rec) : OnlyRecs w (setRec w f r) := rfl

theorem OnlyRecs.same {w w' : World} (h : OnlyRecs w w') : SameButRecs w w' := by
  rw [h]
  exact ⟨rfl, rfl, rfl, rfl, rfl, rfl, rfl⟩

/-- `redo-ood`'s check writes records only: not even the ghost trace. -/
theorem isDirty_ood_onlyRecs (R fuel : Nat) (w : World) (cache : List Nat) (f mx : Nat) (seen : List Nat)
    (pre : Option Rec) : OnlyRecs w (isDirty true R fuel w cache f mx seen pre).2.1 :=
  isDirty_writes (ood := true) OnlyRecs.refl OnlyRecs.trans (fun w f _ => OnlyRecs.setRec w f _) (fun h => nomatch h)
    (fun h => nomatch h) fuel w cache f mx seen pre

theorem go_onlyRecs (R fuel : Nat) (fs : List Nat) (w : World) (cache acc : List Nat) :
    OnlyRecs w (runCmd.go R fuel fs w cache acc).2 := by
  fun_induction runCmd.go R fuel fs w cache acc with
  | case1 w => exact OnlyRecs.refl w
  | case2 f fs w cache acc dr w1 c1 hd ih =>
    have h1 := isDirty_ood_onlyRecs R fuel w cache f R [] none
    rw [hd] at h1
    exact h1.trans ih

/-- A query leaves the world as it was, one run id consumed (what `redo-ood`'s walk wrote is rolled back). -/
theorem query_world (d : Defects) (n : Nat) (w : World) (c : Cmd) (hc : c = .ood ∨ c = .targets ∨ c = .sources) :
    (runCmd d n c w).2 = { w with runCounter := w.runCounter + 1 } := by
  rcases hc with h | h | h <;> subst h
  · have h := go_onlyRecs (w.runCounter + 1) (2 * n + 4)
      ((knownFiles { w with runCounter := w.runCounter + 1 } n).filter
        (isTarget { w with runCounter := w.runCounter + 1 } (w.runCounter + 1)))
      { w with runCounter := w.runCounter + 1 } [] []
    have e : (runCmd d n .ood w).2 =
      { (runCmd.go (w.runCounter + 1) (2 * n + 4)
          ((knownFiles { w with runCounter := w.runCounter + 1 } n).filter
            (isTarget { w with runCounter := w.runCounter + 1 } (w.runCounter + 1)))
          { w with runCounter := w.runCounter + 1 } [] []).2 with recs := w.recs, deps := w.deps } := rfl
    rw [e]
    unfold OnlyRecs at h
    rw [h]
  · rfl
  · rfl

/-- What a command can do: a query consumes a run id; `redo` (`r`) and `redo-ifchange` allocate a run id and build their
targets under it. -/
theorem runCmd_cases (d : Defects) (n : Nat) (w : World) {P : Cmd → World → Prop}
    (query : ∀ c, c = .ood ∨ c = .targets ∨ c = .sources → P c { w with runCounter := w.runCounter + 1 })
    (build : ∀ ts kg (r : Bool), P (if r then .redo ts kg else .ifchange ts kg)
      (runTargets (engine d (2 * n + 4)) d { runid := w.runCounter + 1, keepGoing := kg, isRedo := r } (2 * n + 4) ts []
        false (allocRun w).2).2) (c : Cmd) : P c (runCmd d n c w).2 := by
  cases c with
  | redo ts kg => exact build ts kg true
  | ifchange ts kg => exact build ts kg false
  | ood => exact query_world d n w .ood (.inl rfl) ▸ query _ (.inl rfl)
  | targets => exact query _ (.inr (.inl rfl))
  | sources => exact query _ (.inr (.inr rfl))

/-- The file one of the user's own operations touches. -/
def UserOp.file : UserOp → Option Nat
  | .write f _ | .remove f | .chmod f | .hide f | .unhide f => some f
  | _ => none

/-- What an operation can do.  The user's own operations leave records, rows, rules, run counter and trace alone, touch
at most their file, and only `setProg` touches the meaning of scripts; the rest are the commands (`runCmd_cases`) and
the `redo-ifchange` that is killed. -/
theorem applyOp_cases (d : Defects) (n : Nat) (w : World) {P : UserOp → World → Prop}
    (own : ∀ op w', w'.recs = w.recs → w'.deps = w.deps → w'.rules = w.rules → w'.runCounter = w.runCounter →
      w'.trace = w.trace → (∀ g, op.file ≠ some g → w'.fs g = w.fs g) →
      ((∀ c s, op ≠ .setProg c s) → w'.progs = w.progs) → P op w')
    (query : ∀ c, c = .ood ∨ c = .targets ∨ c = .sources → P (.cmd c) { w with runCounter := w.runCounter + 1 })
    (build : ∀ ts kg (r : Bool), P (.cmd (if r then .redo ts kg else .ifchange ts kg))
      (runTargets (engine d (2 * n + 4)) d { runid := w.runCounter + 1, keepGoing := kg, isRedo := r } (2 * n + 4) ts []
        false (allocRun w).2).2)
    (crash : ∀ ts t k, P (.crashCmd ts t k)
      (runTargets (engine d (2 * n + 4)) d { runid := w.runCounter + 1, crash := some (t, k) } (2 * n + 4) ts []
        false (allocRun w).2).2) (op : UserOp) :
    P op (applyOp d n op w).2 := by
  have upd : ∀ (f g : Nat) (x : Option FNode) (w0 : World), some f ≠ some g → (setFile w0 f x).fs g = w0.fs g :=
    fun f g x w0 h => by simp only [setFile]; rw [if_neg fun (e : g = f) => h (e ▸ rfl)]
  cases op with
  | write f v => exact own _ _ rfl rfl rfl rfl rfl (fun g h => upd f g _ _ h) fun _ => rfl
  | remove f => exact own _ _ rfl rfl rfl rfl rfl (fun g h => upd f g _ _ h) fun _ => rfl
  | chmod f =>
    simp only [applyOp]
    split
    · exact own _ _ rfl rfl rfl rfl rfl (fun g h => upd f g _ _ h) fun _ => rfl
    · exact own _ _ rfl rfl rfl rfl rfl (fun _ _ => rfl) fun _ => rfl
  | hide f =>
    simp only [applyOp]
    split
    · exact own _ _ rfl rfl rfl rfl rfl (fun g h => upd f g _ _ h) fun _ => rfl
    · exact own _ _ rfl rfl rfl rfl rfl (fun _ _ => rfl) fun _ => rfl
  | unhide f =>
    simp only [applyOp]
    split
    · exact own _ _ rfl rfl rfl rfl rfl (fun g h => upd f g _ _ h) fun _ => rfl
    · exact own _ _ rfl rfl rfl rfl rfl (fun _ _ => rfl) fun _ => rfl
  | setProg c s => exact own _ _ rfl rfl rfl rfl rfl (fun _ _ => rfl) fun h => absurd rfl (h c s)
  | crashCmd ts t k => exact crash ts t k
  | cmd c => exact runCmd_cases d n w (P := fun c w' => P (.cmd c) w') query build c

theorem applyOp_shape (d : Defects) (n : Nat) (op : UserOp) (w : World) :
    ((applyOp d n op w).2.recs = w.recs ∧ w.runCounter ≤ (applyOp d n op w).2.runCounter ∧
      (applyOp d n op w).2.rules = w.rules ∧
      ((∀ c s, op ≠ .setProg c s) → (applyOp d n op w).2.progs = w.progs)) ∨
    ∃ cx ts, cx.runid = (allocRun w).1 ∧
      (applyOp d n op w).2 = (runTargets (engine d (2 * n + 4)) d cx (2 * n + 4) ts [] false (allocRun w).2).2 :=
  applyOp_cases d n w (P := fun op w' => (w'.recs = w.recs ∧ w.runCounter ≤ w'.runCounter ∧ w'.rules = w.rules ∧
      ((∀ c s, op ≠ .setProg c s) → w'.progs = w.progs)) ∨
    ∃ cx ts, cx.runid = (allocRun w).1 ∧ w' = (runTargets (engine d (2 * n + 4)) d cx (2 * n + 4) ts [] false (allocRun w).2).2)
    (fun _ _ h1 _ h3 h4 _ _ h7 => .inl ⟨h1, Nat.le_of_eq h4.symm, h3, h7⟩)
    (fun _ _ => .inl ⟨rfl, Nat.le_succ _, rfl, fun _ => rfl⟩) (fun ts _ _ => .inr ⟨_, ts, rfl, rfl⟩)
    (fun ts _ _ => .inr ⟨_, ts, rfl, rfl⟩) op

theorem history_inv {P : World → Prop} (d : Defects) (n : Nat) : ∀ (ops : List UserOp) (w : World), P w →
    (∀ op ∈ ops, ∀ w, P w → P (applyOp d n op w).2) → P (ops.foldl (fun w op => (applyOp d n op w).2) w)
  | [], _, h, _ => h
  | op :: ops, w, h, hops =>
    history_inv d n ops _ (hops op List.mem_cons_self w h) (fun o ho => hops o (List.mem_cons_of_mem _ ho))

end RedoModel.Deps
