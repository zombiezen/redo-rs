import RedoModel.Lemmas.Once.DepsFrame
import RedoModel.Lemmas.DepsSoundSpec
/-!
What a whole command (finished or killed) leaves alone, and what follows for the hypotheses the soundness theorems
put on a history.  The rank condition (`Ranked`) only looks at the rules, the meaning of scripts and the .do files,
and .do files have no build rule; so a command cannot touch it, and along a history from `initWorld` it can be read
off the operations of the user (`FromOps`, `ranked_history`): the scripts that can ever be in place at a .do file
are those the history gives as meaning to a content it writes there.
-/
namespace RedoModel.Deps

def CmdKeeps (w w' : World) : Prop :=
  w'.rules = w.rules ∧ w'.progs = w.progs ∧ ∀ z, w.rules z = [] → w'.fs z = w.fs z

theorem CmdKeeps.of_keeps {w w' : World} (h : Once.Keeps (allocRun w).2 w') : CmdKeeps w w' := ⟨h.2.1, h.2.2.1, h.2.2.2⟩

theorem freshRun_keeps (d : Defects) (cx : Ctx) (n : Nat) (ts : List Nat) (w : World) :
    CmdKeeps w (runTargets (engine d n) d cx n ts [] false (allocRun w).2).2 :=
  .of_keeps (Once.runTargets_keeps (Once.engine_keeps d n) _ d cx n ts [] false _ (Once.Keeps.refl _))

theorem runCmd_keeps (d : Defects) (n : Nat) (c : Cmd) (w : World) : CmdKeeps w (runCmd d n c w).2 :=
  runCmd_cases d n w (P := fun _ w' => CmdKeeps w w') (fun _ _ => ⟨rfl, rfl, fun _ _ => rfl⟩)
    (fun ts _ _ => freshRun_keeps d _ _ ts w) c

theorem cmd_keeps (d : Defects) (n : Nat) (c : Cmd) (w : World) : CmdKeeps w (applyOp d n (.cmd c) w).2 :=
  runCmd_keeps d n c w

theorem crashCmd_keeps (d : Defects) (n : Nat) (ts : List Nat) (t k : Nat) (w : World) :
    CmdKeeps w (applyOp d n (.crashCmd ts t k) w).2 :=
  freshRun_keeps d _ _ ts w

theorem Ranked.of_cmdKeeps {rank : Nat → Nat} {w w' : World} (hr : RulesOk w.rules) (h : Ranked rank w)
    (k : CmdKeeps w w') : Ranked rank w' := by
  obtain ⟨kr, kp, kf⟩ := k
  refine ⟨by rw [kr]; exact h.1, fun t dof hd n sc hn hsc => ?_⟩
  rw [kr] at hd
  rw [kf dof (hr.2 t dof hd).1] at hn
  rw [kp] at hsc
  exact h.2 t dof hd n sc hn hsc

/-! ### Histories -/

theorem worldsOf_inv {P : World → Prop} (d : Defects) (n : Nat) : ∀ (ops : List UserOp) (w : World), P w →
    (∀ op ∈ ops, ∀ w, P w → P (applyOp d n op w).2) → ∀ w' ∈ worldsOf n d w ops, P w'
  | [], w, h, _, w', hw' => by simp only [worldsOf, List.mem_singleton] at hw'; exact hw' ▸ h
  | op :: ops, w, h, hops, w', hw' => by
    simp only [worldsOf, List.mem_cons] at hw'
    rcases hw' with rfl | hw'
    · exact h
    · exact worldsOf_inv d n ops _ (hops op (by simp) w h) (fun o ho => hops o (by simp [ho])) w' hw'

theorem worldsOf_append_left (n : Nat) (d : Defects) (ops' : List UserOp) : ∀ (ops : List UserOp) (w : World),
    ∀ w' ∈ worldsOf n d w ops, w' ∈ worldsOf n d w (ops ++ ops')
  | [], w, w', hw' => by
    simp only [worldsOf, List.mem_singleton] at hw'
    subst hw'
    cases ops' <;> simp [worldsOf]
  | op :: ops, w, w', hw' => by
    simp only [List.cons_append, worldsOf, List.mem_cons] at hw' ⊢
    exact hw'.imp_right (worldsOf_append_left n d ops' ops _ w')

theorem worldsOf_take (n : Nat) (d : Defects) (k : Nat) (ops : List UserOp) (w : World) :
    ∀ w' ∈ worldsOf n d w (ops.take k), w' ∈ worldsOf n d w ops := fun w' hw' =>
  List.take_append_drop k ops ▸ worldsOf_append_left n d (ops.drop k) (ops.take k) w w' hw'

def UserOp.isUnhide : UserOp → Bool
  | .unhide _ => true
  | _ => false

/-- Where the rules, the scripts and the files without a build rule of a world come from, if it lies on the history
`ops` from `initWorld rules`: the rules are those of the start, a meaning in `progs` was given by a `setProg` of the
history, and such a file holds what a `write` of the history put there. -/
structure FromOps (rules : Nat → List Nat) (ops : List UserOp) (w : World) : Prop where
  rules_eq : w.rules = rules
  progs_set : ∀ c sc, w.progs c = some sc → .setProg c sc ∈ ops
  fs_written : ∀ f n, rules f = [] → w.fs f = some n → ∃ v, .write f v ∈ ops ∧ n.content = srcContent v

theorem FromOps.init (rules : Nat → List Nat) (ops : List UserOp) : FromOps rules ops (initWorld rules) :=
  ⟨rfl, fun _ _ h => (nomatch h), fun _ _ _ h => (nomatch h)⟩

theorem FromOps.of_cmdKeeps {rules : Nat → List Nat} {ops : List UserOp} {w w' : World} (h : FromOps rules ops w)
    (k : CmdKeeps w w') : FromOps rules ops w' :=
  ⟨k.1.trans h.rules_eq, fun c sc hc => h.progs_set c sc (k.2.1 ▸ hc),
    fun f n hf hn => h.fs_written f n hf (k.2.2 f (h.rules_eq ▸ hf) ▸ hn)⟩

theorem FromOps.setFile {rules : Nat → List Nat} {ops : List UserOp} {w : World} (h : FromOps rules ops w) (f : Nat)
    (x : Option FNode) (hx : ∀ m, x = some m → rules f = [] → ∃ v, .write f v ∈ ops ∧ m.content = srcContent v) :
    FromOps rules ops (setFile w f x) := by
  refine ⟨h.rules_eq, h.progs_set, fun g m hg hm => ?_⟩
  simp only [Deps.setFile] at hm
  split at hm
  · subst g; exact hx m hm hg
  · exact h.fs_written g m hg hm

/-- (`unhide` is left out: it would need the same knowledge of the stash, which the command frame does not give.) -/
theorem FromOps.applyOp {rules : Nat → List Nat} {ops : List UserOp} {w : World} (h : FromOps rules ops w)
    (d : Defects) (n : Nat) {op : UserOp} (hop : op ∈ ops) (hu : op.isUnhide = false) :
    FromOps rules ops (applyOp d n op w).2 := by
  cases op with
  | cmd c => exact h.of_cmdKeeps (cmd_keeps d n c w)
  | crashCmd ts t k => exact h.of_cmdKeeps (crashCmd_keeps d n ts t k w)
  | unhide f => cases hu
  | setProg c s =>
    refine ⟨h.rules_eq, fun c' sc hc => ?_, h.fs_written⟩
    simp only [Deps.applyOp] at hc
    split at hc
    · cases hc; subst c'; exact hop
    · exact h.progs_set c' sc hc
  | write f v =>
    exact FromOps.setFile (w := (newNode w (srcContent v)).2) ⟨h.rules_eq, h.progs_set, h.fs_written⟩ f _
      fun m e _ => ⟨v, hop, by cases e; rfl⟩
  | remove f => exact h.setFile f none fun _ e => nomatch e
  | chmod f =>
    simp only [Deps.applyOp]
    cases hf : w.fs f with
    | none => exact h
    | some k => exact h.setFile f _ fun m e hr => by cases e; exact h.fs_written f k hr hf
  | hide f =>
    simp only [Deps.applyOp]
    cases hf : w.fs f with
    | none => exact h
    | some k => exact ⟨h.rules_eq, h.progs_set, (h.setFile f none fun _ e => nomatch e).fs_written⟩

theorem worldsOf_fromOps {rules : Nat → List Nat} {ops : List UserOp} (n : Nat) (d : Defects)
    (hu : ∀ op ∈ ops, op.isUnhide = false) : ∀ w ∈ worldsOf n d (initWorld rules) ops, FromOps rules ops w :=
  worldsOf_inv d n ops _ (.init rules ops) fun op hop _ h => h.applyOp d n hop (hu op hop)

theorem support_mem {rules : Nat → List Nat} {ts : List Nat} (hts : ∀ t, t ∉ ts → rules t = []) {t c : Nat}
    (hc : c ∈ rules t) : t ∈ ts :=
  Classical.byContradiction fun ht => by rw [hts t ht] at hc; cases hc

/-- The scripts that the history `ops` can put in place at the file `f`: those it gives, by a `setProg`, as meaning
to a content it writes into `f`. -/
def scriptsWrittenAt (ops : List UserOp) (f : Nat) : List Script :=
  ops.flatMap fun
    | .write g v => if g = f then ops.filterMap fun
        | .setProg c s => if c = srcContent v then some s else none
        | _ => none
      else []
    | _ => []

theorem FromOps.mem_scriptsAt {rules : Nat → List Nat} {ops : List UserOp} {w : World} (h : FromOps rules ops w)
    {f : Nat} {n : FNode} {sc : Script} (hf : rules f = []) (hn : w.fs f = some n)
    (hsc : w.progs n.content = some sc) : sc ∈ scriptsWrittenAt ops f := by
  obtain ⟨v, hv, e⟩ := h.fs_written f n hf hn
  refine List.mem_flatMap.2 ⟨_, hv, ?_⟩
  simp only [if_true]
  exact List.mem_filterMap.2 ⟨_, h.progs_set _ sc hsc, by simp only [e, if_true]⟩

/-- **The rank condition of a world on a history, read off the history**: in the rule table (which gives
candidates to the members of `ts` only) every candidate ranks below its target, and so does whatever a script
declares that the history can put in place at the candidate. -/
theorem FromOps.ranked {rules : Nat → List Nat} {ops : List UserOp} {w : World} (h : FromOps rules ops w)
    {rank : Nat → Nat} {ts : List Nat} (hr : RulesOk rules) (hts : ∀ t, t ∉ ts → rules t = [])
    (hk : ∀ t ∈ ts, ∀ c ∈ rules t, rank c < rank t ∧
      ∀ sc ∈ scriptsWrittenAt ops c, ∀ l ∈ sc.ifchange, ∀ d ∈ l, rank d < rank t) : Ranked rank w := by
  rw [Ranked, h.rules_eq]
  exact ⟨fun t c hc => (hk t (support_mem hts hc) c hc).1, fun t c hc n sc hn hsc =>
    (hk t (support_mem hts hc) c hc).2 sc (h.mem_scriptsAt (hr.2 t c hc).1 hn hsc)⟩

theorem ranked_history {rules : Nat → List Nat} {ops : List UserOp} {rank : Nat → Nat} {ts : List Nat} (n : Nat)
    (d : Defects) (hr : RulesOk rules) (hts : ∀ t, t ∉ ts → rules t = []) (hu : ∀ op ∈ ops, op.isUnhide = false)
    (hk : ∀ t ∈ ts, ∀ c ∈ rules t, rank c < rank t ∧
      ∀ sc ∈ scriptsWrittenAt ops c, ∀ l ∈ sc.ifchange, ∀ d ∈ l, rank d < rank t) :
    ∀ w ∈ worldsOf n d (initWorld rules) ops, Ranked rank w :=
  fun w hw => (worldsOf_fromOps n d hu w hw).ranked hr hts hk

/-- A rule table that gives candidates to the members of `ts` only is checked on those. -/
theorem RulesOk.of_support {rules : Nat → List Nat} {ts : List Nat} (hts : ∀ t, t ∉ ts → rules t = [])
    (h : ∀ t ∈ ts, t ≠ alwaysId ∧ ∀ c ∈ rules t, c ∉ ts ∧ c ≠ alwaysId) : RulesOk rules := by
  refine ⟨Classical.byContradiction fun h0 => ?_, fun t c hc => ?_⟩
  · exact (h _ (Classical.byContradiction fun ht => h0 (hts _ ht))).1 rfl
  · obtain ⟨hc1, hc2⟩ := (h t (support_mem hts hc)).2 c hc
    exact ⟨hts c hc1, hc2, fun e => hc1 (e ▸ support_mem hts hc)⟩

/-! ### Operation classes of a concrete history are checked by evaluation -/

instance (rules : Nat → List Nat) (op : UserOp) : Decidable (PlainOp rules op) := by
  cases op <;> simp only [PlainOp, Script.Plain] <;> infer_instance

end RedoModel.Deps
