import RedoModel.Lemmas.DepsCmdFrame
import RedoModel.Lemmas.DepsSoundRSpec
/-! The rank condition for rich scripts (`RankedR`) of a world on a history, read off the history. -/
namespace RedoModel.Deps.Rich

theorem _root_.RedoModel.Deps.FromOps.rankedR {rules : Nat → List Nat} {ops : List UserOp} {w : World}
    (h : FromOps rules ops w) {rank : Nat → Nat} {ts : List Nat} (hr : RulesOk rules)
    (hts : ∀ t, t ∉ ts → rules t = [])
    (hk : ∀ t ∈ ts, ∀ c ∈ rules t, rank c < rank t ∧ ∀ sc ∈ scriptsWrittenAt ops c,
      (sc.always = true → rank alwaysId < rank t) ∧
      (∀ d ∈ sc.ifchange.flatten ++ sc.cond ++ sc.ifcreate, rank d < rank t ∧ d ≠ alwaysId) ∧
      ∀ d ∈ sc.cond ++ sc.ifcreate, rules d = []) : RankedR rank w := by
  rw [RankedR, h.rules_eq]
  refine ⟨fun t c hc => (hk t (support_mem hts hc) c hc).1, fun t c hc n sc hn hsc => ?_⟩
  obtain ⟨a, b, e⟩ := (hk t (support_mem hts hc) c hc).2 sc (h.mem_scriptsAt (hr.2 t c hc).1 hn hsc)
  exact ⟨a, fun d hd => b d (by simpa only [List.mem_append, or_assoc] using hd),
    fun d hd => e d (List.mem_append.2 hd)⟩

theorem rankedR_history {rules : Nat → List Nat} {ops : List UserOp} {rank : Nat → Nat} {ts : List Nat} (n : Nat)
    (d : Defects) (hr : RulesOk rules) (hts : ∀ t, t ∉ ts → rules t = []) (hu : ∀ op ∈ ops, op.isUnhide = false)
    (hk : ∀ t ∈ ts, ∀ c ∈ rules t, rank c < rank t ∧ ∀ sc ∈ scriptsWrittenAt ops c,
      (sc.always = true → rank alwaysId < rank t) ∧
      (∀ d ∈ sc.ifchange.flatten ++ sc.cond ++ sc.ifcreate, rank d < rank t ∧ d ≠ alwaysId) ∧
      ∀ d ∈ sc.cond ++ sc.ifcreate, rules d = []) :
    ∀ w ∈ worldsOf n d (initWorld rules) ops, RankedR rank w :=
  fun w hw => (worldsOf_fromOps n d hu w hw).rankedR hr hts hk

end RedoModel.Deps.Rich

namespace RedoModel.Deps

instance (sc : Script) : Decidable sc.Rich :=
  decidable_of_iff (sc.stamp = 0 ∧ (∀ f ∈ sc.reads, f ∈ sc.ifchange.flatten ∨ f ∈ sc.cond) ∧
    ∀ f ∈ sc.failIfOdd, f ∈ sc.ifchange.flatten) (by simp [Script.Rich, Option.mem_def])

instance (rules : Nat → List Nat) (op : UserOp) : Decidable (AlwaysOp rules op) := by
  cases op <;> simp only [AlwaysOp, Script.RichA] <;> infer_instance

instance (rules : Nat → List Nat) (op : UserOp) : Decidable (WatchOp rules op) := by
  cases op <;> simp only [WatchOp] <;> infer_instance

instance (rules : Nat → List Nat) (op : UserOp) : Decidable (RichOp rules op) := by
  cases op <;> simp only [RichOp] <;> infer_instance

end RedoModel.Deps
