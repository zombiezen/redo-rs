import RedoModel.Lemmas.DepsIfcreate
import RedoModel.Lemmas.DepsMemo
/-! Checksums: the cut-off, the out-of-band rebuild and the re-decision. -/
namespace RedoModel.Deps
open RedoModel.Generated

/-! ### C03 — checksum cut-off: what a rebuild of a checksummed target writes into its record

`startSelf` for a target `m` whose script pipes its output to `redo-stamp` (`stamp = 1`): after the job the
record of `m` is `stampRec (old record) R data` with the stamp refreshed.  Hence
same data ⇒ `changed` untouched, `checked = R`; different data ⇒ `changed = R`. -/

/-- A script that only (optionally) runs `redo-ifchange` commands, writes its output and stamps it. -/
structure PlainStamped (sc : Script) : Prop where
  noalways : sc.always = false
  noifcreate : sc.ifcreate = []
  nocond : sc.cond = []
  nofail : sc.failIfOdd = none
  stamp : sc.stamp = 1
  exit0 : sc.exit = 0
  out : sc.outMode ≠ 2

/-- What the script prints, given the files of `w`. -/
def scriptOut (sc : Script) (w : World) : Content :=
  outContent sc.tag (sc.reads.map (fun f => (w.fs f).map (·.content)))

theorem scriptOut_congr (sc : Script) {w w' : World} (h : ∀ f ∈ sc.reads, w'.fs f = w.fs f) :
    scriptOut sc w' = scriptOut sc w := by
  unfold scriptOut
  congr 1
  apply List.map_congr_left
  intro f hf
  rw [h f hf]

theorem rsFinish_stamped (cx : Ctx) (m : Nat) (sc : Script) (w : World) (hp : PlainStamped sc)
    (hrow : (w.recs m).row ≠ 0) (h0 : (rsFinish cx m sc w).1 = 0) :
    rsFinish cx m sc w =
      (0, some (scriptOut sc w), setRec w m (stampRec (w.recs m) cx.runid (scriptOut sc w))) := by
  have hk : ¬ cx.crash = some (m, sc.ifchange.length + 1) := by
    intro hc
    revert h0
    unfold rsFinish rsFailNow
    simp [hp.nofail, hp.stamp, hc, CRASHED]
  unfold rsFinish rsFailNow scriptOut
  simp [hp.nofail, hp.stamp, hp.exit0, hp.out, addKnown_recs_known w m hrow, hk]

theorem stampRec_marked (r : Rec) (R : Nat) (data : Content) (hR : R ≠ 0) :
    (isCheckedR (stampRec r R data) R || isChangedR (stampRec r R data) R) = true := by
  unfold stampRec
  dsimp only
  split
  · simp [isChangedR, setChanged, hR]
  · simp [isCheckedR, hR]

theorem stampRec_gen (r : Rec) (R : Nat) (data : Content) :
    (stampRec r R data).isGenerated = true ∧ (stampRec r R data).isOverride = false ∧
    (stampRec r R data).failed = none ∧ (stampRec r R data).csum = some data := by
  unfold stampRec
  dsimp only
  split <;> simp_all [setChanged]

/-- `record_new_state` after a successful script that stamped its target: only the stamp is refreshed. -/
theorem recordNewState_stamped (cx : Ctx) (m : Nat) (sf : Rec) (c : Content) (w : World)
    (hmk : (isCheckedR (w.recs m) cx.runid || isChangedR (w.recs m) cx.runid) = true)
    (hg : (w.recs m).isGenerated = true) (ho : (w.recs m).isOverride = false) :
    (recordNewState cx m sf 0 (some c) w).1 = 0 ∧
    (recordNewState cx m sf 0 (some c) w).2.recs m =
      { (w.recs m) with stamp := some (readStamp (recordNewState cx m sf 0 (some c) w).2 m) } ∧
    (recordNewState cx m sf 0 (some c) w).2.fs m = some { content := c, ms := w.clock + 1, rest := 0 } := by
  have h1 : (isCheckedR { (w.recs m) with isGenerated := true, isOverride := false } cx.runid ||
      isChangedR { (w.recs m) with isGenerated := true, isOverride := false } cx.runid) = true := hmk
  unfold recordNewState
  simp only [if_true, newNode, setFile, zapDeps2, setRec, h1, readStamp]
  refine ⟨trivial, ?_⟩
  refine ⟨?_, trivial⟩
  rw [hg, ho]

/-- The nested commands of the engine leave the record of `m` and the files in `rd` alone. -/
def LeavesAlone (E : Engine) (m : Nat) (rd : List Nat) : Prop :=
  ∀ cx ts w, (E.ifchangeCmd cx ts w).2.recs m = w.recs m ∧ ∀ f ∈ rd, (E.ifchangeCmd cx ts w).2.fs f = w.fs f

theorem cmds_leaves (E : Engine) (m : Nat) (rd : List Nat) (hE : LeavesAlone E m rd) (cx : Ctx) (t : Nat) (cx' : Ctx)
    (cs : List (List Nat)) (k : Nat) (w : World) :
    (runScript.cmds E cx t cx' cs k w).2.recs m = w.recs m ∧
    ∀ f ∈ rd, (runScript.cmds E cx t cx' cs k w).2.fs f = w.fs f :=
  cmds_of_steps (Rel := fun w w' => w'.recs m = w.recs m ∧ ∀ f ∈ rd, w'.fs f = w.fs f) (K := fun _ => True)
    (fun _ => ⟨rfl, fun _ _ => rfl⟩) (fun h1 h2 => ⟨h2.1.trans h1.1, fun f hf => (h2.2 f hf).trans (h1.2 f hf)⟩)
    (fun _ _ => trivial) (fun c w _ => hE cx' c w) cs k w trivial

/-- Either the script runs no nested `redo-ifchange` at all, or the engine's commands leave `m`'s record and the
files the script reads alone. -/
def NestedLeave (E : Engine) (m : Nat) (sc : Script) : Prop := sc.ifchange = [] ∨ LeavesAlone E m sc.reads

theorem cmds_nestedLeave (E : Engine) (m : Nat) (sc : Script) (hE : NestedLeave E m sc) (cx : Ctx) (t : Nat) (cx' : Ctx)
    (w : World) :
    (runScript.cmds E cx t cx' sc.ifchange 0 w).2.recs m = w.recs m ∧
    ∀ f ∈ sc.reads, (runScript.cmds E cx t cx' sc.ifchange 0 w).2.fs f = w.fs f := by
  rcases hE with h | h
  · rw [h, runScript.cmds]; exact ⟨rfl, fun _ _ => rfl⟩
  · exact cmds_leaves E m sc.reads h cx t cx' sc.ifchange 0 w

theorem rsBody_stamped (E : Engine) (cx : Ctx) (m : Nat) (sc : Script) (w : World) (hp : PlainStamped sc)
    (hE : NestedLeave E m sc) (hrow : (w.recs m).row ≠ 0)
    (h0 : (rsBody E cx m sc w).1 = 0) :
    ∃ w2, w2.recs m = w.recs m ∧ (∀ f ∈ sc.reads, w2.fs f = w.fs f) ∧
      rsBody E cx m sc w =
        (0, some (scriptOut sc w), setRec w2 m (stampRec (w.recs m) cx.runid (scriptOut sc w))) := by
  unfold rsBody at h0 ⊢
  dsimp only at h0 ⊢
  rw [hp.nocond, runScript.conds] at h0 ⊢
  simp only [ne_eq, not_true_eq_false, if_false] at h0 ⊢
  have h2 := cmds_nestedLeave E m sc hE cx m (scriptCtx cx m) w
  generalize runScript.cmds E cx m _ sc.ifchange 0 w = r2 at h2 h0
  obtain ⟨rv, w2⟩ := r2
  dsimp only at h2 h0 ⊢
  by_cases hrv : rv = 0
  · subst hrv
    simp only [not_true_eq_false, if_false]
    refine ⟨w2, h2.1, h2.2, ?_⟩
    simp only [not_true_eq_false, if_false] at h0
    rw [rsFinish_stamped cx m sc w2 hp (by rw [h2.1]; exact hrow) h0, h2.1, scriptOut_congr sc h2.2]
  · simp only [hrv, not_false_eq_true, if_true] at h0

theorem runScript_stamped (E : Engine) (d : Defects) (cx : Ctx) (m : Nat) (sc : Script) (w : World)
    (hp : PlainStamped sc) (hE : NestedLeave E m sc) (hrow : (w.recs m).row ≠ 0)
    (h0 : (runScript E d cx m sc w).1 = 0) :
    ∃ w2, w2.recs m = w.recs m ∧ (∀ f ∈ sc.reads, w2.fs f = w.fs f) ∧
      runScript E d cx m sc w =
        (0, some (scriptOut sc w), setRec w2 m (stampRec (w.recs m) cx.runid (scriptOut sc w))) := by
  have ha : rsAlways cx m sc w = w := by unfold rsAlways; simp [hp.noalways]
  rw [runScript_eq, ha, hp.noifcreate] at h0 ⊢
  simp only [List.any_nil, Bool.false_eq_true, if_false, List.foldl_nil] at h0 ⊢
  exact rsBody_stamped E cx m sc w hp hE hrow h0

/-- Script + `record_new_state` for a plain stamped script: if the job's status is 0, the record of the target
is `stampRec` of the old record with the stamp refreshed. -/
theorem ssRun_stamped (E : Engine) (d : Defects) (cx : Ctx) (m : Nat) (sf : Rec) (sc : Script) (w : World)
    (hp : PlainStamped sc) (hE : NestedLeave E m sc) (hrow : (w.recs m).row ≠ 0) (hR : cx.runid ≠ 0)
    (h0 : (ssRun E d cx m sf sc w).1 = 0) :
    (ssRun E d cx m sf sc w).2.recs m =
      { stampRec (w.recs m) cx.runid (scriptOut sc w) with stamp := some (readStamp (ssRun E d cx m sf sc w).2 m) } := by
  unfold ssRun at h0 ⊢
  by_cases hz : (runScript E d cx m sc w).1 = 0
  · obtain ⟨w2, h1, h2, he⟩ := runScript_stamped E d cx m sc w hp hE hrow hz
    rw [he]
    have hc : ¬ ((0 : Status) = CRASHED) := by decide
    simp only [hc, if_false]
    have hs : (setRec w2 m (stampRec (w.recs m) cx.runid (scriptOut sc w))).recs m =
        stampRec (w.recs m) cx.runid (scriptOut sc w) := by simp [setRec]
    obtain ⟨g1, g2, _, _⟩ := stampRec_gen (w.recs m) cx.runid (scriptOut sc w)
    have key := recordNewState_stamped cx m sf (scriptOut sc w)
      (setRec w2 m (stampRec (w.recs m) cx.runid (scriptOut sc w)))
      (by rw [hs]; exact stampRec_marked _ _ _ hR) (by rw [hs]; exact g1) (by rw [hs]; exact g2)
    rw [key.2.1, hs]
  · exfalso
    generalize runScript E d cx m sc w = r at h0 hz
    obtain ⟨rv, out, w'⟩ := r
    dsimp only at h0 hz
    by_cases hc : rv = CRASHED
    · simp only [hc, if_true] at h0
      exact absurd h0 (by decide)
    · simp only [hc, if_false] at h0
      rw [recordNewState_fst] at h0
      exact hz h0

/-- The world in which the script of `m` starts when its first .do candidate `dof` exists. -/
def preScript (cx : Ctx) (m dof : Nat) (w : World) : World :=
  startW (addDep (zapDeps1 w m) m dof true) cx.runid m dof

theorem preScript_fs (cx : Ctx) (m dof : Nat) (w : World) : (preScript cx m dof w).fs = w.fs := by
  unfold preScript
  show (addDep (zapDeps1 w m) m dof true).fs = w.fs
  rw [addDep_fs]
  rfl

theorem preScript_progs (cx : Ctx) (m dof : Nat) (w : World) : (preScript cx m dof w).progs = w.progs := by
  unfold preScript
  show (addKnown (zapDeps1 w m) dof).progs = w.progs
  unfold addKnown
  split <;> rfl

theorem preScript_recs (cx : Ctx) (m dof : Nat) (w : World) (h : dof ≠ m) :
    (preScript cx m dof w).recs m = w.recs m := by
  unfold preScript
  show (setRec _ dof _).recs m = _
  simp only [setRec, Ne.symm h, if_false]
  show (addKnown (zapDeps1 w m) dof).recs m = w.recs m
  rw [addKnown_recs_ne _ _ _ (Ne.symm h)]
  rfl

theorem startSelf_first_do (E : Engine) (d : Defects) (cx : Ctx) (m : Nat) (sf0 : Rec) (w : World)
    (dof : Nat) (rest : List Nat) (n : FNode) (sc : Script)
    (hg : sf0.isGenerated = true) (ho : sf0.isOverride = false) (hst : sf0.stamp = some (readStamp w m))
    (hrules : w.rules m = dof :: rest) (hdo : w.fs dof = some n) (hprog : w.progs n.content = some sc) :
    startSelf E d cx m sf0 w = ssRun E d cx m sf0 sc (preScript cx m dof w) := by
  rw [startSelf_eq]
  rw [ssGuard_eq_self cx m sf0 w (.inr (.inl ⟨ho, hst⟩))]
  simp only [ho, hg, Bool.not_true, Bool.or_self, Bool.and_false, Bool.false_eq_true, if_false]
  unfold ssBuild
  dsimp only
  have hr : (zapDeps1 w m).rules m = dof :: rest := hrules
  have hex : existsF (zapDeps1 w m) dof = true := by
    show (w.fs dof).isSome = true
    rw [hdo]; rfl
  rw [hr, findDoFile]
  simp only [hex, if_true]
  have hfs : (preScript cx m dof w).fs dof = some n := by rw [preScript_fs]; exact hdo
  have hpg : (preScript cx m dof w).progs n.content = some sc := by rw [preScript_progs]; exact hprog
  show ssRun E d cx m sf0 (match (preScript cx m dof w).fs dof with
        | some n => ((preScript cx m dof w).progs n.content).getD {}
        | none => {}) (preScript cx m dof w) = _
  rw [hfs]
  dsimp only
  rw [hpg]
  rfl

/-- The setting of a rebuild of the checksummed target `m` by `start_self`: the job's copy `sf0` of the record
says "generated, file as recorded"; `m` is registered; the first .do candidate exists, is not `m` itself, and holds
the plain stamped script `sc`; nested commands of `E` do not touch `m`'s record nor the files `sc` reads. -/
structure StampedJob (E : Engine) (cx : Ctx) (m : Nat) (sf0 : Rec) (sc : Script) (w : World) : Prop where
  gen : sf0.isGenerated = true
  novr : sf0.isOverride = false
  stamp : sf0.stamp = some (readStamp w m)
  row : (w.recs m).row ≠ 0
  run : cx.runid ≠ 0
  plain : PlainStamped sc
  leaves : NestedLeave E m sc
  dofile : ∃ dof rest n, w.rules m = dof :: rest ∧ dof ≠ m ∧ w.fs dof = some n ∧ w.progs n.content = some sc

theorem startSelf_stamped (E : Engine) (d : Defects) (cx : Ctx) (m : Nat) (sf0 : Rec) (sc : Script) (w : World)
    (hj : StampedJob E cx m sf0 sc w) (h0 : (startSelf E d cx m sf0 w).1 = 0) :
    (startSelf E d cx m sf0 w).2.recs m =
      { stampRec (w.recs m) cx.runid (scriptOut sc w) with
        stamp := some (readStamp (startSelf E d cx m sf0 w).2 m) } := by
  obtain ⟨dof, rest, n, h1, h2, h3, h4⟩ := hj.dofile
  have he := startSelf_first_do E d cx m sf0 w dof rest n sc hj.gen hj.novr hj.stamp h1 h3 h4
  rw [he] at h0 ⊢
  have hrec := preScript_recs cx m dof w h2
  have hfs := preScript_fs cx m dof w
  have key := ssRun_stamped E d cx m sf0 sc (preScript cx m dof w) hj.plain hj.leaves
    (by rw [hrec]; exact hj.row) hj.run h0
  rw [key, hrec, scriptOut_congr sc (fun f _ => congrFun hfs f)]

/-! ### C03 — checksum cut-off: a dependency that was re-checked/rebuilt in this run with an unchanged
`changed` mark is clean for its dependents (no writes), so the dependent's verdict is that of its other rows. -/

/-- A recorded `m` row of `t` whose source was checked or rebuilt-with-unchanged-checksum in run `R`: not failed,
`changed` no later than `t`'s mark, `checked = R`. -/
def MemoDep (w : World) (R t : Nat) (d0 : Dep) : Prop :=
  d0.modeM = true ∧ d0.source ≠ alwaysId ∧ d0.source ≠ t ∧ (w.recs d0.source).failed = none ∧
  (∃ c, (w.recs d0.source).changed = some c ∧ c ≤ mark (w.recs t)) ∧ (w.recs d0.source).checked = some R

theorem memoRow_of_memoDep (w : World) (R t mx : Nat) (hR : R ≠ 0) (hmx : mark (w.recs t) ≤ mx) (d0 : Dep)
    (hq : MemoDep w R t d0) : MemoRow R [t] mx (d0, getRec w R d0.source) := by
  obtain ⟨h1, h0, hne, hf, ⟨c, hc, hle⟩, hck⟩ := hq
  dsimp only [MemoRow]
  rw [getRec_of_ne h0]
  exact ⟨h1, by simpa using hne, hf, ⟨c, hc, by omega⟩, by simp [isCheckedR, hck, hR]⟩

/-- **Cut-off, at `should_build`.**  `t`'s record is current (not yet checked in this run) and every row of `t`
is quiet or memoised: the answer is `clean`. -/
theorem shouldBuild_cut (cx : Ctx) (m : Nat) (hm : 0 < m) (t : Nat) (w : World) (ch : Nat) (hr : cx.isRedo = false)
    (hR : cx.runid ≠ 0) (ht : t ≠ alwaysId) (hg : (w.recs t).isGenerated = true) (hf : (w.recs t).failed = none)
    (hch : (w.recs t).changed = some ch) (hle : ch ≤ cx.runid)
    (hst : (w.recs t).stamp = some (readStamp w t))
    (hq : ∀ d0 ∈ w.deps, d0.target = t → QuietDep w t d0 ∨ MemoDep w cx.runid t d0) :
    (shouldBuild cx (m + 1) t w).1 = some .clean := by
  by_cases hck : isCheckedR (w.recs t) cx.runid = true
  · exact shouldBuild_quiet cx m hm t w ch hr ht hf hch hle (Or.inl hck)
  have hget : getRec w cx.runid t = w.recs t := getRec_of_ne ht
  have hmark : mark (w.recs t) = max ch ((w.recs t).checked.getD 0) := by simp [mark, hch]
  have key := isDirty_cut cx.runid m hm w [] t cx.runid ch (by rw [hget]; exact hf) (by rw [hget]; exact hch) hle
    (by rw [hget]; simpa using hck) (by rw [hget]; exact hst)
    (by
      rw [hget]
      intro p hp
      obtain ⟨d0, s⟩ := p
      obtain ⟨e, -, -, hd, hdt⟩ := mem_depsWithRecs.1 hp
      dsimp only at e hd hdt
      subst e
      rcases hq d0 hd hdt with h | h
      · exact Or.inl (quietRow_of_quietDep w cx.runid t _ hg (by rw [hmark]; exact Nat.le_refl _) d0 h)
      · exact Or.inr (memoRow_of_memoDep w cx.runid t _ hR (by rw [hmark]; exact Nat.le_refl _) d0 h))
  rw [shouldBuild_eq_walk cx _ t w hr ht hf, key]

theorem MemoDep.transfer {R t : Nat} {w w' : World} (h : RowsOnly t w w') (d0 : Dep) (hq : MemoDep w R t d0) :
    MemoDep w' R t d0 := by
  obtain ⟨h1, h0, hne, hf, ⟨c, hc, hle⟩, hck⟩ := hq
  obtain ⟨_, _, s3, s4, s5, _, _⟩ := h.recs d0.source
  obtain ⟨_, _, t3, t4, _, _, _⟩ := h.recs t
  refine ⟨h1, h0, hne, by rw [s5]; exact hf, ⟨c, by rw [s4]; exact hc, ?_⟩, by rw [s3]; exact hck⟩
  unfold mark at hle ⊢
  rw [t3, t4]
  exact hle

/-- The record of `t` says "built successfully in an earlier run, file as recorded": its mark
`max changed checked` is `< R`. -/
structure CurrentBefore (w : World) (R t : Nat) : Prop where
  gen : (w.recs t).isGenerated = true
  novr : (w.recs t).isOverride = false
  nofail : (w.recs t).failed = none
  changed : ∃ ch, (w.recs t).changed = some ch ∧ ch < R
  checked : ∀ c, (w.recs t).checked = some c → c < R
  stamp : (w.recs t).stamp = some (readStamp w t)

instance (w : World) (R t : Nat) : Decidable (CurrentBefore w R t) :=
  decidable_of_iff
    ((w.recs t).isGenerated = true ∧ (w.recs t).isOverride = false ∧ (w.recs t).failed = none ∧
      (∃ ch ∈ (w.recs t).changed, ch < R) ∧ (∀ c ∈ (w.recs t).checked, c < R) ∧
      (w.recs t).stamp = some (readStamp w t))
    ⟨fun ⟨a, b, c, d, e, f⟩ => ⟨a, b, c, d, e, f⟩, fun ⟨a, b, c, d, e, f⟩ => ⟨a, b, c, d, e, f⟩⟩

theorem CurrentBefore.transfer {R t : Nat} {w w' : World} (h : RowsOnly t w w') (hc : CurrentBefore w R t) :
    CurrentBefore w' R t := by
  obtain ⟨t1, t2, t3, t4, t5, t6, _⟩ := h.recs t
  exact ⟨by rw [t1]; exact hc.gen, by rw [t2]; exact hc.novr, by rw [t5]; exact hc.nofail,
    by rw [t4]; exact hc.changed, fun c hcc => hc.checked c (by rw [← t3]; exact hcc),
    by rw [t6, hc.stamp, readStamp_congr (congrFun h.fs _)]⟩

theorem CurrentBefore.mark_lt {R t : Nat} {w : World} (hc : CurrentBefore w R t) : mark (w.recs t) < R := by
  obtain ⟨ch, h1, h2⟩ := hc.changed
  unfold mark
  rw [h1]
  cases h : (w.recs t).checked with
  | none => simp; omega
  | some c => have := hc.checked c h; simp; omega

/-- **Cut-off, at the command.**  `redo-ifchange t` (top level, or the second phase of `redo-unlocked`) in run
`R`, when `t`'s record is current and each of its rows is quiet or points to a source that was checked / rebuilt
with an unchanged checksum in this run: exit 0, no script runs, no file changes. -/
theorem ifchangeWith_cutoff (E : Engine) (d : Defects) (m : Nat) (hm : 0 < m) (cx : Ctx) (t : Nat) (w : World)
    (hp : cx.parent = none ∨ cx.unlocked = true) (hcy : cx.unlocked = true ∨ t ∉ cx.cycles)
    (hr : cx.isRedo = false) (hR : cx.runid ≠ 0) (ht : t ≠ alwaysId) (hcur : CurrentBefore w cx.runid t)
    (hq : ∀ d0 ∈ w.deps, d0.target = t → QuietDep w t d0 ∨ MemoDep w cx.runid t d0) :
    (ifchangeWith E d (m + 1) cx [t] w).1 = 0 ∧ QuietExt w (ifchangeWith E d (m + 1) cx [t] w).2 := by
  have hrel : RowsOnly t w (addKnown w t) := RowsOnly.addKnown t w t
  have hcur' := hcur.transfer hrel
  obtain ⟨ch, hch, hlt⟩ := hcur'.changed
  have hsb := shouldBuild_cut cx m hm t (addKnown w t) ch hr hR ht hcur'.gen hcur'.nofail hch (by omega) hcur'.stamp
    (fun d0 hd hdt => by
      rcases hq d0 (hrel.deps d0 hd hdt) hdt with h | h
      · exact Or.inl (h.transfer hrel d0)
      · exact Or.inr (h.transfer hrel d0))
  rw [ifchangeWith_single E d (m + 1) cx t w hp hcy, buildJob_of_clean E d cx (m + 1) t _ hsb]
  have hc : ¬ ((0 : Status) = CRASHED) := by decide
  exact ⟨by simp [finishS, hc], (QuietExt.addKnown w t).trans (shouldBuild_rel QuietExt.dirtyRel cx _ t _)⟩

/-! ### C03 — checksum cut-off: a changed checksum is forwarded

A row of `t` whose source has `changed` newer than `t`'s mark (e.g. a checksummed source rebuilt in this run
with a different checksum: `changed = R`) makes `should_build t` answer `dirty` (or `cyclic`): `t`'s script
runs, or the command fails (`shouldBuild_trigger`, `ifchangeWith_trigger` in `DepsRows.lean`). -/

/-- An `m` row of `t` whose source's `changed` run is newer than `t`'s mark. -/
def ChangedDep (w : World) (t : Nat) (d0 : Dep) : Prop :=
  d0.modeM = true ∧ d0.source ≠ alwaysId ∧ d0.source ≠ t ∧
  ∃ c, (w.recs d0.source).changed = some c ∧ mark (w.recs t) < c

theorem ChangedDep.transfer {t : Nat} {w w' : World} (h : RowsOnly t w w') (d0 : Dep) (hq : ChangedDep w t d0) :
    ChangedDep w' t d0 := by
  obtain ⟨h1, h0, hne, c, hc, hlt⟩ := hq
  obtain ⟨_, _, _, s4, _, _, _⟩ := h.recs d0.source
  obtain ⟨_, _, t3, t4, _, _, _⟩ := h.recs t
  refine ⟨h1, h0, hne, c, by rw [s4]; exact hc, ?_⟩
  unfold mark at hlt ⊢
  rw [t3, t4]
  exact hlt

/-! ### C03 — checksum cut-off: the out-of-band path (`redo-unlocked`)

When `should_build t` answers `need ts`, the job runs `redo-ifchange ts` (no parent, no further OOB), and, if
that exits 0, `redo-ifchange t` *unlocked*: the decision for `t` is taken again, now that the checksummed
dependencies are up to date.  The cut-off and the forwarding theorems apply to that second decision. -/

/-- The order in which `redo-unlocked` is handed the dependencies. -/
def oobOrder (w : World) (ts : List Nat) : List Nat := if w.oobRev then ts.eraseDups.reverse else ts.eraseDups

/-- Environment of the first phase: rebuild the checksummed dependencies, declared on nobody. -/
def oobCx1 (cx : Ctx) (t : Nat) : Ctx := { cx with noOob := true, unlocked := false, isRedo := false, cycles := t :: cx.cycles, parent := none }

/-- Environment of the second phase: decide `t` again, unlocked. -/
def oobCx2 (cx : Ctx) : Ctx := { cx with noOob := true, unlocked := true, isRedo := false }

theorem oobOrder_eq_oobTargets : oobOrder = oobTargets := rfl

theorem oobCx1_eq_oobCtx1 {d : Defects} (hd : d.oobRecordsDepsOnCaller = false) (cx : Ctx) (t : Nat) :
    oobCx1 cx t = oobCtx1 d cx t := by simp [oobCx1, oobCtx1, hd]

theorem oobCx2_eq_oobCtx2 : oobCx2 = oobCtx2 := rfl

/-- The out-of-band path of a job for `t`, from the world `w` left by `should_build`. -/
def oobPath (E : Engine) (cx : Ctx) (t : Nat) (ts : List Nat) (w : World) : JobResult × World :=
  let r := E.ifchangeCmd (oobCx1 cx t) (oobOrder w ts) w
  if r.1 = 0 then (.done (E.ifchangeCmd (oobCx2 cx) [t] r.2).1, (E.ifchangeCmd (oobCx2 cx) [t] r.2).2)
  else (.done r.1, r.2)

/-- **The out-of-band decision.**  With the defect switches off and OOB allowed, a `need ts` verdict makes the job
exactly: `redo-ifchange ts`, then (if 0) `redo-ifchange t` unlocked, whose status is the job's. -/
theorem buildJob_need (E : Engine) (d : Defects) (cx : Ctx) (fuel t : Nat) (w : World) (ts : List Nat)
    (hno : cx.noOob = false) (hd1 : d.oobRecordsDepsOnCaller = false) (hd2 : d.oobRebuildsDepsNotTarget = false)
    (hs : (shouldBuild cx fuel t w).1 = some (.need ts)) :
    buildJob E d cx fuel t w = oobPath E cx t ts (shouldBuild cx fuel t w).2 := by
  unfold buildJob oobPath oobOrder oobCx1 oobCx2
  dsimp only
  generalize shouldBuild cx fuel t w = sb at hs ⊢
  obtain ⟨o, w1⟩ := sb
  dsimp only at hs
  subst hs
  simp only [hno, hd1, hd2, Bool.false_eq_true, if_false]
  generalize E.ifchangeCmd _ _ w1 = r
  obtain ⟨rv, w2⟩ := r
  by_cases hrv : rv = 0
  · subst hrv; simp
  · simp only [hrv, if_false]

theorem oobPath_first_ok (E : Engine) (cx : Ctx) (t : Nat) (ts : List Nat) (w : World) (w2 : World)
    (h1 : E.ifchangeCmd (oobCx1 cx t) (oobOrder w ts) w = (0, w2)) :
    oobPath E cx t ts w = (.done (E.ifchangeCmd (oobCx2 cx) [t] w2).1, (E.ifchangeCmd (oobCx2 cx) [t] w2).2) := by
  unfold oobPath
  simp [h1]

end RedoModel.Deps
