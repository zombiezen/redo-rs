import RedoModel.Lemmas.DepsFuelCheck
import RedoModel.Lemmas.DepsLoops
import RedoModel.Lemmas.DepsStartSelf
/-!
# C12 — cycles are reported

A command that names its own parent or a member of `REDO_CYCLES` is refused with a non-zero status; a failing nested
command fails the script, the job and the command above it; so every level of a chain of forced targets that closes on
itself fails (`lasso_runTargets`), whatever the innermost level `base` of the engine `engineFrom base` answers.
-/
namespace RedoModel.Deps
open RedoModel.Generated

/-!
# C12 — cycles are reported: the refusal

* `engineFrom base d n`: the engine with an arbitrary `base` in place of the fuel-0 answer;
  `engine d n = engineFrom failBase d n`.
* a command that names its own parent, or a member of `REDO_CYCLES`, has a non-zero status.
-/

def engineFrom (base : Engine) (d : Defects) : Nat → Engine
  | 0 => base
  | n + 1 => { ifchangeCmd := fun cx ts w => ifchangeWith (engineFrom base d n) d (n + 1) cx ts w }

def failBase : Engine := { ifchangeCmd := fun _ _ w => (EXIT_FAILURE, w) }

theorem engine_eq_from (d : Defects) : ∀ n, engine d n = engineFrom failBase d n
  | 0 => rfl
  | n + 1 => by rw [engine, engineFrom, engine_eq_from d n]

/-! ### Detection -/

/-- `redo-ifchange` naming the target whose script runs it. -/
theorem ifchangeWith_self (E : Engine) (d : Defects) (fuel : Nat) (cx : Ctx) (ts : List Nat) (w : World) (p : Nat)
    (hp : cx.parent = some p) (hu : cx.unlocked = false) (hm : p ∈ ts) :
    ifchangeWith E d fuel cx ts w = (EXIT_CYCLIC_DEPENDENCY, w) := by
  simp [ifchangeWith, hp, hu, hm]

/-- A target list that contains a member of `REDO_CYCLES` (not yet handled) has a non-zero
status, with or without `--keep-going`, whatever the other targets do. -/
theorem runTargets_cycle_nonzero (E : Engine) (d : Defects) (cx : Ctx) (fuel : Nat) (hu : cx.unlocked = false)
    (ts seen : List Nat) (e : Bool) (w : World) (h : ∃ x ∈ ts, x ∈ cx.cycles ∧ x ∉ seen) :
    (runTargets E d cx fuel ts seen e w).1 ≠ 0 := by
  obtain ⟨x, hx, hxc, hxs⟩ := h
  -- the member is still ahead once the head `t` has been passed: it is not `t`
  have tail : ∀ {t ts}, x ∈ t :: ts → x ≠ t → x ∈ ts := fun hx hne => (List.mem_cons.1 hx).resolve_left hne
  fun_induction runTargets E d cx fuel ts seen e w with
  | case1 => cases hx
  | case2 t ts seen e w hs ih => exact ih (tail hx (fun e1 => hxs (e1 ▸ hs))) hxs
  | case3 => simp
  | case4 => simp [EXIT_CYCLIC_DEPENDENCY]
  | case5 t ts seen e w hs hek w1 hcc code w2 hj => exact buildJob_abort_ne _ _ _ _ _ _ _ _ hj
  | case6 => simp [CRASHED]
  | case7 t ts seen e w hs hek w1 hcc rv w2 hj hnc ih =>
    have hxt : x ≠ t := fun e1 => hcc (by simp [hu, e1 ▸ hxc])
    exact ih (tail hx hxt) (fun hm => (List.mem_cons.1 hm).elim hxt hxs)

theorem ifchangeWith_cycle_nonzero (E : Engine) (d : Defects) (fuel : Nat) (cx : Ctx) (ts : List Nat) (w : World)
    (hu : cx.unlocked = false) (h : ∃ x ∈ ts, x ∈ cx.cycles) : (ifchangeWith E d fuel cx ts w).1 ≠ 0 :=
  ifchangeWith_cases (P := fun r => r.1 ≠ 0) (fun _ _ _ _ => by simp [EXIT_CYCLIC_DEPENDENCY]) fun w' _ =>
    runTargets_cycle_nonzero E d cx fuel hu ts [] false w' (h.imp fun _ hx => ⟨hx.1, hx.2, by simp⟩)

/-!
# C12 — cycles are reported: a failing nested command fails every level above it
-/

/-! ### The step: nested failure ⇒ failure of the script, the job, the command -/

/-- `sh -e`: the first failing `redo-ifchange` is the script's status. -/
theorem cmds_head_nonzero (E : Engine) (cx : Ctx) (t : Nat) (cx' : Ctx) (c : List Nat) (cs : List (List Nat)) (k : Nat)
    (w : World) (h : (E.ifchangeCmd cx' c w).1 ≠ 0) : (runScript.cmds E cx t cx' (c :: cs) k w).1 ≠ 0 := by
  rw [runScript.cmds]
  split
  · simp [CRASHED]
  · generalize E.ifchangeCmd cx' c w = r at h
    obtain ⟨rv, w1⟩ := r
    split
    · rename_i heq
      cases heq
      exact absurd rfl h
    · rename_i heq
      cases heq
      exact h

theorem cmds_mem_nonzero (E : Engine) (cx : Ctx) (t : Nat) (cx' : Ctx) (c : List Nat)
    (h : ∀ w, (E.ifchangeCmd cx' c w).1 ≠ 0) (cs : List (List Nat)) (k : Nat) (w : World) (hm : c ∈ cs) :
    (runScript.cmds E cx t cx' cs k w).1 ≠ 0 := by
  fun_induction runScript.cmds E cx t cx' cs k w with
  | case1 => cases hm
  | case2 => simp [CRASHED]
  | case3 c0 cs k w hk w1 hc ih =>
    -- `c0` ended with 0, so it is not `c`
    exact ih ((List.mem_cons.1 hm).resolve_left (fun e => h w (by rw [e, hc])))
  | case4 c0 cs k w hk rv w1 hrv hc => exact fun e => hrv e

theorem rsBody_nonzero (E : Engine) (cx : Ctx) (t : Nat) (sc : Script) (w : World)
    (h : ∀ w1, (runScript.conds E t (scriptCtx cx t) sc.cond w).2 = w1 →
      (runScript.cmds E cx t (scriptCtx cx t) sc.ifchange 0 w1).1 ≠ 0) :
    (rsBody E cx t sc w).1 ≠ 0 := by
  unfold rsBody
  dsimp only
  have h' := h _ rfl
  split
  · assumption
  · exact h'


theorem runScript_nonzero' (E : Engine) (d : Defects) (cx : Ctx) (t : Nat) (sc : Script) (w : World)
    (h : (runScript.cmds E cx t (scriptCtx cx t) sc.ifchange 0
      (runScript.conds E t (scriptCtx cx t) sc.cond
        (sc.ifcreate.foldl (fun w f => addDep w t f false) (rsAlways cx t sc w))).2).1 ≠ 0) :
    (runScript E d cx t sc w).1 ≠ 0 := by
  rw [runScript_eq]
  split
  · simp
  · exact rsBody_nonzero E cx t sc _ (fun w1 e => e ▸ h)

/-- The script a .do file stands for. -/
def doScript (w : World) (dof : Nat) : Script :=
  match w.fs dof with
  | some n => (w.progs n.content).getD {}
  | none => {}

/-- The world in which the script of `t` starts, once its .do file `dof` is chosen. -/
def ssPre (cx : Ctx) (t dof : Nat) (w1 : World) : World :=
  ev (setRec w1 dof (setStatic w1 dof (w1.recs dof) cx.runid)) (.ran t)

theorem ssPre_eq_startW (cx : Ctx) (t dof : Nat) (w1 : World) : ssPre cx t dof w1 = startW w1 cx.runid t dof := rfl

theorem ssBuild_nonzero (E : Engine) (d : Defects) (cx : Ctx) (t : Nat) (sf : Rec) (w : World) (dof : Nat) (w1 : World)
    (hf : findDoFile t ((zapDeps1 w t).rules t) (zapDeps1 w t) = (some dof, w1))
    (hs : (runScript E d cx t (doScript (ssPre cx t dof w1) dof) (ssPre cx t dof w1)).1 ≠ 0) :
    (ssBuild E d cx t sf w).1 ≠ 0 := by
  rw [ssBuild_eq_some (doScript (ssPre cx t dof w1) dof) hf rfl]
  unfold ssPre at hs ⊢
  unfold startW
  generalize runScript E d cx t _ _ = r at hs ⊢
  obtain ⟨rv, out, w4⟩ := r
  dsimp only at hs ⊢
  split
  · simp [CRASHED]
  · exact recordNewState_nonzero cx t sf rv out w4 hs

/-! ### What stays put on the way down a chain of forced targets -/

def Desc (w w' : World) : Prop :=
  w'.fs = w.fs ∧ w'.progs = w.progs ∧ w'.rules = w.rules ∧
  ∀ t, t ≠ alwaysId → w.fs t = none →
    (w'.recs t).changed = (w.recs t).changed ∧ (w'.recs t).failed = (w.recs t).failed

theorem Desc.refl (w : World) : Desc w w := ⟨rfl, rfl, rfl, fun _ _ _ => ⟨rfl, rfl⟩⟩

theorem Desc.trans {a b c : World} (h1 : Desc a b) (h2 : Desc b c) : Desc a c := by
  obtain ⟨a1, a2, a3, a4⟩ := h1
  obtain ⟨b1, b2, b3, b4⟩ := h2
  refine ⟨b1.trans a1, b2.trans a2, b3.trans a3, fun t h0 hm => ?_⟩
  have hb := b4 t h0 (by rw [a1]; exact hm)
  have ha := a4 t h0 hm
  exact ⟨hb.1.trans ha.1, hb.2.trans ha.2⟩

theorem Desc.addKnown (w : World) (f : Nat) : Desc w (addKnown w f) := by
  unfold RedoModel.Deps.addKnown
  split
  · exact Desc.refl w
  · refine ⟨rfl, rfl, rfl, fun t _ _ => ?_⟩
    simp only [setRec]
    split
    · subst_vars; exact ⟨rfl, rfl⟩
    · exact ⟨rfl, rfl⟩

theorem Desc.addDep (w : World) (t s : Nat) (m : Bool) : Desc w (addDep w t s m) := by
  obtain ⟨a1, a2, a3, a4⟩ := Desc.addKnown w s
  exact ⟨a1, a2, a3, a4⟩

theorem Desc.foldl_addDep (t : Nat) (m : Bool) (l : List Nat) (w : World) :
    Desc w (l.foldl (fun w f => RedoModel.Deps.addDep w t f m) w) :=
  foldl_rel Desc.refl Desc.trans _ l (fun w f _ => Desc.addDep w t f m) w

theorem Desc.zapDeps1 (w : World) (t : Nat) : Desc w (zapDeps1 w t) := ⟨rfl, rfl, rfl, fun _ _ _ => ⟨rfl, rfl⟩⟩

theorem Desc.ev (w : World) (e : Ev) : Desc w (ev w e) := ⟨rfl, rfl, rfl, fun _ _ _ => ⟨rfl, rfl⟩⟩

theorem Desc.setRec (w : World) (f : Nat) (r : Rec) (h : f = alwaysId ∨ w.fs f ≠ none) : Desc w (setRec w f r) := by
  refine ⟨rfl, rfl, rfl, fun t h0 hm => ?_⟩
  simp only [RedoModel.Deps.setRec]
  split
  · subst_vars
    rcases h with e | e
    · exact absurd e h0
    · exact absurd hm e
  · exact ⟨rfl, rfl⟩

theorem Desc.existsF {w w' : World} (h : Desc w w') : existsF w' = existsF w := by
  funext f
  simp [RedoModel.Deps.existsF, h.1]

theorem findDoFile_spec (t : Nat) (cs : List Nat) (w : World) :
    (findDoFile t cs w).1 = cs.find? (existsF w) ∧ Desc w (findDoFile t cs w).2 :=
  ⟨findDoFile_find t cs w, findDoFile_rel Desc.refl Desc.trans (fun w c m => Desc.addDep w t c m) cs w⟩

theorem conds_missing (E : Engine) (t : Nat) (cx' : Ctx) : ∀ (fs : List Nat) (w : World), (∀ f ∈ fs, w.fs f = none) →
    runScript.conds E t cx' fs w = (0, fs.foldl (fun w f => addDep w t f false) w)
  | [], w, _ => by rw [runScript.conds]; rfl
  | f :: fs, w, h => by
    rw [runScript.conds]
    have hex : existsF w f = false := by simp [existsF, h f (by simp)]
    simp only [hex, Bool.false_eq_true, if_false, List.foldl_cons]
    apply conds_missing E t cx' fs
    intro g hg
    have := (Desc.addDep w t f false).1
    rw [this]
    exact h g (by simp [hg])

theorem rsAlways_desc (cx : Ctx) (t : Nat) (sc : Script) (w : World) : Desc w (rsAlways cx t sc w) := by
  unfold rsAlways
  split
  · exact (Desc.addDep w t alwaysId true).trans (Desc.setRec _ _ _ (Or.inl rfl))
  · exact Desc.refl w

/-!
# C12 — cycles are reported: a chain of forced targets that closes on itself fails at every level
-/

/-- `t` is forced to run and the first thing its script does is `redo-ifchange x …`:
`t` is a real file id, does not exist, and was never built or failed when last built; its first existing .do
candidate holds a program whose conditional declarations name missing files only and whose first
`redo-ifchange` command starts with `x`. -/
def Forced (w : World) (t x : Nat) : Prop :=
  t ≠ alwaysId ∧ w.fs t = none ∧ ((w.recs t).failed.isSome = true ∨ (w.recs t).changed = none) ∧
  ∃ dof n sc rest cs, (w.rules t).find? (existsF w) = some dof ∧ w.fs dof = some n ∧
    w.progs n.content = some sc ∧ (∀ f ∈ sc.cond, w.fs f = none) ∧ sc.ifchange = (x :: rest) :: cs

theorem Forced.mono {w w' : World} {t x : Nat} (h : Forced w t x) (hd : Desc w w') : Forced w' t x := by
  obtain ⟨h0, hm, hds, dof, n, sc, rest, cs, h1, h2, h3, h4, h5⟩ := h
  obtain ⟨d1, d2, d3, d4⟩ := hd
  have hr := d4 t h0 hm
  refine ⟨h0, by rw [d1]; exact hm, by rw [hr.1, hr.2]; exact hds,
    dof, n, sc, rest, cs, ?_, by rw [d1]; exact h2, by rw [d2]; exact h3, ?_, h5⟩
  · rw [d3, Desc.existsF ⟨d1, d2, d3, d4⟩]; exact h1
  · intro f hf'; rw [d1]; exact h4 f hf'

/-- **The step.**  If the command a forced target's script starts with fails (in every world the
way down can leave), the job of that target is a failed job. -/
theorem buildJob_forced (E : Engine) (d : Defects) (cx : Ctx) (fuel t x : Nat) (w : World)
    (hF : Forced w t x) (hfuel : 0 < fuel)
    (hE : ∀ rest w', Desc w w' → (E.ifchangeCmd (scriptCtx cx t) (x :: rest) w').1 ≠ 0) :
    ∀ rv w1, buildJob E d cx fuel t w = (.done rv, w1) → rv ≠ 0 := by
  obtain ⟨h0, hm, hds, dof, n, sc, rest, cs, h1, h2, h3, h4, h5⟩ := hF
  suffices hss : (ssBuild E d cx t (w.recs t) w).1 ≠ 0 by
    intro rv w1 hb
    unfold buildJob at hb
    rcases shouldBuild_ds cx fuel t w h0 hds hfuel with hsb | hsb
    · simp only [hsb, startSelf_missing E d cx t _ w hm] at hb
      cases hb
      exact hss
    · simp only [hsb] at hb
      split at hb
      · cases hb
      · cases hb
        simp [EXIT_TARGET_FAILED]
  · have hz := Desc.zapDeps1 w t
    have hfd := findDoFile_spec t ((zapDeps1 w t).rules t) (zapDeps1 w t)
    generalize hfe : findDoFile t ((zapDeps1 w t).rules t) (zapDeps1 w t) = r at hfd
    obtain ⟨o, w1⟩ := r
    obtain ⟨ho, hd1⟩ := hfd
    dsimp only at ho hd1
    have hdof : o = some dof := by
      rw [ho, hz.2.2.1, hz.existsF]; exact h1
    subst hdof
    have hw1 : Desc w w1 := hz.trans hd1
    have hdofex : w1.fs dof ≠ none := by rw [hw1.1, h2]; simp
    have hpre : Desc w (ssPre cx t dof w1) :=
      (hw1.trans (Desc.setRec w1 dof _ (Or.inr hdofex))).trans (Desc.ev _ _)
    have hsc : doScript (ssPre cx t dof w1) dof = sc := by
      unfold doScript
      rw [hpre.1, h2]
      dsimp only
      rw [hpre.2.1, h3]
      rfl
    apply ssBuild_nonzero E d cx t (w.recs t) w dof w1 hfe
    rw [hsc]
    apply runScript_nonzero'
    have ha := rsAlways_desc cx t sc (ssPre cx t dof w1)
    have hi := Desc.foldl_addDep t false sc.ifcreate (rsAlways cx t sc (ssPre cx t dof w1))
    have h2w := (hpre.trans ha).trans hi
    generalize sc.ifcreate.foldl (fun w f => addDep w t f false) (rsAlways cx t sc (ssPre cx t dof w1)) = w2 at h2w
    rw [conds_missing E t (scriptCtx cx t) sc.cond w2 (fun f hf' => by rw [h2w.1]; exact h4 f hf')]
    dsimp only
    rw [h5]
    apply cmds_head_nonzero
    exact hE rest _ (h2w.trans (Desc.foldl_addDep t false sc.cond w2))

theorem runTargets_head_nonzero (E : Engine) (d : Defects) (cx : Ctx) (fuel t : Nat) (ts seen : List Nat) (e : Bool)
    (w : World) (hs : t ∉ seen)
    (hj : ∀ rv w1, buildJob E d cx fuel t (addKnown w t) = (.done rv, w1) → rv ≠ 0) :
    (runTargets E d cx fuel (t :: ts) seen e w).1 ≠ 0 := by
  rw [runTargets]
  simp only [hs, if_false]
  split
  · simp
  · split
    · simp [EXIT_CYCLIC_DEPENDENCY]
    · split
      · rename_i heq
        exact buildJob_abort_ne _ _ _ _ _ _ _ _ heq
      · rename_i rv w1 heq
        have hrv := hj rv w1 heq
        split
        · simp [CRASHED]
        · simp only [hrv, ne_eq, not_false_eq_true, decide_true, Bool.or_true]
          exact runTargets_errored_ne_zero E d cx fuel ts _ _


theorem ifchangeWith_script_nonzero (E : Engine) (d : Defects) (fuel : Nat) (cx : Ctx) (ts : List Nat) (w : World)
    (h : ∀ w', Desc w w' → (runTargets E d cx fuel ts [] false w').1 ≠ 0) :
    (ifchangeWith E d fuel cx ts w).1 ≠ 0 :=
  ifchangeWith_cases (P := fun r => r.1 ≠ 0) (fun _ _ _ _ => by simp [EXIT_CYCLIC_DEPENDENCY]) fun w' hw =>
    h w' (hw Desc Desc.refl Desc.trans Desc.addKnown fun p _ w s _ => Desc.addDep w p s true)

/-- A chain `ch 0 → ch 1 → … → ch k → ch (k+1) = ch j` with `j ≤ k`: every `ch i` (`i ≤ k`) is forced to run
and starts by asking for `ch (i+1)`; the last request closes the loop. -/
structure Lasso (w0 : World) (ch : Nat → Nat) (k j : Nat) : Prop where
  forced : ∀ i, i ≤ k → Forced w0 (ch i) (ch (i + 1))
  back : ch (k + 1) = ch j
  hj : j ≤ k

/-- **A chain of forced targets passes a failure upwards.**  Links `ch 0 → … → ch k`, each forced to run and
starting by asking for the next; a property `P i` of the context in which `ch i` is asked for, kept by the step
into a script; if the command that asks for `ch k` fails, so does every command that asks for a `ch i`, whatever
the innermost level `base` of the engine answers, as soon as the engine has one level per remaining link. -/
theorem forcedChain (base : Engine) (d : Defects) (w0 : World) (ch : Nat → Nat) (k : Nat)
    (hforced : ∀ i, i < k → Forced w0 (ch i) (ch (i + 1)))
    (P : Nat → Ctx → Prop) (hP : ∀ i cx, i < k → P i cx → P (i + 1) (scriptCtx cx (ch i)))
    (hbot : ∀ (n fuel : Nat) (cx : Ctx) (rest : List Nat) (w : World), 0 < fuel → P k cx → Desc w0 w →
      (runTargets (engineFrom base d n) d cx fuel (ch k :: rest) [] false w).1 ≠ 0) :
    ∀ (m i : Nat), i + m = k → ∀ (n fuel : Nat) (cx : Ctx) (rest : List Nat) (w : World),
      m ≤ n → 0 < fuel → P i cx → Desc w0 w →
      (runTargets (engineFrom base d n) d cx fuel (ch i :: rest) [] false w).1 ≠ 0
  | 0, i, him, n, fuel, cx, rest, w, _, hfuel, hp, hw => by
    have hi : i = k := by omega
    subst hi
    exact hbot n fuel cx rest w hfuel hp hw
  | m + 1, i, him, n, fuel, cx, rest, w, hn, hfuel, hp, hw => by
    obtain ⟨n', rfl⟩ : ∃ n', n = n' + 1 := ⟨n - 1, by omega⟩
    apply runTargets_head_nonzero _ d cx fuel (ch i) rest [] false w (by simp)
    have hF : Forced (addKnown w (ch i)) (ch i) (ch (i + 1)) :=
      (hforced i (by omega)).mono (hw.trans (Desc.addKnown w (ch i)))
    exact buildJob_forced (engineFrom base d (n' + 1)) d cx fuel (ch i) (ch (i + 1)) _ hF hfuel (by
      intro rest' w' hw'
      show (ifchangeWith (engineFrom base d n') d (n' + 1) (scriptCtx cx (ch i)) (ch (i + 1) :: rest') w').1 ≠ 0
      apply ifchangeWith_script_nonzero _ d _ _ _ w'
      intro w'' hw''
      exact forcedChain base d w0 ch k hforced P hP hbot m (i + 1) (by omega) n' (n' + 1) (scriptCtx cx (ch i)) rest' w''
        (by omega) (by omega) (hP i cx (by omega) hp) (((hw.trans (Desc.addKnown w (ch i))).trans hw').trans hw''))

/-- **Every level of a chain that closes on itself fails**, whatever the innermost level `base` of the
engine answers, as soon as the engine has one level per remaining chain element: the ancestors from `ch j` on
are in `REDO_CYCLES`, and the request for `ch (k+1) = ch j` is refused. -/
theorem lasso_runTargets (base : Engine) (d : Defects) (w0 : World) (ch : Nat → Nat) (k j : Nat)
    (hL : Lasso w0 ch k j) (m i : Nat) (him : i + m = k + 1) (n fuel : Nat) (cx : Ctx) (rest : List Nat) (w : World)
    (hn : m ≤ n) (hfuel : 0 < fuel) (hu : cx.unlocked = false) (hcy : ∀ l, j ≤ l → l < i → ch l ∈ cx.cycles)
    (hw : Desc w0 w) : (runTargets (engineFrom base d n) d cx fuel (ch i :: rest) [] false w).1 ≠ 0 := by
  refine forcedChain base d w0 ch (k + 1) (fun i hi => hL.forced i (by omega))
    (fun i cx => cx.unlocked = false ∧ ∀ l, j ≤ l → l < i → ch l ∈ cx.cycles) ?_ ?_ m i him n fuel cx rest w
    hn hfuel ⟨hu, hcy⟩ hw
  · intro i cx _ ⟨_, hcy⟩
    refine ⟨rfl, fun l hjl hli => ?_⟩
    show ch l ∈ ch i :: cx.cycles
    by_cases hl : l = i
    · subst hl; simp
    · exact List.mem_cons_of_mem _ (hcy l hjl (by omega))
  · intro n fuel cx rest w _ ⟨hu, hcy⟩ _
    refine runTargets_cycle_nonzero _ d cx fuel hu _ [] false w ⟨ch (k + 1), by simp, ?_, by simp⟩
    rw [hL.back]
    exact hcy j (Nat.le_refl j) (by have := hL.hj; omega)

end RedoModel.Deps
