import RedoModel.Lemmas.DepsStartSelf
/-!
# Frames of the engine

A *frame* is a reflexive, transitive relation `Rel w w'` ("`w'` differs from `w` at most in …", or "what holds of `w`
holds of `w'`") that holds across every primitive write of the engine.  `ScriptFrame` lists the writes of a job once,
each with what the engine knows at that point, `EngineFrame` adds what whole commands need; the theorems of this file
conclude `Rel w (f … w).2` for every function `f` of the engine.

What may be assumed along the way is a parameter of the frame: `C cx` of the context of a command (kept by the
contexts the engine derives from it), `P w` of the world (kept by `Rel`), `T t` of a target whose script runs (the
parent named by a context satisfies it), `A w sc` of a script about to run in `w` (kept by `Rel`), `Q r` of the copy
of a record that a job holds and of the records it writes (true of the records of a `P`-world, kept by the engine's
record updates).  An invariant `I` of worlds is the frame `I w → I w'` with `P := I`.
-/
namespace RedoModel.Deps
open RedoModel.Generated

structure ScriptFrame (C : Ctx → Prop) (P : World → Prop) (T : Nat → Prop) (A : World → Script → Prop)
    (Q : Rec → Prop) (Rel : World → World → Prop) : Prop where
  refl : ∀ w, Rel w w
  trans : ∀ {a b c}, Rel a b → Rel b c → Rel a c
  keepP : ∀ {w w'}, Rel w w' → P w → P w'
  keepA : ∀ {w w' sc}, Rel w w' → A w sc → A w' sc
  /-- the context of the commands of the script of `t` -/
  child : ∀ {cx t}, C cx → T t → C (scriptCtx cx t)
  /-- the script found at a .do file -/
  script : ∀ w dof, P w → A w (match w.fs dof with
    | some n => (w.progs n.content).getD {}
    | none => {})
  -- the copies of records (nothing to show when `Q` says nothing)
  recs : ∀ {w} (f : Nat), P w → Q (w.recs f) := by intros; trivial
  qStamp : ∀ {cx r} (data : Content), C cx → Q r → Q (stampRec r cx.runid data) := by intros; trivial
  qOverride : ∀ {cx r} (w : World) (f : Nat), C cx → Q r → r.isGenerated = true → readStamp w f ≠ .missing →
    Q (setOverride w f r cx.runid) := by intros; trivial
  qStatic : ∀ {cx r} (w : World) (f : Nat), C cx → Q r → Q (setStatic w f r cx.runid) := by intros; trivial
  qFailed : ∀ {cx r} (w : World) (f : Nat), C cx → Q r → Q (setFailed w f r cx.runid) := by intros; trivial
  addKnown : ∀ w f, Rel w (addKnown w f)
  /-- a write to the record of the target under construction -/
  ownRec : ∀ {t r} w, T t → Q r → Rel w (setRec w t r)
  /-- `set_static` on the .do file -/
  dofRec : ∀ {cx} w dof, C cx → P w → Rel w (setRec w dof (setStatic w dof (w.recs dof) cx.runid))
  /-- `redo-always` run by the script of `t` -/
  alwaysRec : ∀ {cx t} w, C cx → T t → P w →
    Rel w (setRec w alwaysId (setChanged { (w.recs alwaysId) with stamp := some .missing } cx.runid))
  evWarn : ∀ w t, Rel w (ev w (.warnOverride t))
  evRan : ∀ {t} w, T t → Rel w (ev w (.ran t))
  zapDeps1 : ∀ {t} w, T t → Rel w (zapDeps1 w t)
  findDo : ∀ {t} w, T t → P w → Rel w (findDoFile t (w.rules t) w).2
  addDepM : ∀ {t} w s, T t → Rel w (addDep w t s true)
  /-- a `c` row written by the script: `redo-ifcreate`, or a conditional declaration of an absent file -/
  addDepC : ∀ {t sc} w f, T t → P w → A w sc → (f ∈ sc.ifcreate ∨ f ∈ sc.cond) → Rel w (addDep w t f false)
  /-- recording the result of the script of `t`: the job started in `w0`, where the .do file `dof` exists, and the
  script ended in `w` with the output `out` -/
  record : ∀ {cx t sf} rv out w0 w dof, C cx → T t → Q sf → dof ∈ w0.rules t → existsF w0 dof = true → Rel w0 w →
    P w → (∀ c, out = some c → ∃ tag ins, c = outContent tag ins) → Rel w0 (recordNewState cx t sf rv out w).2

/-- What a nested `redo-ifchange` must satisfy. -/
def EFrame (C : Ctx → Prop) (P : World → Prop) (Rel : World → World → Prop) (E : Engine) : Prop :=
  ∀ cx ts w, C cx → P w → Rel w (E.ifchangeCmd cx ts w).2

theorem runScript_out (E : Engine) (d : Defects) (cx : Ctx) (t : Nat) (sc : Script) (w : World) (c : Content)
    (h : (runScript E d cx t sc w).2.1 = some c) : ∃ tag ins, c = outContent tag ins := by
  revert h
  fun_cases runScript E d cx t sc w with
  | case1 | case2 | case3 | case4 | case5 => nofun
  | case6 =>
    -- the one place where a script hands over an output
    intro h
    dsimp only at h
    split at h
    · cases h
    · exact ⟨_, _, (Option.some.inj h).symm⟩

/-- The conditional declarations of a script, from their two steps: a nested command for a file that exists, a `c`
row for one that does not.  `K` is what is known of the world on the way, `M` of the files named. -/
theorem conds_of_steps {Rel : World → World → Prop} {K : World → Prop} {M : Nat → Prop} (refl : ∀ w, Rel w w)
    (trans : ∀ {a b c}, Rel a b → Rel b c → Rel a c) (keepK : ∀ {w w'}, Rel w w' → K w → K w')
    {E : Engine} {t : Nat} {cx' : Ctx} (nested : ∀ f w, K w → Rel w (E.ifchangeCmd cx' [f] w).2)
    (absent : ∀ w f, M f → K w → Rel w (addDep w t f false)) (fs : List Nat) (w : World) (hfs : ∀ f ∈ fs, M f)
    (hw : K w) : Rel w (runScript.conds E t cx' fs w).2 := by
  fun_induction runScript.conds E t cx' fs w with
  | case1 w => exact refl w
  | case2 f fs w _ w1 hc ih =>
    have h := nested f w hw
    rw [hc] at h
    exact trans h (ih (fun f' hf' => hfs f' (List.mem_cons_of_mem _ hf')) (keepK h hw))
  | case3 f fs w _ rv w1 _ hc =>
    have h := nested f w hw
    rwa [hc] at h
  | case4 f fs w _ ih =>
    have h := absent w f (hfs f List.mem_cons_self) hw
    exact trans h (ih (fun f' hf' => hfs f' (List.mem_cons_of_mem _ hf')) (keepK h hw))

/-- The nested commands of a script, from one of them; `K` is what is known of the world on the way. -/
theorem cmds_of_steps {Rel : World → World → Prop} {K : World → Prop} (refl : ∀ w, Rel w w)
    (trans : ∀ {a b c}, Rel a b → Rel b c → Rel a c) (keepK : ∀ {w w'}, Rel w w' → K w → K w')
    {E : Engine} {cx : Ctx} {t : Nat} {cx' : Ctx} (nested : ∀ c w, K w → Rel w (E.ifchangeCmd cx' c w).2)
    (cs : List (List Nat)) (k : Nat) (w : World) (hw : K w) : Rel w (runScript.cmds E cx t cx' cs k w).2 := by
  fun_induction runScript.cmds E cx t cx' cs k w with
  | case1 k w | case2 c cs k w _ => exact refl w
  | case3 c cs k w _ w1 hc ih =>
    have h := nested c w hw
    rw [hc] at h
    exact trans h (ih (keepK h hw))
  | case4 c cs k w _ rv w1 _ hc =>
    have h := nested c w hw
    rwa [hc] at h

namespace ScriptFrame
variable {C : Ctx → Prop} {P : World → Prop} {T : Nat → Prop} {A : World → Script → Prop} {Q : Rec → Prop}
  {Rel : World → World → Prop} (F : ScriptFrame C P T A Q Rel)
include F

theorem declareC {t : Nat} {sc : Script} (ht : T t) (fs : List Nat) (w : World) (hw : P w) (ha : A w sc)
    (hfs : ∀ f ∈ fs, f ∈ sc.ifcreate ∨ f ∈ sc.cond) : Rel w (fs.foldl (fun w f => addDep w t f false) w) :=
  -- what is known of the world and of the script travels along the rows
  foldl_rel (Rel := fun a b => P a → A a sc → Rel a b) (fun w _ _ => F.refl w)
    (fun f g hp ha => F.trans (f hp ha) (g (F.keepP (f hp ha) hp) (F.keepA (f hp ha) ha))) _ fs
    (fun w f hf hp ha => F.addDepC w f ht hp ha (hfs f hf)) w hw ha

theorem conds {E : Engine} (hE : EFrame C P Rel E) {t : Nat} {cx' : Ctx} {sc : Script} (ht : T t) (hcx : C cx')
    (fs : List Nat) (w : World) (hw : P w) (ha : A w sc) (hfs : ∀ f ∈ fs, f ∈ sc.ifcreate ∨ f ∈ sc.cond) :
    Rel w (runScript.conds E t cx' fs w).2 :=
  conds_of_steps (K := fun w => P w ∧ A w sc) F.refl F.trans (fun h hk => ⟨F.keepP h hk.1, F.keepA h hk.2⟩)
    (fun f w hk => hE cx' [f] w hcx hk.1) (fun w f hf hk => F.addDepC w f ht hk.1 hk.2 hf) fs w hfs ⟨hw, ha⟩

theorem cmds {E : Engine} (hE : EFrame C P Rel E) (cx : Ctx) (t : Nat) {cx' : Ctx} (hcx : C cx')
    (cs : List (List Nat)) (k : Nat) (w : World) (hw : P w) : Rel w (runScript.cmds E cx t cx' cs k w).2 :=
  cmds_of_steps F.refl F.trans F.keepP (fun c w hw => hE cx' c w hcx hw) cs k w hw

theorem rsAlways {cx : Ctx} (hcx : C cx) {t : Nat} (ht : T t) (sc : Script) (w : World) (hw : P w) :
    Rel w (rsAlways cx t sc w) := by
  unfold Deps.rsAlways
  split
  · have h := F.addDepM w alwaysId ht
    exact F.trans h (F.alwaysRec _ hcx ht (F.keepP h hw))
  · exact F.refl w

theorem rsFinish {cx : Ctx} (hcx : C cx) {t : Nat} (ht : T t) (sc : Script) (w : World) (hw : P w) :
    Rel w (rsFinish cx t sc w).2.2 := by
  rw [rsFinish_world]
  split
  · exact F.refl w
  · unfold rsStampW
    dsimp only
    split
    · exact F.refl w
    · have h := F.addKnown w t
      exact F.trans h (F.ownRec _ ht (F.qStamp _ hcx (F.recs t (F.keepP h hw))))

theorem rsBody {E : Engine} (hE : EFrame C P Rel E) {cx : Ctx} (hcx : C cx) {t : Nat} (ht : T t) (sc : Script)
    (w : World) (hw : P w) (ha : A w sc) : Rel w (rsBody E cx t sc w).2.2 := by
  unfold Deps.rsBody
  dsimp only
  have hcx' := F.child hcx ht
  have h1 := F.conds hE ht hcx' sc.cond w hw ha (fun _ h => Or.inr h)
  generalize runScript.conds E t _ sc.cond w = r1 at h1
  obtain ⟨rvc, w1⟩ := r1
  dsimp only at h1 ⊢
  split
  · exact h1
  · have h2 := F.cmds hE cx t hcx' sc.ifchange 0 w1 (F.keepP h1 hw)
    generalize runScript.cmds E cx t _ sc.ifchange 0 w1 = r2 at h2
    obtain ⟨rv, w2⟩ := r2
    dsimp only at h2 ⊢
    split
    · exact F.trans h1 h2
    · exact F.trans (F.trans h1 h2) (F.rsFinish hcx ht sc w2 (F.keepP h2 (F.keepP h1 hw)))

theorem runScript {E : Engine} (hE : EFrame C P Rel E) (d : Defects) {cx : Ctx} (hcx : C cx) {t : Nat} (ht : T t)
    (sc : Script) (w : World) (hw : P w) (ha : A w sc) : Rel w (runScript E d cx t sc w).2.2 := by
  rw [runScript_eq]
  have h1 := F.rsAlways hcx ht sc w hw
  split
  · exact h1
  · have h2 := F.trans h1 (F.declareC ht sc.ifcreate _ (F.keepP h1 hw) (F.keepA h1 ha) (fun _ h => Or.inl h))
    exact F.trans h2 (F.rsBody hE hcx ht sc _ (F.keepP h2 hw) (F.keepA h2 ha))

theorem ssGuard {cx : Ctx} (hcx : C cx) {t : Nat} (ht : T t) (sf : Rec) (hsf : Q sf) (w : World) :
    Rel w (ssGuard cx t sf w).2 ∧ Q (ssGuard cx t sf w).1 := by
  unfold Deps.ssGuard
  split
  · rename_i hc
    simp only [Bool.and_eq_true, bne_iff_ne, ne_eq] at hc
    have hq := F.qOverride (ev w (.warnOverride t)) t hcx hsf hc.1.1 hc.1.2
    exact ⟨F.trans (F.evWarn w t) (F.ownRec _ ht hq), hq⟩
  · exact ⟨F.refl w, hsf⟩

/-- The script of the .do file `dof` that was found for `t` in `w0`, started in `w`, and the recording of its result. -/
theorem ssRun {E : Engine} (hE : EFrame C P Rel E) (d : Defects) {cx : Ctx} (hcx : C cx) {t : Nat} (ht : T t)
    (sf : Rec) (hsf : Q sf) {w0 : World} {dof : Nat} (hdm : dof ∈ w0.rules t) (hdex : existsF w0 dof = true)
    (sc : Script) (w : World) (h0 : Rel w0 w) (hw : P w) (ha : A w sc) : Rel w0 (ssRun E d cx t sf sc w).2 := by
  unfold Deps.ssRun
  have h4 := F.runScript hE d hcx ht sc w hw ha
  have ho := runScript_out E d cx t sc w
  generalize Deps.runScript E d cx t sc w = r4 at h4 ho
  obtain ⟨rv, out, w4⟩ := r4
  dsimp only at h4 ho ⊢
  split
  · exact F.trans h0 h4
  · exact F.record rv out w0 w4 dof hcx ht hsf hdm hdex (F.trans h0 h4) (F.keepP h4 hw) ho

theorem ssBuild {E : Engine} (hE : EFrame C P Rel E) (d : Defects) {cx : Ctx} (hcx : C cx) {t : Nat} (ht : T t)
    (sf : Rec) (hsf : Q sf) (w : World) (hw : P w) : Rel w (ssBuild E d cx t sf w).2 := by
  rw [ssBuild_eq]
  have h0 := F.zapDeps1 w ht
  have h1 := F.trans h0 (F.findDo (Deps.zapDeps1 w t) ht (F.keepP h0 hw))
  have hfm := findDoFile_some_mem t ((Deps.zapDeps1 w t).rules t) (Deps.zapDeps1 w t)
  generalize findDoFile t ((Deps.zapDeps1 w t).rules t) (Deps.zapDeps1 w t) = r at h1 hfm
  obtain ⟨o, w1⟩ := r
  have hw1 := F.keepP h1 hw
  cases o with
  | none =>
    dsimp only
    split
    · exact F.trans h1 (F.ownRec _ ht (F.qStatic _ t hcx hsf))
    · exact F.trans h1 (F.ownRec _ ht (F.qFailed _ t hcx hsf))
  | some dof =>
    obtain ⟨hdm, hdex⟩ := hfm dof rfl
    have h3 := F.trans (F.dofRec (cx := cx) w1 dof hcx hw1) (F.evRan _ ht)
    exact F.ssRun (w0 := w) hE d hcx ht sf hsf hdm hdex _ _ (F.trans h1 h3) (F.keepP h3 hw1) (F.script _ dof (F.keepP h3 hw1))

theorem startSelf {E : Engine} (hE : EFrame C P Rel E) (d : Defects) {cx : Ctx} (hcx : C cx) {t : Nat} (ht : T t)
    (sf0 : Rec) (hsf : Q sf0) (w : World) (hw : P w) : Rel w (startSelf E d cx t sf0 w).2 := by
  rw [startSelf_eq]
  obtain ⟨hk, hq⟩ := F.ssGuard hcx ht sf0 hsf w
  generalize Deps.ssGuard cx t sf0 w = g at hk hq
  obtain ⟨sf, w1⟩ := g
  dsimp only at hk hq ⊢
  split
  · refine F.trans hk (F.ownRec _ ht ?_)
    split
    · exact F.qStatic _ t hcx hq
    · exact hq
  · exact F.trans hk (F.ssBuild hE d hcx ht sf hq w1 (F.keepP hk hw))

end ScriptFrame

/-- A frame of whole commands: the contexts of `redo-unlocked`, the dirtiness check, and the jobs on targets of which
`T` is not known. -/
structure EngineFrame (C : Ctx → Prop) (P : World → Prop) (T : Nat → Prop) (A : World → Script → Prop)
    (Q : Rec → Prop) (Rel : World → World → Prop) : Prop extends ScriptFrame C P T A Q Rel where
  oob1 : ∀ {cx}, C cx → ∀ (d : Defects) (t : Nat), C (oobCtx1 d cx t)
  oob2 : ∀ {cx}, C cx → C (oobCtx2 cx)
  parent : ∀ {cx p}, C cx → cx.parent = some p → T p
  dirty : ∀ {cx} fuel t w, C cx → P w → Rel w (shouldBuild cx fuel t w).2
  other : ∀ {cx} E d fuel t w, EFrame C P Rel E → C cx → P w → ¬ T t → Rel w (buildJob E d cx fuel t w).2

/-- A job, from the dirtiness check, `start_self` and the two commands of `redo-unlocked`. -/
theorem buildJob_of_steps {Rel : World → World → Prop} {P : World → Prop} (trans : ∀ {a b c}, Rel a b → Rel b c → Rel a c)
    (keepP : ∀ {w w'}, Rel w w' → P w → P w') {E : Engine} {d : Defects} {cx : Ctx} {fuel t : Nat} {w : World}
    (hw : P w) (check : Rel w (shouldBuild cx fuel t w).2)
    (start : Rel (shouldBuild cx fuel t w).2 (startSelf E d cx t (w.recs t) (shouldBuild cx fuel t w).2).2)
    (first : ∀ ts w1, P w1 → Rel w1 (E.ifchangeCmd (oobCtx1 d cx t) ts w1).2)
    (second : ∀ ts w1, P w1 → Rel w1 (E.ifchangeCmd (oobCtx2 cx) ts w1).2) :
    Rel w (buildJob E d cx fuel t w).2 := by
  fun_cases buildJob E d cx fuel t w with
  | case1 w1 hs | case2 w1 hs | case3 w1 hs =>
    -- nothing but the check
    rwa [hs] at check
  | case4 sf0 w1 hs rv w2 hst | case5 sf0 ts w1 hs _ rv w2 hst =>
    rw [hs] at check start
    rw [show startSelf E d cx t (w.recs t) w1 = (rv, w2) from hst] at start
    exact trans check start
  | case6 ts w1 hs _ ts' w2 h1 sec rv w3 h2 =>
    -- `redo-unlocked`: both commands
    rw [hs] at check
    have a := first ts' w1 (keepP check hw)
    rw [show E.ifchangeCmd (oobCtx1 d cx t) ts' w1 = (0, w2) from h1] at a
    have b := second sec w2 (keepP a (keepP check hw))
    rw [show E.ifchangeCmd (oobCtx2 cx) sec w2 = (rv, w3) from h2] at b
    exact trans (trans check a) b
  | case7 ts w1 hs _ ts' rv w2 _ h1 =>
    -- `redo-unlocked`: the first command fails
    rw [hs] at check
    have a := first ts' w1 (keepP check hw)
    rw [show E.ifchangeCmd (oobCtx1 d cx t) ts' w1 = (rv, w2) from h1] at a
    exact trans check a

/-! ### Commands from jobs -/

section
variable {C : Ctx → Prop} {P : World → Prop} {Rel : World → World → Prop} (refl : ∀ w, Rel w w)
  (trans : ∀ {a b c}, Rel a b → Rel b c → Rel a c) (keepP : ∀ {w w'}, Rel w w' → P w → P w')
  (addKnown : ∀ w f, Rel w (addKnown w f))
include refl trans keepP addKnown

theorem runTargets_of_job {E : Engine} {d : Defects} {cx : Ctx} {fuel : Nat}
    (job : ∀ t w, P w → Rel w (buildJob E d cx fuel t w).2) (ts seen : List Nat) (errored : Bool) (w : World) (hw : P w) :
    Rel w (runTargets E d cx fuel ts seen errored w).2 := by
  fun_induction runTargets E d cx fuel ts seen errored w with
  | case1 seen errored w | case3 t ts seen errored w _ _ => exact refl w
  | case2 t ts seen errored w _ ih => exact ih hw
  | case4 t ts seen errored w _ _ _ => exact addKnown w t
  | case5 t ts seen errored w _ _ w1 _ code w2 hj | case6 t ts seen errored w _ _ w1 _ w2 hj =>
    -- the job ends the command
    have hb := trans (addKnown w t) (job t _ (keepP (addKnown w t) hw))
    rwa [hj] at hb
  | case7 t ts seen errored w _ _ w1 _ rv w2 hj _ ih =>
    have hb := trans (addKnown w t) (job t _ (keepP (addKnown w t) hw))
    rw [hj] at hb
    exact trans hb (ih (keepP hb hw))

/-- `declare`: the rows of the calling script, if the context names one. -/
theorem ifchangeWith_of_job {E : Engine} {d : Defects} {cx : Ctx} {fuel : Nat}
    (declare : ∀ p, cx.parent = some p → ∀ w s, Rel w (addDep w p s true))
    (job : ∀ t w, P w → Rel w (buildJob E d cx fuel t w).2) (ts : List Nat) (w : World) (hw : P w) :
    Rel w (ifchangeWith E d fuel cx ts w).2 :=
  ifchangeWith_cases (P := fun r => Rel w r.2) (fun _ _ _ _ => refl w) fun _ hw' =>
    have h1 := hw' Rel refl trans addKnown fun p hp w s _ => declare p hp w s
    trans h1 (runTargets_of_job refl trans keepP addKnown job ts [] false _ (keepP h1 hw))

/-- A relation that holds across one job, whatever engine runs the nested commands, holds across every nested
command of the real engine. -/
theorem engine_of_job (d : Defects) (declare : ∀ {cx p}, C cx → cx.parent = some p → ∀ w s, Rel w (addDep w p s true))
    (job : ∀ E, EFrame C P Rel E → ∀ cx fuel t w, C cx → P w → Rel w (buildJob E d cx fuel t w).2) :
    ∀ n, EFrame C P Rel (engine d n)
  | 0 => fun _ _ w _ _ => refl w
  | n + 1 => fun cx ts w hcx hw =>
    ifchangeWith_of_job refl trans keepP addKnown (fun _ hp => declare hcx hp)
      (fun t w hw => job _ (engine_of_job d declare job n) cx (n + 1) t w hcx hw) ts w hw

end

namespace EngineFrame
variable {C : Ctx → Prop} {P : World → Prop} {T : Nat → Prop} {A : World → Script → Prop} {Q : Rec → Prop}
  {Rel : World → World → Prop} (F : EngineFrame C P T A Q Rel)
include F

theorem buildJob {E : Engine} (hE : EFrame C P Rel E) (d : Defects) {cx : Ctx} (hcx : C cx) (fuel t : Nat)
    (w : World) (hw : P w) : Rel w (buildJob E d cx fuel t w).2 := by
  by_cases ht : T t
  · have hs := F.dirty fuel t w hcx hw
    exact buildJob_of_steps (Rel := Rel) (P := P) F.trans F.keepP hw hs
      (F.startSelf hE d hcx ht (w.recs t) (F.recs t hw) _ (F.keepP hs hw))
      (fun ts w1 hw1 => hE _ ts w1 (F.oob1 hcx d t) hw1) (fun ts w1 hw1 => hE _ ts w1 (F.oob2 hcx) hw1)
  · exact F.other E d fuel t w hE hcx hw ht

theorem runTargets {E : Engine} (hE : EFrame C P Rel E) (d : Defects) {cx : Ctx} (hcx : C cx) (fuel : Nat) :
    ∀ (ts seen : List Nat) (errored : Bool) (w : World), P w → Rel w (runTargets E d cx fuel ts seen errored w).2 :=
  runTargets_of_job F.refl F.trans F.keepP F.addKnown (fun t w hw => F.buildJob hE d hcx fuel t w hw)

theorem ifchangeWith {E : Engine} (hE : EFrame C P Rel E) (d : Defects) (fuel : Nat) {cx : Ctx} (hcx : C cx)
    (ts : List Nat) (w : World) (hw : P w) : Rel w (ifchangeWith E d fuel cx ts w).2 :=
  ifchangeWith_of_job F.refl F.trans F.keepP F.addKnown (fun _ hp w s => F.addDepM w s (F.parent hcx hp))
    (fun t w hw => F.buildJob hE d hcx fuel t w hw) ts w hw

/-- Every level of the real engine respects the frame, for every defect switch. -/
theorem engine (d : Defects) : ∀ n, EFrame C P Rel (engine d n) :=
  engine_of_job F.refl F.trans F.keepP F.addKnown d (fun hcx hp w s => F.addDepM w s (F.parent hcx hp))
    (fun _ hE _ fuel t w hcx hw => F.buildJob hE d hcx fuel t w hw)

end EngineFrame
/-! ### Invariants of the records -/

def KeepsRecs (Q : Rec → Prop) (w w' : World) : Prop := (∀ f, Q (w.recs f)) → ∀ f, Q (w'.recs f)

theorem KeepsRecs.refl {Q : Rec → Prop} (w : World) : KeepsRecs Q w w := fun h => h

theorem KeepsRecs.trans {Q : Rec → Prop} {a b c : World} (h1 : KeepsRecs Q a b) (h2 : KeepsRecs Q b c) :
    KeepsRecs Q a c := fun h => h2 (h1 h)

theorem KeepsRecs.setRec {Q : Rec → Prop} {w : World} {r : Rec} (f : Nat) (hr : Q r) : KeepsRecs Q w (setRec w f r) := by
  intro h x
  simp only [Deps.setRec]
  split
  · exact hr
  · exact h x

section
variable {Q : Rec → Prop} (row : ∀ {r}, Q r → ∀ n, Q { r with row := n })
include row

theorem KeepsRecs.addKnown (w : World) (f : Nat) : KeepsRecs Q w (addKnown w f) := by
  intro h
  unfold Deps.addKnown
  split
  · exact h
  · exact KeepsRecs.setRec f (row (h f) _) h

theorem KeepsRecs.addDep (w : World) (t s : Nat) (m : Bool) : KeepsRecs Q w (addDep w t s m) :=
  KeepsRecs.addKnown row w s

theorem KeepsRecs.findDoFile (t : Nat) (cs : List Nat) (w : World) : KeepsRecs Q w (findDoFile t cs w).2 :=
  findDoFile_rel KeepsRecs.refl KeepsRecs.trans (fun w c m => KeepsRecs.addDep row w t c m) cs w

end

/-- "Every record satisfies `Q`" is kept by the engine of run `R` when `Q` is kept by the updates the engine applies
to a record. -/
theorem recs_frame {R : Nat} {Q : Rec → Prop}
    (row : ∀ {r}, Q r → ∀ n, Q { r with row := n })
    (getRec : ∀ {w}, (∀ f, Q (w.recs f)) → ∀ f, Q (getRec w R f))
    (always : ∀ {r}, Q r → Q (setChanged { r with stamp := some .missing } R))
    (stampRec : ∀ {r}, Q r → ∀ data, Q (stampRec r R data))
    (unfail : ∀ {r}, Q r → Q { r with isGenerated := false, isOverride := false, failed := some 0 })
    (checked : ∀ {r}, Q r → r.changed ≠ none → Q { r with checked := some R })
    (setOverride : ∀ {r}, Q r → ∀ w f, r.isGenerated = true → readStamp w f ≠ .missing → Q (setOverride w f r R))
    (setStatic : ∀ {r}, Q r → ∀ w f, Q (setStatic w f r R))
    (setFailed : ∀ {r}, Q r → ∀ w f, Q (setFailed w f r R))
    (built : ∀ {w}, (∀ f, Q (w.recs f)) → ∀ t, Q (builtRec w t R)) :
    EngineFrame (fun cx => cx.runid = R) (fun w => ∀ f, Q (w.recs f)) (fun _ => True) (fun _ _ => True) Q
      (KeepsRecs Q) := by
  have hset : ∀ {w : World} {r : Rec} (f : Nat), Q r → KeepsRecs Q w (Deps.setRec w f r) := fun f hr => KeepsRecs.setRec f hr
  have hknown := KeepsRecs.addKnown (Q := Q) row
  have hdep := KeepsRecs.addDep (Q := Q) row
  exact {
    refl := KeepsRecs.refl
    trans := KeepsRecs.trans
    keepP := fun h hw => h hw
    keepA := fun _ _ => trivial
    child := fun hcx _ => hcx
    script := fun _ _ _ => trivial
    recs := fun f hw => hw f
    qStamp := fun data hcx h => by subst hcx; exact stampRec h data
    qOverride := fun w f hcx h hg hs => by subst hcx; exact setOverride h w f hg hs
    qStatic := fun w f hcx h => by subst hcx; exact setStatic h w f
    qFailed := fun w f hcx h => by subst hcx; exact setFailed h w f
    addKnown := hknown
    ownRec := fun _ _ hr h => hset _ hr h
    dofRec := fun w dof hcx _ h => by subst hcx; exact hset dof (setStatic (h dof) w dof) h
    alwaysRec := fun w hcx _ _ h => by subst hcx; exact hset alwaysId (always (h alwaysId)) h
    evWarn := fun _ _ h => h
    evRan := fun _ _ h => h
    zapDeps1 := fun _ _ h => h
    findDo := fun w _ _ => KeepsRecs.findDoFile row _ _ w
    addDepM := fun w s _ => hdep w _ s true
    addDepC := fun w f _ _ _ _ => hdep w _ f false
    record := @fun cx t sf rv out w0 w dof hcx _ hsf _ _ h _ _ h0 => by
      subst hcx
      have hout : ∀ x, Q ((rnsOut t out w).recs x) := by cases out <;> exact h h0
      exact recordNewState_rel (Rel := KeepsRecs Q) KeepsRecs.trans
        (fun _ => hout) (fun h => hset _ (built h _) h) (fun h => hset _ (setFailed hsf w _) h) (h h0)
    oob1 := fun hcx _ _ => hcx
    oob2 := fun hcx => hcx
    parent := fun _ _ => trivial
    dirty := fun fuel t w hcx hw => by
      subst hcx
      exact shouldBuild_writes_on (P := fun w => ∀ f, Q (w.recs f)) (Q := Q) KeepsRecs.refl KeepsRecs.trans
        (fun h hw => h hw) (fun _ f hw => getRec hw f) (fun _ f _ _ hr h => hset f (unfail hr) h)
        (fun _ f _ _ hr _ hc h => hset f (checked hr hc) h) (fun _ _ h => h) fuel t w hw
    other := fun _ _ _ _ _ _ _ _ h => absurd trivial h }

end RedoModel.Deps
