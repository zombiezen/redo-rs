import RedoModel.Deps
/-!
# Kernel evaluation of concrete histories of the `Deps` model

`depsOf` orders the dependency rows with `List.mergeSort`, whose helper `List.merge` is defined by well-founded
recursion on a pair: the kernel cannot unfold it, so `decide` gets stuck on every concrete history in which a
dirtiness check walks recorded dependencies.  This file gives a copy of the part of the engine that sits above
`depsOf`, parameterised by the sorting function (`…P`); with `msort` it *is* the model (`applyOpP_msort`, by `rfl`),
and `msort = isort` (a stable insertion sort by structural recursion, `msort_eq_isort`).  Hence
`applyOp = applyOpP isort` (`applyOp_eq`, `runCmd_eq`), and the right-hand side is evaluated by the kernel.
Everything below `depsOf` (`goDeps`, `startSelf`, `runScript`, `recordNewState`, …) is the model's own code.
-/
namespace RedoModel.Deps.KEval
open RedoModel.Generated

abbrev Sorter := (Dep → Nat) → List Dep → List Dep

def msort : Sorter := fun key l => l.mergeSort (fun a b => key a ≤ key b)

/-- Insert before the first element whose key is not smaller. -/
def ins (key : Dep → Nat) (a : Dep) : List Dep → List Dep
  | [] => [a]
  | b :: bs => if key a ≤ key b then a :: b :: bs else b :: ins key a bs

def isort : Sorter := fun key l => l.foldr (ins key) []

theorem ins_append (key : Dep → Nat) (a : Dep) (l₂ : List Dep) (h2 : ∀ b ∈ l₂, key a ≤ key b) :
    ∀ l₁ : List Dep, (∀ b ∈ l₁, key b < key a) → ins key a (l₁ ++ l₂) = l₁ ++ a :: l₂
  | [], _ => by
    cases l₂ with
    | nil => rfl
    | cons b bs => simp [ins, h2 b (by simp)]
  | c :: l₁, h1 => by
    have hc : ¬ key a ≤ key c := by have := h1 c (by simp); omega
    simp only [List.cons_append, ins, hc, if_false]
    rw [ins_append key a l₂ h2 l₁ (fun b hb => h1 b (by simp [hb]))]

theorem msort_eq_isort (key : Dep → Nat) : ∀ l : List Dep, msort key l = isort key l
  | [] => by simp [msort, isort]
  | a :: l => by
    have ih := msort_eq_isort key l
    have htrans : ∀ (a b c : Dep), decide (key a ≤ key b) = true → decide (key b ≤ key c) = true →
        decide (key a ≤ key c) = true := by
      intro a b c h1 h2; simp only [decide_eq_true_eq] at *; omega
    have htotal : ∀ (a b : Dep), (decide (key a ≤ key b) || decide (key b ≤ key a)) = true := by
      intro a b; simp only [Bool.or_eq_true, decide_eq_true_eq]; omega
    obtain ⟨l₁, l₂, e1, e2, h1⟩ := List.mergeSort_cons (le := fun a b => decide (key a ≤ key b)) htrans htotal a l
    have hs := List.pairwise_mergeSort (le := fun a b => decide (key a ≤ key b)) htrans htotal (a :: l)
    rw [e1] at hs
    have h2 : ∀ b ∈ l₂, key a ≤ key b := by
      intro b hb
      have := (List.pairwise_append.1 hs).2.1
      have := (List.pairwise_cons.1 this).1 b hb
      simpa using this
    have h1' : ∀ b ∈ l₁, key b < key a := by
      intro b hb
      have := h1 b hb
      simp only [Bool.not_eq_true', decide_eq_false_iff_not] at this
      omega
    show (a :: l).mergeSort (fun a b => decide (key a ≤ key b)) = ins key a (isort key l)
    rw [e1, ← ih]
    show _ = ins key a (l.mergeSort (fun a b => decide (key a ≤ key b)))
    rw [e2, ins_append key a l₂ h2 l₁ h1']

theorem msort_eq : msort = isort := by funext key l; exact msort_eq_isort key l

/-! ### The engine above `depsOf`, with the sorting function as a parameter (verbatim copies otherwise) -/

def depsOfP (S : Sorter) (w : World) (r : Rec) (f : Nat) : List Dep :=
  if r.isOverride || !r.isGenerated then []
  else S (fun d => (w.recs d.source).row) (w.deps.filter (fun d => d.target = f))

def depsWithRecsP (S : Sorter) (w : World) (R : Nat) (r : Rec) (f : Nat) : List (Dep × Rec) :=
  (depsOfP S w r f).map (fun d => (d, getRec w R d.source))

def isDirtyP (S : Sorter) (ood : Bool) (R : Nat) : Nat → World → List Nat → Nat → Nat → List Nat → Option Rec → DR × World × List Nat
  | 0, w, cache, _, _, _, _ => (.cyclic, w, cache)
  | fuel + 1, w, cache, f, mx, seen, pre =>
    if f ∈ seen then (.cyclic, w, cache) else
    let r := pre.getD (getRec w R f)
    if r.failed.isSome then (.dirty, w, cache) else
    match r.changed with
    | none => (.dirty, w, cache)
    | some ch =>
      if ch > mx then (.dirty, w, cache) else
      if (if ood then decide (f ∈ cache) else isCheckedR r R) then (.clean, w, cache) else
      match r.stamp with
      | none => (.dirty, w, cache)
      | some old =>
        let new := readStamp w f
        if old ≠ new then
          let w := if new = .missing ∧ r.isGenerated then
              setRec w f { r with isGenerated := false, isOverride := false, failed := some 0 } else w
          (if r.csum.isSome then .need [f] else .dirty, w, cache)
        else
          let mx' := max ch (r.checked.getD 0)
          match goDeps (fun w cache s snap => isDirtyP S ood R fuel w cache s mx' (f :: seen) (some snap)) r.csum.isSome f
              (depsWithRecsP S w R r f) w cache [] with
          | (some dr, w, cache) => (dr, w, cache)
          | (none, w, cache) =>
            let w := if r.isOverride && !ood then ev w (.warnOverride f) else w
            if ood then (.clean, w, f :: cache)
            else (.clean, setRec w f { r with checked := some R }, cache)

def shouldBuildP (S : Sorter) (cx : Ctx) (fuel : Nat) (t : Nat) (w : World) : Option DR × World :=
  if cx.isRedo then (some .dirty, w) else
  let r := getRec w cx.runid t
  if isFailedR r cx.runid then (none, w)
  else
    let (dr, w, _) := isDirtyP S false cx.runid fuel w [] t cx.runid [] none
    let dr := match dr with
      | .need [x] => if x = t then DR.dirty else dr
      | x => x
    (some dr, w)

def buildJobP (S : Sorter) (E : Engine) (d : Defects) (cx : Ctx) (fuel : Nat) (t : Nat) (w : World) : JobResult × World :=
  let sf0 := w.recs t
  match shouldBuildP S cx fuel t w with
  | (none, w) =>
    (if d.failedTargetAbortsRun then .abort EXIT_TARGET_FAILED else .done EXIT_TARGET_FAILED, w)
  | (some .cyclic, w) => (.abort EXIT_CYCLIC_DEPENDENCY, w)
  | (some .clean, w) => (.done 0, w)
  | (some .dirty, w) => let (rv, w) := startSelf E d cx t sf0 w; (.done rv, w)
  | (some (.need ts), w) =>
    if cx.noOob then let (rv, w) := startSelf E d cx t sf0 w; (.done rv, w)
    else
      let ts := if w.oobRev then ts.eraseDups.reverse else ts.eraseDups
      match E.ifchangeCmd { cx with noOob := true, unlocked := false, isRedo := false, cycles := t :: cx.cycles,
                                    parent := if d.oobRecordsDepsOnCaller then cx.parent else none } ts w with
      | (0, w) =>
        let second := if d.oobRebuildsDepsNotTarget then ts else [t]
        let (rv, w) := E.ifchangeCmd { cx with noOob := true, unlocked := true, isRedo := false } second w
        (.done rv, w)
      | (rv, w) => (.done rv, w)

def runTargetsP (S : Sorter) (E : Engine) (d : Defects) (cx : Ctx) (fuel : Nat) :
    List Nat → List Nat → Bool → World → Status × World
  | [], _, errored, w => (if errored then 1 else 0, w)
  | t :: ts, seen, errored, w =>
    if t ∈ seen then runTargetsP S E d cx fuel ts seen errored w else
    if errored && !cx.keepGoing then (1, w) else
    let w := addKnown w t
    if !cx.unlocked && t ∈ cx.cycles then (EXIT_CYCLIC_DEPENDENCY, w) else
    match buildJobP S E d cx fuel t w with
    | (.abort code, w) => (code, w)
    | (.done rv, w) =>
      if rv = CRASHED then (CRASHED, w)
      else runTargetsP S E d cx fuel ts (t :: seen) (errored || rv ≠ 0) w

def ifchangeWithP (S : Sorter) (E : Engine) (d : Defects) (fuel : Nat) (cx : Ctx) (ts : List Nat) (w : World) : Status × World :=
  if (match cx.parent with
      | some p => !cx.unlocked && ts.contains p
      | none => false) then (EXIT_CYCLIC_DEPENDENCY, w) else
  let w := match cx.parent with
    | some p => if cx.unlocked then w else
        let w := addKnown w p
        ts.foldl (fun w t => addDep w p t true) w
    | none => w
  runTargetsP S E d cx fuel ts [] false w

def engineP (S : Sorter) (d : Defects) : Nat → Engine
  | 0 => { ifchangeCmd := fun _ _ w => (EXIT_FAILURE, w) }
  | n + 1 => { ifchangeCmd := fun cx ts w => ifchangeWithP S (engineP S d n) d (n + 1) cx ts w }

def runCmdP (S : Sorter) (d : Defects) (nfiles : Nat) (c : Cmd) (w : World) : Result × World :=
  let (R, w) := allocRun w
  let fuel := 2 * nfiles + 4
  match c with
  | .redo ts kg =>
    let cx : Ctx := { runid := R, keepGoing := kg, isRedo := true }
    let (rv, w) := runTargetsP S (engineP S d fuel) d cx fuel ts [] false w
    ({ status := rv }, w)
  | .ifchange ts kg =>
    let cx : Ctx := { runid := R, keepGoing := kg }
    let (rv, w) := runTargetsP S (engineP S d fuel) d cx fuel ts [] false w
    ({ status := rv }, w)
  | .ood =>
    let tgts := (knownFiles w nfiles).filter (isTarget w R)
    let rec go : List Nat → World → List Nat → List Nat → List Nat × World
      | [], w, _, acc => (acc.reverse, w)
      | f :: fs, w, cache, acc =>
        let (dr, w, cache) := isDirtyP S true R fuel w cache f R [] none
        go fs w cache (if dr = .clean then acc else f :: acc)
    let (l, w') := go tgts w [] []
    ({ status := 0, listing := l }, { w' with recs := w.recs, deps := w.deps, trace := w'.trace })
  | .targets => ({ status := 0, listing := (knownFiles w nfiles).filter (isTarget w R) }, w)
  | .sources => ({ status := 0, listing := (knownFiles w nfiles).filter (isSource w R) }, w)

def applyOpP (S : Sorter) (d : Defects) (nfiles : Nat) (op : UserOp) (w : World) : Option Result × World :=
  match op with
  | .write f v => let (n, w) := newNode w (srcContent v); (none, setFile w f (some n))
  | .remove f => (none, setFile w f none)
  | .chmod f => (none, match w.fs f with
      | some n => setFile w f (some { n with rest := n.rest + 1 })
      | none => w)
  | .hide f => (none, match w.fs f with
      | some n => { setFile w f none with stash := fun x => if x = f then some n else w.stash x }
      | none => w)
  | .unhide f => (none, match w.stash f with
      | some n => { setFile w f (some n) with stash := fun x => if x = f then none else w.stash x }
      | none => w)
  | .setProg c s => (none, { w with progs := fun x => if x = c then some s else w.progs x })
  | .cmd c => let (r, w) := runCmdP S d nfiles c w; (some r, w)
  | .crashCmd ts t k =>
    let (R, w) := allocRun w
    let fuel := 2 * nfiles + 4
    let cx : Ctx := { runid := R, crash := some (t, k) }
    let (rv, w) := runTargetsP S (engineP S d fuel) d cx fuel ts [] false w
    (some { status := rv }, w)

/-! ### With `msort` the copy is the model -/

theorem depsOfP_msort : depsOfP msort = depsOf := rfl
theorem depsWithRecsP_msort : depsWithRecsP msort = depsWithRecs := rfl
theorem isDirtyP_msort : isDirtyP msort = isDirty := by
  funext ood R fuel
  induction fuel with
  | zero => funext w cache f mx seen pre; rfl
  | succ n ih =>
    funext w cache f mx seen pre
    simp only [isDirtyP, isDirty, ih, depsWithRecsP_msort]
    rfl

theorem shouldBuildP_msort : shouldBuildP msort = shouldBuild := by
  funext cx fuel t w
  simp only [shouldBuildP, shouldBuild, isDirtyP_msort]
  rfl

theorem buildJobP_msort : buildJobP msort = buildJob := by
  funext E d cx fuel t w
  simp only [buildJobP, buildJob, shouldBuildP_msort]
  rfl

theorem runTargetsP_msort : runTargetsP msort = runTargets := by
  funext E d cx fuel ts
  induction ts with
  | nil => funext seen errored w; rfl
  | cons t ts ih =>
    funext seen errored w
    simp only [runTargetsP, runTargets, ih, buildJobP_msort]
    rfl

theorem ifchangeWithP_msort : ifchangeWithP msort = ifchangeWith := by
  funext E d fuel cx ts w
  simp only [ifchangeWithP, ifchangeWith, runTargetsP_msort]
  rfl

theorem engineP_msort : engineP msort = engine := by
  funext d n
  induction n with
  | zero => rfl
  | succ n ih => simp only [engineP, engine, ih, ifchangeWithP_msort]

theorem runCmdP_go_msort (R fuel : Nat) : runCmdP.go msort R fuel = runCmd.go R fuel := by
  funext fs
  induction fs with
  | nil => funext w cache acc; rfl
  | cons f fs ih =>
    funext w cache acc
    simp only [runCmdP.go, runCmd.go, ih, isDirtyP_msort]

theorem runCmdP_msort : runCmdP msort = runCmd := by
  funext d nfiles c w
  simp only [runCmdP, runCmd, runTargetsP_msort, engineP_msort, runCmdP_go_msort]
  rfl

theorem applyOpP_msort : applyOpP msort = applyOp := by
  funext d nfiles op w
  simp only [applyOpP, applyOp, runTargetsP_msort, engineP_msort, runCmdP_msort]
  rfl

/-- **The model, in a form the kernel can evaluate.** -/
theorem applyOp_eq : applyOp = applyOpP isort := by rw [← msort_eq, applyOpP_msort]
theorem runCmd_eq : runCmd = runCmdP isort := by rw [← msort_eq, runCmdP_msort]
theorem isDirty_eq : isDirty = isDirtyP isort := by rw [← msort_eq, isDirtyP_msort]
theorem shouldBuild_eq : shouldBuild = shouldBuildP isort := by rw [← msort_eq, shouldBuildP_msort]

end RedoModel.Deps.KEval

/-- Decides a closed statement about concrete runs of the model: once the definitions naming the history are
unfolded, the engine is put into the form the kernel can run, and the kernel evaluates.  (An equation between
tuples is split first: instance search gives up on `DecidableEq` of a long product.) -/
macro "eval_model" : tactic => `(tactic|
  (simp only [RedoModel.Deps.KEval.runCmd_eq, RedoModel.Deps.KEval.applyOp_eq, RedoModel.Deps.KEval.isDirty_eq,
     RedoModel.Deps.KEval.shouldBuild_eq, Prod.mk.injEq]
   decide +kernel))
