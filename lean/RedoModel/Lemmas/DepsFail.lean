import RedoModel.Lemmas.DepsCycleFail
import RedoModel.Lemmas.DepsIfcreate
import RedoModel.Lemmas.DepsWF
import RedoModel.Lemmas.DepsNoNewFail
/-! Failures: recorded, propagated to every enclosing command, retried in the next run. -/
namespace RedoModel.Deps
open RedoModel.Generated

/-! ### C05 at the level of whole commands: a failing job is recorded; a failed target is not run twice -/

/-! ### A job whose own `start_self` ends non-zero records the failure -/

/-- `start_self` records a non-zero status that is not the kill's as `failed := R`. -/
theorem startSelf_failed (E : Engine) (d : Defects) (cx : Ctx) (t : Nat) (sf0 : Rec) (w : World)
    (h0 : (startSelf E d cx t sf0 w).1 ≠ 0) (hc : (startSelf E d cx t sf0 w).1 ≠ CRASHED) :
    ((startSelf E d cx t sf0 w).2.recs t).failed = some cx.runid := by
  revert h0 hc
  fun_cases startSelf E d cx t sf0 w with
  | case1 | case2 => exact fun h => absurd rfl h
  | case3 => exact fun _ _ => by simp +zetaDelta [setRec, setFailed]
  | case4 => exact fun _ h => absurd rfl h
  | case5 => exact fun h _ => recordNewState_failed _ _ _ _ _ _ h

/-- A job that ran its own `start_self` and ended non-zero (the .do exited non-zero, one
of its nested commands did, or there was no .do) leaves its target recorded as failed in this run. -/
theorem buildJob_failed (E : Engine) (d : Defects) (cx : Ctx) (fuel t : Nat) (w w1 w' : World) (dr : DR) (rv : Status)
    (hs : shouldBuild cx fuel t w = (some dr, w1)) (ho : OwnStart cx dr)
    (hb : buildJob E d cx fuel t w = (.done rv, w')) (h0 : rv ≠ 0) (hc : rv ≠ CRASHED) :
    (w'.recs t).failed = some cx.runid := by
  rw [buildJob_ownStart E d cx fuel t w w1 dr hs ho] at hb
  cases hb
  exact startSelf_failed E d cx t _ w1 h0 hc

/-- A recorded failure is found dirty by every later check — of this run or any other,
with any bound `mx`, by `redo-ifchange` and by `redo-ood` — as long as the record stands. -/
theorem failed_dirty_later (ood : Bool) (R' n : Nat) (w : World) (c : List Nat) (p mx : Nat) (seen : List Nat) (R : Nat)
    (hf : (w.recs p).failed = some R) (hs : p ∉ seen) :
    isDirty ood R' (n + 1) w c p mx seen none = (.dirty, w, c) :=
  isDirty_record_dirty ood R' n w c p mx seen none hs (.inl (by show (getRec w R' p).failed.isSome = true; rw [getRec_failed_eq, hf]; rfl))

/-! ### A target that failed in this run is not run a second time -/

/-- The single-target loop on a target that already failed in this run: job result 32, command status 1
(or 208 when the target is an ancestor), no event. -/
theorem runTargets_failed_single (E : Engine) (d : Defects) (cx : Ctx) (fuel t : Nat) (w : World)
    (hd : d.failedTargetAbortsRun = false) (hr : cx.isRedo = false) (hf : FailedNow cx.runid w t) :
    ((runTargets E d cx fuel [t] [] false w).1 = 1 ∨ (runTargets E d cx fuel [t] [] false w).1 = EXIT_CYCLIC_DEPENDENCY) ∧
    (runTargets E d cx fuel [t] [] false w).2 = addKnown w t := by
  have hf' : isFailedR (getRec (addKnown w t) cx.runid t) cx.runid = true := by
    rw [isFailedR_getRec]
    exact (FailedNow.congr (addKnown_failed w t t)).2 hf
  have hj := buildJob_failed_before E d cx fuel t (addKnown w t) hd hr hf'
  rw [runTargets]
  simp only [List.not_mem_nil, if_false, Bool.false_and, Bool.false_eq_true]
  split
  · exact ⟨Or.inr rfl, rfl⟩
  · rw [hj]
    simp [EXIT_TARGET_FAILED, CRASHED, runTargets]

/-- `redo-ifchange t` (nested or top level, any engine) for a target that already failed in this run:
the status is 1 (208 when `t` is an ancestor or the requester itself) and no event is added to the trace:
neither `t` nor anything else is executed. -/
theorem ifchangeWith_failed_single (E : Engine) (d : Defects) (fuel : Nat) (cx : Ctx) (t : Nat) (w : World)
    (hd : d.failedTargetAbortsRun = false) (hr : cx.isRedo = false) (hf : FailedNow cx.runid w t) :
    ((ifchangeWith E d fuel cx [t] w).1 = 1 ∨ (ifchangeWith E d fuel cx [t] w).1 = EXIT_CYCLIC_DEPENDENCY) ∧
    (ifchangeWith E d fuel cx [t] w).2.trace = w.trace := by
  refine ifchangeWith_cases (P := fun r => (r.1 = 1 ∨ r.1 = EXIT_CYCLIC_DEPENDENCY) ∧ r.2.trace = w.trace)
    (fun _ _ _ _ => ⟨.inr rfl, rfl⟩) fun w2 hw => ?_
  -- registering the parent and its rows touches neither the failure mark of `t` nor the trace
  obtain ⟨e1, e2⟩ := hw (fun a b => (b.recs t).failed = (a.recs t).failed ∧ b.trace = a.trace) (fun _ => ⟨rfl, rfl⟩)
    (fun h1 h2 => ⟨h2.1.trans h1.1, h2.2.trans h1.2⟩) (fun w f => ⟨addKnown_failed w f t, addKnown_trace w f⟩)
    (fun p _ w s _ => ⟨addDep_failed w p s true t, addDep_trace w p s true⟩)
  obtain ⟨h1, h2⟩ := runTargets_failed_single E d cx fuel t w2 hd hr ((FailedNow.congr e1).2 hf)
  exact ⟨h1, by rw [h2, addKnown_trace, e2]⟩

theorem engine_failed_single (d : Defects) (n : Nat) (cx : Ctx) (t : Nat) (w : World)
    (hd : d.failedTargetAbortsRun = false) (hr : cx.isRedo = false) (hf : FailedNow cx.runid w t) :
    ((engine d n).ifchangeCmd cx [t] w).1 ≠ 0 ∧ ((engine d n).ifchangeCmd cx [t] w).2.trace = w.trace := by
  cases n with
  | zero => exact ⟨by simp [engine, EXIT_FAILURE], rfl⟩
  | succ n =>
    obtain ⟨h1, h2⟩ := ifchangeWith_failed_single (engine d n) d (n + 1) cx t w hd hr hf
    refine ⟨?_, h2⟩
    show (ifchangeWith (engine d n) d (n + 1) cx [t] w).1 ≠ 0
    rcases h1 with h | h <;> rw [h] <;> simp [EXIT_CYCLIC_DEPENDENCY]

/-- … in `RanIn` terms: nothing at all is executed by that request. -/
theorem engine_failed_single_noRan (d : Defects) (n : Nat) (cx : Ctx) (t : Nat) (w : World)
    (hd : d.failedTargetAbortsRun = false) (hr : cx.isRedo = false) (hf : FailedNow cx.runid w t) (x : Nat) :
    ¬ RanIn x w ((engine d n).ifchangeCmd cx [t] w).2 := by
  rintro ⟨pre, he, hm⟩
  rw [(engine_failed_single d n cx t w hd hr hf).2] at he
  have : pre = [] := by
    have := congrArg List.length he
    rw [List.length_append] at this
    exact List.eq_nil_of_length_eq_zero (by omega)
  subst this
  cases hm

/-! ### C05 at the level of whole commands: the target loop, prefix by prefix (`--keep-going` or not) -/

/-- Without `--keep-going`, once a failure is known nothing more is done, whatever targets remain. -/
theorem runTargets_errored_nokg (E : Engine) (d : Defects) (cx : Ctx) (fuel : Nat) (hk : cx.keepGoing = false) :
    ∀ (ts seen : List Nat) (w : World), runTargets E d cx fuel ts seen true w = (1, w)
  | [], _, _ => by rw [runTargets]; rfl
  | t :: ts, seen, w => by
    rw [runTargets_cons]
    split
    · exact runTargets_errored_nokg E d cx fuel hk ts seen w
    · simp [hk]

/-- With the defect switch off, a job aborts the run only with the cyclic status. -/
theorem buildJob_abort_cyclic (E : Engine) (d : Defects) (cx : Ctx) (fuel t : Nat) (w0 : World) (code : Status) (w1 : World)
    (hd : d.failedTargetAbortsRun = false) (h : buildJob E d cx fuel t w0 = (.abort code, w1)) :
    code = EXIT_CYCLIC_DEPENDENCY := by
  revert h
  fun_cases buildJob E d cx fuel t w0 with
  | case1 => rw [hd]; nofun
  | case2 => exact fun h => by cases h; rfl
  | case3 | case4 | case5 | case6 | case7 => nofun

/-- The ways the loop can end before the end of the list. -/
def Stopped (d : Defects) (cx : Ctx) (s : Status) : Prop :=
  (cx.keepGoing = false ∧ s = 1) ∨ s = EXIT_CYCLIC_DEPENDENCY ∨
  (d.failedTargetAbortsRun = true ∧ s = EXIT_TARGET_FAILED) ∨ s = CRASHED

theorem Stopped.ne_zero {d : Defects} {cx : Ctx} {s : Status} (h : Stopped d cx s) : s ≠ 0 := by
  rcases h with ⟨_, h⟩ | h | ⟨_, h⟩ | h <;> subst h <;> simp [EXIT_CYCLIC_DEPENDENCY, EXIT_TARGET_FAILED, CRASHED]

/-- The loop went through the whole prefix `ts₁`: what it knows at that point. -/
def Completed (E : Engine) (d : Defects) (cx : Ctx) (fuel : Nat) (ts₁ seen : List Nat) (e : Bool) (w : World) : Prop :=
  ∃ (seen' : List Nat) (e' : Bool) (w₁ : World), (∀ x, x ∈ seen' ↔ x ∈ ts₁ ∨ x ∈ seen) ∧ (e = true → e' = true) ∧
    runTargets E d cx fuel ts₁ seen e w = ((if e' then 1 else 0), w₁) ∧
    ∀ ts₂, runTargets E d cx fuel (ts₁ ++ ts₂) seen e w = runTargets E d cx fuel ts₂ seen' e' w₁

/-- **The loop, prefix by prefix.**  Either the loop went through all of `ts₁` and carries on with the rest of
the list from the world it reached, or it stopped inside `ts₁` for one of the four reasons of `Stopped`, and
then what follows `ts₁` is irrelevant. -/
theorem runTargets_append (E : Engine) (d : Defects) (cx : Ctx) (fuel : Nat) (ts₁ seen : List Nat) (e : Bool) (w : World) :
      Completed E d cx fuel ts₁ seen e w ∨
      (Stopped d cx (runTargets E d cx fuel ts₁ seen e w).1 ∧
        ∀ ts₂, runTargets E d cx fuel (ts₁ ++ ts₂) seen e w = runTargets E d cx fuel ts₁ seen e w) := by
  fun_induction runTargets E d cx fuel ts₁ seen e w with
  | case1 seen e w => exact .inl ⟨seen, e, w, by simp, id, by rw [runTargets], fun _ => rfl⟩
  | case2 t ts seen e w hs ih =>
    -- a target met before is skipped, whatever follows
    have hstep : ∀ l, runTargets E d cx fuel (t :: l) seen e w = runTargets E d cx fuel l seen e w :=
      fun l => by rw [runTargets_cons, if_pos hs]
    refine ih.imp (fun ⟨seen', e', w₁, hm, he, hr, hrest⟩ => ⟨seen', e', w₁, fun x => ?_, he, (hstep ts).trans hr,
      fun ts₂ => (hstep _).trans (hrest ts₂)⟩) (fun ⟨hst, hrest⟩ => ⟨hst, fun ts₂ => (hstep _).trans (hrest ts₂)⟩)
    simp only [hm x, List.mem_cons, or_assoc]
    exact ⟨.inr, fun h => h.elim (fun e1 => .inr (e1 ▸ hs)) id⟩
  | case3 t ts seen e w hs hek =>
    -- a failure is known and `--keep-going` is off
    have hk : cx.keepGoing = false := by simpa using (Bool.and_eq_true_iff.1 hek).2
    exact .inr ⟨.inl ⟨hk, rfl⟩, fun ts₂ => by rw [List.cons_append, runTargets_cons, if_neg hs, if_pos hek]⟩
  | case4 t ts seen e w hs hek w1 hcy =>
    exact .inr ⟨.inr (.inl rfl), fun ts₂ => by rw [List.cons_append, runTargets_cons, if_neg hs, if_neg hek, if_pos hcy]⟩
  | case5 t ts seen e w hs hek w1 hcy code w2 hj =>
    refine .inr ⟨?_, fun ts₂ => by rw [List.cons_append, runTargets_cons, if_neg hs, if_neg hek, if_neg hcy, hj]⟩
    -- a job aborts the run with 208, or with 32 under the defect
    rcases buildJob_abort_code E d cx fuel t _ code w2 hj with h | h
    · cases hd : d.failedTargetAbortsRun with
      | true => exact .inr (.inr (.inl ⟨hd, h⟩))
      | false => exact .inr (.inl (buildJob_abort_cyclic E d cx fuel t _ code w2 hd hj))
    · exact .inr (.inl h)
  | case6 t ts seen e w hs hek w1 hcy w2 hj =>
    exact .inr ⟨.inr (.inr (.inr rfl)), fun ts₂ => by
      rw [List.cons_append, runTargets_cons, if_neg hs, if_neg hek, if_neg hcy, hj]; rfl⟩
  | case7 t ts seen e w hs hek w1 hcy rv w2 hj hnc ih =>
    have hstep : ∀ l, runTargets E d cx fuel (t :: l) seen e w =
        runTargets E d cx fuel l (t :: seen) (e || decide (rv ≠ 0)) w2 := fun l => by
      rw [runTargets_cons, if_neg hs, if_neg hek, if_neg hcy, hj]
      exact if_neg hnc
    refine ih.imp (fun ⟨seen', e', w₁, hm, he, hr, hrest⟩ => ⟨seen', e', w₁, fun x => ?_, fun h => he (by simp [h]),
      (hstep ts).trans hr, fun ts₂ => (hstep _).trans (hrest ts₂)⟩)
      (fun ⟨hst, hrest⟩ => ⟨hst, fun ts₂ => (hstep _).trans (hrest ts₂)⟩)
    simp only [hm x, List.mem_cons, or_assoc, or_left_comm]
/-- A prefix whose loop returns 0 was gone through entirely, without any failure. -/
theorem runTargets_prefix_zero (E : Engine) (d : Defects) (cx : Ctx) (fuel : Nat) (ts₁ seen : List Nat) (e : Bool)
    (w w₁ : World) (hp : runTargets E d cx fuel ts₁ seen e w = (0, w₁)) :
    ∃ seen', (∀ x, x ∈ seen' ↔ x ∈ ts₁ ∨ x ∈ seen) ∧
      ∀ ts₂, runTargets E d cx fuel (ts₁ ++ ts₂) seen e w = runTargets E d cx fuel ts₂ seen' false w₁ := by
  rcases runTargets_append E d cx fuel ts₁ seen e w with ⟨seen', e', w₁', hm, _, hr, hrest⟩ | ⟨hst, _⟩
  · rw [hp] at hr
    cases e' with
    | true => simp at hr
    | false =>
      simp only [Bool.false_eq_true, if_false, Prod.mk.injEq, true_and] at hr
      subst hr
      exact ⟨seen', hm, hrest⟩
  · rw [hp] at hst
    exact absurd rfl hst.ne_zero

/-! ### C05 at the level of whole commands: a failing .do at the bottom of a chain fails every level above -/

/-- A script whose last command is `exit k`, `k ≠ 0`, never ends with status 0 (it ends with `k`, or earlier
with the status of the first failing command). -/
theorem runScript_exit_nonzero (E : Engine) (d : Defects) (cx : Ctx) (t : Nat) (sc : Script) (w : World)
    (hx : sc.exit ≠ 0) : (runScript E d cx t sc w).1 ≠ 0 := by
  fun_cases runScript E d cx t sc w with
  | case1 | case4 => simp
  | case2 | case3 =>
    -- the status of the command that failed
    assumption
  | case5 => simp [CRASHED]
  | case6 => exact fun h => hx (Int.ofNat.inj h)

/-- `b` must be run (missing; never built, or failed when last built) and its .do ends with a non-zero `exit`. -/
def Failing (w : World) (b : Nat) : Prop :=
  b ≠ alwaysId ∧ w.fs b = none ∧ ((w.recs b).failed.isSome = true ∨ (w.recs b).changed = none) ∧
  ∃ dof n sc, (w.rules b).find? (existsF w) = some dof ∧ w.fs dof = some n ∧
    w.progs n.content = some sc ∧ sc.exit ≠ 0

theorem Failing.mono {w w' : World} {b : Nat} (h : Failing w b) (hd : Desc w w') : Failing w' b := by
  obtain ⟨h0, hm, hds, dof, n, sc, h1, h2, h3, h4⟩ := h
  obtain ⟨d1, d2, d3, d4⟩ := hd
  have hr := d4 b h0 hm
  refine ⟨h0, by rw [d1]; exact hm, by rw [hr.1, hr.2]; exact hds,
    dof, n, sc, ?_, by rw [d1]; exact h2, by rw [d2]; exact h3, h4⟩
  rw [d3, Desc.existsF ⟨d1, d2, d3, d4⟩]; exact h1

/-- **The bottom of the chain**: the job of such a target never ends with 0. -/
theorem buildJob_failing (E : Engine) (d : Defects) (cx : Ctx) (fuel b : Nat) (w : World)
    (hF : Failing w b) (hfuel : 0 < fuel) :
    ∀ rv w1, buildJob E d cx fuel b w = (.done rv, w1) → rv ≠ 0 := by
  obtain ⟨h0, hm, hds, dof, n, sc, h1, h2, h3, h4⟩ := hF
  suffices hss : (ssBuild E d cx b (w.recs b) w).1 ≠ 0 by
    intro rv w1 hb
    unfold buildJob at hb
    rcases shouldBuild_ds cx fuel b w h0 hds hfuel with hsb | hsb
    · simp only [hsb, startSelf_missing E d cx b _ w hm] at hb
      cases hb
      exact hss
    · simp only [hsb] at hb
      split at hb
      · cases hb
      · cases hb
        simp [EXIT_TARGET_FAILED]
  · have hz := Desc.zapDeps1 w b
    have hfd := findDoFile_spec b ((zapDeps1 w b).rules b) (zapDeps1 w b)
    generalize hfe : findDoFile b ((zapDeps1 w b).rules b) (zapDeps1 w b) = r at hfd
    obtain ⟨o, w1⟩ := r
    obtain ⟨ho, hd1⟩ := hfd
    dsimp only at ho hd1
    have hdof : o = some dof := by
      rw [ho, hz.2.2.1, hz.existsF]; exact h1
    subst hdof
    have hw1 : Desc w w1 := hz.trans hd1
    have hdofex : w1.fs dof ≠ none := by rw [hw1.1, h2]; simp
    have hpre : Desc w (ssPre cx b dof w1) :=
      (hw1.trans (Desc.setRec w1 dof _ (Or.inr hdofex))).trans (Desc.ev _ _)
    have hsc : doScript (ssPre cx b dof w1) dof = sc := by
      unfold doScript
      rw [hpre.1, h2]
      dsimp only
      rw [hpre.2.1, h3]
      rfl
    apply ssBuild_nonzero E d cx b (w.recs b) w dof w1 hfe
    rw [hsc]
    exact runScript_exit_nonzero E d cx b sc _ h4

/-- A chain `ch 0 → ch 1 → … → ch k`: every `ch i` (`i < k`) is forced to run and its script starts by asking
for `ch (i+1)`; the .do of `ch k` exits non-zero. -/
structure FailChain (w0 : World) (ch : Nat → Nat) (k : Nat) : Prop where
  forced : ∀ i, i < k → Forced w0 (ch i) (ch (i + 1))
  bottom : Failing w0 (ch k)

/-! ### The failed target is executed again by the next run -/

theorem finishS_snd (x : JobResult × World) : (finishS x).2 = x.2 := by
  obtain ⟨jr, w⟩ := x
  cases jr <;> rfl

/-- A failure recorded by an earlier run (`R0 ≤ runCounter`) does not answer 32 and is found dirty. -/
theorem shouldBuild_failed_earlier (cx : Ctx) (n t : Nat) (w : World) (R0 : Nat) (hr : cx.isRedo = false)
    (hf : (w.recs t).failed = some R0) (hlt : R0 < cx.runid) :
    shouldBuild cx (n + 1) t w = (some .dirty, w) := by
  unfold shouldBuild
  have h1 : isFailedR (getRec w cx.runid t) cx.runid = false := by
    unfold isFailedR
    rw [getRec_failed_eq, hf]
    simp only [Bool.and_eq_false_imp, decide_eq_false_iff_not]
    intro _; omega
  simp only [hr, Bool.false_eq_true, if_false, h1]
  rw [failed_dirty_later false cx.runid n w [] t cx.runid [] R0 hf (by simp)]

/-- At the start of a run nothing is failed-in-this-run (the run id is fresh). -/
theorem fresh_no_failed {w : World} (hwf : WF w) (t : Nat) :
    ¬ FailedNow (w.runCounter + 1) { w with runCounter := w.runCounter + 1 } t := by
  unfold FailedNow isFailedR
  dsimp only
  cases hf : (w.recs t).failed with
  | none => simp
  | some c =>
    have := (hwf t).2.2 c hf
    simp only [Bool.and_eq_true, bne_iff_ne, ne_eq, decide_eq_true_eq, not_and]
    intro _; omega

end RedoModel.Deps
