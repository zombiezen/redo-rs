import RedoModel.Lemmas.Deps
/-!
# C12 — the fuel of the dirtiness check is an artefact

With all file ids below `N` (`DepsBelow`), `isDirty` and the walk of `redo-ood` built on it give the same answer for every
fuel above `N`.  The same walk over `isDirty` shows that a `need` list names walked files only, and that a project
without checksums never gets a `need` verdict (`NoCsum`).
-/
namespace RedoModel.Deps
open RedoModel.Generated

/-!
# C12 — fuel: `isDirty`

`isDirty` is structurally recursive on a fuel argument whose `0` case answers `.cyclic`.  Every
recursive call adds the file under examination to `seen`, and a file already in `seen` is answered at
once.  With all file ids below `N` the recursion depth is therefore at most `N - seen.length + 1` and
the answer of the `0` case is never looked at: replacing it by *anything* (`isDirtyFrom base`) does not
change the result.
-/

theorem fresh_room {N f : Nat} {seen : List Nat} (hf : f < N) (hns : f ∉ seen) (hnd : seen.Nodup)
    (hb : ∀ x ∈ seen, x < N) : seen.length + 1 ≤ N := by
  have := nodup_length_le (n := N) (List.nodup_cons.2 ⟨hns, hnd⟩) (by
    intro x hx
    rcases List.mem_cons.1 hx with e | e
    · exact e ▸ hf
    · exact hb x e)
  simpa using this

def DepsBelow (N : Nat) (w : World) : Prop := ∀ d ∈ w.deps, d.source < N

theorem DepsBelow.of_same {N : Nat} {w w' : World} (h : SameButRecs w w') (hb : DepsBelow N w) : DepsBelow N w' := by
  intro d hd
  rw [h.2.1] at hd
  exact hb d hd

theorem depsWithRecs_below {N : Nat} {w : World} (hb : DepsBelow N w) (R : Nat) (r : Rec) (f : Nat) :
    ∀ p ∈ depsWithRecs w R r f, p.1.source < N := by
  intro p hp
  obtain ⟨d, hd, rfl⟩ := List.mem_map.1 hp
  exact hb d (mem_depsOf_mem_deps hd)


theorem goDeps_congr (N : Nat) (chk1 chk2 : World → List Nat → Nat → Rec → DR × World × List Nat)
    (hfr : ∀ w c s r, SameButRecs w (chk2 w c s r).2.1)
    (h : ∀ w c s r, DepsBelow N w → s < N → chk1 w c s r = chk2 w c s r) (hasCsum : Bool) (f : Nat) :
    ∀ (ds : List (Dep × Rec)) (w : World) (cache must : List Nat), DepsBelow N w → (∀ p ∈ ds, p.1.source < N) →
      goDeps chk1 hasCsum f ds w cache must = goDeps chk2 hasCsum f ds w cache must
  | [], w, cache, must, _, _ => by simp [goDeps]
  | (d, snap) :: ds, w, cache, must, hb, hs => by
    have hd : d.source < N := hs (d, snap) (by simp)
    have hs' : ∀ p ∈ ds, p.1.source < N := fun p hp => hs p (by simp [hp])
    rw [goDeps, goDeps]
    by_cases hm : d.modeM = true
    · simp only [hm, if_true]
      rw [h w cache d.source snap hb hd]
      have h1 := hfr w cache d.source snap
      generalize chk2 w cache d.source snap = r at h1
      obtain ⟨sub, w1, c1⟩ := r
      have hb1 : DepsBelow N w1 := hb.of_same h1
      cases sub with
      | cyclic => rfl
      | clean => exact goDeps_congr N chk1 chk2 hfr h hasCsum f ds w1 c1 must hb1 hs'
      | dirty => rfl
      | need ts => exact goDeps_congr N chk1 chk2 hfr h hasCsum f ds w1 c1 (must ++ ts) hb1 hs'
    · simp only [hm, Bool.false_eq_true, if_false]
      split
      · rfl
      · exact goDeps_congr N chk1 chk2 hfr h hasCsum f ds w cache must hb hs'
      · rfl
      · exact goDeps_congr N chk1 chk2 hfr h hasCsum f ds w cache _ hb hs'

theorem isDirtyStep_seen (ood : Bool) (R : Nat) (rec) (w : World) (cache : List Nat) (f mx : Nat) (seen : List Nat)
    (pre : Option Rec) (h : f ∈ seen) : isDirtyStep ood R rec w cache f mx seen pre = (.cyclic, w, cache) := by
  simp [isDirtyStep, h]

theorem isDirtyStep_congr (ood : Bool) (R : Nat) (rec1 rec2) (w : World) (cache : List Nat) (f mx : Nat)
    (seen : List Nat) (pre : Option Rec)
    (hg : ∀ mx' hc r, goDeps (fun w cache s snap => rec1 w cache s mx' (f :: seen) (some snap)) hc f
          (depsWithRecs w R r f) w cache [] =
        goDeps (fun w cache s snap => rec2 w cache s mx' (f :: seen) (some snap)) hc f
          (depsWithRecs w R r f) w cache []) :
    isDirtyStep ood R rec1 w cache f mx seen pre = isDirtyStep ood R rec2 w cache f mx seen pre := by
  unfold isDirtyStep
  simp only [hg]

def isDirtyFrom (base : World → List Nat → Nat → Nat → List Nat → Option Rec → DR × World × List Nat)
    (ood : Bool) (R : Nat) : Nat → World → List Nat → Nat → Nat → List Nat → Option Rec → DR × World × List Nat
  | 0 => base
  | n + 1 => isDirtyStep ood R (isDirtyFrom base ood R n)

theorem isDirty_eq_from (ood : Bool) (R : Nat) : ∀ n,
    isDirty ood R n = isDirtyFrom (fun w c _ _ _ _ => (.cyclic, w, c)) ood R n
  | 0 => by
    funext w c f mx seen pre
    rfl
  | n + 1 => by
    funext w c f mx seen pre
    rw [isDirty_succ, isDirty_eq_from ood R n]
    rfl

/-- **The base case is never consulted.** -/
theorem isDirtyFrom_eq_isDirty (base) (ood : Bool) (R N : Nat) :
    ∀ (n1 n2 : Nat) (w : World) (cache : List Nat) (f mx : Nat) (seen : List Nat) (pre : Option Rec),
      DepsBelow N w → f < N → seen.Nodup → (∀ x ∈ seen, x < N) →
      N - seen.length + 1 ≤ n1 → N - seen.length + 1 ≤ n2 →
      isDirtyFrom base ood R n1 w cache f mx seen pre = isDirty ood R n2 w cache f mx seen pre
  | 0, _, _, _, _, _, _, _, _, _, _, _, h1, _ => by omega
  | _, 0, _, _, _, _, _, _, _, _, _, _, _, h2 => by omega
  | k1 + 1, k2 + 1, w, cache, f, mx, seen, pre, hb, hf, hnd, hsb, h1, h2 => by
    rw [isDirty_succ]
    show isDirtyStep ood R (isDirtyFrom base ood R k1) w cache f mx seen pre = _
    by_cases hfs : f ∈ seen
    · rw [isDirtyStep_seen _ _ _ _ _ _ _ _ _ hfs, isDirtyStep_seen _ _ _ _ _ _ _ _ _ hfs]
    · have hroom := fresh_room hf hfs hnd hsb
      apply isDirtyStep_congr
      intro mx' hc r
      refine goDeps_congr N _ _ (fun w c s r => isDirty_frame ood R k2 w c s _ _ _) ?_ hc f _ w cache [] hb
        (depsWithRecs_below hb R r f)
      intro w' c s snap hb' hs
      refine isDirtyFrom_eq_isDirty base ood R N k1 k2 w' c s mx' (f :: seen) (some snap) hb' hs
        (List.nodup_cons.2 ⟨hfs, hnd⟩) ?_ ?_ ?_
      · intro x hx
        rcases List.mem_cons.1 hx with e | e
        · exact e ▸ hf
        · exact hsb x e
      · simp only [List.length_cons]; omega
      · simp only [List.length_cons]; omega

theorem isDirty_fuel_irrelevant (ood : Bool) (R N : Nat) (fuel k : Nat) (w : World) (cache : List Nat) (f mx : Nat)
    (seen : List Nat) (pre : Option Rec)
    (hb : DepsBelow N w) (hf : f < N) (hnd : seen.Nodup) (hsb : ∀ x ∈ seen, x < N)
    (hfuel : N - seen.length + 1 ≤ fuel) :
    isDirty ood R fuel w cache f mx seen pre = isDirty ood R (fuel + k) w cache f mx seen pre := by
  rw [isDirty_eq_from ood R fuel]
  exact isDirtyFrom_eq_isDirty _ ood R N fuel (fuel + k) w cache f mx seen pre hb hf hnd hsb hfuel (by omega)

theorem isDirty_fuel_eq (ood : Bool) (R N : Nat) (n1 n2 : Nat) (w : World) (cache : List Nat) (f mx : Nat)
    (seen : List Nat) (pre : Option Rec)
    (hb : DepsBelow N w) (hf : f < N) (hnd : seen.Nodup) (hsb : ∀ x ∈ seen, x < N)
    (h1 : N - seen.length + 1 ≤ n1) (h2 : N - seen.length + 1 ≤ n2) :
    isDirty ood R n1 w cache f mx seen pre = isDirty ood R n2 w cache f mx seen pre := by
  rw [isDirty_eq_from ood R n1]
  exact isDirtyFrom_eq_isDirty _ ood R N n1 n2 w cache f mx seen pre hb hf hnd hsb h1 h2


/-! ### The `need` list only names walked files -/

def DRBelow (N : Nat) : DR → Prop
  | .need ts => ∀ x ∈ ts, x < N
  | _ => True

theorem goDeps_below (N : Nat) (chk : World → List Nat → Nat → Rec → DR × World × List Nat)
    (hfr : ∀ w c s r, SameButRecs w (chk w c s r).2.1)
    (h : ∀ w c s r, DepsBelow N w → s < N → DRBelow N (chk w c s r).1) (hasCsum : Bool) (f : Nat) (hf : f < N) :
    ∀ (ds : List (Dep × Rec)) (w : World) (cache must : List Nat), DepsBelow N w → (∀ p ∈ ds, p.1.source < N) →
      (∀ x ∈ must, x < N) → ∀ dr, (goDeps chk hasCsum f ds w cache must).1 = some dr → DRBelow N dr
  | [], w, cache, must, _, _, hm, dr, he => by
    rw [goDeps] at he
    dsimp only at he
    split at he
    · cases he
    · cases he; exact hm
  | (d, snap) :: ds, w, cache, must, hb, hs, hm, dr, he => by
    have hd : d.source < N := hs (d, snap) (by simp)
    have hs' : ∀ p ∈ ds, p.1.source < N := fun p hp => hs p (by simp [hp])
    rw [goDeps] at he
    by_cases hmo : d.modeM = true
    · simp only [hmo, if_true] at he
      have h1 := hfr w cache d.source snap
      have h2 := h w cache d.source snap hb hd
      generalize chk w cache d.source snap = r at h1 h2 he
      obtain ⟨sub, w1, c1⟩ := r
      have hb1 : DepsBelow N w1 := hb.of_same h1
      cases sub with
      | cyclic => cases he; trivial
      | clean => exact goDeps_below N chk hfr h hasCsum f hf ds w1 c1 must hb1 hs' hm dr he
      | dirty =>
        dsimp only at he
        cases he
        split
        · intro x hx; simp at hx; omega
        · trivial
      | need ts =>
        refine goDeps_below N chk hfr h hasCsum f hf ds w1 c1 (must ++ ts) hb1 hs' ?_ dr he
        intro x hx
        rcases List.mem_append.1 hx with e | e
        · exact hm x e
        · exact h2 x e
    · simp only [hmo, Bool.false_eq_true, if_false] at he
      by_cases hex : existsF w d.source = true
      · simp only [hex, if_true] at he
        cases he
        split
        · intro x hx; simp at hx; omega
        · trivial
      · simp only [hex, Bool.false_eq_true, if_false] at he
        exact goDeps_below N chk hfr h hasCsum f hf ds w cache must hb hs' hm dr he

theorem isDirty_below (ood : Bool) (R N : Nat) :
    ∀ (fuel : Nat) (w : World) (cache : List Nat) (f mx : Nat) (seen : List Nat) (pre : Option Rec),
      DepsBelow N w → f < N → DRBelow N (isDirty ood R fuel w cache f mx seen pre).1
  | 0, _, _, _, _, _, _, _, _ => trivial
  | fuel + 1, w, cache, f, mx, seen, pre, hb, hf => by
    rw [isDirty_succ]
    refine isDirtyStep_cases (P := fun x => DRBelow N x.1) rfl (fun _ => trivial) (fun _ _ => trivial)
      (fun _ _ _ _ _ _ => trivial) ?_ ?_ ?_
    · intro _ _ _ _ _ _ _ _ _
      dsimp only
      split
      · intro x hx
        rw [List.mem_singleton.1 hx]
        exact hf
      · trivial
    · intro _ dr g _ _ _ _ _ _ hg hdr
      subst hg
      exact goDeps_below N _ (fun w c s r => isDirty_frame ood R fuel w c s _ _ _)
        (fun w c s r hb' hs => isDirty_below ood R N fuel w c s _ _ _ hb' hs) _ f hf _ w cache [] hb
        (depsWithRecs_below hb R _ f) (fun x hx => by cases hx) dr hdr
    · intro _ _ _ _ _ _ _ _ _ _
      cases ood <;> trivial

/-! ### Projects that never use `redo-stamp`: no checksum, no `need` verdict -/

def NoCsum (w : World) : Prop := ∀ f, (w.recs f).csum = none

theorem NoCsum.getRec {w : World} (h : NoCsum w) (R f : Nat) : (getRec w R f).csum = none := by
  unfold RedoModel.Deps.getRec
  dsimp only
  split
  · exact h f
  · exact h f

theorem NoCsum.setRec {w : World} (h : NoCsum w) (f : Nat) (r : Rec) (hr : r.csum = none) : NoCsum (setRec w f r) := by
  intro x
  simp only [RedoModel.Deps.setRec]
  split
  · exact hr
  · exact h x

theorem NoCsum.of_recs {w w' : World} (h : NoCsum w) (e : w'.recs = w.recs) : NoCsum w' := fun f => e ▸ h f

theorem depsWithRecs_nocsum {w : World} (h : NoCsum w) (R : Nat) (r : Rec) (f : Nat) :
    ∀ p ∈ depsWithRecs w R r f, p.2.csum = none := by
  intro p hp
  unfold depsWithRecs at hp
  obtain ⟨d, _, rfl⟩ := List.mem_map.1 hp
  exact h.getRec R d.source

theorem goDeps_nocsum (chk : World → List Nat → Nat → Rec → DR × World × List Nat)
    (h : ∀ w c s r, NoCsum w → r.csum = none → NoCsum (chk w c s r).2.1 ∧ ∀ ts, (chk w c s r).1 ≠ .need ts) (f : Nat) :
    ∀ (ds : List (Dep × Rec)) (w : World) (cache : List Nat), NoCsum w → (∀ p ∈ ds, p.2.csum = none) →
      NoCsum (goDeps chk false f ds w cache []).2.1 ∧ ∀ ts, (goDeps chk false f ds w cache []).1 ≠ some (.need ts)
  | [], w, cache, hw, _ => by
    rw [goDeps]
    exact ⟨hw, fun ts he => by simp at he⟩
  | (d, snap) :: ds, w, cache, hw, hs => by
    have hsnap : snap.csum = none := hs (d, snap) (by simp)
    have hs' : ∀ p ∈ ds, p.2.csum = none := fun p hp => hs p (by simp [hp])
    rw [goDeps]
    by_cases hmo : d.modeM = true
    · simp only [hmo, if_true]
      have h1 := h w cache d.source snap hw hsnap
      generalize chk w cache d.source snap = r at h1
      obtain ⟨sub, w1, c1⟩ := r
      cases sub with
      | cyclic => exact ⟨h1.1, fun ts he => by simp at he⟩
      | clean => exact goDeps_nocsum chk h f ds w1 c1 h1.1 hs'
      | dirty => exact ⟨h1.1, fun ts he => by simp at he⟩
      | need ts => exact absurd rfl (h1.2 ts)
    · simp only [hmo, Bool.false_eq_true, if_false]
      by_cases hex : existsF w d.source = true
      · simp only [hex, if_true]
        exact ⟨hw, fun ts he => by simp at he⟩
      · simp only [hex, Bool.false_eq_true, if_false]
        exact goDeps_nocsum chk h f ds w cache hw hs'

/-- In a project without checksums the dirtiness check keeps it so and never asks for an out-of-band rebuild. -/
theorem isDirty_nocsum (ood : Bool) (R : Nat) :
    ∀ (fuel : Nat) (w : World) (cache : List Nat) (f mx : Nat) (seen : List Nat) (pre : Option Rec),
      NoCsum w → (∀ r, pre = some r → r.csum = none) →
      NoCsum (isDirty ood R fuel w cache f mx seen pre).2.1 ∧ ∀ ts, (isDirty ood R fuel w cache f mx seen pre).1 ≠ .need ts
  | 0, w, _, _, _, _, _, hw, _ => ⟨hw, fun ts he => by cases he⟩
  | fuel + 1, w, cache, f, mx, seen, pre, hw, hpre => by
    have hr : (pre.getD (getRec w R f)).csum = none := by
      cases pre with
      | none => exact hw.getRec R f
      | some r => exact hpre r rfl
    have hg : ∀ mx', NoCsum (goDeps (fun w' c s snap => isDirty ood R fuel w' c s mx' (f :: seen) (some snap))
          (pre.getD (getRec w R f)).csum.isSome f (depsWithRecs w R (pre.getD (getRec w R f)) f) w cache []).2.1 ∧
        ∀ ts, (goDeps (fun w' c s snap => isDirty ood R fuel w' c s mx' (f :: seen) (some snap))
          (pre.getD (getRec w R f)).csum.isSome f (depsWithRecs w R (pre.getD (getRec w R f)) f) w cache []).1 ≠
            some (.need ts) := by
      intro mx'
      rw [hr]
      exact goDeps_nocsum _ (fun w' c s snap hw' hsnap =>
        isDirty_nocsum ood R fuel w' c s mx' (f :: seen) (some snap) hw' (fun r' e => by cases e; exact hsnap))
        f _ w cache hw (depsWithRecs_nocsum hw R (pre.getD (getRec w R f)) f)
    rw [isDirty_succ]
    refine isDirtyStep_cases (P := fun x => NoCsum x.2.1 ∧ ∀ ts, x.1 ≠ .need ts) rfl
      (fun _ => ⟨hw, fun ts he => by cases he⟩) (fun _ _ => ⟨hw, fun ts he => by cases he⟩)
      (fun _ _ _ _ _ _ => ⟨hw, fun ts he => by cases he⟩) ?_ ?_ ?_
    · intro _ _ _ _ _ _ _ _ _
      rw [hr]
      refine ⟨?_, fun ts he => by cases he⟩
      dsimp only
      split
      · exact hw.setRec f _ rfl
      · exact hw
    · intro _ dr g _ _ _ _ _ _ hg' hdr
      subst hg'
      exact ⟨(hg _).1, fun ts e => (hg _).2 ts (hdr.trans (congrArg some e))⟩
    · intro _ g _ _ _ _ _ _ hg' _
      subst hg'
      cases ood
      · refine ⟨NoCsum.setRec ?_ f _ hr, fun ts e => by cases e⟩
        split
        · exact (hg _).1.of_recs rfl
        · exact (hg _).1
      · exact ⟨(hg _).1, fun ts e => by cases e⟩

/-!
# C12 — fuel: `redo-ood`
The query walks every known target with `seen = []` and fuel `2 * nfiles + 4`; the files it starts from are
below `nfiles` by construction, so only the recorded sources need the bound.
-/

theorem ood_go_fuel (R N f1 f2 : Nat) (h1 : N + 1 ≤ f1) (h2 : N + 1 ≤ f2) (fs : List Nat) (w : World)
    (cache acc : List Nat) (hfs : ∀ f ∈ fs, f < N) (hb : DepsBelow N w) :
    runCmd.go R f1 fs w cache acc = runCmd.go R f2 fs w cache acc := by
  fun_induction runCmd.go R f2 fs w cache acc with
  | case1 => rw [runCmd.go]
  | case2 f fs w cache acc dr w1 c1 hd ih =>
    have hfr := isDirty_frame true R f2 w cache f R [] none
    rw [hd] at hfr
    rw [runCmd.go, isDirty_fuel_eq true R N f1 f2 w cache f R [] none hb (hfs f List.mem_cons_self) List.nodup_nil
      (fun _ h => by cases h) (by simp; omega) (by simp; omega), hd]
    exact ih (fun x hx => hfs x (List.mem_cons_of_mem _ hx)) (hb.of_same hfr)

/-- The `redo-ood` branch of `runCmd` with the fuel as a parameter. -/
def oodWith (fuel nfiles : Nat) (w0 : World) : Result × World :=
  let (R, w) := allocRun w0
  let tgts := (knownFiles w nfiles).filter (isTarget w R)
  let (l, w') := runCmd.go R fuel tgts w [] []
  ({ status := 0, listing := l }, { w' with recs := w.recs, deps := w.deps, trace := w'.trace })

theorem runCmd_ood_eq (d : Defects) (nf : Nat) (w : World) : runCmd d nf .ood w = oodWith (2 * nf + 4) nf w := rfl

theorem oodWith_fuel (nf f1 f2 : Nat) (w : World) (hb : DepsBelow nf w) (h1 : nf + 1 ≤ f1) (h2 : nf + 1 ≤ f2) :
    oodWith f1 nf w = oodWith f2 nf w := by
  have key := ood_go_fuel (w.runCounter + 1) nf f1 f2 h1 h2
    ((knownFiles { w with runCounter := w.runCounter + 1 } nf).filter
      (isTarget { w with runCounter := w.runCounter + 1 } (w.runCounter + 1)))
    { w with runCounter := w.runCounter + 1 } [] [] (by
      intro f hf
      exact List.mem_range.1 (List.mem_filter.1 (List.mem_filter.1 hf).1).1) hb
  unfold oodWith allocRun
  dsimp only
  rw [key]

end RedoModel.Deps
