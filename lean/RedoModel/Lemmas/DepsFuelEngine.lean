import RedoModel.Lemmas.DepsCycleFail
import RedoModel.Lemmas.DepsRunTop
/-!
# C12 — the fuel of the engine is an artefact

Engines built on two arbitrary innermost levels give the same result, and keep the invariant `WInv`, at all indices that
serve the level of the context: `engineFrom_agree`, one induction whose step goes through scripts, jobs and commands
(`…_agree`); `runTop_agree` reads it for top-level commands.
-/

/-!
# C12 — the fuel of the engine is an artefact: the invariant, scripts

`WInv nc N w`: every id the engine can come across in `w` is below `N` — sources of dependency rows,
.do candidates, and every name in every program.  Programs and rules never change during a command;
rows are only added for such names.  `Agree nc N r1 r2`: two runs gave the same result and the invariant
still holds.
-/
namespace RedoModel.Deps
open RedoModel.Generated

variable {nc : Bool}

/-- All names in a program are below `N`; with `nc` ("no checksums"), it does not call `redo-stamp`. -/
def ScriptBelow (nc : Bool) (N : Nat) (sc : Script) : Prop :=
  (∀ c ∈ sc.ifchange, ∀ x ∈ c, x < N) ∧ (∀ x ∈ sc.cond, x < N) ∧ (∀ x ∈ sc.ifcreate, x < N) ∧
  (nc = true → sc.stamp = 0)

theorem ScriptBelow.default (N : Nat) : ScriptBelow nc N {} := by
  refine ⟨?_, ?_, ?_, fun _ => rfl⟩ <;> intro x h <;> cases h

/-- The invariant.  `nc = true` adds: no record carries a checksum (and no program calls `redo-stamp`), so the
dirtiness check never asks for an out-of-band rebuild. -/
structure WInv (nc : Bool) (N : Nat) (w : World) : Prop where
  pos : 0 < N
  deps : DepsBelow N w
  rules : ∀ t c, c ∈ w.rules t → c < N
  progs : ∀ c sc, w.progs c = some sc → ScriptBelow nc N sc
  nocsum : nc = true → NoCsum w

theorem WInv.of_fields {N : Nat} {w w' : World} (h : WInv nc N w) (hd : w'.deps = w.deps) (hr : w'.rules = w.rules)
    (hp : w'.progs = w.progs) (hrec : w'.recs = w.recs) : WInv nc N w' :=
  ⟨h.pos, fun d hd' => h.deps d (hd ▸ hd'), fun t c hc => h.rules t c (hr ▸ hc), fun c sc hs => h.progs c sc (hp ▸ hs),
    fun hn => (h.nocsum hn).of_recs hrec⟩

theorem WInv.setRec {N : Nat} {w : World} (h : WInv nc N w) (f : Nat) (r : Rec) (hr : nc = true → r.csum = none) :
    WInv nc N (setRec w f r) :=
  ⟨h.pos, h.deps, h.rules, h.progs, fun hn => (h.nocsum hn).setRec f r (hr hn)⟩

theorem NoCsum.addKnown {w : World} (h : NoCsum w) (f : Nat) : NoCsum (addKnown w f) := by
  unfold RedoModel.Deps.addKnown
  split
  · exact h
  · exact NoCsum.of_recs (w := RedoModel.Deps.setRec w f { (w.recs f) with row := w.nextRow }) (h.setRec f _ (h f)) rfl

theorem WInv.addKnown {N : Nat} {w : World} (h : WInv nc N w) (f : Nat) : WInv nc N (addKnown w f) :=
  ⟨h.pos, fun d hd => h.deps d ((addKnown_static w f).1 ▸ hd), fun t c hc => h.rules t c ((addKnown_static w f).2.1 ▸ hc),
    fun c sc hs => h.progs c sc ((addKnown_static w f).2.2 ▸ hs), fun hn => (h.nocsum hn).addKnown f⟩

theorem WInv.setFile {N : Nat} {w : World} (h : WInv nc N w) (f : Nat) (n : Option FNode) : WInv nc N (setFile w f n) :=
  h.of_fields rfl rfl rfl rfl

theorem WInv.ev {N : Nat} {w : World} (h : WInv nc N w) (e : Ev) : WInv nc N (ev w e) :=
  h.of_fields rfl rfl rfl rfl

theorem WInv.addDep {N : Nat} {w : World} (h : WInv nc N w) (t s : Nat) (m : Bool) (hs : s < N) :
    WInv nc N (addDep w t s m) := by
  have ha := addKnown_static w s
  refine ⟨h.pos, ?_, fun t c hc => h.rules t c (ha.2.1 ▸ hc), fun c sc hsc => h.progs c sc (ha.2.2 ▸ hsc),
    fun hn => ((h.nocsum hn).addKnown s).of_recs rfl⟩
  intro dp hdp
  simp only [RedoModel.Deps.addDep, List.mem_cons, List.mem_filter] at hdp
  rcases hdp with e | e
  · subst e; exact hs
  · exact h.deps dp (ha.1 ▸ e.1)

theorem WInv.foldl_addDep {N : Nat} (t : Nat) (m : Bool) (l : List Nat) (w : World) (hl : ∀ x ∈ l, x < N) :
    WInv nc N w → WInv nc N (l.foldl (fun w f => RedoModel.Deps.addDep w t f m) w) :=
  foldl_rel (Rel := fun a b => WInv nc N a → WInv nc N b) (fun _ => id) (fun f g => g ∘ f) _ l
    (fun _ f hf h => h.addDep t f m (hl f hf)) w

theorem WInv.zapDeps1 {N : Nat} {w : World} (h : WInv nc N w) (t : Nat) : WInv nc N (zapDeps1 w t) := by
  refine ⟨h.pos, ?_, h.rules, h.progs, h.nocsum⟩
  intro dp hdp
  simp only [RedoModel.Deps.zapDeps1, List.mem_map] at hdp
  obtain ⟨d0, hd0, rfl⟩ := hdp
  have := h.deps d0 hd0
  split <;> exact this

theorem WInv.zapDeps2 {N : Nat} {w : World} (h : WInv nc N w) (t : Nat) : WInv nc N (zapDeps2 w t) := by
  refine ⟨h.pos, ?_, h.rules, h.progs, h.nocsum⟩
  intro dp hdp
  simp only [RedoModel.Deps.zapDeps2, List.mem_filter] at hdp
  exact h.deps dp hdp.1

def Agree (nc : Bool) (N : Nat) (r1 r2 : Status × World) : Prop := r1 = r2 ∧ WInv nc N r1.2

def Agree3 (nc : Bool) (N : Nat) (r1 r2 : Status × Option Content × World) : Prop := r1 = r2 ∧ WInv nc N r1.2.2

theorem Agree.rfl' {N : Nat} {r : Status × World} (h : WInv nc N r.2) : Agree nc N r r := ⟨rfl, h⟩

/-- What the script-level lemmas need of the two engines: they agree, and keep the invariant, on every
command line with names below `N`, in the script's context `cx'`. -/
def AgreeAt (nc : Bool) (N : Nat) (E1 E2 : Engine) (cx' : Ctx) : Prop :=
  ∀ c w, (∀ x ∈ c, x < N) → WInv nc N w → Agree nc N (E1.ifchangeCmd cx' c w) (E2.ifchangeCmd cx' c w)

theorem cmds_agree (N : Nat) (E1 E2 : Engine) (cx : Ctx) (t : Nat) (cx' : Ctx) (hE : AgreeAt nc N E1 E2 cx') :
    ∀ (cs : List (List Nat)) (k : Nat) (w : World), (∀ c ∈ cs, ∀ x ∈ c, x < N) → WInv nc N w →
      Agree nc N (runScript.cmds E1 cx t cx' cs k w) (runScript.cmds E2 cx t cx' cs k w)
  | [], k, w, _, hw => by
    rw [runScript.cmds, runScript.cmds]
    exact ⟨rfl, hw⟩
  | c :: cs, k, w, hcs, hw => by
    rw [runScript.cmds, runScript.cmds]
    by_cases hc : cx.crash = some (t, k)
    · simp only [hc, if_true]
      exact ⟨rfl, hw⟩
    · simp only [hc, if_false]
      obtain ⟨he, hw1⟩ := hE c w (hcs c (by simp)) hw
      rw [he] at hw1 ⊢
      generalize E2.ifchangeCmd cx' c w = r at hw1 ⊢
      obtain ⟨rv, w1⟩ := r
      have ih := cmds_agree N E1 E2 cx t cx' hE cs (k + 1) w1 (fun c' hc' => hcs c' (by simp [hc'])) hw1
      split
      · rename_i heq
        cases heq
        exact ih
      · rename_i heq
        cases heq
        exact ⟨rfl, hw1⟩


theorem conds_agree (N : Nat) (E1 E2 : Engine) (t : Nat) (cx' : Ctx) (hE : AgreeAt nc N E1 E2 cx') :
    ∀ (fs : List Nat) (w : World), (∀ x ∈ fs, x < N) → WInv nc N w →
      Agree nc N (runScript.conds E1 t cx' fs w) (runScript.conds E2 t cx' fs w)
  | [], w, _, hw => by
    rw [runScript.conds, runScript.conds]
    exact ⟨rfl, hw⟩
  | f :: fs, w, hfs, hw => by
    have hf : f < N := hfs f (by simp)
    have hfs' : ∀ x ∈ fs, x < N := fun x hx => hfs x (by simp [hx])
    rw [runScript.conds, runScript.conds]
    by_cases hex : existsF w f = true
    · simp only [hex, if_true]
      obtain ⟨he, hw1⟩ := hE [f] w (fun x hx => by simp at hx; exact hx ▸ hf) hw
      rw [he] at hw1 ⊢
      generalize E2.ifchangeCmd cx' [f] w = r at hw1 ⊢
      obtain ⟨rv, w1⟩ := r
      have ih := conds_agree N E1 E2 t cx' hE fs w1 hfs' hw1
      split
      · rename_i heq
        cases heq
        exact ih
      · rename_i heq
        cases heq
        exact ⟨rfl, hw1⟩
    · simp only [hex, Bool.false_eq_true, if_false]
      exact conds_agree N E1 E2 t cx' hE fs _ hfs' (hw.addDep t f false hf)

theorem rsFinish_winv {N : Nat} (cx : Ctx) (t : Nat) (sc : Script) (w : World) (hsc : ScriptBelow nc N sc)
    (hw : WInv nc N w) : WInv nc N (rsFinish cx t sc w).2.2 := by
  rw [rsFinish_world]
  split
  · exact hw
  · unfold rsStampW
    dsimp only
    split
    · exact hw
    · rename_i hst
      exact (hw.addKnown t).setRec t _ (fun hn => absurd (hsc.2.2.2 hn) hst)

theorem rsAlways_winv {N : Nat} (cx : Ctx) (t : Nat) (sc : Script) (w : World) (hw : WInv nc N w) :
    WInv nc N (rsAlways cx t sc w) := by
  unfold rsAlways
  split
  · refine (hw.addDep t alwaysId true hw.pos).setRec _ _ (fun hn => ?_)
    exact ((hw.addDep t alwaysId true hw.pos).nocsum hn) alwaysId
  · exact hw

theorem rsBody_agree (N : Nat) (E1 E2 : Engine) (cx : Ctx) (t : Nat) (sc : Script) (w : World)
    (hE : AgreeAt nc N E1 E2 (scriptCtx cx t))
    (hsc : ScriptBelow nc N sc) (hw : WInv nc N w) : Agree3 nc N (rsBody E1 cx t sc w) (rsBody E2 cx t sc w) := by
  unfold rsBody
  dsimp only
  obtain ⟨he, hw1⟩ := conds_agree N E1 E2 t _ hE sc.cond w hsc.2.1 hw
  rw [he] at hw1 ⊢
  generalize runScript.conds E2 t _ sc.cond w = r1 at hw1 ⊢
  obtain ⟨rvc, w1⟩ := r1
  dsimp only at hw1 ⊢
  split
  · exact ⟨rfl, hw1⟩
  · obtain ⟨he2, hw2⟩ := cmds_agree N E1 E2 cx t _ hE sc.ifchange 0 w1 hsc.1 hw1
    rw [he2] at hw2 ⊢
    generalize runScript.cmds E2 cx t _ sc.ifchange 0 w1 = r2 at hw2 ⊢
    obtain ⟨rv, w2⟩ := r2
    dsimp only at hw2 ⊢
    split
    · exact ⟨rfl, hw2⟩
    · exact ⟨rfl, rsFinish_winv cx t sc w2 hsc hw2⟩

theorem runScript_agree (N : Nat) (E1 E2 : Engine) (d : Defects) (cx : Ctx) (t : Nat) (sc : Script) (w : World)
    (hE : AgreeAt nc N E1 E2 (scriptCtx cx t))
    (hsc : ScriptBelow nc N sc) (hw : WInv nc N w) : Agree3 nc N (runScript E1 d cx t sc w) (runScript E2 d cx t sc w) := by
  rw [runScript_eq, runScript_eq]
  have ha := rsAlways_winv cx t sc w hw
  split
  · exact ⟨rfl, ha⟩
  · exact rsBody_agree N E1 E2 cx t sc _ hE hsc (WInv.foldl_addDep t false sc.ifcreate _ hsc.2.2.1 ha)

theorem recordNewState_winv {N : Nat} (cx : Ctx) (t : Nat) (sf : Rec) (rv : Status) (out : Option Content) (w : World)
    (hsf : nc = true → sf.csum = none) (hw : WInv nc N w) : WInv nc N (recordNewState cx t sf rv out w).2 := by
  have key : ∀ w1 : World, WInv nc N w1 → WInv nc N (setRec (zapDeps2 w1 t)
      t (if (isCheckedR { (w1.recs t) with isGenerated := true, isOverride := false } cx.runid ||
              isChangedR { (w1.recs t) with isGenerated := true, isOverride := false } cx.runid) = true then
            { ({ (w1.recs t) with isGenerated := true, isOverride := false } : Rec) with stamp := some (readStamp w1 t) }
          else setChanged (updateStamp w1 t { ({ (w1.recs t) with isGenerated := true, isOverride := false } : Rec)
              with csum := none } cx.runid) cx.runid)) := by
    intro w1 hw1
    refine (hw1.zapDeps2 t).setRec t _ (fun hn => ?_)
    split
    · exact hw1.nocsum hn t
    · show (updateStamp w1 t _ cx.runid).csum = none
      rw [updateStamp_csum]
  unfold recordNewState
  dsimp only
  split
  · cases out with
    | none => exact key _ (hw.setFile t none)
    | some c =>
      dsimp only [newNode]
      exact key _ ((hw.of_fields (w' := { w with clock := w.clock + 1 }) rfl rfl rfl rfl).setFile t _)
  · exact (hw.zapDeps2 t).setRec t _ (fun hn => by rw [setFailed_csum]; exact hsf hn)

theorem findDoFile_winv {N : Nat} (t : Nat) (cs : List Nat) (w : World) (hcs : ∀ c ∈ cs, c < N) (hw : WInv nc N w) :
    WInv nc N (findDoFile t cs w).2 := by
  fun_induction findDoFile t cs w with
  | case1 => exact hw
  | case2 c cs w => exact hw.addDep t c true (hcs c List.mem_cons_self)
  | case3 c cs w _ ih =>
    exact ih (fun x hx => hcs x (List.mem_cons_of_mem _ hx)) (hw.addDep t c false (hcs c List.mem_cons_self))

theorem ssRun_agree (N : Nat) (E1 E2 : Engine) (d : Defects) (cx : Ctx) (t : Nat) (sf : Rec) (sc : Script) (w3 : World)
    (hE : AgreeAt nc N E1 E2 (scriptCtx cx t))
    (hsc : ScriptBelow nc N sc) (hsf : nc = true → sf.csum = none) (h3 : WInv nc N w3) :
    Agree nc N (ssRun E1 d cx t sf sc w3) (ssRun E2 d cx t sf sc w3) := by
  unfold ssRun
  obtain ⟨he, h4⟩ := runScript_agree N E1 E2 d cx t sc w3 hE hsc h3
  rw [he] at h4 ⊢
  generalize runScript E2 d cx t sc w3 = r4 at h4 ⊢
  obtain ⟨rv, out, w4⟩ := r4
  dsimp only at h4 ⊢
  split
  · exact ⟨rfl, h4⟩
  · exact ⟨rfl, recordNewState_winv cx t sf rv out w4 hsf h4⟩

theorem ssBuild_engines_agree (N : Nat) (E1 E2 : Engine) (d : Defects) (cx : Ctx) (t : Nat) (sf : Rec) (w : World)
    (hE : AgreeAt nc N E1 E2 (scriptCtx cx t))
    (hsf : nc = true → sf.csum = none) (hw : WInv nc N w) : Agree nc N (ssBuild E1 d cx t sf w) (ssBuild E2 d cx t sf w) := by
  rw [ssBuild_eq, ssBuild_eq]
  have h1 := findDoFile_winv t ((zapDeps1 w t).rules t) (zapDeps1 w t) (fun c hc => hw.rules t c hc) (hw.zapDeps1 t)
  generalize findDoFile t ((zapDeps1 w t).rules t) (zapDeps1 w t) = r at h1
  obtain ⟨o, w1⟩ := r
  dsimp only at h1
  cases o with
  | none =>
    dsimp only
    split
    · exact ⟨rfl, h1.setRec t _ (fun _ => setStatic_csum _ _ _ _)⟩
    · exact ⟨rfl, h1.setRec t _ (fun hn => by rw [setFailed_csum]; exact hsf hn)⟩
  | some dof =>
    dsimp only
    have h3 : WInv nc N (ev (setRec w1 dof (setStatic w1 dof (w1.recs dof) cx.runid)) (.ran t)) :=
      (h1.setRec dof _ (fun _ => setStatic_csum _ _ _ _)).ev _
    generalize ev (setRec w1 dof (setStatic w1 dof (w1.recs dof) cx.runid)) (.ran t) = w3 at h3 ⊢
    refine ssRun_agree N E1 E2 d cx t sf _ w3 hE ?_ hsf h3
    split
    · rename_i n _
      cases hp : w3.progs n.content with
      | none => exact ScriptBelow.default N
      | some sc => exact h3.progs _ sc hp
    · exact ScriptBelow.default N

theorem startSelf_agree (N : Nat) (E1 E2 : Engine) (d : Defects) (cx : Ctx) (t : Nat) (sf0 : Rec) (w : World)
    (hE : AgreeAt nc N E1 E2 (scriptCtx cx t))
    (hsf0 : nc = true → sf0.csum = none) (hw : WInv nc N w) :
    Agree nc N (startSelf E1 d cx t sf0 w) (startSelf E2 d cx t sf0 w) := by
  rw [startSelf_eq, startSelf_eq]
  have hg : WInv nc N (ssGuard cx t sf0 w).2 ∧ (nc = true → (ssGuard cx t sf0 w).1.csum = none) := by
    unfold ssGuard
    split
    · dsimp only
      have hc : nc = true → (setOverride (ev w (.warnOverride t)) t sf0 cx.runid).csum = none := by
        intro hn
        exact setOverride_csum _ _ _ _
      exact ⟨(hw.ev _).setRec t _ hc, hc⟩
    · exact ⟨hw, hsf0⟩
  generalize ssGuard cx t sf0 w = g at hg
  obtain ⟨sf, w1⟩ := g
  obtain ⟨hg, hsf⟩ := hg
  dsimp only at hg hsf ⊢
  split
  · refine ⟨rfl, hg.setRec t _ (fun hn => ?_)⟩
    split
    · exact setStatic_csum _ _ _ _
    · exact hsf hn
  · exact ssBuild_engines_agree N E1 E2 d cx t sf w1 hE hsf hg

end RedoModel.Deps

/-!
# C12 — the fuel of the engine is an artefact: jobs, commands, the engine
-/
namespace RedoModel.Deps
open RedoModel.Generated

variable {nc : Bool}

/-- The two amounts of fuel handed to the dirtiness check are interchangeable: equal, or both enough. -/
def FuelsServe (N f1 f2 : Nat) : Prop := f1 = f2 ∨ (N + 1 ≤ f1 ∧ N + 1 ≤ f2)

theorem shouldBuild_agree (N : Nat) (cx : Ctx) (f1 f2 t : Nat) (w : World) (hf : FuelsServe N f1 f2) (ht : t < N)
    (hw : WInv nc N w) :
    shouldBuild cx f1 t w = shouldBuild cx f2 t w ∧ WInv nc N (shouldBuild cx f2 t w).2 ∧
    (∀ ts, (shouldBuild cx f2 t w).1 = some (.need ts) → nc = false ∧ ∀ x ∈ ts, x < N) := by
  have hfr := isDirty_frame false cx.runid f2 w [] t cx.runid [] none
  have hnc : nc = true → NoCsum (isDirty false cx.runid f2 w [] t cx.runid [] none).2.1 ∧
      ∀ ts, (isDirty false cx.runid f2 w [] t cx.runid [] none).1 ≠ .need ts :=
    fun hn => isDirty_nocsum false cx.runid f2 w [] t cx.runid [] none (hw.nocsum hn) (fun _ h => by cases h)
  have hwd : WInv nc N (isDirty false cx.runid f2 w [] t cx.runid [] none).2.1 :=
    ⟨hw.pos, hw.deps.of_same hfr, fun t c hc => hw.rules t c (hfr.2.2.2.2.2.2 ▸ hc),
      fun c sc hs => hw.progs c sc (hfr.2.2.2.2.2.1 ▸ hs), fun hn => (hnc hn).1⟩
  refine ⟨?_, ?_, ?_⟩
  · rcases hf with e | ⟨h1, h2⟩
    · rw [e]
    · unfold shouldBuild
      rw [isDirty_fuel_eq false cx.runid N f1 f2 w [] t cx.runid [] none hw.deps ht List.nodup_nil
        (fun x hx => by cases hx) (by simp; omega) (by simp; omega)]
  · unfold shouldBuild
    split
    · exact hw
    · dsimp only
      split
      · exact hw
      · exact hwd
  · intro ts hts
    unfold shouldBuild at hts
    split at hts
    · cases hts
    · dsimp only at hts
      split at hts
      · cases hts
      · have hb := isDirty_below false cx.runid N f2 w [] t cx.runid [] none hw.deps ht
        generalize isDirty false cx.runid f2 w [] t cx.runid [] none = r at hb hts hnc
        obtain ⟨dr, w1, c⟩ := r
        dsimp only at hb hts hnc
        simp only [Option.some.injEq] at hts
        have hfin : dr = .need ts → nc = false ∧ ∀ x ∈ ts, x < N := by
          intro e
          subst e
          refine ⟨?_, hb⟩
          cases hn : nc with
          | false => rfl
          | true => exact absurd rfl ((hnc hn).2 ts)
        split at hts
        · split at hts
          · cases hts
          · exact hfin hts
        · exact hfin hts

/-- A refused request is a failure, at every level. -/
def CycNZ (E : Engine) : Prop :=
  ∀ cx ts w, cx.unlocked = false → (∃ x ∈ ts, x ∈ cx.cycles) → (E.ifchangeCmd cx ts w).1 ≠ 0

/-- What a job needs of the two engines for its out-of-band rebuild (`redo-unlocked`): agreement in
every context with the same ancestors and no further out-of-band level. -/
def AgreeOob (nc : Bool) (N : Nat) (E1 E2 : Engine) (cx : Ctx) (t : Nat) : Prop :=
  ∀ cx0 : Ctx, (cx0.cycles = cx.cycles ∨ (cx0.cycles = t :: cx.cycles ∧ cx0.unlocked = false)) →
    cx0.noOob = true → ∀ ts, (∀ x ∈ ts, x < N) →
    (cx0.unlocked = true → ∀ x ∈ ts, x ∉ cx.cycles) → ∀ w, WInv nc N w →
    Agree nc N (E1.ifchangeCmd cx0 ts w) (E2.ifchangeCmd cx0 ts w)

theorem buildJob_agree (N : Nat) (E1 E2 : Engine) (d : Defects) (cx : Ctx) (f1 f2 t : Nat) (w : World)
    (hf : FuelsServe N f1 f2) (ht : t < N) (htc : t ∉ cx.cycles) (hw : WInv nc N w)
    (hS : AgreeAt nc N E1 E2 (scriptCtx cx t))
    (hO : nc = false → cx.noOob = false → AgreeOob nc N E1 E2 cx t) (hC : nc = false → cx.noOob = false → CycNZ E1) :
    buildJob E1 d cx f1 t w = buildJob E2 d cx f2 t w ∧ WInv nc N (buildJob E1 d cx f1 t w).2 := by
  obtain ⟨hsb, hsw, hsn⟩ := shouldBuild_agree N cx f1 f2 t w hf ht hw
  unfold buildJob
  dsimp only
  rw [hsb]
  generalize shouldBuild cx f2 t w = sb at hsw hsn
  obtain ⟨o, w1⟩ := sb
  dsimp only at hsw hsn
  have hst := startSelf_agree N E1 E2 d cx t (w.recs t) w1 hS (fun hn => hw.nocsum hn t) hsw
  cases o with
  | none => exact ⟨rfl, hsw⟩
  | some dr =>
    cases dr with
    | cyclic => exact ⟨rfl, hsw⟩
    | clean => exact ⟨rfl, hsw⟩
    | dirty =>
      dsimp only
      rw [hst.1]
      exact ⟨rfl, hst.1 ▸ hst.2⟩
    | need ts =>
      dsimp only
      obtain ⟨hncf, hts⟩ := hsn ts rfl
      by_cases hno : cx.noOob = true
      · simp only [hno, if_true]
        rw [hst.1]
        exact ⟨rfl, hst.1 ▸ hst.2⟩
      · simp only [hno, Bool.false_eq_true, if_false]
        have hO' := hO hncf (by simpa using hno)
        have hts' : ∀ x ∈ (if w1.oobRev then ts.eraseDups.reverse else ts.eraseDups), x < N := by
          intro x hx
          split at hx
          · exact hts x (List.mem_eraseDups.1 (List.mem_reverse.1 hx))
          · exact hts x (List.mem_eraseDups.1 hx)
        generalize (if w1.oobRev then ts.eraseDups.reverse else ts.eraseDups) = ts' at hts'
        have h1 := hO' { cx with noOob := true, unlocked := false, isRedo := false, cycles := t :: cx.cycles, parent := if d.oobRecordsDepsOnCaller then cx.parent else none }
          (Or.inr ⟨rfl, rfl⟩) rfl ts' hts' (fun h => by cases h) w1 hsw
        have hnz := hC hncf (by simpa using hno) { cx with noOob := true, unlocked := false, isRedo := false, cycles := t :: cx.cycles, parent := if d.oobRecordsDepsOnCaller then cx.parent else none } ts' w1 rfl
        obtain ⟨he1, hw2⟩ := h1
        rw [he1] at hw2 hnz ⊢
        generalize E2.ifchangeCmd _ ts' w1 = r1 at hw2 hnz ⊢
        obtain ⟨rv1, w2⟩ := r1
        dsimp only at hw2 hnz
        split
        · rename_i heq
          cases heq
          have hsec : ∀ x ∈ (if d.oobRebuildsDepsNotTarget then ts' else [t]), x < N ∧ x ∉ cx.cycles := by
            intro x hx
            split at hx
            · exact ⟨hts' x hx, fun hc => hnz ⟨x, hx, List.mem_cons_of_mem _ hc⟩ rfl⟩
            · simp only [List.mem_singleton] at hx
              subst hx
              exact ⟨ht, htc⟩
          have h2 := hO' { cx with noOob := true, unlocked := true, isRedo := false } (Or.inl rfl) rfl _
            (fun x hx => (hsec x hx).1) (fun _ x hx => (hsec x hx).2) w2 hw2
          exact ⟨congrArg (fun r : Status × World => (JobResult.done r.1, r.2)) h2.1, h2.2⟩
        · rename_i heq
          cases heq
          exact ⟨rfl, hw2⟩


/-! ### Contexts and their level -/

/-- A context the engine can be in: the ancestors are distinct ids below `N`, and `redo-unlocked`'s
second phase never starts another out-of-band rebuild. -/
structure CtxOK (N : Nat) (cx : Ctx) : Prop where
  nodup : cx.cycles.Nodup
  below : ∀ x ∈ cx.cycles, x < N
  unl : cx.unlocked = true → cx.noOob = true

/-- How many further levels of nested commands a context can still need: two per id that is not yet an
ancestor (a script level and the out-of-band level in front of it). -/
def lvl (nc : Bool) (N : Nat) (cx : Ctx) : Nat :=
  if nc then N - cx.cycles.length else 2 * (N - cx.cycles.length) + (if cx.noOob then 0 else 1)

def AgreeBelow (nc : Bool) (N : Nat) (E1 E2 : Engine) (L : Nat) : Prop :=
  ∀ cx ts w, CtxOK N cx → (∀ t ∈ ts, t < N) → (cx.unlocked = true → ∀ t ∈ ts, t ∉ cx.cycles) → WInv nc N w →
    lvl nc N cx < L → Agree nc N (E1.ifchangeCmd cx ts w) (E2.ifchangeCmd cx ts w)

theorem AgreeBelow.script {N : Nat} {E1 E2 : Engine} {cx : Ctx} (hA : AgreeBelow nc N E1 E2 (lvl nc N cx)) (hcx : CtxOK N cx)
    {t : Nat} (ht : t < N) (htc : t ∉ cx.cycles) :
    AgreeAt nc N E1 E2 { runid := cx.runid, parent := some t, cycles := t :: cx.cycles, keepGoing := cx.keepGoing, crash := cx.crash } := by
  intro c w hc hw
  have hroom := fresh_room ht htc hcx.nodup hcx.below
  refine hA _ c w ⟨List.nodup_cons.2 ⟨htc, hcx.nodup⟩, ?_, fun h => by cases h⟩ hc (fun h => by cases h) hw ?_
  · intro x hx
    rcases List.mem_cons.1 hx with e | e
    · exact e ▸ ht
    · exact hcx.below x e
  · simp only [lvl, List.length_cons, Bool.false_eq_true, if_false]
    repeat' split
    all_goals omega

theorem AgreeBelow.oob {N : Nat} {E1 E2 : Engine} {cx : Ctx} (hA : AgreeBelow nc N E1 E2 (lvl nc N cx)) (hcx : CtxOK N cx)
    (hnc : nc = false) (hno : cx.noOob = false) {t : Nat} (ht : t < N) (htc : t ∉ cx.cycles) :
    AgreeOob nc N E1 E2 cx t := by
  intro cx0 hcy hno0 ts hts hun w hw
  rcases hcy with hcy | ⟨hcy, hu0⟩
  · refine hA cx0 ts w ⟨hcy ▸ hcx.nodup, hcy ▸ hcx.below, fun _ => hno0⟩ hts (fun h => hcy ▸ hun h) hw ?_
    simp only [lvl, hcy, hno0, hno, hnc, if_true, Bool.false_eq_true, if_false]
    omega
  · refine hA cx0 ts w ⟨hcy ▸ List.nodup_cons.2 ⟨htc, hcx.nodup⟩, ?_, fun _ => hno0⟩ hts
      (fun h => by rw [hu0] at h; cases h) hw ?_
    · intro x hx
      rw [hcy] at hx
      rcases List.mem_cons.1 hx with e | e
      · exact e ▸ ht
      · exact hcx.below x e
    · simp only [lvl, hcy, hno0, hno, hnc, if_true, Bool.false_eq_true, if_false, List.length_cons]
      omega

theorem runTargets_agree (N : Nat) (E1 E2 : Engine) (d : Defects) (cx : Ctx) (f1 f2 : Nat) (hf : FuelsServe N f1 f2)
    (hcx : CtxOK N cx) (hA : AgreeBelow nc N E1 E2 (lvl nc N cx)) (hC : nc = false → cx.noOob = false → CycNZ E1) :
    ∀ (ts seen : List Nat) (e : Bool) (w : World), (∀ t ∈ ts, t < N) → (cx.unlocked = true → ∀ t ∈ ts, t ∉ cx.cycles) →
      WInv nc N w → Agree nc N (runTargets E1 d cx f1 ts seen e w) (runTargets E2 d cx f2 ts seen e w)
  | [], _, _, w, _, _, hw => by
    rw [runTargets, runTargets]
    exact ⟨rfl, hw⟩
  | t :: ts, seen, e, w, hts, hun, hw => by
    have ht : t < N := hts t (by simp)
    have hts' : ∀ x ∈ ts, x < N := fun x hx => hts x (by simp [hx])
    have hun' : cx.unlocked = true → ∀ x ∈ ts, x ∉ cx.cycles := fun h x hx => hun h x (by simp [hx])
    rw [runTargets, runTargets]
    by_cases hs : t ∈ seen
    · simp only [hs, if_true]
      exact runTargets_agree N E1 E2 d cx f1 f2 hf hcx hA hC ts seen e w hts' hun' hw
    · simp only [hs, if_false]
      by_cases hgo : (e && !cx.keepGoing) = true
      · simp only [hgo, if_true]
        exact ⟨rfl, hw⟩
      · simp only [hgo, Bool.false_eq_true, if_false]
        by_cases hcy : (!cx.unlocked && decide (t ∈ cx.cycles)) = true
        · simp only [hcy, if_true]
          exact ⟨rfl, hw.addKnown t⟩
        · simp only [hcy, Bool.false_eq_true, if_false]
          have htc : t ∉ cx.cycles := by
            cases hu : cx.unlocked with
            | true => exact hun hu t (by simp)
            | false =>
              intro hc
              apply hcy
              simp [hu, hc]
          obtain ⟨hje, hjw⟩ := buildJob_agree N E1 E2 d cx f1 f2 t (addKnown w t) hf ht htc (hw.addKnown t)
            (hA.script hcx ht htc) (fun hnc hno => hA.oob hcx hnc hno ht htc) hC
          rw [hje] at hjw ⊢
          generalize buildJob E2 d cx f2 t (addKnown w t) = r at hjw ⊢
          obtain ⟨jr, w1⟩ := r
          cases jr with
          | abort code => exact ⟨rfl, hjw⟩
          | done rv =>
            dsimp only
            split
            · exact ⟨rfl, hjw⟩
            · exact runTargets_agree N E1 E2 d cx f1 f2 hf hcx hA hC ts (t :: seen) _ w1 hts' hun' hjw

theorem ifchangeWith_agree (N : Nat) (E1 E2 : Engine) (d : Defects) (cx : Ctx) (f1 f2 : Nat) (hf : FuelsServe N f1 f2)
    (hcx : CtxOK N cx) (hA : AgreeBelow nc N E1 E2 (lvl nc N cx)) (hC : nc = false → cx.noOob = false → CycNZ E1) (ts : List Nat) (w : World)
    (hts : ∀ t ∈ ts, t < N) (hun : cx.unlocked = true → ∀ t ∈ ts, t ∉ cx.cycles) (hw : WInv nc N w) :
    Agree nc N (ifchangeWith E1 d f1 cx ts w) (ifchangeWith E2 d f2 cx ts w) := by
  rw [ifchangeWith_eq, ifchangeWith_eq]
  split
  · exact ⟨rfl, hw⟩
  · exact runTargets_agree N E1 E2 d cx f1 f2 hf hcx hA hC ts [] false _ hts hun
      (declared_declW cx ts w (fun a b => WInv nc N a → WInv nc N b) (fun _ => id) (fun f g => g ∘ f)
        (fun _ f h => h.addKnown f) (fun p _ _ t ht h => h.addDep p t true (hts t ht)) hw)

end RedoModel.Deps

/-!
# C12 — the fuel of the engine is an artefact: the theorems
-/
namespace RedoModel.Deps
open RedoModel.Generated

variable {nc : Bool}

theorem engineFrom_cycNZ (base : Engine) (d : Defects) (n : Nat) (hn : 0 < n) : CycNZ (engineFrom base d n) := by
  obtain ⟨k, rfl⟩ : ∃ k, n = k + 1 := ⟨n - 1, by omega⟩
  intro cx ts w hu h
  exact ifchangeWith_cycle_nonzero (engineFrom base d k) d (k + 1) cx ts w hu h

theorem lvl_pos_of_oob {N : Nat} {cx : Ctx} (h : cx.noOob = false) : 0 < lvl false N cx := by
  simp [lvl, h]

/-- Engine indices `n1`, `n2` that serve a context of level `L`: both exceed `L`, and they are equal (the dirtiness
check is then handed the same fuel on both sides) or both exceed `L + N` (it is handed enough on both). -/
def Enough (N L n1 n2 : Nat) : Prop := L + 1 ≤ n1 ∧ L + 1 ≤ n2 ∧ (n1 = n2 ∨ (L + N + 1 ≤ n1 ∧ L + N + 1 ≤ n2))

theorem Enough.same {N L n : Nat} (h : L + 1 ≤ n) : Enough N L n n := ⟨h, h, .inl rfl⟩

theorem Enough.both {N L n1 n2 : Nat} (h1 : L + N + 1 ≤ n1) (h2 : L + N + 1 ≤ n2) : Enough N L n1 n2 :=
  ⟨by omega, by omega, .inr ⟨h1, h2⟩⟩

theorem Enough.below {N L k1 k2 L' : Nat} (h : Enough N L (k1 + 1) (k2 + 1)) (hl : L' < L) : Enough N L' k1 k2 := by
  unfold Enough at *; omega

theorem Enough.fuelOK {N L k1 k2 : Nat} (h : Enough N L (k1 + 1) (k2 + 1)) : FuelsServe N (k1 + 1) (k2 + 1) := by
  unfold Enough at h; unfold FuelsServe; omega

/-- **Neither the innermost level of the engine nor the fuel is ever consulted.**  Engines built on two arbitrary
innermost levels `b1`, `b2` give the same result (and keep the invariant) at indices that serve the level of the
context.  With `n1 = n2` this is (A): the same index from `lvl nc N cx + 1` on, that is `2 * (N - cx.cycles.length) + 1`
(`+ 2` when an out-of-band rebuild is still possible; `N - cx.cycles.length + 1` in a project without checksums,
`nc = true`).  With both indices `N` higher — the part the dirtiness check needs — it is (B). -/
theorem engineFrom_agree (b1 b2 : Engine) (d : Defects) (N : Nat) :
    ∀ (n1 n2 : Nat) (cx : Ctx) (ts : List Nat) (w : World), CtxOK N cx → (∀ t ∈ ts, t < N) →
      (cx.unlocked = true → ∀ t ∈ ts, t ∉ cx.cycles) → WInv nc N w → Enough N (lvl nc N cx) n1 n2 →
      Agree nc N ((engineFrom b1 d n1).ifchangeCmd cx ts w) ((engineFrom b2 d n2).ifchangeCmd cx ts w)
  | 0, _, _, _, _, _, _, _, _, h => by unfold Enough at h; omega
  | _, 0, _, _, _, _, _, _, _, h => by unfold Enough at h; omega
  | k1 + 1, k2 + 1, cx, ts, w, hcx, hts, hun, hw, h =>
    ifchangeWith_agree N _ _ d cx (k1 + 1) (k2 + 1) h.fuelOK hcx
      (fun cx0 ts0 w0 hcx0 hts0 hun0 hw0 hl => engineFrom_agree b1 b2 d N k1 k2 cx0 ts0 w0 hcx0 hts0 hun0 hw0 (h.below hl))
      (fun hnc hno => engineFrom_cycNZ b1 d k1 (by
        subst hnc
        have := lvl_pos_of_oob (N := N) hno
        unfold Enough at h; omega))
      ts w hts hun hw

/-! ### Top-level commands -/

theorem runCmd_build_from (d : Defects) (nf : Nat) (ts : List Nat) (kg : Bool) (w : World) :
    runCmd d nf (.redo ts kg) w = runTop (engineFrom failBase d (2 * nf + 4)) d (2 * nf + 4) true kg ts w ∧
    runCmd d nf (.ifchange ts kg) w = runTop (engineFrom failBase d (2 * nf + 4)) d (2 * nf + 4) false kg ts w := by
  rw [← engine_eq_from]
  exact runCmd_build_eq d nf ts kg w

theorem topCtx_ok (N R : Nat) (kg r : Bool) : CtxOK N { runid := R, keepGoing := kg, isRedo := r } :=
  ⟨List.nodup_nil, (fun _ h => by cases h), (fun h => by cases h)⟩

theorem topCtx_lvl (N R : Nat) (kg r : Bool) :
    lvl nc N { runid := R, keepGoing := kg, isRedo := r } = if nc then N else 2 * N + 1 := by
  simp [lvl]

/-- At top level: engine indices that serve every level below the top context's, and fuels for the dirtiness check
that are equal or both above `N`, give the same run.  (A): `n1 = n2 ≥ 2 * N + 1` (`≥ N` without checksums), equal
fuels.  (B): indices of at least `3 * N + 1` (`2 * N` without checksums). -/
theorem runTop_agree (b1 b2 : Engine) (d : Defects) (N n1 n2 f1 f2 : Nat) (r kg : Bool) (ts : List Nat) (w : World)
    (hw : WInv nc N w) (hts : ∀ t ∈ ts, t < N) (hf : FuelsServe N f1 f2)
    (hn : Enough N ((if nc then N else 2 * N + 1) - 1) n1 n2) :
    runTop (engineFrom b1 d n1) d f1 r kg ts w = runTop (engineFrom b2 d n2) d f2 r kg ts w := by
  have hw' : WInv nc N { w with runCounter := w.runCounter + 1 } := hw.of_fields rfl rfl rfl rfl
  have h := runTargets_agree N (engineFrom b1 d n1) (engineFrom b2 d n2) d
    { runid := w.runCounter + 1, keepGoing := kg, isRedo := r } f1 f2 hf (topCtx_ok N _ kg r)
    (by
      intro cx0 ts0 w0 hcx0 hts0 hun0 hw0 hl
      rw [topCtx_lvl] at hl
      exact engineFrom_agree b1 b2 d N n1 n2 cx0 ts0 w0 hcx0 hts0 hun0 hw0 (by unfold Enough at *; omega))
    (fun _ _ => engineFrom_cycNZ b1 d n1 (by unfold Enough at hn; omega)) ts [] false _ hts (fun h => by cases h) hw'
  unfold runTop allocRun
  dsimp only
  rw [h.1]

end RedoModel.Deps
