import RedoModel.Lemmas.DepsTrace
import RedoModel.Lemmas.DepsMemo
/-!
# `redo-ifcreate` and `redo-always` at the level of whole commands (C14)

A row that *fires* (`Fires`, `RowFires`: a `c` row whose object exists, the `m` row on `//ALWAYS`) makes the verdict
`dirty` or `cyclic` (`isDirty_fires`), and a job with that verdict runs the script (`buildJob_dirty_runs`; put together in
`DepsRows.lean`; `nextRun` and `runCmd_ifchange_cmd` carry such facts to top-level commands, `Current` is a record that
is in step with its file).  Rows that cannot fire (`QuietRow`, `MemoRow`, at the level of worlds `QuietDep`) are
walked over and the check answers `clean` (`goDeps_cut`, `shouldBuild_quiet`), a step that is bookkeeping only
(`QuietExt`, `NoRun`; `mark` is the run against which sources are compared).  Once per run: a target rebuilt in this run
(`RebuiltIn`, with `AlwaysFresh` for its row on `//ALWAYS`) is found clean by every further dependent, whose command
only records its row (`RowsOnly`, `ifchangeCmd_after_rebuild_step`, iterated over `runDependents`).
-/
namespace RedoModel.Deps
open RedoModel.Generated

/-! ### C14 lifted to whole commands: a dependency row that fires makes the verdict `dirty` (or `cyclic`)

A row *fires* when it is a `c` row whose source exists, or an `m` row whose check answers `dirty` in every
state (e.g. the row on `//ALWAYS`, whose snapshot is newer than any earlier mark).  Rows before it in the
SQLite order can only turn the verdict into `cyclic`, never into `clean` or `need`. -/

/-- The row `p` (with the snapshot of its source) makes the target dirty, given the file system `fs`. -/
def Fires (chk : World → List Nat → Nat → Rec → DR × World × List Nat) (fs : Nat → Option FNode)
    (p : Dep × Rec) : Prop :=
  (p.1.modeM = false ∧ (fs p.1.source).isSome = true) ∨
  (p.1.modeM = true ∧ ∀ w c, (chk w c p.1.source p.2).1 = .dirty)

theorem goDeps_fires (chk : World → List Nat → Nat → Rec → DR × World × List Nat)
    (hchk : ∀ w c s r, (chk w c s r).2.1.fs = w.fs) (hc : Bool) (f : Nat) :
    ∀ (ds : List (Dep × Rec)) (w : World) (cache must : List Nat), (∃ p ∈ ds, Fires chk w.fs p) →
      (goDeps chk hc f ds w cache must).1 = some .cyclic ∨
      (goDeps chk hc f ds w cache must).1 = some (if hc then .need [f] else .dirty)
  | [], w, cache, must, h => by
    obtain ⟨p, hp, _⟩ := h
    cases hp
  | (d, snap) :: ds, w, cache, must, h => by
    rw [goDeps]
    by_cases hm : d.modeM = true
    · simp only [hm, if_true]
      have hfs := hchk w cache d.source snap
      have hhead : Fires chk w.fs (d, snap) → (chk w cache d.source snap).1 = .dirty := by
        intro hf
        rcases hf with ⟨h1, _⟩ | ⟨_, h2⟩
        · rw [hm] at h1; cases h1
        · exact h2 w cache
      have htail : (chk w cache d.source snap).1 ≠ .dirty → ∃ p ∈ ds, Fires chk (chk w cache d.source snap).2.1.fs p := by
        intro hne
        obtain ⟨p, hp, hf⟩ := h
        rcases List.mem_cons.1 hp with rfl | hp'
        · exact absurd (hhead hf) hne
        · exact ⟨p, hp', by rw [hfs]; exact hf⟩
      generalize chk w cache d.source snap = r at htail
      obtain ⟨sub, w1, c1⟩ := r
      cases sub with
      | cyclic => left; rfl
      | dirty => right; rfl
      | clean => exact goDeps_fires chk hchk hc f ds w1 c1 must (htail (by simp))
      | need ts => exact goDeps_fires chk hchk hc f ds w1 c1 (must ++ ts) (htail (by simp))
    · simp only [hm, Bool.false_eq_true, if_false]
      by_cases hex : existsF w d.source = true
      · simp [hex]
      · simp only [hex, Bool.false_eq_true, if_false]
        apply goDeps_fires chk hchk hc f ds w cache must
        obtain ⟨p, hp, hf⟩ := h
        rcases List.mem_cons.1 hp with rfl | hp'
        · exfalso
          rcases hf with ⟨_, h2⟩ | ⟨h1, _⟩
          · exact hex h2
          · exact hm h1
        · exact ⟨p, hp', hf⟩

theorem isDirty_fires (R fuel : Nat) (w : World) (cache : List Nat) (t mx : Nat) (seen : List Nat) (ch : Nat)
    (hseen : t ∉ seen) (hf : (getRec w R t).failed = none) (hch : (getRec w R t).changed = some ch)
    (hmx : ch ≤ mx) (hck : isCheckedR (getRec w R t) R = false)
    (hst : (getRec w R t).stamp = some (readStamp w t))
    (hrow : ∃ p ∈ depsWithRecs w R (getRec w R t) t,
      Fires (fun w1 c1 s snap => isDirty false R fuel w1 c1 s (max ch ((getRec w R t).checked.getD 0)) (t :: seen) (some snap))
        w.fs p) :
    (isDirty false R (fuel + 1) w cache t mx seen none).1 = .cyclic ∨
    (isDirty false R (fuel + 1) w cache t mx seen none).1 =
      (if (getRec w R t).csum.isSome then .need [t] else .dirty) := by
  rw [isDirty_current (r := getRec w R t) (pre := none) rfl hseen hf hch hmx hck hst]
  exact (goDeps_fires _ (fun w c s r => (isDirty_frame false R fuel w c s _ _ _).1) _ t _ w cache [] hrow).imp
    markChecked_fst_of_some markChecked_fst_of_some

/-- Rows of a dependent that force a rebuild: a `c` row whose source now exists, or the `m` row on `//ALWAYS`. -/
def RowFires (w : World) (d0 : Dep) : Prop :=
  (d0.modeM = false ∧ existsF w d0.source = true) ∨ (d0.modeM = true ∧ d0.source = alwaysId)

theorem ssBuild_ran (E : Engine) (hE : EngineExt E) (d : Defects) (cx : Ctx) (t : Nat) (sf : Rec) (w : World)
    (hdo : ∃ c ∈ w.rules t, existsF w c = true) : RanIn t w (ssBuild E d cx t sf w).2 := by
  rw [ssBuild_eq]
  have h1 : TraceExt w (findDoFile t ((zapDeps1 w t).rules t) (zapDeps1 w t)).2 :=
    (TraceExt.of_eq (w := w) (w' := zapDeps1 w t) rfl).trans (TraceExt.findDoFile t _ _)
  have h2 := findDoFile_some t ((zapDeps1 w t).rules t) (zapDeps1 w t) hdo
  generalize findDoFile t ((zapDeps1 w t).rules t) (zapDeps1 w t) = r at h1 h2
  obtain ⟨o, w1⟩ := r
  obtain ⟨dof, h2⟩ := h2
  dsimp only at h1 h2
  subst h2
  exact RanIn.before (RanIn.after h1 (RanIn.ev t (setRec w1 dof (setStatic w1 dof (w1.recs dof) cx.runid))))
    (ssRun_traceExt E hE d cx t sf _ _)

theorem startSelf_ran (E : Engine) (hE : EngineExt E) (d : Defects) (cx : Ctx) (t : Nat) (sf0 : Rec) (w : World)
    (hg : sf0.isGenerated = true) (ho : sf0.isOverride = false) (hst : sf0.stamp = some (readStamp w t))
    (hdo : ∃ c ∈ w.rules t, existsF w c = true) :
    RanIn t w (startSelf E d cx t sf0 w).2 := by
  rw [startSelf_eq]
  rw [ssGuard_eq_self cx t sf0 w (.inr (.inl ⟨ho, hst⟩))]
  simp only [ho, hg, Bool.not_true, Bool.or_self, Bool.and_false, Bool.false_eq_true, if_false]
  exact ssBuild_ran E hE d cx t sf0 w hdo

/-- A job whose `should_build` answers `dirty` or `cyclic`, for a target whose record is current and that has an
existing .do candidate: the job aborts the command with the cyclic status, or executes the target's script. -/
theorem buildJob_dirty_runs (E : Engine) (hE : EngineExt E) (d : Defects) (cx : Ctx) (fuel t : Nat) (w : World)
    (hg : (w.recs t).isGenerated = true) (ho : (w.recs t).isOverride = false)
    (hst : (w.recs t).stamp = some (readStamp w t))
    (hdo : ∃ c ∈ w.rules t, existsF w c = true)
    (hs : (shouldBuild cx fuel t w).1 = some .cyclic ∨ (shouldBuild cx fuel t w).1 = some .dirty) :
    (buildJob E d cx fuel t w).1 = .abort EXIT_CYCLIC_DEPENDENCY ∨
    ((∃ rv, (buildJob E d cx fuel t w).1 = .done rv) ∧ RanIn t w (buildJob E d cx fuel t w).2) := by
  have hsame := shouldBuild_rel SameButRecs.dirtyRel cx fuel t w
  have htr := shouldBuild_rel TraceExt.dirtyRel cx fuel t w
  fun_cases buildJob E d cx fuel t w with
  | case2 => exact .inl rfl
  | case4 sf0 w1 hsb rv w2 hss =>
    rw [hsb] at hsame htr
    obtain ⟨hfs, _, _, _, _, _, hrules⟩ := hsame
    have hran := startSelf_ran E hE d cx t (w.recs t) w1 hg ho (by rw [hst, readStamp_congr (congrFun hfs t)]) (by
      obtain ⟨c, hc, he⟩ := hdo
      exact ⟨c, by rw [hrules]; exact hc, by rw [existsF_congr (congrFun hfs c)]; exact he⟩)
    rw [show startSelf E d cx t (w.recs t) w1 = (rv, w2) from hss] at hran
    exact .inr ⟨⟨rv, rfl⟩, RanIn.after htr hran⟩
  | case1 _ h | case3 _ h | case5 _ _ _ h | case6 _ _ h | case7 _ _ h =>
    -- not the answers supposed
    rw [h] at hs
    rcases hs with h | h <;> cases h

/-- The world a top-level command works in: the run counter advanced. -/
def nextRun (w : World) : World := { w with runCounter := w.runCounter + 1 }

/-- A top-level `redo-ifchange ts` is the engine's command `redo-ifchange ts`, run by a process without parent in the
fresh run: what is proved of `ifchangeWith` for `cx.parent = none` holds of `runCmd`. -/
theorem runCmd_ifchange_cmd (d : Defects) (n : Nat) (ts : List Nat) (kg : Bool) (w : World) :
    runCmd d n (.ifchange ts kg) w =
      ({ status := (ifchangeWith (engine d (2 * n + 4)) d (2 * n + 4)
          { runid := w.runCounter + 1, keepGoing := kg } ts (nextRun w)).1 },
       (ifchangeWith (engine d (2 * n + 4)) d (2 * n + 4) { runid := w.runCounter + 1, keepGoing := kg } ts (nextRun w)).2) :=
  rfl

/-- A record that says "built successfully, and nothing happened to the file since": the state of a target
after a successful build, seen from a later run. -/
structure Current (w : World) (t : Nat) : Prop where
  gen : (w.recs t).isGenerated = true
  novr : (w.recs t).isOverride = false
  nofail : (w.recs t).failed = none
  changed : ∃ ch, (w.recs t).changed = some ch ∧ ch ≤ w.runCounter
  checked : ∀ c, (w.recs t).checked = some c → c ≤ w.runCounter
  stamp : (w.recs t).stamp = some (readStamp w t)

instance (w : World) (t : Nat) : Decidable (Current w t) :=
  decidable_of_iff
    ((w.recs t).isGenerated = true ∧ (w.recs t).isOverride = false ∧ (w.recs t).failed = none ∧
      (∃ ch ∈ (w.recs t).changed, ch ≤ w.runCounter) ∧ (∀ c ∈ (w.recs t).checked, c ≤ w.runCounter) ∧
      (w.recs t).stamp = some (readStamp w t))
    ⟨fun ⟨a, b, c, d, e, f⟩ => ⟨a, b, c, d, e, f⟩, fun ⟨a, b, c, d, e, f⟩ => ⟨a, b, c, d, e, f⟩⟩

/-! ### C14 lifted to whole commands: quiet rows give `clean`; once per run -/

/-- A snapshot of a plain source (not generated, so no rows of its own) that is not failed, was last changed
no later than the dependent's mark, and whose stamp is the current one: clean. -/
theorem isDirty_plain_clean (R n : Nat) (w : World) (c : List Nat) (s mx : Nat) (seen : List Nat) (snap : Rec) (ca : Nat)
    (hs : s ∉ seen) (hf : snap.failed = none) (hch : snap.changed = some ca) (hle : ca ≤ mx)
    (hg : snap.isGenerated = false) (hst : snap.stamp = some (readStamp w s)) :
    (isDirty false R (n + 1) w c s mx seen (some snap)).1 = .clean := by
  cases hck : isCheckedR snap R with
  | true => rw [isDirty_memo false R n w c s mx ca seen (some snap) hs hf hch hle hck]
  | false =>
    -- a file that is not redo's has no rows
    have hd : depsWithRecs w R snap s = [] := by simp [depsWithRecs, depsOf, hg]
    rw [isDirty_current (r := snap) (pre := some snap) rfl hs hf hch hle hck hst, hd, goDeps]
    rfl

/-- A row that cannot make its target dirty: a `c` row whose source does not exist, or an `m` row on a plain
source whose snapshot is unchanged with respect to the mark `mx`. -/
def QuietRow (w0 : World) (seen : List Nat) (mx : Nat) (p : Dep × Rec) : Prop :=
  (p.1.modeM = false → existsF w0 p.1.source = false) ∧
  (p.1.modeM = true → p.1.source ∉ seen ∧ p.2.failed = none ∧ (∃ c, p.2.changed = some c ∧ c ≤ mx) ∧
    p.2.isGenerated = false ∧ p.2.stamp = some (readStamp w0 p.1.source))

/-- An `m` row whose source was checked (or rebuilt with an unchanged checksum) in this run and whose `changed`
mark is not newer than `mx`. -/
def MemoRow (R : Nat) (seen : List Nat) (mx : Nat) (p : Dep × Rec) : Prop :=
  p.1.modeM = true ∧ p.1.source ∉ seen ∧ p.2.failed = none ∧ (∃ c, p.2.changed = some c ∧ c ≤ mx) ∧
  isCheckedR p.2 R = true

/-- Quiet and memoised rows are walked over. -/
theorem goDeps_cut (R n mx : Nat) (seen : List Nat) (hc : Bool) (f : Nat) (w0 : World) (ds : List (Dep × Rec)) (w : World)
    (cache : List Nat) (hfs : w.fs = w0.fs) (hq : ∀ p ∈ ds, QuietRow w0 seen mx p ∨ MemoRow R seen mx p) :
    (goDeps (fun w1 c1 s snap => isDirty false R (n + 1) w1 c1 s mx seen (some snap)) hc f ds w cache []).1 = none := by
  refine ((goDeps_passed (I := fun w => w.fs = w0.fs) (B := fun _ p => QuietRow w0 seen mx p ∨ MemoRow R seen mx p)
    (G := fun _ => False) (fun p w c hfs hb hm => ?_) (fun p w hfs hb hm => ?_) ds w cache hfs hq).1).resolve_right
      fun h => h.2.elim fun _ h => h.2.2
  · refine ⟨.inl ⟨?_, fun _ h => h⟩, (isDirty_frame false R (n + 1) w c p.1.source mx seen (some p.2)).1.trans hfs⟩
    rcases hb with hb | ⟨-, hs, hf, ⟨ca, hch, hle⟩, hck⟩
    · obtain ⟨hs, hf, ⟨ca, hch, hle⟩, hg, hst⟩ := hb.2 hm
      exact isDirty_plain_clean R n w c p.1.source mx seen p.2 ca hs hf hch hle hg
        (by rw [hst]; congr 1; exact (readStamp_congr (congrFun hfs _)).symm)
    · rw [isDirty_memo false R n w c p.1.source mx ca seen (some p.2) hs hf hch hle hck]
  · rcases hb with hb | hb
    · rw [existsF_congr (congrFun hfs _)]; exact hb.1 hm
    · rw [hb.1] at hm; cases hm

theorem isDirty_cut (R m : Nat) (hm : 0 < m) (w : World) (cache : List Nat) (t mx ch : Nat)
    (hf : (getRec w R t).failed = none) (hch : (getRec w R t).changed = some ch) (hmx : ch ≤ mx)
    (hck : isCheckedR (getRec w R t) R = false)
    (hst : (getRec w R t).stamp = some (readStamp w t))
    (hq : ∀ p ∈ depsWithRecs w R (getRec w R t) t,
      QuietRow w [t] (max ch ((getRec w R t).checked.getD 0)) p ∨
      MemoRow R [t] (max ch ((getRec w R t).checked.getD 0)) p) :
    (isDirty false R (m + 1) w cache t mx [] none).1 = .clean := by
  obtain ⟨n, rfl⟩ : ∃ n, m = n + 1 := ⟨m - 1, by omega⟩
  rw [isDirty_current (r := getRec w R t) (pre := none) rfl (by simp) hf hch hmx hck hst]
  exact markChecked_fst_of_none (goDeps_cut R n _ [t] _ t w _ w cache rfl hq)

theorem isDirty_quiet (R m : Nat) (hm : 0 < m) (w : World) (cache : List Nat) (t mx ch : Nat)
    (hf : (getRec w R t).failed = none) (hch : (getRec w R t).changed = some ch) (hmx : ch ≤ mx)
    (h : isCheckedR (getRec w R t) R = true ∨
      ((getRec w R t).stamp = some (readStamp w t) ∧
        ∀ p ∈ depsWithRecs w R (getRec w R t) t, QuietRow w [t] (max ch ((getRec w R t).checked.getD 0)) p)) :
    (isDirty false R (m + 1) w cache t mx [] none).1 = .clean := by
  cases hck : isCheckedR (getRec w R t) R with
  | true => rw [isDirty_memo false R m w cache t mx ch [] none (by simp) hf hch hmx hck]
  | false =>
    obtain ⟨hst, hq⟩ := h.resolve_left (by rw [hck]; simp)
    exact isDirty_cut R m hm w cache t mx ch hf hch hmx hck hst (fun p hp => .inl (hq p hp))

theorem shouldBuild_quiet (cx : Ctx) (m : Nat) (hm : 0 < m) (t : Nat) (w : World) (ch : Nat) (hr : cx.isRedo = false)
    (ht : t ≠ alwaysId) (hf : (w.recs t).failed = none) (hch : (w.recs t).changed = some ch) (hle : ch ≤ cx.runid)
    (h : isCheckedR (w.recs t) cx.runid = true ∨
      ((w.recs t).stamp = some (readStamp w t) ∧
        ∀ d0 ∈ w.deps, d0.target = t →
          QuietRow w [t] (max ch ((w.recs t).checked.getD 0)) (d0, getRec w cx.runid d0.source))) :
    (shouldBuild cx (m + 1) t w).1 = some .clean := by
  have hget : getRec w cx.runid t = w.recs t := getRec_of_ne ht
  have key := isDirty_quiet cx.runid m hm w [] t cx.runid ch (by rw [hget]; exact hf) (by rw [hget]; exact hch) hle
    (by
      rw [hget]
      rcases h with h | ⟨h1, h2⟩
      · exact Or.inl h
      · refine Or.inr ⟨h1, fun p hp => ?_⟩
        obtain ⟨d0, s⟩ := p
        obtain ⟨e, -, -, hd, hdt⟩ := mem_depsWithRecs.1 hp
        dsimp only at e hd hdt
        subst e
        exact h2 d0 hd hdt)
  rw [shouldBuild_eq_walk cx _ t w hr ht hf, key]

/-- Nothing happened but bookkeeping: same files, same dependency rows, same clock, and the new part of the
trace contains no executed script. -/
def QuietExt (w w' : World) : Prop :=
  w'.fs = w.fs ∧ w'.deps = w.deps ∧ w'.clock = w.clock ∧ w'.progs = w.progs ∧ w'.rules = w.rules ∧
  ∃ pre, w'.trace = pre ++ w.trace ∧ ∀ x, Ev.ran x ∉ pre

theorem QuietExt.of_eq {w w' : World} (h1 : w'.fs = w.fs) (h2 : w'.deps = w.deps) (h3 : w'.clock = w.clock)
    (h4 : w'.progs = w.progs) (h5 : w'.rules = w.rules) (h6 : w'.trace = w.trace) : QuietExt w w' :=
  ⟨h1, h2, h3, h4, h5, [], h6, fun _ h => by cases h⟩

theorem QuietExt.refl (w : World) : QuietExt w w := QuietExt.of_eq rfl rfl rfl rfl rfl rfl

theorem QuietExt.trans {a b c : World} (h1 : QuietExt a b) (h2 : QuietExt b c) : QuietExt a c := by
  obtain ⟨a1, a2, a3, a4, a5, p1, e1, n1⟩ := h1
  obtain ⟨b1, b2, b3, b4, b5, p2, e2, n2⟩ := h2
  refine ⟨b1.trans a1, b2.trans a2, b3.trans a3, b4.trans a4, b5.trans a5, p2 ++ p1,
    by rw [e2, e1, List.append_assoc], fun x hx => ?_⟩
  rcases List.mem_append.1 hx with h | h
  · exact n2 x h
  · exact n1 x h

theorem QuietExt.dirtyRel : DirtyRel QuietExt :=
  ⟨QuietExt.refl, QuietExt.trans, fun _ _ _ => QuietExt.of_eq rfl rfl rfl rfl rfl rfl,
   fun w t => ⟨rfl, rfl, rfl, rfl, rfl, [.warnOverride t], rfl, fun x h => by
     rcases List.mem_singleton.1 h with h; cases h⟩⟩

theorem QuietExt.addKnown (w : World) (f : Nat) : QuietExt w (addKnown w f) := by
  unfold Deps.addKnown
  split
  · exact QuietExt.refl w
  · exact QuietExt.of_eq rfl rfl rfl rfl rfl rfl

/-- The mark against which the sources of a target are compared: the later of its `changed` and `checked` runs. -/
def mark (r : Rec) : Nat := max (r.changed.getD 0) (r.checked.getD 0)

/-- A recorded row of `t` that gives no reason to rebuild: a `c` row whose source still does not exist, or an
`m` row on a plain source (a record that is not generated: it has no rows of its own) that is not failed, was
last changed no later than `t`'s mark, and whose file is as recorded. -/
def QuietDep (w : World) (t : Nat) (d0 : Dep) : Prop :=
  (d0.modeM = false → existsF w d0.source = false) ∧
  (d0.modeM = true → d0.source ≠ alwaysId ∧ (w.recs d0.source).isGenerated = false ∧
    (w.recs d0.source).failed = none ∧ (∃ c, (w.recs d0.source).changed = some c ∧ c ≤ mark (w.recs t)) ∧
    (w.recs d0.source).stamp = some (readStamp w d0.source))

instance (w : World) (t : Nat) (d0 : Dep) : Decidable (QuietDep w t d0) :=
  decidable_of_iff
    ((d0.modeM = false → existsF w d0.source = false) ∧
      (d0.modeM = true → d0.source ≠ alwaysId ∧ (w.recs d0.source).isGenerated = false ∧
        (w.recs d0.source).failed = none ∧ (∃ c ∈ (w.recs d0.source).changed, c ≤ mark (w.recs t)) ∧
        (w.recs d0.source).stamp = some (readStamp w d0.source)))
    Iff.rfl

/-- The `//ALWAYS` record as `redo-always` leaves it in run `R` (and as it stays for the rest of the run):
stamped "missing", not failed, changed no later than `R`; and no real file has that name. -/
structure AlwaysFresh (w : World) (R : Nat) : Prop where
  nofail : (w.recs alwaysId).failed = none
  notgen : (w.recs alwaysId).isGenerated = false
  stamp : (w.recs alwaysId).stamp = some .missing
  nofile : w.fs alwaysId = none
  le : ∀ c, (w.recs alwaysId).changed = some c → c ≤ R

theorem quietRow_always (w : World) (R : Nat) (t mx : Nat) (ht : t ≠ alwaysId) (hA : AlwaysFresh w R) (hmx : R ≤ mx)
    (d0 : Dep) (hs : d0.source = alwaysId) (hm : d0.modeM = true) :
    QuietRow w [t] mx (d0, getRec w R d0.source) := by
  refine ⟨(fun h => by rw [hm] at h; cases h), fun _ => ?_⟩
  dsimp only
  rw [hs]
  refine ⟨by simpa using Ne.symm ht, by simp [getRec, hA.nofail], ?_, by simp [getRec, hA.notgen], ?_⟩
  · unfold getRec
    simp only [if_true]
    cases h : (w.recs alwaysId).changed with
    | none => exact ⟨R, rfl, hmx⟩
    | some c0 => have := hA.le c0 h; exact ⟨max R c0, rfl, by omega⟩
  · simp [getRec, hA.stamp, readStamp, hA.nofile]

theorem quietRow_of_quietDep (w : World) (R : Nat) (t mx : Nat) (hg : (w.recs t).isGenerated = true)
    (hmx : mark (w.recs t) ≤ mx) (d0 : Dep) (hq : QuietDep w t d0) :
    QuietRow w [t] mx (d0, getRec w R d0.source) := by
  refine ⟨hq.1, fun h => ?_⟩
  obtain ⟨h0, hgs, hf, ⟨c, hcc, hcl⟩, hst⟩ := hq.2 h
  have hne : d0.source ≠ t := by
    intro he
    rw [he, hg] at hgs
    cases hgs
  dsimp only
  rw [getRec_of_ne h0]
  exact ⟨by simpa using hne, hf, ⟨c, hcc, by omega⟩, hgs, hst⟩

/-- **Once per run (local form).**  After `t` was rebuilt in run `R` — its record says `changed = R` (or, after a
`redo-stamp` with an unchanged checksum, `checked = R`), not failed, stamp current — a further `should_build`
for `t` by any process of the same run answers `clean`, although `t` has a row on `//ALWAYS`: within the run
`//ALWAYS` is not newer than `t`.  The other rows of `t` must be quiet. -/
theorem shouldBuild_after_rebuild (cx : Ctx) (m : Nat) (hm : 0 < m) (t : Nat) (w : World) (hr : cx.isRedo = false)
    (ht : t ≠ alwaysId) (hg : (w.recs t).isGenerated = true) (hf : (w.recs t).failed = none)
    (h : (cx.runid ≠ 0 ∧ (w.recs t).checked = some cx.runid ∧ ∃ ch, (w.recs t).changed = some ch ∧ ch ≤ cx.runid) ∨
      ((w.recs t).changed = some cx.runid ∧ (w.recs t).stamp = some (readStamp w t) ∧ AlwaysFresh w cx.runid ∧
        ∀ d0 ∈ w.deps, d0.target = t → (d0.modeM = true ∧ d0.source = alwaysId) ∨ QuietDep w t d0)) :
    (shouldBuild cx (m + 1) t w).1 = some .clean := by
  rcases h with ⟨h0, hck, ch, hch, hle⟩ | ⟨hch, hst, hA, hrows⟩
  · exact shouldBuild_quiet cx m hm t w ch hr ht hf hch hle (Or.inl (by simp [isCheckedR, hck, h0]))
  · refine shouldBuild_quiet cx m hm t w cx.runid hr ht hf hch (Nat.le_refl _) (Or.inr ⟨hst, fun d0 hd hdt => ?_⟩)
    rcases hrows d0 hd hdt with ⟨h1, h2⟩ | hq
    · exact quietRow_always w cx.runid t _ ht hA (Nat.le_max_left _ _) d0 h2 h1
    · exact quietRow_of_quietDep w cx.runid t _ hg (by simp [mark, hch]) d0 hq

/-! ### C14 lifted to whole commands: once per run, at the level of a further dependent's command -/

theorem mergeSort_pair {α} (le : α → α → Bool) (a b : α) :
    [a, b].mergeSort le = if le a b then [a, b] else [b, a] := by
  rw [List.mergeSort]
  simp [List.merge]

/-- The rows of a target that has exactly two, without `mergeSort`. -/
theorem depsOf_pair (w : World) (r : Rec) (f : Nat) (a b : Dep)
    (hf : w.deps.filter (fun d => d.target = f) = [a, b]) :
    depsOf w r f = if r.isOverride || !r.isGenerated then []
      else if (w.recs a.source).row ≤ (w.recs b.source).row then [a, b] else [b, a] := by
  unfold depsOf
  split
  · rfl
  · rw [hf, mergeSort_pair]
    by_cases h : (w.recs a.source).row ≤ (w.recs b.source).row <;> simp [h]

/-- Equal in every field but the row id. -/
def FieldsEq (a b : Rec) : Prop :=
  a.isGenerated = b.isGenerated ∧ a.isOverride = b.isOverride ∧ a.checked = b.checked ∧ a.changed = b.changed ∧
  a.failed = b.failed ∧ a.stamp = b.stamp ∧ a.csum = b.csum

theorem FieldsEq.refl (a : Rec) : FieldsEq a a := ⟨rfl, rfl, rfl, rfl, rfl, rfl, rfl⟩

theorem FieldsEq.trans {a b c : Rec} (h1 : FieldsEq a b) (h2 : FieldsEq b c) : FieldsEq a c := by
  obtain ⟨a1, a2, a3, a4, a5, a6, a7⟩ := h1
  obtain ⟨b1, b2, b3, b4, b5, b6, b7⟩ := h2
  exact ⟨a1.trans b1, a2.trans b2, a3.trans b3, a4.trans b4, a5.trans b5, a6.trans b6, a7.trans b7⟩

/-- What registering a file or recording a row of *another* target changes: row ids, and rows of other targets. -/
structure RowsOnly (t : Nat) (w w' : World) : Prop where
  fs : w'.fs = w.fs
  recs : ∀ x, FieldsEq (w'.recs x) (w.recs x)
  deps : ∀ d0 ∈ w'.deps, d0.target = t → d0 ∈ w.deps

theorem RowsOnly.trans {t : Nat} {a b c : World} (h1 : RowsOnly t a b) (h2 : RowsOnly t b c) : RowsOnly t a c :=
  ⟨h2.fs.trans h1.fs, fun x => (h2.recs x).trans (h1.recs x), fun d0 hd ht => h1.deps d0 (h2.deps d0 hd ht) ht⟩

theorem addKnown_fieldsEq (w : World) (f x : Nat) : FieldsEq ((addKnown w f).recs x) (w.recs x) := by
  by_cases hx : x = f
  · subst hx
    obtain ⟨row, h⟩ := addKnown_recs_self w x
    rw [h]
    exact ⟨rfl, rfl, rfl, rfl, rfl, rfl, rfl⟩
  · rw [addKnown_recs_ne w f x hx]
    exact FieldsEq.refl _

theorem RowsOnly.addKnown (t : Nat) (w : World) (f : Nat) : RowsOnly t w (addKnown w f) :=
  ⟨addKnown_fs w f, addKnown_fieldsEq w f, fun d0 hd _ => by rw [addKnown_deps] at hd; exact hd⟩

theorem RowsOnly.addDep (t : Nat) (w : World) (p s : Nat) (m : Bool) (hp : p ≠ t) : RowsOnly t w (addDep w p s m) := by
  refine ⟨addDep_fs w p s m, addKnown_fieldsEq w s, fun d0 hd ht => ?_⟩
  unfold Deps.addDep at hd
  rcases List.mem_cons.1 hd with rfl | hd'
  · exact absurd ht hp
  · have := (List.mem_filter.1 hd').1
    rw [addKnown_deps] at this
    exact this

theorem QuietDep.transfer {t : Nat} {w w' : World} (h : RowsOnly t w w') (d0 : Dep) (hq : QuietDep w t d0) :
    QuietDep w' t d0 := by
  obtain ⟨hc, hm⟩ := hq
  refine ⟨fun hh => by rw [existsF_congr (congrFun h.fs _)]; exact hc hh, fun hh => ?_⟩
  obtain ⟨h0, hg, hf, ⟨c, hcc, hcl⟩, hst⟩ := hm hh
  obtain ⟨s1, _, _, s4, s5, s6, _⟩ := h.recs d0.source
  obtain ⟨_, _, t3, t4, _, _, _⟩ := h.recs t
  refine ⟨h0, by rw [s1]; exact hg, by rw [s5]; exact hf, ⟨c, by rw [s4]; exact hcc, ?_⟩, ?_⟩
  · unfold mark at hcl ⊢
    rw [t3, t4]
    exact hcl
  · rw [s6, hst, readStamp_congr (congrFun h.fs _)]

theorem AlwaysFresh.transfer {t R : Nat} {w w' : World} (h : RowsOnly t w w') (hA : AlwaysFresh w R) :
    AlwaysFresh w' R := by
  obtain ⟨s1, _, _, s4, s5, s6, _⟩ := h.recs alwaysId
  exact ⟨by rw [s5]; exact hA.nofail, by rw [s1]; exact hA.notgen, by rw [s6]; exact hA.stamp,
    by rw [h.fs]; exact hA.nofile, fun c hc => hA.le c (by rw [← s4]; exact hc)⟩

/-- "`t` was rebuilt in run `R`, and nothing it depends on has moved since": the hypothesis of the
once-per-run theorems. -/
def RebuiltIn (R t : Nat) (w : World) : Prop :=
  (w.recs t).isGenerated = true ∧ (w.recs t).failed = none ∧
  ((R ≠ 0 ∧ (w.recs t).checked = some R ∧ ∃ ch, (w.recs t).changed = some ch ∧ ch ≤ R) ∨
    ((w.recs t).changed = some R ∧ (w.recs t).stamp = some (readStamp w t) ∧ AlwaysFresh w R ∧
      ∀ d0 ∈ w.deps, d0.target = t → (d0.modeM = true ∧ d0.source = alwaysId) ∨ QuietDep w t d0))

theorem RebuiltIn.transfer {R t : Nat} {w w' : World} (h : RowsOnly t w w') (hb : RebuiltIn R t w) :
    RebuiltIn R t w' := by
  obtain ⟨hg, hf, hd⟩ := hb
  obtain ⟨t1, _, t3, t4, t5, t6, _⟩ := h.recs t
  refine ⟨by rw [t1]; exact hg, by rw [t5]; exact hf, ?_⟩
  rcases hd with ⟨h0, hck, ch, hch, hle⟩ | ⟨hch, hst, hA, hrows⟩
  · exact Or.inl ⟨h0, by rw [t3]; exact hck, ch, by rw [t4]; exact hch, hle⟩
  · refine Or.inr ⟨by rw [t4]; exact hch, by rw [t6, hst, readStamp_congr (congrFun h.fs _)], hA.transfer h,
      fun d0 hd0 hdt => ?_⟩
    rcases hrows d0 (h.deps d0 hd0 hdt) hdt with ha | hq
    · exact Or.inl ha
    · exact Or.inr (hq.transfer h d0)

/-- What the clean check of `isDirty_quiet` writes: nothing if the record was already checked in this run,
else (besides the sources' records) the target's record with `checked := R`. -/
theorem isDirty_quiet_rec (R m : Nat) (hm : 0 < m) (w : World) (cache : List Nat) (t mx ch : Nat)
    (hf : (getRec w R t).failed = none) (hch : (getRec w R t).changed = some ch) (hmx : ch ≤ mx)
    (h : isCheckedR (getRec w R t) R = true ∨
      ((getRec w R t).stamp = some (readStamp w t) ∧
        ∀ p ∈ depsWithRecs w R (getRec w R t) t, QuietRow w [t] (max ch ((getRec w R t).checked.getD 0)) p)) :
    (isDirty false R (m + 1) w cache t mx [] none).2.1 = w ∨
    (isDirty false R (m + 1) w cache t mx [] none).2.1.recs t = { (getRec w R t) with checked := some R } := by
  cases hck : isCheckedR (getRec w R t) R with
  | true => rw [isDirty_memo false R m w cache t mx ch [] none (by simp) hf hch hmx hck]; exact .inl rfl
  | false =>
    obtain ⟨hst, hq⟩ := h.resolve_left (by rw [hck]; simp)
    obtain ⟨n, rfl⟩ : ∃ n, m = n + 1 := ⟨m - 1, by omega⟩
    rw [isDirty_current (r := getRec w R t) (pre := none) rfl (by simp) hf hch hmx hck hst]
    have key := goDeps_cut R n _ [t] (getRec w R t).csum.isSome t w _ w cache rfl (fun p hp => .inl (hq p hp))
    generalize goDeps _ _ _ _ _ _ _ = g at key
    obtain ⟨o, w1, c1⟩ := g
    cases key
    exact .inr (by simp [markChecked, setRec])

/-- The state "rebuilt in run `R`" survives the `should_build` of a further dependent (`R ≠ 0`: run ids start
at 1; a mark 0 never counts as "checked in this run"). -/
theorem shouldBuild_keeps_rebuilt (cx : Ctx) (m : Nat) (hm : 0 < m) (t : Nat) (w : World) (hr : cx.isRedo = false)
    (ht : t ≠ alwaysId) (h0 : cx.runid ≠ 0) (hb : RebuiltIn cx.runid t w) :
    RebuiltIn cx.runid t (shouldBuild cx (m + 1) t w).2 := by
  obtain ⟨hg, hf, hd⟩ := hb
  have hget : getRec w cx.runid t = w.recs t := getRec_of_ne ht
  have hch : ∃ ch, (w.recs t).changed = some ch ∧ ch ≤ cx.runid := by
    rcases hd with ⟨_, _, ch, h1, h2⟩ | ⟨h1, _⟩
    · exact ⟨ch, h1, h2⟩
    · exact ⟨cx.runid, h1, Nat.le_refl _⟩
  obtain ⟨ch, hch, hle⟩ := hch
  have key := isDirty_quiet_rec cx.runid m hm w [] t cx.runid ch (by rw [hget]; exact hf) (by rw [hget]; exact hch) hle
    (by
      rw [hget]
      rcases hd with ⟨h0', hck, _⟩ | ⟨hch', hst, hA, hrows⟩
      · exact Or.inl (by simp [isCheckedR, hck, h0'])
      · have hcc : ch = cx.runid := Option.some.inj (hch.symm.trans hch')
        refine Or.inr ⟨hst, fun p hp => ?_⟩
        obtain ⟨d0, s⟩ := p
        obtain ⟨e, -, -, hd0, hdt⟩ := mem_depsWithRecs.1 hp
        dsimp only at e hd0 hdt
        subst e
        rcases hrows d0 hd0 hdt with ⟨h1, h2⟩ | hq
        · exact quietRow_always w cx.runid t _ ht hA (by rw [hcc]; exact Nat.le_max_left _ _) d0 h2 h1
        · exact quietRow_of_quietDep w cx.runid t _ hg (by simp [mark, hch]) d0 hq)
  rw [shouldBuild_eq_walk cx _ t w hr ht hf]
  rcases key with h | h
  · rw [h]
    exact ⟨hg, hf, hd⟩
  · rw [hget] at h
    refine ⟨by rw [h]; exact hg, by rw [h]; exact hf, Or.inl ⟨h0, by rw [h], ch, by rw [h]; exact hch, hle⟩⟩

/-- Nothing was executed and no file changed (rows and records may have). -/
def NoRun (w w' : World) : Prop := w'.fs = w.fs ∧ ∃ pre, w'.trace = pre ++ w.trace ∧ ∀ x, Ev.ran x ∉ pre

theorem NoRun.refl (w : World) : NoRun w w := ⟨rfl, [], rfl, fun _ h => by cases h⟩

theorem NoRun.trans {a b c : World} (h1 : NoRun a b) (h2 : NoRun b c) : NoRun a c := by
  obtain ⟨a1, p1, e1, n1⟩ := h1
  obtain ⟨b1, p2, e2, n2⟩ := h2
  refine ⟨b1.trans a1, p2 ++ p1, by rw [e2, e1, List.append_assoc], fun x hx => ?_⟩
  rcases List.mem_append.1 hx with h | h
  · exact n2 x h
  · exact n1 x h

theorem QuietExt.noRun {w w' : World} (h : QuietExt w w') : NoRun w w' := ⟨h.1, h.2.2.2.2.2⟩

/-- **Once per run, at the level of the dependent's command.**  In the run in which `t` was rebuilt, the
`redo-ifchange t` of a further dependent `p` exits 0 and only records the row `p → t`: nothing is executed, no
file changes; and `t` is still "rebuilt in run `R`" afterwards, so the statement can be iterated. -/
theorem ifchangeCmd_after_rebuild_step (d : Defects) (n : Nat) (hn : 0 < n) (cx : Ctx) (p t : Nat) (w : World)
    (hp : cx.parent = some p) (hpt : p ≠ t) (hu : cx.unlocked = false) (hcy : t ∉ cx.cycles)
    (hr : cx.isRedo = false) (ht : t ≠ alwaysId) (hb : RebuiltIn cx.runid t w) :
    ((engine d (n + 1)).ifchangeCmd cx [t] w).1 = 0 ∧
    QuietExt (addDep (addKnown w p) p t true) ((engine d (n + 1)).ifchangeCmd cx [t] w).2 ∧
    (cx.runid ≠ 0 → RebuiltIn cx.runid t ((engine d (n + 1)).ifchangeCmd cx [t] w).2) := by
  have hrel : RowsOnly t w (addKnown (addDep (addKnown w p) p t true) t) :=
    ((RowsOnly.addKnown t w p).trans (RowsOnly.addDep t _ p t true hpt)).trans (RowsOnly.addKnown t _ t)
  obtain ⟨hg, hf, hd⟩ := hb.transfer hrel
  have hsb := shouldBuild_after_rebuild cx n hn t _ hr ht hg hf hd
  have hjob := buildJob_of_clean (engine d n) d cx (n + 1) t _ hsb
  have hkeep := fun h0 => shouldBuild_keeps_rebuilt cx n hn t _ hr ht h0 ⟨hg, hf, hd⟩
  have hq : QuietExt (addDep (addKnown w p) p t true)
      (shouldBuild cx (n + 1) t (addKnown (addDep (addKnown w p) p t true) t)).2 :=
    (QuietExt.addKnown _ t).trans (shouldBuild_rel QuietExt.dirtyRel cx _ t _)
  show (ifchangeWith (engine d n) d (n + 1) cx [t] w).1 = 0 ∧ QuietExt _ (ifchangeWith (engine d n) d (n + 1) cx [t] w).2 ∧
    (cx.runid ≠ 0 → RebuiltIn cx.runid t (ifchangeWith (engine d n) d (n + 1) cx [t] w).2)
  have hcont : [t].contains p = false := by simp [hpt]
  unfold ifchangeWith
  simp only [hp, hu, hcont, Bool.not_false, Bool.and_false, Bool.false_eq_true, if_false, List.foldl_cons,
    List.foldl_nil]
  rw [runTargets_single _ d cx _ t _ (.inr hcy), hjob]
  exact ⟨rfl, hq, hkeep⟩

theorem ifchangeCmd_after_rebuild_keeps (d : Defects) (n : Nat) (hn : 0 < n) (cx : Ctx) (p t : Nat) (w : World)
    (hp : cx.parent = some p) (hpt : p ≠ t) (hu : cx.unlocked = false) (hcy : t ∉ cx.cycles)
    (hr : cx.isRedo = false) (ht : t ≠ alwaysId) (h0 : cx.runid ≠ 0) (hb : RebuiltIn cx.runid t w) :
    ((engine d (n + 1)).ifchangeCmd cx [t] w).1 = 0 ∧ NoRun w ((engine d (n + 1)).ifchangeCmd cx [t] w).2 ∧
    RebuiltIn cx.runid t ((engine d (n + 1)).ifchangeCmd cx [t] w).2 := by
  obtain ⟨h1, h2, h3⟩ := ifchangeCmd_after_rebuild_step d n hn cx p t w hp hpt hu hcy hr ht hb
  refine ⟨h1, NoRun.trans ⟨?_, [], ?_, fun _ h => nomatch h⟩ h2.noRun, h3 h0⟩
  · rw [addDep_fs, addKnown_fs]
  · rw [addDep_trace, addKnown_trace]; rfl

/-- What is required of the process of a further dependent of `t` in run `R`. -/
def Dependent (R t : Nat) (cx : Ctx) : Prop :=
  cx.runid = R ∧ (∃ p, cx.parent = some p ∧ p ≠ t) ∧ cx.unlocked = false ∧ t ∉ cx.cycles ∧ cx.isRedo = false

/-- The nested `redo-ifchange t` commands of a list of processes, one after the other: their statuses and the
final world. -/
def runDependents (d : Defects) (n t : Nat) : List Ctx → World → List Status × World
  | [], w => ([], w)
  | cx :: cxs, w =>
    (((engine d (n + 1)).ifchangeCmd cx [t] w).1 :: (runDependents d n t cxs ((engine d (n + 1)).ifchangeCmd cx [t] w).2).1,
     (runDependents d n t cxs ((engine d (n + 1)).ifchangeCmd cx [t] w).2).2)

end RedoModel.Deps
