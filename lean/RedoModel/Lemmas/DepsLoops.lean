import RedoModel.Lemmas.DepsParts
/-!
# The loops of the engine, for any contract of their steps

The exit statuses; the loop of a command over its targets for any contract of the jobs (`runTargets_loopC` and its readings);
the outcome of a step of the engine as one structure (`StepPost`, with the rules `fail`, `mono`, `pre`); the loops that exit 0
(`cmds_zero`, `conds_zero`, `runTargets_zero`) and the converse as an induction (`runTargets_zero_induct`); what a failure
records, answers and returns.  No invariant is mentioned: the soundness proofs, `Once/`, `DepsOk`, `DepsQuiet`, `DepsNoNewFail`
instantiate these.
-/
namespace RedoModel.Deps
open RedoModel.Generated

/-! ### The exit statuses -/

/-- The status a job hands to `builder::run`. -/
def JobResult.st : JobResult → Status
  | .abort c => c
  | .done rv => rv

theorem loop_codes : (1 : Status) ≠ 0 ∧ (1 : Status) ≠ CRASHED ∧ (0 : Status) ≠ CRASHED ∧ EXIT_TARGET_FAILED ≠ 0 ∧
    EXIT_CYCLIC_DEPENDENCY ≠ 0 ∧ EXIT_CYCLIC_DEPENDENCY ≠ CRASHED := by decide

theorem exit_codes : EXIT_TARGET_FAILED ≠ 0 ∧ EXIT_TARGET_FAILED ≠ CRASHED ∧ EXIT_CYCLIC_DEPENDENCY ≠ 0 ∧
    EXIT_CYCLIC_DEPENDENCY ≠ CRASHED ∧ EXIT_FAILURE ≠ 0 ∧ EXIT_FAILURE ≠ CRASHED := by decide

theorem one_ne_zero_status : (1 : Status) ≠ 0 := loop_codes.1

theorem one_ne_crashed : (1 : Status) ≠ CRASHED := loop_codes.2.1

theorem zero_ne_crashed : (0 : Status) ≠ CRASHED := loop_codes.2.2.1

/-! ### The loop of a command over its targets (`runTargets`), for any contract of the jobs.

No invariant is mentioned: `I` holds of every world on the way, `Rel` is the frame (reflexive, transitive), `G w t` says
that `t` is good in `w` (kept by the frame), `K` is what successful jobs keep and under which they make their target
good, `Kd` is the outcome "killed" (`fun _ _ => False` where nobody is killed), `A` is what is asked of a target.
In `runTargets_loopC` the caller may vouch for `K` at the start (`P := True`): a job then relies on `K` as long as no
job has failed (`e = false`); where `--keep-going` is off, that is every job that starts.  The job's contract may also
use that its target passed the cycle test of the loop. -/

/-- What the loop guarantees when it is not killed. -/
def LoopPost (I : World → Prop) (Rel : World → World → Prop) (G : World → Nat → Prop) (K : World → Prop)
    (ts seen : List Nat) (errored : Bool) (w : World) (res : Status × World) : Prop :=
  I res.2 ∧ Rel w res.2 ∧ res.1 ≠ CRASHED ∧ (res.1 = 0 → errored = false) ∧
  (K w → (∀ s ∈ seen, G w s) → res.1 = 0 → K res.2 ∧ ∀ t ∈ ts, G res.2 t)

theorem runTargets_loopC {E : Engine} {d : Defects} {cx : Ctx} {fuel : Nat} {P : Prop}
    {I : World → Prop} {Rel : World → World → Prop} {G : World → Nat → Prop} {K : World → Prop}
    {Kd : World → Status × World → Prop} {A : Nat → Prop}
    (refl : ∀ w, Rel w w) (trans : ∀ a b c, Rel a b → Rel b c → Rel a c)
    (hG : ∀ w w' s, Rel w w' → G w s → G w' s)
    (hak : ∀ w t, I w → I (addKnown w t) ∧ Rel w (addKnown w t) ∧ (K w → K (addKnown w t)))
    (hkc : ∀ w res, Kd w res → res.1 = CRASHED) (hkd : ∀ w w' res, Rel w w' → Kd w' res → Kd w res)
    (hjob : ∀ t w e, I w → A t → (!cx.unlocked && decide (t ∈ cx.cycles)) = false → (e && !cx.keepGoing) = false →
      (P → e = false → K w) →
      Kd w ((buildJob E d cx fuel t w).1.st, (buildJob E d cx fuel t w).2) ∨
      (I (buildJob E d cx fuel t w).2 ∧ Rel w (buildJob E d cx fuel t w).2 ∧ (buildJob E d cx fuel t w).1.st ≠ CRASHED ∧
        (K w → (buildJob E d cx fuel t w).1.st = 0 → G (buildJob E d cx fuel t w).2 t ∧ K (buildJob E d cx fuel t w).2))) :
    ∀ (ts seen : List Nat) (errored : Bool) (w : World), I w → (∀ t ∈ ts, A t) → (P → errored = false → K w) →
      Kd w (runTargets E d cx fuel ts seen errored w) ∨
      LoopPost I Rel G K ts seen errored w (runTargets E d cx fuel ts seen errored w)
  | [], seen, errored, w, hi, _, _ => by
    obtain ⟨c1, c2, c3, _⟩ := loop_codes
    right
    simp only [runTargets]
    cases errored with
    | true => exact ⟨hi, refl w, c2, fun h => absurd h c1, fun _ _ h => absurd h c1⟩
    | false => exact ⟨hi, refl w, c3, fun _ => rfl, fun hk _ _ => ⟨hk, fun t ht => by simp at ht⟩⟩
  | t :: ts, seen, errored, w, hi, hts, hP => by
    obtain ⟨c1, c2, c3, c4, c5, c6⟩ := loop_codes
    have htl : ∀ t' ∈ ts, A t' := fun t' h => hts t' (List.mem_cons_of_mem _ h)
    rw [runTargets]
    by_cases hin : t ∈ seen
    · simp only [hin, if_true]
      refine (runTargets_loopC refl trans hG hak hkc hkd hjob ts seen errored w hi htl hP).imp id
        (fun ⟨a1, a2, a3, a4, a5⟩ => ⟨a1, a2, a3, a4, fun hk hs h => ⟨(a5 hk hs h).1, fun t' ht' => ?_⟩⟩)
      rcases List.mem_cons.1 ht' with rfl | ht'
      · exact hG _ _ _ a2 (hs _ hin)
      · exact (a5 hk hs h).2 t' ht'
    simp only [hin, if_false]
    by_cases he : (errored && !cx.keepGoing) = true
    · simp only [he, if_true]
      exact Or.inr ⟨hi, refl w, c2, fun h => absurd h c1, fun _ _ h => absurd h c1⟩
    have he : (errored && !cx.keepGoing) = false := Bool.eq_false_iff.2 he
    simp only [he]
    obtain ⟨hi1, hb1, hk1⟩ := hak w t hi
    by_cases hc : (!cx.unlocked && decide (t ∈ cx.cycles)) = true
    · simp only [hc, if_true]
      exact Or.inr ⟨hi1, hb1, c6, fun h => absurd h c5, fun _ _ h => absurd h c5⟩
    simp only [hc]
    have hj := hjob t (addKnown w t) errored hi1 (hts t (by simp)) (Bool.eq_false_iff.2 hc) he (fun hp h => hk1 (hP hp h))
    generalize hbj : buildJob E d cx fuel t (addKnown w t) = res at hj ⊢
    obtain ⟨jr, w2⟩ := res
    cases jr with
    | abort code =>
      have hne : code ≠ 0 ∧ code ≠ CRASHED := by
        rcases buildJob_abort_code E d cx fuel t _ code w2 hbj with h | h <;> rw [h]
        · exact ⟨c4, by decide⟩
        · exact ⟨c5, c6⟩
      rcases hj with hk | ⟨j1, j2, j5, _⟩
      · exact absurd (hkc _ _ hk) hne.2
      · exact Or.inr ⟨j1, trans _ _ _ hb1 j2, j5, fun h => absurd h hne.1, fun _ _ h => absurd h hne.1⟩
    | done rv =>
      simp only [JobResult.st] at hj ⊢
      rcases hj with hk | ⟨j1, j2, j5, j3⟩
      · have := hkc _ _ hk
        dsimp only at this
        subst this
        simp only [if_true]
        exact Or.inl (hkd _ _ _ hb1 hk)
      simp only [j5, if_false]
      rcases runTargets_loopC refl trans hG hak hkc hkd hjob ts (t :: seen) (errored || decide (rv ≠ 0)) w2 j1 htl
        (fun hp h => by
          have h' : errored = false ∧ rv = 0 := by simpa [Bool.or_eq_false_iff] using h
          exact (j3 (hk1 (hP hp h'.1)) h'.2).2) with hk | ⟨a1, a2, a3, a4, a5⟩
      · exact Or.inl (hkd _ _ _ (trans _ _ _ hb1 j2) hk)
      have hz : (runTargets E d cx fuel ts (t :: seen) (errored || decide (rv ≠ 0)) w2).1 = 0 → errored = false ∧ rv = 0 := by
        intro h
        simpa [Bool.or_eq_false_iff] using a4 h
      refine Or.inr ⟨a1, trans _ _ _ (trans _ _ _ hb1 j2) a2, a3, fun h => (hz h).1, fun hk hs h => ?_⟩
      obtain ⟨g, k2⟩ := j3 (hk1 hk) (hz h).2
      obtain ⟨k3, a6⟩ := a5 k2 (fun s hs' => by
        rcases List.mem_cons.1 hs' with rfl | hs'
        · exact g
        · exact hG _ _ _ (trans _ _ _ hb1 j2) (hs s hs')) h
      refine ⟨k3, fun t' ht' => ?_⟩
      rcases List.mem_cons.1 ht' with rfl | ht'
      · exact hG _ _ _ a2 g
      · exact a6 t' ht'

/-- The loop when the jobs' contract does not use the cycle test. -/
theorem runTargets_loopK {E : Engine} {d : Defects} {cx : Ctx} {fuel : Nat} {P : Prop}
    {I : World → Prop} {Rel : World → World → Prop} {G : World → Nat → Prop} {K : World → Prop}
    {Kd : World → Status × World → Prop} {A : Nat → Prop}
    (refl : ∀ w, Rel w w) (trans : ∀ a b c, Rel a b → Rel b c → Rel a c)
    (hG : ∀ w w' s, Rel w w' → G w s → G w' s)
    (hak : ∀ w t, I w → I (addKnown w t) ∧ Rel w (addKnown w t) ∧ (K w → K (addKnown w t)))
    (hkc : ∀ w res, Kd w res → res.1 = CRASHED) (hkd : ∀ w w' res, Rel w w' → Kd w' res → Kd w res)
    (hjob : ∀ t w e, I w → A t → (e && !cx.keepGoing) = false → (P → e = false → K w) →
      Kd w ((buildJob E d cx fuel t w).1.st, (buildJob E d cx fuel t w).2) ∨
      (I (buildJob E d cx fuel t w).2 ∧ Rel w (buildJob E d cx fuel t w).2 ∧ (buildJob E d cx fuel t w).1.st ≠ CRASHED ∧
        (K w → (buildJob E d cx fuel t w).1.st = 0 → G (buildJob E d cx fuel t w).2 t ∧ K (buildJob E d cx fuel t w).2))) :
    ∀ (ts seen : List Nat) (errored : Bool) (w : World), I w → (∀ t ∈ ts, A t) → (P → errored = false → K w) →
      Kd w (runTargets E d cx fuel ts seen errored w) ∨
      LoopPost I Rel G K ts seen errored w (runTargets E d cx fuel ts seen errored w) :=
  runTargets_loopC refl trans hG hak hkc hkd fun t w e hi ha _ => hjob t w e hi ha

/-- The loop when the jobs do not rely on `K`. -/
theorem runTargets_loop {E : Engine} {d : Defects} {cx : Ctx} {fuel : Nat}
    {I : World → Prop} {Rel : World → World → Prop} {G : World → Nat → Prop} {K : World → Prop}
    {Kd : World → Status × World → Prop} {A : Nat → Prop}
    (refl : ∀ w, Rel w w) (trans : ∀ a b c, Rel a b → Rel b c → Rel a c)
    (hG : ∀ w w' s, Rel w w' → G w s → G w' s)
    (hak : ∀ w t, I w → I (addKnown w t) ∧ Rel w (addKnown w t) ∧ (K w → K (addKnown w t)))
    (hkc : ∀ w res, Kd w res → res.1 = CRASHED) (hkd : ∀ w w' res, Rel w w' → Kd w' res → Kd w res)
    (hjob : ∀ t w, I w → A t →
      Kd w ((buildJob E d cx fuel t w).1.st, (buildJob E d cx fuel t w).2) ∨
      (I (buildJob E d cx fuel t w).2 ∧ Rel w (buildJob E d cx fuel t w).2 ∧ (buildJob E d cx fuel t w).1.st ≠ CRASHED ∧
        (K w → (buildJob E d cx fuel t w).1.st = 0 → G (buildJob E d cx fuel t w).2 t ∧ K (buildJob E d cx fuel t w).2)))
    (ts seen : List Nat) (errored : Bool) (w : World) (hi : I w) (hts : ∀ t ∈ ts, A t) :
    Kd w (runTargets E d cx fuel ts seen errored w) ∨
    LoopPost I Rel G K ts seen errored w (runTargets E d cx fuel ts seen errored w) :=
  runTargets_loopK (P := False) refl trans hG hak hkc hkd (fun t w _ hi ha _ _ => hjob t w hi ha) ts seen errored w hi hts
    (fun h => h.elim)

/-! ### The outcome of a step of the engine that was not killed

Every specification of the soundness proofs says the same five things of a step from `w` to `res`: an invariant `I` holds of
the world reached, a frame `F` relates it to the start, a property `N` of the start ("no failure recorded in this run") is
kept on status 0, status 0 means `G`, and the status is not "killed".  The proofs compose such outcomes by the three
rules below. -/

structure StepPost (I : World → Prop) (F : World → World → Prop) (N G : World → Prop) (w : World)
    (res : Status × World) : Prop where
  inv : I res.2
  frame : F w res.2
  ok : res.1 = 0 → G res.2
  keep : N w → res.1 = 0 → N res.2
  notCrashed : res.1 ≠ CRASHED

namespace StepPost
variable {I : World → Prop} {F F' : World → World → Prop} {N G G' : World → Prop} {w w0 : World} {res : Status × World}

theorem fail {w' : World} (hi : I w') (hf : F w w') {rv : Status} (h0 : rv ≠ 0) (hc : rv ≠ CRASHED) :
    StepPost I F N G w (rv, w') :=
  ⟨hi, hf, fun h => absurd h h0, fun _ h => absurd h h0, hc⟩

theorem mono (h : StepPost I F N G w res) (hG : res.1 = 0 → G res.2 → G' res.2) : StepPost I F N G' w res :=
  ⟨h.inv, h.frame, fun hz => hG hz (h.ok hz), h.keep, h.notCrashed⟩

/-- Sequencing: a step from `w0` to `w` that keeps `N`, then `h`; `hf` puts the frames together (`hb.trans`, for a frame
step `hb`), or widens the frame (`w0 = w`). -/
theorem pre (h : StepPost I F N G w res) (hf : F w res.2 → F' w0 res.2) (hn : N w0 → N w) : StepPost I F' N G w0 res :=
  ⟨h.inv, hf h.frame, h.ok, fun h0 hz => h.keep (hn h0) hz, h.notCrashed⟩

end StepPost

/-! ### Loops that exit 0

If every step of a loop succeeds, and keeps what is known of the world (`S`; it may speak of the world the loop started
in) and what is asked of the items still to come (`B w x`), the loop exits 0 in a world of which `S` holds.  No invariant
is mentioned. -/

theorem cmds_zero {E : Engine} {cx : Ctx} {t : Nat} {cx' : Ctx} (hcrash : cx.crash = none) {S : World → Prop}
    {B : World → List Nat → Prop}
    (call : ∀ c w, S w → B w c → (E.ifchangeCmd cx' c w).1 = 0 ∧ S (E.ifchangeCmd cx' c w).2 ∧
      ∀ c', B w c' → B (E.ifchangeCmd cx' c w).2 c')
    (cs : List (List Nat)) (k : Nat) (w : World) (hs : S w) (hb : ∀ c ∈ cs, B w c) :
    (runScript.cmds E cx t cx' cs k w).1 = 0 ∧ S (runScript.cmds E cx t cx' cs k w).2 := by
  fun_induction runScript.cmds E cx t cx' cs k w with
  | case1 k w => simp only [hcrash, reduceCtorEq, if_false]; exact ⟨trivial, hs⟩
  | case2 c cs k w hk => rw [hcrash] at hk; cases hk
  | case3 c cs k w _ w1 hc ih =>
    obtain ⟨-, h2, h3⟩ := call c w hs (hb c List.mem_cons_self)
    rw [hc] at h2 h3
    exact ih h2 fun c' hc' => h3 c' (hb c' (List.mem_cons_of_mem _ hc'))
  | case4 c cs k w _ rv w1 hrv hc =>
    have h1 := (call c w hs (hb c List.mem_cons_self)).1
    rw [hc] at h1
    exact absurd h1 hrv

/-- The conditional declarations of a script: a nested command for a file that exists, a `c` row for one that does not. -/
theorem conds_zero {E : Engine} {t : Nat} {cx' : Ctx} {S : World → Prop} {B : World → Nat → Prop}
    (call : ∀ f w, S w → B w f → existsF w f = true → (E.ifchangeCmd cx' [f] w).1 = 0 ∧ S (E.ifchangeCmd cx' [f] w).2 ∧
      ∀ f', B w f' → B (E.ifchangeCmd cx' [f] w).2 f')
    (absent : ∀ f w, S w → B w f → existsF w f = false → S (addDep w t f false) ∧ ∀ f', B w f' → B (addDep w t f false) f')
    (fs : List Nat) (w : World) (hs : S w) (hb : ∀ f ∈ fs, B w f) :
    (runScript.conds E t cx' fs w).1 = 0 ∧ S (runScript.conds E t cx' fs w).2 := by
  fun_induction runScript.conds E t cx' fs w with
  | case1 w => exact ⟨rfl, hs⟩
  | case2 f fs w hex w1 hc ih =>
    obtain ⟨-, h2, h3⟩ := call f w hs (hb f List.mem_cons_self) hex
    rw [hc] at h2 h3
    exact ih h2 fun f' hf' => h3 f' (hb f' (List.mem_cons_of_mem _ hf'))
  | case3 f fs w hex rv w1 hrv hc =>
    have h1 := (call f w hs (hb f List.mem_cons_self) hex).1
    rw [hc] at h1
    exact absurd h1 hrv
  | case4 f fs w hex ih =>
    obtain ⟨h2, h3⟩ := absent f w hs (hb f List.mem_cons_self) (by simpa using hex)
    exact ih h2 fun f' hf' => h3 f' (hb f' (List.mem_cons_of_mem _ hf'))

/-- The targets of a command, none of which is under construction (`free`). -/
theorem runTargets_zero {E : Engine} {d : Defects} {cx : Ctx} {fuel : Nat} {S : World → Prop} {B : World → Nat → Prop}
    (known : ∀ t w, S w → B w t → S (addKnown w t) ∧ ∀ t', B w t' → B (addKnown w t) t')
    (free : ∀ t w, S w → B w t → (!cx.unlocked && decide (t ∈ cx.cycles)) = false)
    (job : ∀ t w, S w → B w t → (buildJob E d cx fuel t w).1 = .done 0 ∧ S (buildJob E d cx fuel t w).2 ∧
      ∀ t', B w t' → B (buildJob E d cx fuel t w).2 t')
    (ts seen : List Nat) (w : World) (hs : S w) (hb : ∀ t ∈ ts, B w t) :
    (runTargets E d cx fuel ts seen false w).1 = 0 ∧ S (runTargets E d cx fuel ts seen false w).2 := by
  generalize he : false = errored
  fun_induction runTargets E d cx fuel ts seen errored w with
  | case1 seen errored w => subst he; exact ⟨rfl, hs⟩
  | case2 t ts seen errored w _ ih => exact ih hs (fun t' ht' => hb t' (List.mem_cons_of_mem _ ht')) he
  | case3 t ts seen errored w _ h => subst he; cases h
  | case4 t ts seen errored w _ _ w1 h => rw [free t w hs (hb t List.mem_cons_self)] at h; cases h
  | case5 t ts seen errored w _ _ w1 _ code w2 hj | case6 t ts seen errored w _ _ w1 _ w2 hj =>
    -- the job returns 0: it neither aborts the command nor is it killed
    obtain ⟨k1, k2⟩ := known t w hs (hb t List.mem_cons_self)
    have h1 := (job t w1 k1 (k2 t (hb t List.mem_cons_self))).1
    rw [hj] at h1
    cases h1
  | case7 t ts seen errored w _ _ w1 _ rv w2 hj _ ih =>
    obtain ⟨k1, k2⟩ := known t w hs (hb t List.mem_cons_self)
    obtain ⟨h1, h2, h3⟩ := job t w1 k1 (k2 t (hb t List.mem_cons_self))
    rw [hj] at h1 h2 h3
    cases h1
    subst he
    exact ih h2 (fun t' ht' => h3 t' (k2 t' (hb t' (List.mem_cons_of_mem _ ht')))) rfl

/-- The converse, as an induction: a loop that exits 0 knew of no failure when it started, skipped the targets seen before
and got `done 0` from every job it ran.  So `P ts seen w w'`, with `w'` the world at the end, follows from what an empty
list, a skipped target and such a job give. -/
theorem runTargets_zero_induct {E : Engine} {d : Defects} {cx : Ctx} {fuel : Nat}
    {P : List Nat → List Nat → World → World → Prop} (nil : ∀ seen w, P [] seen w w)
    (skip : ∀ t ts seen w w', t ∈ seen → P ts seen w w' → P (t :: ts) seen w w')
    (job : ∀ t ts seen w w1 w', t ∉ seen → buildJob E d cx fuel t (addKnown w t) = (.done 0, w1) →
      P ts (t :: seen) w1 w' → P (t :: ts) seen w w')
    (ts seen : List Nat) (e : Bool) (w : World) (h : (runTargets E d cx fuel ts seen e w).1 = 0) :
    e = false ∧ P ts seen w (runTargets E d cx fuel ts seen e w).2 := by
  obtain ⟨c1, -, c3, c4, c5, -⟩ := loop_codes
  fun_induction runTargets E d cx fuel ts seen e w with
  | case1 seen e w =>
    cases e with
    | false => exact ⟨rfl, nil seen w⟩
    | true => exact absurd h c1
  | case2 t ts seen e w hs ih => exact ⟨(ih h).1, skip t ts seen w _ hs (ih h).2⟩
  | case3 => exact absurd h c1
  | case4 => exact absurd h c5
  | case5 t ts seen e w _ _ w1 _ code w2 hj =>
    rcases buildJob_abort_code E d cx fuel t _ code w2 hj with hc | hc
    · exact absurd (hc ▸ h) c4
    · exact absurd (hc ▸ h) c5
  | case6 => exact absurd h.symm c3
  | case7 t ts seen e w hs _ w1 _ rv w2 hj _ ih =>
    -- a job that failed would be a failure known to the rest of the loop
    obtain ⟨he, hp⟩ := ih h
    obtain ⟨rfl, rfl⟩ : e = false ∧ rv = 0 := by simpa using he
    exact ⟨rfl, job t ts seen w w2 _ hs hj hp⟩

/-! ### Failures: what is recorded, what is answered, what the loop returns -/

/-- A target that already failed in this run is not executed a second time. -/
theorem buildJob_failed_before (E : Engine) (d : Defects) (cx : Ctx) (fuel t : Nat) (w : World)
    (hd : d.failedTargetAbortsRun = false)
    (hr : cx.isRedo = false) (hf : isFailedR (getRec w cx.runid t) cx.runid = true) :
    buildJob E d cx fuel t w = (.done EXIT_TARGET_FAILED, w) := by
  simp [buildJob, shouldBuild, hr, hf, hd]

theorem buildJob_abort_ne (E : Engine) (d : Defects) (cx : Ctx) (fuel t : Nat) (w0 : World) (code : Status) (w1 : World)
    (h : buildJob E d cx fuel t w0 = (.abort code, w1)) : code ≠ 0 := by
  rcases buildJob_abort_code E d cx fuel t w0 code w1 h with e | e <;> subst e <;>
    simp [EXIT_TARGET_FAILED, EXIT_CYCLIC_DEPENDENCY]

/-- Once a failure is known in a command, the command's status is non-zero whatever happens to the remaining
targets. -/
theorem runTargets_errored_ne_zero (E : Engine) (d : Defects) (cx : Ctx) (fuel : Nat) (ts seen : List Nat) (w : World) :
    (runTargets E d cx fuel ts seen true w).1 ≠ 0 :=
  -- a loop that exits 0 knew of no failure when it started
  fun h => Bool.noConfusion (runTargets_zero_induct (P := fun _ _ _ _ => True) (fun _ _ => trivial)
    (fun _ _ _ _ _ _ _ => trivial) (fun _ _ _ _ _ _ _ _ _ => trivial) ts seen true w h).1

end RedoModel.Deps
