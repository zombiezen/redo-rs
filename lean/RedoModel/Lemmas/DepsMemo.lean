import RedoModel.Lemmas.Deps
/-!
# One level of `isDirty`, as equations

The first answers of a dirtiness check depend on the record alone — the one the caller passed (`pre`) or the one loaded
now: `dirty` (`isDirty_record_dirty`) and the memoised `clean` (`isDirty_memo`), nothing written.  A record that passes
these tests and carries the stamp of the file is *current*: its check is the memoised answer or the walk over the
recorded rows (`isDirty_of_current`, either variant of the check; `isDirty_current` for `redo-ifchange` when nothing is
memoised).  A walk over rows that are all passed over finds nothing (`goDeps_passed`): with the equation, this is how
"a file of such-and-such a kind is found clean" is shown, whatever the kind.
-/
namespace RedoModel.Deps

theorem isDirty_memo (ood : Bool) (R n : Nat) (w : World) (c : List Nat) (f mx ch : Nat) (seen : List Nat)
    (pre : Option Rec) (hs : f ∉ seen) (hf : (pre.getD (getRec w R f)).failed = none)
    (hc : (pre.getD (getRec w R f)).changed = some ch) (hle : ch ≤ mx)
    (hck : (if ood then decide (f ∈ c) else isCheckedR (pre.getD (getRec w R f)) R) = true) :
    isDirty ood R (n + 1) w c f mx seen pre = (.clean, w, c) := by
  have : ¬ ch > mx := by omega
  simp (config := { zeta := true, zetaHave := true }) only [isDirty, hs, hf, hc, this, hck, if_true, if_false,
    Option.isSome_none, Bool.false_eq_true]

/-- A record that is failed, never built, or newer than the dependent's mark: dirty, whatever the state. -/
theorem isDirty_record_dirty (ood : Bool) (R n : Nat) (w : World) (c : List Nat) (f mx : Nat) (seen : List Nat)
    (pre : Option Rec) (hs : f ∉ seen)
    (h : (pre.getD (getRec w R f)).failed.isSome = true ∨ (pre.getD (getRec w R f)).changed = none ∨
      ∃ ch, (pre.getD (getRec w R f)).changed = some ch ∧ mx < ch) :
    isDirty ood R (n + 1) w c f mx seen pre = (.dirty, w, c) := by
  have hno : ∀ ch, (pre.getD (getRec w R f)).failed = none → (pre.getD (getRec w R f)).changed = some ch → ch ≤ mx →
      False := by
    intro ch hf hc hle
    rcases h with h | h | ⟨ch', h, hlt⟩
    · rw [hf] at h; cases h
    · rw [hc] at h; cases h
    · cases hc.symm.trans h; omega
  rw [isDirty_succ]
  exact isDirtyStep_cases (P := fun x => x = (.dirty, w, c)) rfl (fun h => absurd h hs) (fun _ _ => rfl)
    (fun ch _ hf hc hle _ => (hno ch hf hc hle).elim) (fun ch _ _ hf hc hle _ _ _ => (hno ch hf hc hle).elim)
    (fun ch _ _ _ hf hc hle _ _ _ _ => (hno ch hf hc hle).elim) (fun ch _ _ hf hc hle _ _ _ _ => (hno ch hf hc hle).elim)

theorem isDirty_seen (ood : Bool) (R n : Nat) (w : World) (c : List Nat) (f mx : Nat) (seen : List Nat)
    (pre : Option Rec) (hs : f ∈ seen) : isDirty ood R n w c f mx seen pre = (.cyclic, w, c) := by
  cases n with
  | zero => rfl
  | succ n => rw [isDirty_succ]; unfold isDirtyStep; rw [if_pos hs]

/-- What `redo-ifchange`'s check does with the result of the walk over the rows of `f`: a walk that finds nothing marks
the file checked. -/
def markChecked (R : Nat) (f : Nat) (r : Rec) : Option DR × World × List Nat → DR × World × List Nat
  | (some dr, w, cache) => (dr, w, cache)
  | (none, w, cache) =>
    (.clean, setRec (if r.isOverride then ev w (.warnOverride f) else w) f { r with checked := some R }, cache)

theorem markChecked_fst_of_none {R f : Nat} {r : Rec} {g : Option DR × World × List Nat} (h : g.1 = none) :
    (markChecked R f r g).1 = .clean := by
  obtain ⟨o, w, c⟩ := g
  cases h
  rfl

theorem markChecked_fst_of_some {R f : Nat} {r : Rec} {g : Option DR × World × List Nat} {dr : DR} (h : g.1 = some dr) :
    (markChecked R f r g).1 = dr := by
  obtain ⟨o, w, c⟩ := g
  cases h
  rfl

/-- What either variant of the check does with the result of the walk over the rows of `f`: a walk that finds nothing
makes the file clean — cached by `redo-ood`, marked checked by `redo-ifchange`. -/
def closeWalk (ood : Bool) (R f : Nat) (r : Rec) (g : Option DR × World × List Nat) : DR × World × List Nat :=
  bif ood then
    match g with
    | (some dr, w, cache) => (dr, w, cache)
    | (none, w, cache) => (.clean, w, f :: cache)
  else markChecked R f r g

theorem closeWalk_of_some {ood : Bool} {R f : Nat} {r : Rec} {g : Option DR × World × List Nat} {dr : DR}
    (h : g.1 = some dr) : closeWalk ood R f r g = (dr, g.2.1, g.2.2) := by
  obtain ⟨o, w, c⟩ := g
  cases h
  cases ood <;> rfl

theorem closeWalk_ood_of_none {R f : Nat} {r : Rec} {g : Option DR × World × List Nat} (h : g.1 = none) :
    closeWalk true R f r g = (.clean, g.2.1, f :: g.2.2) := by
  obtain ⟨o, w, c⟩ := g
  cases h
  rfl

theorem closeWalk_ifchange_of_none {R f : Nat} {r : Rec} {g : Option DR × World × List Nat} (h : g.1 = none) :
    closeWalk false R f r g =
      (.clean, setRec (if r.isOverride then ev g.2.1 (.warnOverride f) else g.2.1) f { r with checked := some R }, g.2.2) := by
  obtain ⟨o, w, c⟩ := g
  cases h
  rfl

theorem closeWalk_fst_of_none {ood : Bool} {R f : Nat} {r : Rec} {g : Option DR × World × List Nat} (h : g.1 = none) :
    (closeWalk ood R f r g).1 = .clean := by
  cases ood
  · rw [closeWalk_ifchange_of_none h]
  · rw [closeWalk_ood_of_none h]

/-- The check (either variant) on a current record `r` of `f` — not failed, not newer than the mark `mx`, with the stamp
of the file: the memoised answer, or the walk over the rows of `f`. -/
theorem isDirty_of_current {ood : Bool} {R n : Nat} {w : World} {cache : List Nat} {f mx ch : Nat} {seen : List Nat}
    {pre : Option Rec} {r : Rec} (hr : r = pre.getD (getRec w R f)) (hs : f ∉ seen) (hf : r.failed = none)
    (hc : r.changed = some ch) (hle : ch ≤ mx) (hst : r.stamp = some (readStamp w f)) :
    isDirty ood R (n + 1) w cache f mx seen pre =
      bif (bif ood then decide (f ∈ cache) else isCheckedR r R) then (.clean, w, cache) else
      closeWalk ood R f r (goDeps (fun w cache s snap => isDirty ood R n w cache s (max ch (r.checked.getD 0)) (f :: seen)
        (some snap)) r.csum.isSome f (depsWithRecs w R r f) w cache []) := by
  rw [isDirty_succ]
  refine isDirtyStep_cases (P := fun x => x = bif (bif ood then decide (f ∈ cache) else isCheckedR r R) then _ else _)
    hr (fun h => absurd h hs) (fun _ h => ?_)
    (fun _ _ _ _ _ h => by rw [h]; rfl) (fun _ old _ _ _ _ _ h hne => ?_) (fun ch' dr g _ _ h _ hck _ hg hdr => ?_)
    (fun ch' g _ _ h _ hck _ hg hno => ?_)
  · rcases h with h | h | ⟨c, h, hlt⟩ | ⟨_, h⟩
    · rw [hf] at h; cases h
    · rw [hc] at h; cases h
    · rw [hc] at h; cases h; exact absurd hlt (Nat.not_lt.2 hle)
    · rw [hst] at h; cases h
  · rw [hst] at h; exact absurd (Option.some.inj h).symm hne
  · cases hc.symm.trans h
    obtain ⟨o, w1, c1⟩ := g
    cases hdr
    rw [hck, ← hg]
    cases ood <;> rfl
  · cases hc.symm.trans h
    obtain ⟨o, w1, c1⟩ := g
    cases hno
    rw [hck, ← hg]
    cases ood <;> rfl

/-- `redo-ifchange`'s check of a current record that is not yet checked in this run is the walk over the rows of `f`. -/
theorem isDirty_current {R n : Nat} {w : World} {cache : List Nat} {f mx ch : Nat} {seen : List Nat} {pre : Option Rec}
    {r : Rec} (hr : r = pre.getD (getRec w R f)) (hs : f ∉ seen) (hf : r.failed = none) (hc : r.changed = some ch)
    (hle : ch ≤ mx) (hck : isCheckedR r R = false) (hst : r.stamp = some (readStamp w f)) :
    isDirty false R (n + 1) w cache f mx seen pre =
      markChecked R f r (goDeps (fun w cache s snap => isDirty false R n w cache s (max ch (r.checked.getD 0)) (f :: seen)
        (some snap)) r.csum.isSome f (depsWithRecs w R r f) w cache []) := by
  rw [isDirty_of_current hr hs hf hc hle hst, cond_false, hck]
  rfl

/-! ### Rows that are passed over -/

/-- The fuel `fuel` suffices to enter `f` below the ancestors `seen`, where `rank` falls strictly along the rows. -/
def FuelOk (rank : Nat → Nat) (fuel : Nat) (seen : List Nat) (f : Nat) : Prop :=
  rank f < fuel ∧ ∀ x ∈ seen, rank f < rank x

theorem FuelOk.child {rank : Nat → Nat} {fuel : Nat} {seen : List Nat} {f s : Nat} (h : FuelOk rank (fuel + 1) seen f)
    (hl : rank s < rank f) : FuelOk rank fuel (f :: seen) s :=
  ⟨by have := h.1; omega, fun x hx => by
    rcases List.mem_cons.1 hx with rfl | hx
    · exact hl
    · have := h.2 x hx; omega⟩

/-- The walk over rows each of which is passed over: the check of an `m` row answers `clean` (or gives up, `cyclic`, at a
source of which `G` says why), the object of a `c` row does not exist.  `I` is what is known of the worlds on the way,
`B w p` what is asked of a row still to come (kept by a check that answers `clean`).  The walk finds nothing (or gives up), within `I`. -/
theorem goDeps_passed {chk : World → List Nat → Nat → Rec → DR × World × List Nat} {hasCsum : Bool} {f : Nat}
    {I : World → Prop} {B : World → Dep × Rec → Prop} {G : Nat → Prop}
    (mrow : ∀ p w c, I w → B w p → p.1.modeM = true →
      (((chk w c p.1.source p.2).1 = .clean ∧ ∀ q, B w q → B (chk w c p.1.source p.2).2.1 q) ∨
        ((chk w c p.1.source p.2).1 = .cyclic ∧ G p.1.source)) ∧
      I (chk w c p.1.source p.2).2.1)
    (crow : ∀ p w, I w → B w p → p.1.modeM = false → existsF w p.1.source = false) :
    ∀ (ds : List (Dep × Rec)) (w : World) (c : List Nat), I w → (∀ p ∈ ds, B w p) →
      ((goDeps chk hasCsum f ds w c []).1 = none ∨
        ((goDeps chk hasCsum f ds w c []).1 = some .cyclic ∧ ∃ p ∈ ds, p.1.modeM = true ∧ G p.1.source)) ∧
      I (goDeps chk hasCsum f ds w c []).2.1
  | [], w, c, hi, _ => ⟨.inl rfl, hi⟩
  | p :: ds, w, c, hi, hb => by
    have hp := hb p List.mem_cons_self
    have tail : ∀ w1 c1, I w1 → (∀ q, B w q → B w1 q) →
        ((goDeps chk hasCsum f ds w1 c1 []).1 = none ∨
          ((goDeps chk hasCsum f ds w1 c1 []).1 = some .cyclic ∧ ∃ q ∈ p :: ds, q.1.modeM = true ∧ G q.1.source)) ∧
        I (goDeps chk hasCsum f ds w1 c1 []).2.1 := fun w1 c1 hi1 hk =>
      (goDeps_passed mrow crow ds w1 c1 hi1 fun q hq => hk q (hb q (List.mem_cons_of_mem _ hq))).imp
        (Or.imp_right fun ⟨e, q, hq, h⟩ => ⟨e, q, List.mem_cons_of_mem _ hq, h⟩) id
    obtain ⟨d, snap⟩ := p
    rw [goDeps]
    cases hm : d.modeM with
    | true =>
      obtain ⟨h1, hi1⟩ := mrow _ w c hi hp hm
      simp only [if_true]
      generalize chk w c d.source snap = r at h1 hi1
      obtain ⟨sub, w1, c1⟩ := r
      obtain ⟨rfl, hk⟩ | ⟨rfl, hq⟩ := h1
      · exact tail w1 c1 hi1 hk
      · exact ⟨.inr ⟨rfl, _, List.mem_cons_self, hm, hq⟩, hi1⟩
    | false =>
      simp only [Bool.false_eq_true, if_false, crow _ w hi hp hm]
      exact tail w c hi fun _ h => h

end RedoModel.Deps
