import RedoModel.Lemmas.DepsStartSelf
import RedoModel.Lemmas.DepsPrim
/-!
# Status 0 means that no failure was recorded

`FailedNow R w t`: the record of `t` says "failed in run `R`".  `NoNewFail R w w'`: every target failed-in-`R` in `w'` already
was in `w`.  A script, job or command of run `R` that returns 0 is a `NoNewFail R` step (`runScript_nnf` … `engine_nnf`), for any
engine whose nested commands are (`EngNNF`) and so for the real one: a property of the engine alone, no invariant.
-/
namespace RedoModel.Deps
open RedoModel.Generated

/-- `t` is recorded as failed in run `R` (or a later one). -/
def FailedNow (R : Nat) (w : World) (t : Nat) : Prop := isFailedR (w.recs t) R = true

instance (R : Nat) (w : World) (t : Nat) : Decidable (FailedNow R w t) := by
  unfold FailedNow; infer_instance

theorem failedNow_of_eq {R : Nat} {w : World} {t : Nat} (h : (w.recs t).failed = some R) (hR : 0 < R) :
    FailedNow R w t := by
  unfold FailedNow isFailedR
  rw [h]
  simp only [Bool.and_eq_true, bne_iff_ne, ne_eq, decide_eq_true_eq]
  exact ⟨by omega, Nat.le_refl R⟩

theorem FailedNow.congr {R : Nat} {w w' : World} {t : Nat} (h : (w'.recs t).failed = (w.recs t).failed) :
    FailedNow R w' t ↔ FailedNow R w t := by
  unfold FailedNow isFailedR
  rw [h]

/-! ### The dirtiness check never records a failure -/
def NoNewFail (R : Nat) (w w' : World) : Prop := ∀ t, FailedNow R w' t → FailedNow R w t

theorem NoNewFail.refl (R : Nat) (w : World) : NoNewFail R w w := fun _ h => h

theorem NoNewFail.trans {R : Nat} {a b c : World} (h1 : NoNewFail R a b) (h2 : NoNewFail R b c) : NoNewFail R a c :=
  fun t h => h1 t (h2 t h)

/-- Where no failure mark is later than run `R` and none is `R`, a step that records no new failure of run `R` leaves
none either. -/
theorem NoNewFail.noFail {R : Nat} {w w' : World} (h : NoNewFail R w w') (hR : 0 < R)
    (hle : ∀ f k, (w.recs f).failed = some k → k ≤ R) (hn : ∀ f, (w.recs f).failed ≠ some R) :
    ∀ f, (w'.recs f).failed ≠ some R := by
  intro f hf
  have h0 := h f (failedNow_of_eq hf hR)
  unfold FailedNow isFailedR at h0
  cases hk : (w.recs f).failed with
  | none => rw [hk] at h0; cases h0
  | some k =>
    rw [hk] at h0
    simp only [Bool.and_eq_true, decide_eq_true_eq] at h0
    exact hn f (hk.trans (congrArg some (Nat.le_antisymm (hle f k hk) h0.2)))

theorem NoNewFail.of_recs {R : Nat} {w w' : World} (h : w'.recs = w.recs) : NoNewFail R w w' := by
  intro t ht
  unfold FailedNow at ht ⊢
  rw [← h]; exact ht

theorem NoNewFail.of_failed {R : Nat} {w w' : World} (h : ∀ t, (w'.recs t).failed = (w.recs t).failed) :
    NoNewFail R w w' := fun t ht => (FailedNow.congr (h t)).1 ht

/-- Writing a record that is failed-in-`R` only if the database already says so. -/
theorem NoNewFail.setRec {R : Nat} (w : World) (f : Nat) (r : Rec) (h : isFailedR r R = true → FailedNow R w f) :
    NoNewFail R w (setRec w f r) := by
  intro t ht
  unfold FailedNow at ht
  simp only [Deps.setRec] at ht
  split at ht
  · subst_vars; exact h ht
  · exact ht

theorem NoNewFail.setRec_none {R : Nat} (w : World) (f : Nat) (r : Rec) (h : r.failed = none) :
    NoNewFail R w (Deps.setRec w f r) :=
  NoNewFail.setRec w f r (fun hf => by rw [isFailedR_none h] at hf; cases hf)

theorem NoNewFail.addKnown {R : Nat} (w : World) (f : Nat) : NoNewFail R w (addKnown w f) :=
  NoNewFail.of_failed (fun t => addKnown_failed w f t)

theorem NoNewFail.addDep {R : Nat} (w : World) (t s : Nat) (m : Bool) : NoNewFail R w (addDep w t s m) :=
  NoNewFail.of_failed (fun x => addDep_failed w t s m x)

theorem NoNewFail.foldl_addDep {R : Nat} (p : Nat) (m : Bool) (ts : List Nat) (w : World) :
    NoNewFail R w (ts.foldl (fun w t => Deps.addDep w p t m) w) :=
  foldl_rel (NoNewFail.refl R) NoNewFail.trans _ ts (fun w t _ => NoNewFail.addDep w p t m) w

theorem findDoFile_nnf {R : Nat} (t : Nat) : ∀ (cs : List Nat) (w : World), NoNewFail R w (findDoFile t cs w).2
  | [], w => by rw [findDoFile]; exact NoNewFail.refl R w
  | c :: cs, w => by
    rw [findDoFile]
    split
    · exact NoNewFail.addDep w t c true
    · exact (NoNewFail.addDep w t c false).trans (findDoFile_nnf t cs _)

/-- The records the check writes carry the failure mark `0` (no run) or none. -/
theorem shouldBuild_nnf (cx : Ctx) (fuel t : Nat) (w : World) : NoNewFail cx.runid w (shouldBuild cx fuel t w).2 :=
  shouldBuild_writes (NoNewFail.refl _) NoNewFail.trans
    (fun w f _ => NoNewFail.setRec w f _ (fun hf => by rw [isFailedR_zero rfl] at hf; cases hf))
    (fun w f _ h => NoNewFail.setRec_none w f _ h) (fun _ _ => NoNewFail.of_recs rfl) fuel t w

/-! ### Status 0 means that no failure was recorded: scripts -/
/-- What a nested `redo-ifchange` must satisfy: if it returns 0, it recorded no new failure. -/
def EngNNF (E : Engine) : Prop :=
  ∀ cx ts w, (E.ifchangeCmd cx ts w).1 = 0 → NoNewFail cx.runid w (E.ifchangeCmd cx ts w).2

theorem NoNewFail.setRec' {R : Nat} {w0 w : World} (h0 : NoNewFail R w0 w) (f : Nat) (r : Rec)
    (h : isFailedR r R = true → FailedNow R w0 f) : NoNewFail R w0 (Deps.setRec w f r) := by
  intro t ht
  unfold FailedNow at ht
  simp only [Deps.setRec] at ht
  split at ht
  · subst_vars; exact h ht
  · exact h0 t ht

theorem conds_nnf {R : Nat} (E : Engine) (hE : EngNNF E) (t : Nat) (cx' : Ctx) (hcx : cx'.runid = R)
    (fs : List Nat) (w : World) (he : (runScript.conds E t cx' fs w).1 = 0) :
    NoNewFail R w (runScript.conds E t cx' fs w).2 := by
  revert he
  fun_induction runScript.conds E t cx' fs w with
  | case1 w => exact fun _ => NoNewFail.refl R w
  | case2 f fs w _ w1 hc ih =>
    have h := hE cx' [f] w
    rw [hc, hcx] at h
    exact fun he => (h rfl).trans (ih he)
  | case3 f fs w _ rv w1 hne hc => exact fun he => (hne he).elim
  | case4 f fs w _ ih => exact fun he => (NoNewFail.addDep w t f false).trans (ih he)

theorem cmds_nnf {R : Nat} (E : Engine) (hE : EngNNF E) (cx : Ctx) (t : Nat) (cx' : Ctx) (hcx : cx'.runid = R)
    (cs : List (List Nat)) (k : Nat) (w : World) (he : (runScript.cmds E cx t cx' cs k w).1 = 0) :
    NoNewFail R w (runScript.cmds E cx t cx' cs k w).2 := by
  revert he
  fun_induction runScript.cmds E cx t cx' cs k w with
  | case1 k w => exact fun _ => NoNewFail.refl R w
  | case2 => exact fun h => absurd h (by decide : CRASHED ≠ 0)
  | case3 c cs k w _ w1 hc ih =>
    have h := hE cx' c w
    rw [hc, hcx] at h
    exact fun he => (h rfl).trans (ih he)
  | case4 c cs k w _ rv w1 hne hc => exact fun he => (hne he).elim

theorem rsAlways_nnf {R : Nat} (cx : Ctx) (t : Nat) (sc : Script) (w : World) : NoNewFail R w (rsAlways cx t sc w) := by
  unfold rsAlways
  split
  · exact (NoNewFail.addDep w t alwaysId true).trans (NoNewFail.setRec_none _ _ _ rfl)
  · exact NoNewFail.refl R w

theorem stampRec_failed (r : Rec) (R : Nat) (data : Content) : (stampRec r R data).failed = none := by
  unfold stampRec
  dsimp only
  split <;> rfl

/-- A script that ends with status 0 recorded no failure (its nested commands all returned 0: `sh -e`). -/
theorem runScript_nnf {R : Nat} (E : Engine) (hE : EngNNF E) (d : Defects) (cx : Ctx) (hcx : cx.runid = R) (t : Nat)
    (sc : Script) (w : World) (he : (runScript E d cx t sc w).1 = 0) :
    NoNewFail R w (runScript E d cx t sc w).2.2 := by
  revert he
  fun_cases runScript E d cx t sc w with
  | case1 | case4 => exact fun h => absurd h Int.one_ne_zero
  | case2 | case3 =>
    -- the status of the command that failed
    exact fun h => absurd h (by assumption)
  | case5 => exact fun h => absurd h (by decide : CRASHED ≠ 0)
  | case6 cx' wa _ _ wi rvc wc hc hzc rv w2 hm hz _ _ out w3 _ =>
    intro _
    rw [Decidable.of_not_not hzc] at hc
    rw [Decidable.of_not_not hz] at hm
    have h1 : NoNewFail R w wi := (rsAlways_nnf cx t sc w).trans (NoNewFail.foldl_addDep t false _ _)
    have h2 := conds_nnf E hE t cx' hcx sc.cond wi (by rw [hc])
    have h3 := cmds_nnf E hE cx t cx' hcx sc.ifchange 0 wc (by rw [hm])
    rw [hc] at h2
    rw [hm] at h3
    refine ((h1.trans h2).trans h3).trans ?_
    -- `redo-stamp` clears the failure mark
    dsimp only [w3]
    split
    · exact NoNewFail.refl R w2
    · exact (NoNewFail.addKnown w2 t).trans (NoNewFail.setRec_none _ _ _ (stampRec_failed _ _ _))

/-! ### Status 0 means that no failure was recorded: jobs -/
theorem rnsOk_nnf {R : Nat} (t : Nat) (w : World) : NoNewFail R w (rnsOk R t w).2 := by
  unfold rnsOk
  dsimp only
  refine NoNewFail.setRec' (w := zapDeps2 w t) (NoNewFail.of_recs rfl) t _ (fun h => ?_)
  split at h
  · exact h
  · simp [setChanged, isFailedR] at h

/-- Recording a successful script: `failed` of the target is cleared, or left as the database had it. -/
theorem recordNewState_zero_nnf {R : Nat} (cx : Ctx) (hcx : cx.runid = R) (t : Nat) (sf : Rec) (out : Option Content)
    (w : World) : NoNewFail R w (recordNewState cx t sf 0 out w).2 := by
  rw [recordNewState_eq, hcx]
  simp only [if_true]
  exact (NoNewFail.of_recs (rnsOut_recs t out w)).trans (rnsOk_nnf t _)

theorem ssBuild_nnf {R : Nat} (E : Engine) (hE : EngNNF E) (d : Defects) (cx : Ctx) (hcx : cx.runid = R) (t : Nat)
    (sf : Rec) (w : World) (he : (ssBuild E d cx t sf w).1 = 0) : NoNewFail R w (ssBuild E d cx t sf w).2 := by
  revert he
  have hfind : ∀ o w1, findDoFile t ((zapDeps1 w t).rules t) (zapDeps1 w t) = (o, w1) → NoNewFail R w w1 := by
    intro o w1 h
    have := findDoFile_nnf (R := R) t ((zapDeps1 w t).rules t) (zapDeps1 w t)
    rw [h] at this
    exact (NoNewFail.of_recs (w' := zapDeps1 w t) rfl).trans this
  fun_cases ssBuild E d cx t sf w with
  | case1 _ _ w1 hfd _ =>
    -- no .do file, and the target exists: a source
    exact fun _ => (hfind _ _ hfd).trans (NoNewFail.setRec_none _ _ _ (setStatic_failed _ _ _ _))
  | case2 => exact fun h => absurd h Int.one_ne_zero
  | case3 => exact fun h => absurd h (by decide : CRASHED ≠ 0)
  | case4 _ _ dof w1 hfd w2 w3 sc rv out w4 hrs _ =>
    intro he
    rw [recordNewState_fst] at he
    subst he
    have h2 : NoNewFail R w1 w3 := (NoNewFail.setRec_none _ _ _ (setStatic_failed _ _ _ _)).trans (NoNewFail.of_recs rfl)
    have h3 := runScript_nnf E hE d cx hcx t sc w3 (by rw [hrs])
    rw [hrs] at h3
    exact (((hfind _ _ hfd).trans h2).trans h3).trans (recordNewState_zero_nnf cx hcx t sf out w4)

/-- The override detection: relative to a base world `w0` in which the job's copy `sf0` was loaded. -/
theorem ssGuard_nnf {R : Nat} (cx : Ctx) (t : Nat) (sf0 : Rec) (w0 w : World) (h0 : NoNewFail R w0 w)
    (hsf : isFailedR sf0 R = true → FailedNow R w0 t) :
    NoNewFail R w0 (ssGuard cx t sf0 w).2 ∧ (isFailedR (ssGuard cx t sf0 w).1 R = true → FailedNow R w0 t) := by
  unfold ssGuard
  split
  · dsimp only
    have hr : isFailedR (setOverride (ev w (.warnOverride t)) t sf0 cx.runid) R = true →
        FailedNow R w0 t := by
      intro h
      rw [isFailedR_none (setOverride_failed _ _ _ _)] at h; cases h
    exact ⟨NoNewFail.setRec' (h0.trans (NoNewFail.of_recs rfl)) t _ hr, hr⟩
  · exact ⟨h0, hsf⟩

theorem startSelf_nnf {R : Nat} (E : Engine) (hE : EngNNF E) (d : Defects) (cx : Ctx) (hcx : cx.runid = R) (t : Nat)
    (sf0 : Rec) (w0 w : World) (h0 : NoNewFail R w0 w) (hsf : isFailedR sf0 R = true → FailedNow R w0 t)
    (he : (startSelf E d cx t sf0 w).1 = 0) : NoNewFail R w0 (startSelf E d cx t sf0 w).2 := by
  rw [startSelf_eq] at he ⊢
  obtain ⟨hg1, hg2⟩ := ssGuard_nnf (R := R) cx t sf0 w0 w h0 hsf
  generalize ssGuard cx t sf0 w = g at he hg1 hg2 ⊢
  obtain ⟨sf, w1⟩ := g
  dsimp only at he hg1 hg2 ⊢
  split
  · refine NoNewFail.setRec' hg1 t _ (fun h => ?_)
    split at h
    · rw [isFailedR_none (setStatic_failed _ _ _ _)] at h; cases h
    · exact hg2 h
  · rename_i hg
    rw [if_neg hg] at he
    exact hg1.trans (ssBuild_nnf E hE d cx hcx t sf w1 he)

/-- A job that already failed in this run does not answer `done 0` to `redo-ifchange`. -/
theorem buildJob_zero_pre (E : Engine) (d : Defects) (cx : Ctx) (fuel t : Nat) (w : World)
    (hr : cx.isRedo = false) (he : (buildJob E d cx fuel t w).1 = .done 0) : ¬ FailedNow cx.runid w t := by
  intro hf
  have hf' : isFailedR (getRec w cx.runid t) cx.runid = true := by rw [isFailedR_getRec]; exact hf
  have hsb : shouldBuild cx fuel t w = (none, w) := by simp [shouldBuild, hr, hf']
  revert he
  fun_cases buildJob E d cx fuel t w with
  | case1 => split <;> nofun
  | case2 _ h | case3 _ h | case4 _ _ h | case5 _ _ _ h | case6 _ _ h | case7 _ _ h => cases hsb.symm.trans h

/-- A job that ends with `done 0` recorded no failure: no target is failed-in-this-run after it that
was not before. -/
theorem buildJob_nnf {R : Nat} (E : Engine) (hE : EngNNF E) (d : Defects) (cx : Ctx) (hcx : cx.runid = R) (fuel t : Nat)
    (w : World) (he : (buildJob E d cx fuel t w).1 = .done 0) : NoNewFail R w (buildJob E d cx fuel t w).2 := by
  subst hcx
  revert he
  have hs := shouldBuild_nnf cx fuel t w
  have hst := startSelf_nnf E hE d cx rfl t (w.recs t) w (shouldBuild cx fuel t w).2 hs id
  fun_cases buildJob E d cx fuel t w with
  | case1 => split <;> nofun
  | case2 => nofun
  | case3 w1 hsb => exact fun _ => by rwa [hsb] at hs
  | case4 sf0 w1 hsb rv w2 hss | case5 sf0 ts w1 hsb _ rv w2 hss =>
    -- the job runs its own `start_self`
    rw [hsb, show startSelf E d cx t (w.recs t) w1 = (rv, w2) from hss] at hst
    exact fun he => hst (JobResult.done.inj he)
  | case6 ts w1 hsb _ ts' w2 h1 sec rv w3 h2 =>
    -- `redo-unlocked`: both commands returned 0
    intro he
    rw [hsb] at hs
    cases JobResult.done.inj he
    have a := hE _ _ _ (congrArg Prod.fst h1)
    rw [h1] at a
    have b := hE _ _ _ (congrArg Prod.fst h2)
    rw [h2] at b
    exact (hs.trans a).trans b
  | case7 ts w1 hsb _ ts' rv w2 hne h1 => exact fun he => (hne (JobResult.done.inj he)).elim

/-! ### Status 0 means that nothing failed: commands, the engine -/
/-- The target loop: status 0 ⇒ every job ended with `done 0` ⇒ no failure recorded; and (for
`redo-ifchange`) no requested target is failed-in-this-run at the end. -/
theorem runTargets_nnf {R : Nat} (E : Engine) (hE : EngNNF E) (d : Defects) (cx : Ctx) (hcx : cx.runid = R) (fuel : Nat)
    (ts seen : List Nat) (e : Bool) (w : World) (he : (runTargets E d cx fuel ts seen e w).1 = 0) :
    NoNewFail R w (runTargets E d cx fuel ts seen e w).2 ∧
    (cx.isRedo = false → ∀ t ∈ ts, t ∉ seen → ¬ FailedNow R (runTargets E d cx fuel ts seen e w).2 t) := by
  refine (runTargets_zero_induct (P := fun ts seen w w' => NoNewFail R w w' ∧
    (cx.isRedo = false → ∀ t ∈ ts, t ∉ seen → ¬ FailedNow R w' t)) ?_ ?_ ?_ ts seen e w he).2
  · exact fun seen w => ⟨NoNewFail.refl R w, fun _ _ ht => nomatch ht⟩
  · exact fun t ts seen w w' hs ih =>
      ⟨ih.1, fun hr x hx hxs => ih.2 hr x ((List.mem_cons.1 hx).resolve_left fun e1 => hxs (e1 ▸ hs)) hxs⟩
  · intro t ts seen w w2 w' hs hj ⟨ih1, ih2⟩
    have hj1 := buildJob_nnf E hE d cx hcx fuel t (addKnown w t) (by rw [hj])
    rw [hj] at hj1
    refine ⟨((NoNewFail.addKnown w t).trans hj1).trans ih1, fun hr x hx hxs => ?_⟩
    by_cases hxt : x = t
    · -- the target of this job was not failed before it, and nothing failed since
      subst hxt
      exact fun hf => buildJob_zero_pre E d cx fuel x (addKnown w x) hr (by rw [hj]) (hcx ▸ hj1 x (ih1 x hf))
    · exact ih2 hr x ((List.mem_cons.1 hx).resolve_left hxt) (by simp [hxt, hxs])
theorem ifchangeWith_nnf {R : Nat} (E : Engine) (hE : EngNNF E) (d : Defects) (fuel : Nat) (cx : Ctx) (hcx : cx.runid = R)
    (ts : List Nat) (w : World) (he : (ifchangeWith E d fuel cx ts w).1 = 0) :
    NoNewFail R w (ifchangeWith E d fuel cx ts w).2 ∧
    (cx.isRedo = false → ∀ t ∈ ts, ¬ FailedNow R (ifchangeWith E d fuel cx ts w).2 t) := by
  revert he
  refine ifchangeWith_cases
    (P := fun r => r.1 = 0 → NoNewFail R w r.2 ∧ (cx.isRedo = false → ∀ t ∈ ts, ¬ FailedNow R r.2 t))
    (fun _ _ _ _ he => by simp [EXIT_CYCLIC_DEPENDENCY] at he) fun w' hw hrt => ?_
  obtain ⟨a, b⟩ := runTargets_nnf E hE d cx hcx fuel ts [] false w' hrt
  exact ⟨(hw (NoNewFail R) (NoNewFail.refl R) NoNewFail.trans NoNewFail.addKnown
    fun p _ w s _ => NoNewFail.addDep w p s true).trans a, fun hr t ht => b hr t ht (by simp)⟩

/-- A `redo-ifchange` of the real engine that returns 0 recorded no failure: every
target failed-in-this-run afterwards already was before — in particular none of the scripts it executed,
at any depth, failed — and none of the requested targets is failed-in-this-run. -/
theorem engine_nnf (d : Defects) : ∀ n, EngNNF (engine d n)
  | 0 => fun _ _ _ h => by simp [engine, EXIT_FAILURE] at h
  | n + 1 => fun cx ts w h => (ifchangeWith_nnf (engine d n) (engine_nnf d n) d (n + 1) cx rfl ts w h).1

end RedoModel.Deps
