import RedoModel.Lemmas.DepsSoundRHistory
import RedoModel.Lemmas.DepsEngineFrame
import RedoModel.Lemmas.DepsStartSelf
import RedoModel.Lemmas.DepsNoNewFail
/-! A buildable project exits 0.  Success needs no soundness invariant, only `Lite`: rules and scripts respect `rank`, the
recorded rows lead downwards in it, no record carries a checksum, nothing has failed in this run.  Then the check never
answers `cyclic` or "build this first", a job on a buildable target goes the way `Buildable` describes, and every row and
record written on that way keeps `Lite`.  Both soundness invariants give `Lite` (`Base.lite` here and in `DepsOkP`). -/
namespace RedoModel.Deps.Rich
open RedoModel.Generated

/-! ### C09 / C10 / C05 — the success direction: definitions

* `Buildable w f` : a from-scratch build of `f` would succeed (in the style of `UpToDateR`, about success
  instead of content).
* `FrU w w'` : the unconditional frame of the engine on files: a file changes only when one of its .do
  candidates exists, and then its new content is not one on which `failIfOdd` fires.
* `Buildable` is transported along `FrU` + `KeepsUser` (`Tr`). -/

/-- "A from-scratch build of this file would succeed".  A file without an existing .do candidate must exist
(a source); a file redo does not own (not generated), an overridden one, or a generated one edited by hand
(its stamp differs from the recorded one) must exist and then stands for itself; a target's chosen script
must exit 0 on buildable inputs: every declared dependency is buildable, every conditional file that exists
is buildable, no `redo-ifcreate` object exists, and the content-dependent failure does not fire on the
present contents (a target's output `outContent …` never makes it fire). -/
inductive Buildable (w : World) : Nat → Prop
  | source {f} : (∀ c ∈ w.rules f, existsF w c = false) → existsF w f = true → Buildable w f
  | user {f} : (w.recs f).isGenerated = false → existsF w f = true → Buildable w f
  | override {f} : (w.recs f).isOverride = true → existsF w f = true → Buildable w f
  | edited {f} : existsF w f = true →
      detectOverride ((w.recs f).stamp.getD .missing) (readStamp w f) = true → Buildable w f
  | target {t dof} : firstEx w (w.rules t) = some dof →
      (∀ d ∈ (scriptAt w dof).ifchange.flatten, Buildable w d) →
      (∀ d ∈ (scriptAt w dof).cond, existsF w d = true → Buildable w d) →
      (∀ d ∈ (scriptAt w dof).ifcreate, existsF w d = false) →
      (scriptAt w dof).exit = 0 → failNowOf w (scriptAt w dof) = false → Buildable w t

theorem Buildable.owned {w : World} {f : Nat} (h : UserOwned w f) : Buildable w f := by
  obtain ⟨hex, h1 | h1 | h1⟩ := h
  · exact .user h1 hex
  · exact .override h1 hex
  · exact .edited hex h1

/-- The three ways a buildable file is handled by `start_self`. -/
theorem Buildable.cases {w : World} {f : Nat} (h : Buildable w f) :
    UserOwned w f ∨ ((∀ c ∈ w.rules f, existsF w c = false) ∧ existsF w f = true) ∨
    ∃ dof, firstEx w (w.rules f) = some dof ∧
      (∀ d ∈ (scriptAt w dof).ifchange.flatten, Buildable w d) ∧
      (∀ d ∈ (scriptAt w dof).cond, existsF w d = true → Buildable w d) ∧
      (∀ d ∈ (scriptAt w dof).ifcreate, existsF w d = false) ∧
      (scriptAt w dof).exit = 0 ∧ failNowOf w (scriptAt w dof) = false := by
  cases h with
  | source h1 h2 => exact Or.inr (Or.inl ⟨h1, h2⟩)
  | user h1 h2 => exact Or.inl ⟨h2, Or.inl h1⟩
  | override h1 h2 => exact Or.inl ⟨h2, Or.inr (Or.inl h1)⟩
  | edited h1 h2 => exact Or.inl ⟨h1, Or.inr (Or.inr h2)⟩
  | target h1 h2 h3 h4 h5 h6 => exact Or.inr (Or.inr ⟨_, h1, h2, h3, h4, h5, h6⟩)

theorem Buildable.one_dep {w : World} {t dof dep : Nat} {sc : Script} (h1 : firstEx w (w.rules t) = some dof)
    (h2 : scriptAt w dof = sc) (hi : sc.ifchange.flatten = [dep]) (hc : sc.cond = []) (hic : sc.ifcreate = [])
    (hex : sc.exit = 0) (hfn : failNowOf w sc = false) (hd : Buildable w dep) : Buildable w t := by
  subst h2
  refine .target h1 (fun d hd' => ?_) (fun d hd' => ?_) (fun d hd' => ?_) hex hfn
  · rw [hi] at hd'; rw [List.mem_singleton.1 hd']; exact hd
  · rw [hc] at hd'; cases hd'
  · rw [hic] at hd'; cases hd'

/-- The frame of the engine on files (under `RulesOk`): rules and meanings of .do contents stay; a file changes
only if one of its .do candidates exists, and its new content is not an odd source version. -/
def FrU (w w' : World) : Prop :=
  RulesOk w.rules → w'.rules = w.rules ∧ w'.progs = w.progs ∧
    ∀ x, w'.fs x = w.fs x ∨ (oddC (contentOf w' x) = false ∧ ∃ c ∈ w.rules x, existsF w c = true)

theorem FrU.refl (w : World) : FrU w w := fun _ => ⟨rfl, rfl, fun _ => Or.inl rfl⟩

theorem FrU.of_fs {w w' : World} (h1 : w'.fs = w.fs) (h2 : w'.rules = w.rules) (h3 : w'.progs = w.progs) : FrU w w' :=
  fun _ => ⟨h2, h3, fun x => Or.inl (congrFun h1 x)⟩

theorem FrU.plain {w w' : World} (h : FrU w w') (hr : RulesOk w.rules) {x : Nat} (hx : w.rules x = []) :
    w'.fs x = w.fs x := by
  rcases (h hr).2.2 x with e | ⟨_, c, hc, _⟩
  · exact e
  · rw [hx] at hc; cases hc

theorem FrU.trans {a b c : World} (h1 : FrU a b) (h2 : FrU b c) : FrU a c := by
  intro hr
  obtain ⟨r1, p1, f1⟩ := h1 hr
  have hrb : RulesOk b.rules := by rw [r1]; exact hr
  obtain ⟨r2, p2, f2⟩ := h2 hrb
  refine ⟨r2.trans r1, p2.trans p1, fun x => ?_⟩
  rcases f2 x with e2 | ⟨o2, cc, hc, hex⟩
  · rcases f1 x with e1 | ⟨o1, h⟩
    · exact Or.inl (e2.trans e1)
    · exact Or.inr ⟨by rw [contentOf_congr e2]; exact o1, h⟩
  · refine Or.inr ⟨o2, cc, by rw [← r1]; exact hc, ?_⟩
    rw [r1] at hc
    rw [← existsF_congr (h1.plain hr (hr.2 x cc hc).1)]; exact hex

theorem SameButRecs.frU {w w' : World} (h : SameButRecs w w') : FrU w w' :=
  FrU.of_fs h.1 h.2.2.2.2.2.2 h.2.2.2.2.2.1

/-- `Buildable` is kept by every step that satisfies the two unconditional frames of the engine (generic form:
what a script watches with `redo-ifcreate` / conditionally has no rule). -/
theorem Buildable.transport {w w' : World} (hr : RulesOk w.rules)
    (hyg : ∀ t dof, dof ∈ w.rules t → ∀ d, (d ∈ (scriptAt w dof).cond ∨ d ∈ (scriptAt w dof).ifcreate) → w.rules d = [])
    (hf : FrU w w') (hk : KeepsUser w w') {x : Nat} (h : Buildable w x) : Buildable w' x := by
  obtain ⟨hru, hpr, hfs⟩ := hf hr
  have hpl : ∀ x, w.rules x = [] → w'.fs x = w.fs x := fun x hx => hf.plain hr hx
  induction h with
  | @source f h1 h2 =>
    refine .source (fun c hc => ?_) ?_
    · rw [hru] at hc
      rw [existsF_congr (hpl c (hr.2 f c hc).1)]; exact h1 c hc
    · rcases hfs f with e | ⟨_, c, hc, hex⟩
      · rw [existsF_congr e]; exact h2
      · rw [h1 c hc] at hex; cases hex
  | user h1 h2 => exact .owned (hk _ ⟨h2, Or.inl h1⟩).2
  | override h1 h2 => exact .owned (hk _ ⟨h2, Or.inr (Or.inl h1)⟩).2
  | edited h1 h2 => exact .owned (hk _ ⟨h1, Or.inr (Or.inr h2)⟩).2
  | @target t dof h1 _ _ h4 h5 h6 ih2 ih3 =>
    obtain ⟨hdm, _⟩ := firstEx_mem _ _ h1
    have hdp : w.rules dof = [] := (hr.2 t dof hdm).1
    have hsc : scriptAt w' dof = scriptAt w dof := scriptAt_congr (hpl dof hdp) hpr
    have hyg3 := hyg t dof hdm
    have hfe : firstEx w' (w'.rules t) = some dof := by
      rw [hru, firstEx_congr _ (fun c hc => hpl c (hr.2 t c hc).1)]; exact h1
    refine .target hfe ?_ ?_ ?_ ?_ ?_
    · rw [hsc]; exact ih2
    · rw [hsc]; intro d hd hex
      exact ih3 d hd (by rw [← existsF_congr (hpl d (hyg3 d (Or.inl hd)))]; exact hex)
    · rw [hsc]; intro d hd
      rw [existsF_congr (hpl d (hyg3 d (Or.inr hd)))]; exact h4 d hd
    · rw [hsc]; exact h5
    · rw [hsc]
      unfold failNowOf at h6 ⊢
      cases hfo : (scriptAt w dof).failIfOdd with
      | none => rfl
      | some f =>
        rw [hfo] at h6
        simp only at h6 ⊢
        rcases hfs f with e | ⟨o, _⟩
        · rw [contentOf_congr e]; exact h6
        · exact o

/-! ### C09 — the file frame `FrU` holds across every function of the engine (any engine, any defect switch) -/

theorem oddC_outContent (tag : Nat) (ins : List (Option Content)) : oddC (some (outContent tag ins)) = false := by
  unfold outContent
  generalize (ins.flatMap _) = l
  cases l with
  | nil =>
    have : (2 * tag + 2) % 2 = 0 := by omega
    simp [oddC, this]
  | cons a l => simp [oddC]

theorem frU_addKnown (w : World) (f : Nat) : FrU w (addKnown w f) := by
  unfold addKnown
  split <;> exact FrU.of_fs rfl rfl rfl

theorem frU_addDep (w : World) (t s : Nat) (m : Bool) : FrU w (addDep w t s m) :=
  FrU.of_fs (addDep_fs w t s m) (addKnown_static w s).2.1 (addKnown_static w s).2.2

theorem frU_foldl_addDep (p : Nat) (m : Bool) (ts : List Nat) (w : World) :
    FrU w (ts.foldl (fun w t => addDep w p t m) w) :=
  foldl_rel FrU.refl FrU.trans _ ts (fun w t _ => frU_addDep w p t m) w

theorem findDoFile_frU (t : Nat) (cs : List Nat) (w : World) : FrU w (findDoFile t cs w).2 :=
  findDoFile_rel FrU.refl FrU.trans (fun w c m => frU_addDep w t c m) cs w

/-- Recording the result of a script: the target's file is replaced only on success, by the script's output. -/
theorem recordNewState_frU (cx : Ctx) (t : Nat) (sf : Rec) (rv : Status) (out : Option Content) (w : World)
    (hout : oddC out = false) (hd : ∃ c ∈ w.rules t, existsF w c = true) :
    FrU w (recordNewState cx t sf rv out w).2 := by
  unfold recordNewState
  split
  · intro _
    cases out with
    | none =>
      refine ⟨rfl, rfl, fun x => ?_⟩
      by_cases hx : x = t
      · subst hx; exact Or.inr ⟨by simp [contentOf, setRec, setFile, zapDeps2, oddC], hd⟩
      · exact Or.inl (by simp [setRec, setFile, zapDeps2, hx])
    | some c =>
      refine ⟨rfl, rfl, fun x => ?_⟩
      by_cases hx : x = t
      · subst hx
        refine Or.inr ⟨?_, hd⟩
        simpa [contentOf, setRec, setFile, zapDeps2, newNode] using hout
      · exact Or.inl (by simp [setRec, setFile, zapDeps2, newNode, hx])
  · exact FrU.of_fs rfl rfl rfl

theorem frU_dirtyRel : DirtyRel FrU :=
  ⟨FrU.refl, FrU.trans, fun _ _ _ => FrU.of_fs rfl rfl rfl, fun _ _ => FrU.of_fs rfl rfl rfl⟩

theorem frU_frame :
    EngineFrame (fun _ => True) (fun _ => True) (fun _ => True) (fun _ _ => True) (fun _ => True) FrU where
  refl := FrU.refl
  trans := FrU.trans
  keepP := fun _ _ => trivial
  keepA := fun _ _ => trivial
  child := fun _ _ => trivial
  oob1 := fun _ _ _ => trivial
  oob2 := fun _ => trivial
  parent := fun _ _ => trivial
  script := fun _ _ _ => trivial
  addKnown := frU_addKnown
  ownRec := fun _ _ _ => FrU.of_fs rfl rfl rfl
  dofRec := fun _ _ _ _ => FrU.of_fs rfl rfl rfl
  alwaysRec := fun _ _ _ _ => FrU.of_fs rfl rfl rfl
  evWarn := fun _ _ => FrU.of_fs rfl rfl rfl
  evRan := fun _ _ => FrU.of_fs rfl rfl rfl
  zapDeps1 := fun _ _ => FrU.of_fs rfl rfl rfl
  findDo := fun w _ _ => findDoFile_frU _ _ w
  addDepM := fun w s _ => frU_addDep w _ s true
  addDepC := fun w f _ _ _ _ => frU_addDep w _ f false
  -- the .do file has no rule, so it still exists when the script has ended
  record := fun rv out w0 w dof _ _ _ hdm hdex h _ hout hr => by
    have ho : oddC out = false := by
      cases out with
      | none => rfl
      | some c => obtain ⟨tag, ins, rfl⟩ := hout c rfl; exact oddC_outContent tag ins
    refine (h.trans (recordNewState_frU _ _ _ rv out w ho ⟨dof, by rw [(h hr).1]; exact hdm, ?_⟩)) hr
    rw [existsF_congr (h.plain hr (hr.2 _ dof hdm).1)]; exact hdex
  dirty := fun fuel t w _ _ => shouldBuild_rel frU_dirtyRel _ fuel t w
  other := fun _ _ _ _ _ _ _ _ h => absurd trivial h

def EngineFr (E : Engine) : Prop := ∀ cx ts w, FrU w (E.ifchangeCmd cx ts w).2

theorem EngineFr.frame {E : Engine} (hE : EngineFr E) : EFrame (fun _ => True) (fun _ => True) FrU E :=
  fun cx ts w _ _ => hE cx ts w

theorem conds_frU (E : Engine) (hE : EngineFr E) (t : Nat) (cx' : Ctx) (fs : List Nat) (w : World) :
    FrU w (runScript.conds E t cx' fs w).2 :=
  frU_frame.conds hE.frame (sc := { cond := fs }) trivial trivial fs w trivial trivial (fun _ h => Or.inr h)

theorem cmds_frU (E : Engine) (hE : EngineFr E) (cx : Ctx) (t : Nat) (cx' : Ctx) (cs : List (List Nat)) (k : Nat)
    (w : World) : FrU w (runScript.cmds E cx t cx' cs k w).2 :=
  frU_frame.cmds hE.frame cx t trivial cs k w trivial

theorem rsAlways_frU (cx : Ctx) (t : Nat) (sc : Script) (w : World) : FrU w (rsAlways cx t sc w) :=
  frU_frame.rsAlways (cx := cx) trivial trivial sc w trivial

theorem buildJob_frU (E : Engine) (hE : EngineFr E) (d : Defects) (cx : Ctx) (fuel t : Nat) (w : World) :
    FrU w (buildJob E d cx fuel t w).2 :=
  frU_frame.buildJob hE.frame d trivial fuel t w trivial

theorem engine_frU (d : Defects) (n : Nat) : EngineFr (engine d n) :=
  fun cx ts w => frU_frame.engine d n cx ts w trivial trivial

/-! ### C09 — the dirtiness check never answers `cyclic` when the recorded rows respect a rank and the fuel exceeds it -/

theorem goDeps_notCyclic (chk : World → List Nat → Nat → Rec → DR × World × List Nat) (D : List Dep)
    (hfr : ∀ w c s r, (chk w c s r).2.1.deps = w.deps) (hasCsum : Bool) (f : Nat) :
    ∀ (ds : List (Dep × Rec)) (w : World) (cache must : List Nat), w.deps = D →
      (∀ p ∈ ds, p.1.modeM = true → ∀ w' c, w'.deps = D → (chk w' c p.1.source p.2).1 ≠ .cyclic) →
      (goDeps chk hasCsum f ds w cache must).1 ≠ some .cyclic
  | [], w, cache, must, _, _ => by
    simp only [goDeps]; split <;> simp
  | (d, snap) :: ds, w, cache, must, hw, hds => by
    have htl : ∀ p ∈ ds, p.1.modeM = true → ∀ w' c, w'.deps = D → (chk w' c p.1.source p.2).1 ≠ .cyclic :=
      fun p hp => hds p (List.mem_cons_of_mem _ hp)
    rw [goDeps]
    by_cases hm : d.modeM = true
    · simp only [hm, if_true]
      have h1 := hds (d, snap) (by simp) hm w cache hw
      have h2 := hfr w cache d.source snap
      generalize chk w cache d.source snap = r at h1 h2
      obtain ⟨sub, w1, c1⟩ := r
      dsimp only at h1 h2
      cases sub with
      | cyclic => exact absurd rfl h1
      | clean => exact goDeps_notCyclic chk D hfr hasCsum f ds w1 c1 must (h2.trans hw) htl
      | dirty => cases hasCsum <;> simp
      | need ts => exact goDeps_notCyclic chk D hfr hasCsum f ds w1 c1 (must ++ ts) (h2.trans hw) htl
    · simp only [hm, Bool.false_eq_true, if_false]
      cases existsF w d.source with
      | true => cases hasCsum <;> simp
      | false => exact goDeps_notCyclic chk D hfr hasCsum f ds w cache must hw htl

theorem isDirty_notCyclic (rank : Nat → Nat) (ood : Bool) (R : Nat) :
    ∀ (fuel : Nat) (w : World) (cache : List Nat) (f mx : Nat) (seen : List Nat) (pre : Option Rec),
      (∀ d ∈ w.deps, rank d.source < rank d.target) → FuelOk rank fuel seen f →
      (isDirty ood R fuel w cache f mx seen pre).1 ≠ .cyclic
  | 0, w, cache, f, mx, seen, pre, _, hf => by have := hf.1; omega
  | fuel + 1, w, cache, f, mx, seen, pre, hrows, hf => by
    have hseen : f ∉ seen := fun h => Nat.lt_irrefl _ (hf.2 f h)
    have hg : ∀ mx' hc r, (goDeps
        (fun w cache s snap => isDirty ood R fuel w cache s mx' (f :: seen) (some snap)) hc f
          (depsWithRecs w R r f) w cache []).1 ≠ some .cyclic := by
      intro mx' hc r
      refine goDeps_notCyclic _ w.deps (fun w c s r => (isDirty_frame ood R fuel w c s _ _ _).2.1) hc f _ w cache [] rfl ?_
      intro p hp _ w' c hw'
      obtain ⟨d, hd, rfl⟩ := List.mem_map.1 hp
      obtain ⟨_, hd1, hd2⟩ := mem_depsOf.1 hd
      have hlt := hrows d hd1
      rw [hd2] at hlt
      refine isDirty_notCyclic rank ood R fuel w' c d.source mx' (f :: seen) _ (by rw [hw']; exact hrows) ⟨?_, ?_⟩
      · have := hf.1; omega
      · intro x hx
        rcases List.mem_cons.1 hx with rfl | hx
        · exact hlt
        · have := hf.2 x hx; omega
    rw [isDirty_succ]
    refine isDirtyStep_cases (P := fun x => x.1 ≠ .cyclic) rfl (fun h => absurd h hseen) (fun _ _ => nofun)
      (fun _ _ _ _ _ _ => nofun) ?_ ?_ ?_
    · intro _ _ _ _ _ _ _ _ _
      dsimp only
      split <;> exact nofun
    · intro _ dr g _ _ _ _ _ _ hg' hdr e
      exact hg _ _ _ (hg' ▸ hdr.trans (congrArg some e))
    · intro _ _ _ _ _ _ _ _ _ _
      cases ood <;> exact nofun

/-! ### C09 — the two frames along which `Buildable` travels -/

/-- The two unconditional frames along which `Buildable` is transported.  (`DepsSoundRKill` declares another relation
under the name `Rich.Tr`; the two modules are never imported together.) -/
def Tr (w w' : World) : Prop := FrU w w' ∧ KeepsUser w w'

theorem Tr.refl (w : World) : Tr w w := ⟨FrU.refl w, KeepsUser.refl w⟩
theorem Tr.trans {a b c : World} (h1 : Tr a b) (h2 : Tr b c) : Tr a c := ⟨h1.1.trans h2.1, h1.2.trans h2.2⟩

theorem failNow_tr {w w' : World} (hr : RulesOk w.rules) (h : FrU w w') (sc : Script) (hf : failNowOf w sc = false) :
    failNowOf w' sc = false := by
  unfold failNowOf at hf ⊢
  cases hfo : sc.failIfOdd with
  | none => rfl
  | some f =>
    rw [hfo] at hf
    simp only at hf ⊢
    rcases (h hr).2.2 f with e | ⟨o, _⟩
    · rw [contentOf_congr e]; exact hf
    · exact o

theorem Tr.of_fields {w w' : World} (hfs : w'.fs = w.fs) (hru : w'.rules = w.rules) (hpr : w'.progs = w.progs)
    (hk : ∀ f, existsF w f = true → KeyEq (w'.recs f) (w.recs f)) : Tr w w' :=
  ⟨FrU.of_fs hfs hru hpr, SameOwn.keeps (⟨hfs, hk⟩ : SameOwn w w')⟩

theorem Tr.addKnown (w : World) (f : Nat) : Tr w (addKnown w f) := ⟨frU_addKnown w f, (SameOwn.addKnown w f).keeps⟩
theorem Tr.addDep (w : World) (t s : Nat) (m : Bool) : Tr w (addDep w t s m) :=
  ⟨frU_addDep w t s m, (SameOwn.addDep w t s m).keeps⟩

theorem Tr.ofWEqv {w w' : World} (e : WEqv w w') : Tr w w' :=
  Tr.of_fields e.fs e.rules e.progs (fun f _ => ⟨e.gen f, e.ovr f, e.stamp f⟩)

theorem Tr.ofRowOp {t : Nat} {w w' : World} (h : RowOp t w w') : Tr w w' :=
  Tr.of_fields h.fs h.rules h.progs (fun f _ => ⟨h.eqv.gen f, h.eqv.ovr f, h.eqv.stamp f⟩)

theorem Tr.alloc (w : World) : Tr w (allocRun w).2 := ⟨FrU.of_fs rfl rfl rfl, SameOwn.keeps (⟨rfl, fun _ _ => KeyEq.refl _⟩ : SameOwn w (allocRun w).2)⟩

/-! ### Without checksums the check asks for nothing to be built first -/

def NoCsum (w : World) : Prop := ∀ f, (w.recs f).csum = none

theorem getRec_csum (w : World) (R f : Nat) : (getRec w R f).csum = (w.recs f).csum := by
  unfold getRec; split <;> rfl

theorem NoCsum.setRec {w : World} (h : NoCsum w) (f : Nat) {r : Rec} (hr : r.csum = none) : NoCsum (Deps.setRec w f r) :=
  KeepsRecs.setRec (Q := fun r => r.csum = none) f hr h

/-- The check writes copies of records it read. -/
theorem isDirty_noCsum (ood : Bool) (R fuel : Nat) (w : World) (cache : List Nat) (f mx : Nat) (seen : List Nat)
    (pre : Option Rec) (hw : NoCsum w) (hpre : ∀ s, pre = some s → s.csum = none) :
    NoCsum (isDirty ood R fuel w cache f mx seen pre).2.1 :=
  isDirty_writes_snap (Rel := fun w w' => NoCsum w → NoCsum w') (P := NoCsum) (Q := fun _ _ r => r.csum = none)
    (fun _ h => h) (fun f g h => g (f h)) (fun h hp => h hp) (fun _ _ hq => hq)
    (fun w f hp => by rw [getRec_csum]; exact hp f)
    (fun w f r _ hq _ _ _ hp => hp.setRec f hq) (fun _ w f r _ hq _ _ hp => hp.setRec f hq)
    (fun _ w f hp => hp) fuel w cache f mx seen pre hw hpre hw

theorem goDeps_noNeed (chk : World → List Nat → Nat → Rec → DR × World × List Nat) (P : World → Prop) (f : Nat)
    (hchk : ∀ w c s r, P w → r.csum = none → P (chk w c s r).2.1 ∧ ∀ ts, (chk w c s r).1 ≠ .need ts) :
    ∀ (ds : List (Dep × Rec)) (w : World) (cache : List Nat), P w → (∀ p ∈ ds, p.2.csum = none) →
      ∀ ts, (goDeps chk false f ds w cache []).1 ≠ some (.need ts)
  | [], w, cache, _, _, ts => by simp [goDeps]
  | (d, snap) :: ds, w, cache, hw, hds, ts => by
    have htl : ∀ p ∈ ds, p.2.csum = none := fun p hp => hds p (List.mem_cons_of_mem _ hp)
    rw [goDeps]
    by_cases hm : d.modeM = true
    · simp only [hm, if_true]
      have h1 := hchk w cache d.source snap hw (hds (d, snap) (by simp))
      generalize chk w cache d.source snap = r at h1
      obtain ⟨sub, w1, c1⟩ := r
      obtain ⟨hp1, hn⟩ := h1
      dsimp only at hp1 hn ⊢
      cases sub with
      | cyclic => simp
      | clean => exact goDeps_noNeed chk P f hchk ds w1 c1 hp1 htl ts
      | dirty => simp
      | need ts' => exact absurd rfl (hn ts')
    · simp only [hm, Bool.false_eq_true, if_false]
      cases existsF w d.source with
      | true => simp
      | false => exact goDeps_noNeed chk P f hchk ds w cache hw htl ts

theorem isDirty_noNeed (ood : Bool) (R : Nat) :
    ∀ (fuel : Nat) (w : World) (cache : List Nat) (f mx : Nat) (seen : List Nat) (pre : Option Rec),
      NoCsum w → (∀ s, pre = some s → s.csum = none) → ∀ ts, (isDirty ood R fuel w cache f mx seen pre).1 ≠ .need ts
  | 0, w, cache, f, mx, seen, pre, _, _ => fun _ => nofun
  | fuel + 1, w, cache, f, mx, seen, pre, hw, hpre => by
    have hr : (pre.getD (getRec w R f)).csum = none := by
      cases pre with
      | none => rw [Option.getD_none, getRec_csum]; exact hw f
      | some s => exact hpre s rfl
    rw [isDirty_succ]
    refine isDirtyStep_cases (P := fun x => ∀ ts, x.1 ≠ .need ts) rfl (fun _ _ => nofun) (fun _ _ _ => nofun)
      (fun _ _ _ _ _ _ _ => nofun) ?_ ?_ ?_
    · intro _ _ _ _ _ _ _ _ _ ts
      simp only [hr, Option.isSome_none, Bool.false_eq_true, if_false]
      exact nofun
    · intro _ dr g _ _ _ _ _ _ hg' hdr ts e
      rw [hr, Option.isSome_none] at hg'
      refine goDeps_noNeed _ NoCsum f (fun w c s r hp hrc => ⟨isDirty_noCsum ood R fuel w c s _ _ _ hp
        (fun s' e => by cases e; exact hrc), isDirty_noNeed ood R fuel w c s _ _ _ hp (fun s' e => by cases e; exact hrc)⟩)
        _ w cache hw (fun p hp => ?_) ts (hg' ▸ hdr.trans (congrArg some e))
      obtain ⟨d, _, rfl⟩ := List.mem_map.1 hp
      rw [getRec_csum]; exact hw _
    · intro _ _ _ _ _ _ _ _ _ _ ts
      cases ood <;> exact nofun

/-! ### What the success direction needs of a world -/

/-- Rules and scripts respect `rank`, scripts do not stamp, rows lead downwards, no record carries a checksum, nothing
has failed in run `R`.  Nothing here says that a record is true of the files. -/
structure Lite (rank : Nat → Nat) (R : Nat) (w : World) : Prop where
  rulesOk : RulesOk w.rules
  rows : ∀ d ∈ w.deps, rank d.source < rank d.target
  noCsum : NoCsum w
  noFail : ∀ t, ¬ FailedNow R w t
  cand : ∀ t c, c ∈ w.rules t → rank c < rank t
  stamp0 : ∀ t dof, dof ∈ w.rules t → (scriptAt w dof).stamp = 0
  hyg : ∀ t dof, dof ∈ w.rules t → ((scriptAt w dof).always = true → rank alwaysId < rank t) ∧
    (∀ d, (d ∈ (scriptAt w dof).ifchange.flatten ∨ d ∈ (scriptAt w dof).cond ∨ d ∈ (scriptAt w dof).ifcreate) →
      rank d < rank t) ∧
    (∀ d, (d ∈ (scriptAt w dof).cond ∨ d ∈ (scriptAt w dof).ifcreate) → w.rules d = [])

section
variable {rank : Nat → Nat} {R : Nat} {w : World}

/-- The clauses about rules and scripts travel along the file frame of the engine; the others are shown of the new world. -/
theorem Lite.step {w' : World} (h : Lite rank R w) (hf : FrU w w') (hn : NoNewFail R w w')
    (h1 : ∀ d ∈ w'.deps, rank d.source < rank d.target) (h2 : NoCsum w') : Lite rank R w' := by
  obtain ⟨hru, hpr, _⟩ := hf h.rulesOk
  have hsc : ∀ t dof, dof ∈ w.rules t → scriptAt w' dof = scriptAt w dof := fun t dof hd =>
    scriptAt_congr (hf.plain h.rulesOk (h.rulesOk.2 t dof hd).1) hpr
  refine ⟨hru ▸ h.rulesOk, h1, h2, fun t ht => h.noFail t (hn t ht), fun t c hc => h.cand t c (hru ▸ hc),
    fun t dof hd => ?_, fun t dof hd => ?_⟩
  · rw [hru] at hd; rw [hsc t dof hd]; exact h.stamp0 t dof hd
  · rw [hru] at hd; rw [hsc t dof hd, hru]; exact h.hyg t dof hd

theorem Lite.buildable {w' : World} (h : Lite rank R w) (ht : Tr w w') {x : Nat} (hx : Buildable w x) : Buildable w' x :=
  hx.transport h.rulesOk (fun t dof hd => (h.hyg t dof hd).2.2) ht.1 ht.2

theorem Lite.setRec (h : Lite rank R w) (f : Nat) {r : Rec} (hc : r.csum = none) (hf : isFailedR r R = false) :
    Lite rank R (Deps.setRec w f r) :=
  h.step (FrU.of_fs rfl rfl rfl) (NoNewFail.setRec w f r (fun e => by rw [hf] at e; cases e)) h.rows (h.noCsum.setRec f hc)

theorem Lite.ev (h : Lite rank R w) (e : Ev) : Lite rank R (Deps.ev w e) :=
  h.step (FrU.of_fs rfl rfl rfl) (NoNewFail.of_recs rfl) h.rows h.noCsum

theorem Lite.addKnown (h : Lite rank R w) (f : Nat) : Lite rank R (Deps.addKnown w f) :=
  h.step (frU_addKnown w f) (NoNewFail.addKnown w f) (by rw [addKnown_deps]; exact h.rows)
    (KeepsRecs.addKnown (Q := fun r => r.csum = none) (fun h _ => h) w f h.noCsum)

theorem Lite.addDep (h : Lite rank R w) {t s : Nat} (hlt : rank s < rank t) (m : Bool) : Lite rank R (Deps.addDep w t s m) :=
  h.step (frU_addDep w t s m) (NoNewFail.addDep w t s m)
    (fun d hd => (addDep_mem' hd).elim (fun e => by rw [e]; exact hlt) (h.rows d))
    (KeepsRecs.addDep (Q := fun r => r.csum = none) (fun h _ => h) w t s m h.noCsum)

theorem Lite.foldl_addDep {t : Nat} (m : Bool) : ∀ (fs : List Nat) {w : World}, Lite rank R w → (∀ f ∈ fs, rank f < rank t) →
    Lite rank R (fs.foldl (fun w f => Deps.addDep w t f m) w)
  | [], _, h, _ => h
  | f :: fs, _, h, hfs =>
    Lite.foldl_addDep m fs (h.addDep (hfs f List.mem_cons_self) m) (fun x hx => hfs x (List.mem_cons_of_mem _ hx))

theorem Lite.findDoFile {t : Nat} : ∀ (cs : List Nat) {w : World}, Lite rank R w → (∀ c ∈ cs, rank c < rank t) →
    Lite rank R (Deps.findDoFile t cs w).2
  | [], _, h, _ => by rw [Deps.findDoFile]; exact h
  | c :: cs, _, h, hcs => by
    rw [Deps.findDoFile]
    split
    · exact h.addDep (hcs c List.mem_cons_self) true
    · exact Lite.findDoFile cs (h.addDep (hcs c List.mem_cons_self) false) (fun x hx => hcs x (List.mem_cons_of_mem _ hx))

theorem Lite.prepW (h : Lite rank R w) (t : Nat) : Lite rank R (Deps.prepW w t).2 :=
  Lite.findDoFile _ (h.step (w' := zapDeps1 w t) (FrU.of_fs rfl rfl rfl) (NoNewFail.of_recs rfl)
    (zapDeps1_rows (P := fun d => rank d.source < rank d.target) (fun _ hd => hd) h.rows) h.noCsum) (h.cand t)

theorem Lite.startW (h : Lite rank R w) (t dof : Nat) : Lite rank R (Deps.startW w R t dof) :=
  (h.setRec dof (setStatic_csum _ _ _ _) (isFailedR_none (setStatic_failed _ _ _ _))).ev _

theorem builtRec_csum {t : Nat} (h : (w.recs t).csum = none) : (builtRec w t R).csum = none := by
  unfold builtRec
  dsimp only
  split
  · exact h
  · show (updateStamp w t _ R).csum = none
    rw [updateStamp_csum]

/-- Recording a success: the rows marked for deletion go, the record written carries no checksum. -/
theorem Lite.recorded {cx : Ctx} (h : Lite rank cx.runid w) (t : Nat) (sf : Rec) {out : Option Content}
    (hout : ∀ c, out = some c → ∃ tag ins, c = outContent tag ins) (hd : ∃ c ∈ w.rules t, existsF w c = true) :
    Lite rank cx.runid (recordNewState cx t sf 0 out w).2 := by
  have ho : oddC out = false := by
    cases out with
    | none => rfl
    | some c => obtain ⟨tag, ins, rfl⟩ := hout c rfl; exact oddC_outContent tag ins
  have hw := recordOk_wrote cx t sf out w
  refine h.step (recordNewState_frU cx t sf 0 out w ho hd) (recordNewState_zero_nnf cx rfl t sf out w)
    (fun d hd => h.rows d (hw.sub hd)) (fun x => ?_)
  by_cases hx : x = t
  · subst hx
    rw [recordNewState_ok]
    exact (setRec_recs_self _ x _).symm ▸ builtRec_csum (by rw [rnsOut_recs]; exact h.noCsum x)
  · rw [hw.recs x hx]; exact h.noCsum x

end

/-- Past the two guards of `start_self` the file is not the user's. -/
theorem not_owned_of_guards {w : World} {t : Nat}
    (hc : ¬ ((w.recs t).isGenerated && readStamp w t != .missing &&
      ((w.recs t).isOverride || detectOverride ((w.recs t).stamp.getD .missing) (readStamp w t))) = true)
    (hs : ¬ (existsF w t && ((w.recs t).isOverride || !(w.recs t).isGenerated)) = true) : ¬ UserOwned w t := by
  rintro ⟨hex, h⟩
  have hne : (readStamp w t != .missing) = true := by
    simp only [bne_iff_ne, ne_eq]; exact readStamp_ne_missing hex
  rw [hex] at hs
  rw [hne] at hc
  cases hg : (w.recs t).isGenerated <;> cases ho : (w.recs t).isOverride <;>
    cases hd : detectOverride ((w.recs t).stamp.getD .missing) (readStamp w t) <;> simp_all

/-! ### A nested command, and the loops of a script over it -/

/-- A nested `redo-ifchange` of run `R` at engine depth `k` over buildable targets that rank below its caller and
below what is under construction: it exits 0 and leaves such a world. -/
def ESucc (rank : Nat → Nat) (R k : Nat) (E : Engine) : Prop :=
  ∀ (cx : Ctx) (ts : List Nat) (w : World) (b : Nat),
    cx.runid = R → cx.isRedo = false → cx.unlocked = false → cx.crash = none → Lite rank R w →
    (∀ t ∈ ts, rank t < b) → (∀ p, cx.parent = some p → b ≤ rank p) → (∀ c ∈ cx.cycles, b ≤ rank c) → b < k →
    (∀ t ∈ ts, Buildable w t) →
    (E.ifchangeCmd cx ts w).1 = 0 ∧ Lite rank R (E.ifchangeCmd cx ts w).2

/-! Below, `E` runs the nested commands of the job of `t`, which runs in `cx`. -/
section
variable {rank : Nat → Nat} {R k : Nat} {E : Engine} (hE : ESucc rank R k E) (hK : EngineKeeps E) (hF : EngineFr E)
  {t : Nat} {cx : Ctx} (hcx : cx.runid = R) (hcrash : cx.crash = none) (hcyc : ∀ c ∈ cx.cycles, rank t < rank c)
  (hk : rank t < k)
include hE hK hF hcx hcrash hcyc hk

theorem call_succ (c : List Nat) (w : World) (hl : Lite rank R w) (hr : ∀ d ∈ c, rank d < rank t)
    (hB : ∀ d ∈ c, Buildable w d) :
    (E.ifchangeCmd (childCx cx t) c w).1 = 0 ∧ Lite rank R (E.ifchangeCmd (childCx cx t) c w).2 ∧
    ∀ d, Buildable w d → Buildable (E.ifchangeCmd (childCx cx t) c w).2 d := by
  obtain ⟨a1, a2⟩ := hE (childCx cx t) c w (rank t) hcx rfl rfl hcrash hl hr
    (fun p hp => by cases hp; exact Nat.le_refl _)
    (fun x hx => by
      rcases List.mem_cons.1 hx with rfl | hx
      · exact Nat.le_refl _
      · exact Nat.le_of_lt (hcyc x hx)) hk hB
  exact ⟨a1, a2, fun d hd => hl.buildable ⟨hF _ c w, hK _ c w⟩ hd⟩

theorem cmds_succ (cs : List (List Nat)) (kk : Nat) (w : World) (hl : Lite rank R w)
    (hr : ∀ c ∈ cs, ∀ d ∈ c, rank d < rank t) (hB : ∀ c ∈ cs, ∀ d ∈ c, Buildable w d) :
    (runScript.cmds E cx t (childCx cx t) cs kk w).1 = 0 ∧ Lite rank R (runScript.cmds E cx t (childCx cx t) cs kk w).2 := by
  refine cmds_zero hcrash (S := Lite rank R) (B := fun w c => ∀ d ∈ c, rank d < rank t ∧ Buildable w d)
    (fun c w hs hb => ?_) cs kk w hl (fun c hc d hd => ⟨hr c hc d hd, hB c hc d hd⟩)
  obtain ⟨a1, a2, a3⟩ := call_succ hE hK hF hcx hcrash hcyc hk c w hs (fun d hd => (hb d hd).1) (fun d hd => (hb d hd).2)
  exact ⟨a1, a2, fun c' hb' d hd => ⟨(hb' d hd).1, a3 d (hb' d hd).2⟩⟩

theorem conds_succ (fs : List Nat) (w : World) (hl : Lite rank R w) (hr : ∀ d ∈ fs, rank d < rank t ∧ w.rules d = [])
    (hB : ∀ d ∈ fs, existsF w d = true → Buildable w d) :
    (runScript.conds E t (childCx cx t) fs w).1 = 0 ∧ Lite rank R (runScript.conds E t (childCx cx t) fs w).2 := by
  -- what is asked of a file named: it ranks below `t`, has no build rule, and is buildable if it exists
  refine conds_zero (S := Lite rank R)
    (B := fun w d => rank d < rank t ∧ w.rules d = [] ∧ (existsF w d = true → Buildable w d))
    (fun f w hs hb hex => ?_) (fun f w hs hb hex => ?_) fs w hl (fun d hd => ⟨(hr d hd).1, (hr d hd).2, hB d hd⟩)
  · obtain ⟨a1, a2, a3⟩ := call_succ hE hK hF hcx hcrash hcyc hk [f] w hs
      (fun x hx => by rw [List.mem_singleton.1 hx]; exact hb.1) (fun x hx => by rw [List.mem_singleton.1 hx]; exact hb.2.2 hex)
    have hfr := hF (childCx cx t) [f] w
    refine ⟨a1, a2, fun d hd => ⟨hd.1, by rw [(hfr hs.rulesOk).1]; exact hd.2.1, fun hde => a3 d (hd.2.2 ?_)⟩⟩
    rw [← existsF_congr (hfr.plain hs.rulesOk hd.2.1)]; exact hde
  · have hfr := frU_addDep w t f false
    refine ⟨hs.addDep hb.1 false, fun d hd => ⟨hd.1, by rw [(hfr hs.rulesOk).1]; exact hd.2.1, fun hde => ?_⟩⟩
    refine hs.buildable (Tr.addDep w t f false) (hd.2.2 ?_)
    rw [← existsF_congr (hfr.plain hs.rulesOk hd.2.1)]; exact hde

/-! ### A script whose declared inputs are buildable, whose `redo-ifcreate` objects are absent and whose own exit
conditions are clean, exits 0 -/

theorem runScript_succ {w4 : World} {sc : Script} (d : Defects) (hl : Lite rank R w4) (hst : sc.stamp = 0)
    (hrk1 : sc.always = true → rank alwaysId < rank t)
    (hrk2 : ∀ d, (d ∈ sc.ifchange.flatten ∨ d ∈ sc.cond ∨ d ∈ sc.ifcreate) → rank d < rank t)
    (hrk3 : ∀ d, (d ∈ sc.cond ∨ d ∈ sc.ifcreate) → w4.rules d = [])
    (hB1 : ∀ d ∈ sc.ifchange.flatten, Buildable w4 d) (hB2 : ∀ d ∈ sc.cond, existsF w4 d = true → Buildable w4 d)
    (hB3 : ∀ d ∈ sc.ifcreate, existsF w4 d = false) (hex : sc.exit = 0) (hfn : failNowOf w4 sc = false) :
    (runScript E d cx t sc w4).1 = 0 ∧ Lite rank R (runScript E d cx t sc w4).2.2 := by
  rw [runScript_eq]
  have hlA : Lite rank R (rsAlways cx t sc w4) := by
    unfold rsAlways
    split
    · rename_i ha
      have h1 := hl.addDep (hrk1 ha) true
      exact h1.setRec alwaysId (h1.noCsum alwaysId) (isFailedR_none rfl)
    · exact hl
  have htrI : Tr w4 (declareC t sc.ifcreate (rsAlways cx t sc w4)) :=
    ⟨(rsAlways_frU cx t sc w4).trans (frU_foldl_addDep t false _ _),
     (rsAlways_keepsUser cx t sc w4).trans (SameOwn.foldl_addDep t false sc.ifcreate _).keeps⟩
  have hic : sc.ifcreate.any (fun f => existsF (rsAlways cx t sc w4) f) = false := by
    rw [List.any_eq_false]
    intro x hx
    rw [existsF_congr ((rsAlways_frU cx t sc w4).plain hl.rulesOk (hrk3 x (Or.inr hx))), hB3 x hx]; simp
  simp only [hic, Bool.false_eq_true, if_false]
  have hlI : Lite rank R (declareC t sc.ifcreate (rsAlways cx t sc w4)) :=
    Lite.foldl_addDep false _ hlA (fun x hx => hrk2 x (Or.inr (Or.inr hx)))
  change (rsBody E cx t sc (declareC t sc.ifcreate (rsAlways cx t sc w4))).1 = 0 ∧
    Lite rank R (rsBody E cx t sc (declareC t sc.ifcreate (rsAlways cx t sc w4))).2.2
  generalize declareC t sc.ifcreate (rsAlways cx t sc w4) = wI at htrI hlI ⊢
  have hplI : ∀ x ∈ sc.cond, wI.fs x = w4.fs x := fun x hx => htrI.1.plain hl.rulesOk (hrk3 x (Or.inl hx))
  rw [rsBody_rich _ _ _ _ _ hst]
  obtain ⟨hz1, hlC⟩ := conds_succ hE hK hF hcx hcrash hcyc hk sc.cond wI hlI
    (fun x hx => ⟨hrk2 x (Or.inr (Or.inl hx)), by rw [(htrI.1 hl.rulesOk).1]; exact hrk3 x (Or.inl hx)⟩)
    (fun x hx hxe => hl.buildable htrI (hB2 x hx (by rw [← existsF_congr (hplI x hx)]; exact hxe)))
  have htrC : Tr wI (runScript.conds E t (childCx cx t) sc.cond wI).2 :=
    ⟨conds_frU E hF t _ _ _, conds_keepsUser E hK t _ _ _⟩
  generalize runScript.conds E t (childCx cx t) sc.cond wI = rc at hz1 hlC htrC ⊢
  obtain ⟨rvc, wC⟩ := rc
  dsimp only at hz1 hlC htrC
  subst hz1
  simp only [ne_eq, not_true_eq_false, if_false]
  obtain ⟨hz2, hl5⟩ := cmds_succ hE hK hF hcx hcrash hcyc hk sc.ifchange 0 wC hlC
    (fun c hc x hx => hrk2 x (Or.inl (List.mem_flatten.2 ⟨c, hc, hx⟩)))
    (fun c hc x hx => hl.buildable (htrI.trans htrC) (hB1 x (List.mem_flatten.2 ⟨c, hc, hx⟩)))
  have hfr5 : FrU wC (runScript.cmds E cx t (childCx cx t) sc.ifchange 0 wC).2 := cmds_frU E hF cx t _ _ _ _
  generalize runScript.cmds E cx t (childCx cx t) sc.ifchange 0 wC = r at hz2 hl5 hfr5 ⊢
  obtain ⟨rv, w5⟩ := r
  dsimp only at hz2 hl5 hfr5
  subst hz2
  have hfn5 : failNowOf w5 sc = false := failNow_tr hl.rulesOk ((htrI.trans htrC).1.trans hfr5) sc hfn
  unfold scriptEnd
  simp only [ne_eq, not_true_eq_false, if_false, hfn5, Bool.false_eq_true, hex]
  exact ⟨rfl, hl5⟩

/-! ### `ssBuild`, `startSelf` and `buildJob` on a buildable target return 0 -/

theorem ssBuild_succ {w : World} (d : Defects) (hl : Lite rank R w) (sf : Rec) (hB : Buildable w t)
    (hno : ¬ UserOwned w t) : (ssBuild E d cx t sf w).1 = 0 ∧ Lite rank R (ssBuild E d cx t sf w).2 := by
  subst hcx
  obtain ⟨p1, p3, _, _⟩ := prep_decl t w
  have hl2 := hl.prepW t
  generalize hfd : prepW w t = fr at p1 p3 hl2
  obtain ⟨o, w2⟩ := fr
  dsimp only at p1 p3 hl2
  cases o with
  | none =>
    rw [ssBuild_eq_none hfd]
    rcases hB.cases with h | ⟨_, hex⟩ | ⟨dof, hfe, _⟩
    · exact absurd h hno
    · have : existsF w2 t = true := by rw [p3.existsF]; exact hex
      simp only [this, if_true]
      exact ⟨trivial, hl2.setRec t (setStatic_csum _ _ _ _) (isFailedR_none (setStatic_failed _ _ _ _))⟩
    · rw [hfe] at p1; cases p1
  | some dof =>
    obtain ⟨hdm, hdex⟩ := firstEx_mem _ _ p1.symm
    rcases hB.cases with h | ⟨hnone, _⟩ | ⟨dof', hfe, hB1, hB2, hB3, hex, hfn⟩
    · exact absurd h hno
    · rw [hnone dof hdm] at hdex; cases hdex
    · rw [hfe] at p1; cases p1
      rw [ssBuild_eq_some (scriptAt _ dof) hfd rfl]
      have htr : Tr w (startW w2 cx.runid t dof) := (Tr.ofRowOp p3).trans
        ⟨FrU.of_fs rfl rfl rfl, (KeepsUser.setRec w2 dof _ (fun ho =>
          ⟨ho.1, Or.inl (by simp [setRec, setStatic])⟩)).trans (SameOwn.ev _ _).keeps⟩
      have hl4 := hl2.startW t dof
      have hsc : scriptAt (startW w2 cx.runid t dof) dof = scriptAt w dof :=
        (scriptAt_congr (w := w2) rfl rfl).trans (p3.scriptAt dof)
      have hfs : (startW w2 cx.runid t dof).fs = w.fs := p3.fs
      rw [hsc]
      generalize startW w2 cx.runid t dof = w4 at htr hl4 hfs ⊢
      obtain ⟨hrk1, hrk2, hrk3⟩ := hl.hyg t dof hdm
      obtain ⟨run, hl5⟩ := runScript_succ hE hK hF rfl hcrash hcyc hk d hl4 (hl.stamp0 t dof hdm) hrk1 hrk2
        (fun x hx => by rw [(htr.1 hl.rulesOk).1]; exact hrk3 x hx) (fun x hx => hl.buildable htr (hB1 x hx))
        (fun x hx hxe => hl.buildable htr (hB2 x hx (by rw [← existsF_congr (congrFun hfs x)]; exact hxe)))
        (fun x hx => by rw [existsF_congr (congrFun hfs x)]; exact hB3 x hx) hex (failNow_tr hl.rulesOk htr.1 _ hfn)
      have hf5 : FrU w4 (runScript E d cx t (scriptAt w dof) w4).2.2 :=
        frU_frame.runScript hF.frame d trivial trivial _ _ trivial trivial
      have hout := runScript_out E d cx t (scriptAt w dof) w4
      generalize runScript E d cx t (scriptAt w dof) w4 = res at run hl5 hf5 hout ⊢
      obtain ⟨rv, out, w5⟩ := res
      dsimp only at run hl5 hf5 hout ⊢
      subst run
      simp only [zero_ne_crashed, if_false]
      -- the .do file has no rule, so it still exists when the script has ended
      have hf := htr.1.trans hf5
      refine ⟨recordNewState_fst cx t sf 0 out w5, hl5.recorded t sf hout ⟨dof, by rw [(hf hl.rulesOk).1]; exact hdm, ?_⟩⟩
      rw [existsF_congr (hf.plain hl.rulesOk (hl.rulesOk.2 t dof hdm).1)]; exact hdex

/-- `startSelf` with any copy of the record that agrees with the database on the ownership fields while the file exists. -/
theorem startSelf_succ {w : World} {sf : Rec} (d : Defects) (hl : Lite rank R w)
    (hsf : existsF w t = true → KeyEq sf (w.recs t)) (hsc : sf.csum = none) (hsn : isFailedR sf R = false)
    (hB : Buildable w t) : (startSelf E d cx t sf w).1 = 0 ∧ Lite rank R (startSelf E d cx t sf w).2 := by
  have key : ∀ (w' : World) (sf' : Rec), Lite rank R w' → sf'.csum = none → isFailedR sf' R = false →
      Lite rank R (setRec w' t (if !sf'.isOverride then setStatic w' t sf' cx.runid else sf')) := by
    intro w' sf' h1 h2 h3
    split
    · exact h1.setRec t (setStatic_csum _ _ _ _) (isFailedR_none (setStatic_failed _ _ _ _))
    · exact h1.setRec t h2 h3
  rw [startSelf_eq]
  unfold ssGuard
  by_cases hc : (sf.isGenerated && readStamp w t != .missing &&
      (sf.isOverride || detectOverride (sf.stamp.getD .missing) (readStamp w t))) = true
  · have hc' := hc
    simp only [Bool.and_eq_true] at hc'
    have hex : existsF w t = true := existsF_of_readStamp_ne hc'.1.2
    simp only [hc, if_true]
    have hex' : existsF (setRec (ev w (.warnOverride t)) t (setOverride (ev w (.warnOverride t)) t sf cx.runid)) t
        = true := hex
    rw [if_pos (by rw [hex']; rfl)]
    exact ⟨rfl, key _ _ ((hl.ev _).setRec t rfl (isFailedR_none rfl)) rfl (isFailedR_none rfl)⟩
  · simp only [hc, Bool.false_eq_true, if_false]
    split
    · exact ⟨rfl, key w sf hl hsc hsn⟩
    · rename_i hs
      refine ssBuild_succ hE hK hF hcx hcrash hcyc hk d hl sf hB (fun ho => ?_)
      obtain ⟨k1, k2, k3⟩ := hsf ho.1
      rw [k1, k2, k3] at hc
      rw [k1, k2] at hs
      exact not_owned_of_guards hc hs ho

theorem buildJob_succ {w : World} {fuel : Nat} (d : Defects) (hredo : cx.isRedo = false) (hl : Lite rank R w)
    (hfuel : rank t < fuel) (hB : Buildable w t) :
    (buildJob E d cx fuel t w).1 = .done 0 ∧ Lite rank R (buildJob E d cx fuel t w).2 := by
  subst hcx
  have hft : isFailedR (w.recs t) cx.runid = false := Bool.eq_false_iff.2 (hl.noFail t)
  have hnn := isDirty_noNeed false cx.runid fuel w [] t cx.runid [] none hl.noCsum (fun s e => by cases e)
  have hc1 := isDirty_noCsum false cx.runid fuel w [] t cx.runid [] none hl.noCsum (fun s e => by cases e)
  have hnc := isDirty_notCyclic rank false cx.runid fuel w [] t cx.runid [] none hl.rows (FuelOk.top hfuel)
  have hso := isDirty_sameOwn false cx.runid fuel w [] t cx.runid [] none (fun s e => by cases e)
  have hsb := isDirty_frame false cx.runid fuel w [] t cx.runid [] none
  have hnf := shouldBuild_nnf cx fuel t w
  generalize hres : isDirty false cx.runid fuel w [] t cx.runid [] none = res at hnn hc1 hnc hso hsb
  obtain ⟨dr, w1, c⟩ := res
  dsimp only at hnn hc1 hnc hso hsb
  have hs := shouldBuild_of_verdict hredo (by rw [isFailedR_getRec]; exact hft) hres hnn
  rw [hs] at hnf
  have hl1 : Lite rank cx.runid w1 := hl.step (SameButRecs.frU hsb) hnf (by rw [hsb.2.1]; exact hl.rows) hc1
  cases dr with
  | need ts => exact absurd rfl (hnn ts)
  | cyclic => exact absurd rfl hnc
  | clean =>
    rw [buildJob_of_clean E d cx fuel t w (by rw [hs]), hs]
    exact ⟨rfl, hl1⟩
  | dirty =>
    obtain ⟨hz, hl2⟩ := startSelf_succ hE hK hF rfl hcrash hcyc hk (sf := w.recs t) d hl1
      (fun hex => (hso.2 t (by rw [← existsF_congr (congrFun hso.1 t)]; exact hex)).symm) (hl.noCsum t) hft
      (hl.buildable ⟨SameButRecs.frU hsb, hso.keeps⟩ hB)
    rw [buildJob_ownStart E d cx fuel t w w1 .dirty hs (Or.inl rfl)]
    exact ⟨congrArg JobResult.done hz, hl2⟩

end

/-! ### `runTargets`, `ifchangeWith`, the engine knot: every level of the real engine satisfies `ESucc` -/

/-- `builder::run` over buildable targets, given that each job on a buildable target returns 0 and keeps `Lite`. -/
theorem runTargets_succ {rank R b fuel} {E : Engine} {cx : Ctx} (d : Defects) (hK : EngineKeeps E) (hF : EngineFr E)
    (hcyc : ∀ c ∈ cx.cycles, b ≤ rank c)
    (hjob : ∀ t w, Lite rank R w → rank t < b → Buildable w t →
      (buildJob E d cx fuel t w).1 = .done 0 ∧ Lite rank R (buildJob E d cx fuel t w).2)
    (ts seen : List Nat) (w : World) (hl : Lite rank R w) (hts : ∀ t ∈ ts, rank t < b) (hB : ∀ t ∈ ts, Buildable w t) :
    (runTargets E d cx fuel ts seen false w).1 = 0 ∧ Lite rank R (runTargets E d cx fuel ts seen false w).2 := by
  refine runTargets_zero (S := Lite rank R) (B := fun w t => rank t < b ∧ Buildable w t)
    (fun t w hs _ => ⟨hs.addKnown t, fun t' hb' => ⟨hb'.1, hs.buildable (Tr.addKnown w t) hb'.2⟩⟩) (fun t w _ hb => ?_)
    (fun t w hs hb => ?_) ts seen w hl (fun t ht => ⟨hts t ht, hB t ht⟩)
  · -- a target below the bound is not under construction
    have hnc : t ∉ cx.cycles := fun h => by have := hcyc t h; have := hb.1; omega
    simp [hnc]
  · obtain ⟨hz, hl1⟩ := hjob t w hs hb.1 hb.2
    exact ⟨hz, hl1, fun t' hb' => ⟨hb'.1,
      hs.buildable ⟨buildJob_frU E hF d cx fuel t _, buildJob_keepsUser E hK d cx fuel t _⟩ hb'.2⟩⟩

theorem ifchangeWith_succ {rank R n E} (hE : ESucc rank R n E) (hK : EngineKeeps E) (hF : EngineFr E) (d : Defects) :
    ESucc rank R (n + 1) { ifchangeCmd := fun cx ts w => ifchangeWith E d (n + 1) cx ts w } := by
  intro cx ts w b h1 h2 h3 h4 hl hts hpar hcyc hk hB
  show (ifchangeWith E d (n + 1) cx ts w).1 = 0 ∧ Lite rank R (ifchangeWith E d (n + 1) cx ts w).2
  have hjob : ∀ t w0, Lite rank R w0 → rank t < b → Buildable w0 t →
      (buildJob E d cx (n + 1) t w0).1 = .done 0 ∧ Lite rank R (buildJob E d cx (n + 1) t w0).2 :=
    fun t w0 hl0 hlt hB0 => buildJob_succ hE hK hF h1 h4 (fun c hc => Nat.lt_of_lt_of_le hlt (hcyc c hc)) (by omega)
      d h2 hl0 (by omega) hB0
  cases hp : cx.parent with
  | none =>
    rw [ifchangeWith_undeclared E d (n + 1) ts w (Or.inl hp)]
    exact runTargets_succ d hK hF hcyc hjob ts [] w hl hts hB
  | some p =>
    have hbp := hpar p hp
    rw [ifchangeWith_declare E d (n + 1) w hp h3 (fun h => absurd (hts p h) (Nat.not_lt.2 hbp))]
    exact runTargets_succ d hK hF hcyc hjob ts [] _
      (Lite.foldl_addDep true ts (hl.addKnown p) (fun t ht => Nat.lt_of_lt_of_le (hts t ht) hbp)) hts
      (fun t ht => hl.buildable ((Tr.addKnown w p).trans
        ⟨frU_foldl_addDep p true ts _, (SameOwn.foldl_addDep p true ts _).keeps⟩) (hB t ht))

theorem engine_succ (rank : Nat → Nat) (R : Nat) (d : Defects) : ∀ n, ESucc rank R n (engine d n)
  | 0 => fun _ _ _ _ _ _ _ _ _ _ _ _ hk _ => absurd hk (Nat.not_lt_zero _)
  | n + 1 => ifchangeWith_succ (engine_succ rank R d n) (engine_keeps d n) (engine_frU d n) d

/-! ### Both commands at the level of `runCmd`; a forced job is `startSelf` without the check -/

theorem Lite.runCmd_succ {rank N w} (hl : Lite rank (w.runCounter + 1) (allocRun w).2) (d : Defects) (hN : ∀ f, rank f < N)
    (ts : List Nat) (kg forced : Bool) (hB : ∀ t ∈ ts, Buildable w t) :
    (runCmd d N (if forced then .redo ts kg else .ifchange ts kg) w).1.status = 0 := by
  -- `allocRun` moves the run counter only
  have hl0 : Lite rank (w.runCounter + 1) w := ⟨hl.rulesOk, hl.rows, hl.noCsum, hl.noFail, hl.cand, hl.stamp0, hl.hyg⟩
  have hE := engine_succ rank (w.runCounter + 1) d (2 * N + 4)
  have hK := engine_keeps d (2 * N + 4)
  have hF := engine_frU d (2 * N + 4)
  have hB1 : ∀ t ∈ ts, Buildable (allocRun w).2 t := fun t ht => hl0.buildable (Tr.alloc w) (hB t ht)
  have hjob : ∀ cx : Ctx, cx.runid = w.runCounter + 1 → cx.crash = none → cx.cycles = [] → ∀ t w0,
      Lite rank (w.runCounter + 1) w0 → Buildable w0 t →
      (buildJob (engine d (2 * N + 4)) d cx (2 * N + 4) t w0).1 = .done 0 ∧
        Lite rank (w.runCounter + 1) (buildJob (engine d (2 * N + 4)) d cx (2 * N + 4) t w0).2 := by
    intro cx hcx hcrash hcy t w0 hl0 hB0
    have hcyc : ∀ c ∈ cx.cycles, rank t < rank c := by rw [hcy]; nofun
    have hk : rank t < 2 * N + 4 := by have := hN t; omega
    cases hr : cx.isRedo with
    | false => exact buildJob_succ hE hK hF hcx hcrash hcyc hk d hr hl0 hk hB0
    | true =>
      rw [buildJob_forced_eq _ _ _ _ _ _ hr]
      obtain ⟨hz, hl2⟩ := startSelf_succ hE hK hF hcx hcrash hcyc hk (sf := w0.recs t) d hl0 (fun _ => KeyEq.refl _)
        (hl0.noCsum t) (Bool.eq_false_iff.2 (hl0.noFail t)) hB0
      exact ⟨congrArg JobResult.done hz, hl2⟩
  cases forced <;>
    exact (runTargets_succ (b := N) d hK hF (by intro c hc; cases hc)
      (fun t w0 hl0 _ hB0 => hjob _ rfl rfl rfl t w0 hl0 hB0) ts [] _ hl (fun t _ => hN t) hB1).1

theorem not_failedNow {R : Nat} {w : World} (hfl : ∀ f c, (w.recs f).failed = some c → c ≤ R)
    (hnf : ∀ f, (w.recs f).failed ≠ some R) (t : Nat) : ¬ FailedNow R w t := fun h => by
  have := isFailedR_of_le hfl hnf t
  rw [isFailedR_getRec, show isFailedR (w.recs t) R = true from h] at this
  cases this

/-- The rich invariant gives `Lite`. -/
theorem Base.lite {rank R} {X : Nat → Prop} {w : World} (hb : Base rank R X w) (hnf : NoFail R w) : Lite rank R w :=
  ⟨hb.rulesOk, hb.rowsLt, hb.noCsum, not_failedNow hb.flLe hnf, fun t c hc => hb.ranked.1 t c hc,
    fun _ dof _ => (scriptAt_rich hb dof).1,
    fun _ _ hd => ⟨(scriptAt_hyg hb hd).1, fun d h => ((scriptAt_hyg hb hd).2.1 d h).1, (scriptAt_hyg hb hd).2.2⟩⟩

theorem runCmd_succ {rank N w} (d : Defects) (hN : ∀ f, rank f < N) (h : Btw rank w) (ts : List Nat) (kg forced : Bool)
    (hB : ∀ t ∈ ts, Buildable w t) :
    (runCmd d N (if forced then .redo ts kg else .ifchange ts kg) w).1.status = 0 := by
  obtain ⟨hi1, hnf1⟩ := Inv_alloc h
  exact (hi1.base.lite hnf1).runCmd_succ d hN ts kg forced hB

/-- The `//ALWAYS` pseudo file is never buildable (it never exists and has no rule). -/
theorem Buildable.ne_always {rank R} {X : Nat → Prop} {w : World} (hb : Base rank R X w) {t : Nat}
    (h : Buildable w t) : t ≠ alwaysId := by
  rintro rfl
  have hne : existsF w alwaysId = false := existsF_eq_false.2 hb.fs0
  rcases h.cases with h | ⟨_, h⟩ | ⟨dof, h, _⟩
  · have := h.1; rw [hne] at this; cases this
  · rw [hne] at h; cases h
  · rw [hb.rulesOk.1] at h; cases h

end RedoModel.Deps.Rich
