import RedoModel.Lemmas.DepsOk
import RedoModel.Lemmas.DepsSoundCex
import RedoModel.Lemmas.DepsCmdFrameR
/-! Concrete histories for the theorems of `DepsOk`: `rpOps`, on which they are applied, and the chain `chOps`, which shows
the bound on the rank necessary. -/

/-!
# C09 / C05 — a concrete history: two failures, two repairs (what `Props/C09c.lean` evaluates and applies the theorems to)

Target 2 is built by the .do file 1.  With content `[17]` the script declares and reads the source 5 and fails
when 5 holds an odd version; with content `[19]` the script exits 1.

`rpOps`: source 5 written with an odd version, `redo-ifchange 2` **fails** (content-dependent failure); the user
writes an even version but also replaces the .do file by the one that exits 1, `redo-ifchange 2` **fails** again;
the user restores the good .do file.  Then `redo-ifchange 2` exits 0 and 2 is up to date.
-/
namespace RedoModel.Deps.Rich
open RedoModel.Generated

def rpGood : Script := { ifchange := [[5]], reads := [5], failIfOdd := some 5, tag := 1 }
def rpBad : Script := { exit := 1, tag := 2 }

def rpOps1 : List UserOp := [.setProg [17] rpGood, .setProg [19] rpBad, .write 5 1, .write 1 7]
def rpOps2 : List UserOp := rpOps1 ++ [.cmd (.ifchange [2] false), .write 5 2, .write 1 8]
def rpOps : List UserOp := rpOps2 ++ [.cmd (.ifchange [2] false), .write 1 7]

def rpW1 : World := rpOps1.foldl (fun w op => (applyOp {} 2 op w).2) (initWorld cxRules)
def rpW2 : World := rpOps2.foldl (fun w op => (applyOp {} 2 op w).2) (initWorld cxRules)
def rpW : World := rpOps.foldl (fun w op => (applyOp {} 2 op w).2) (initWorld cxRules)

/-- The first command of the history fails: the source holds an odd version. -/
theorem rp_fail1 : (runCmd {} 2 (.ifchange [2] false) rpW1).1.status = 1 := by decide +kernel
/-- The second command of the history fails: the .do file in place exits 1. -/
theorem rp_fail2 : (runCmd {} 2 (.ifchange [2] false) rpW2).1.status = 1 := by decide +kernel
/-- The record of the target still says "failed" (in run 2) when the last command starts. -/
theorem rp_failed_mark : (rpW.recs 2).failed = some 2 := by decide +kernel

theorem rp_ops : ∀ op ∈ rpOps, RichOp cxRules op := by decide +kernel

theorem rp_ranked : ∀ w ∈ worldsOf 2 {} (initWorld cxRules) rpOps, RankedR cxRank w :=
  rankedR_history 2 {} cx_rulesOk cx_support (by decide +kernel) (by decide +kernel)

theorem rp_opsOk : OpsOkW 2 (initWorld cxRules) rpOps :=
  OpsOkW.of_progsFirst _ _ _ (fun _ => rfl) rfl

theorem rp_buildable : Buildable rpW 2 :=
  Buildable.one_dep (dof := 1) (sc := rpGood) (by decide +kernel) (by decide +kernel) rfl rfl rfl rfl (by decide +kernel)
    (.source (fun c hc => by rw [show rpW.rules 5 = [] by decide +kernel] at hc; cases hc) (by decide +kernel))

/-!
# C09 — the bound `rank f < n` (fuel `2n+4`) is needed for success

A chain of five targets `15 → 14 → 13 → 12 → 11 → 5` (source), target `10+i` built by the .do file `20+i`.  Every
target is buildable.  With `n = 0` the top-level command has engine depth `2·0+4 = 4`: the script of the fifth
level runs its `redo-ifchange` at depth 0, which fails (`EXIT_FAILURE`) — the command exits non-zero.  With
`n = 6` (> every rank) the same command exits 0.
-/

def chRules : Nat → List Nat := fun t => if 11 ≤ t ∧ t ≤ 15 then [t + 10] else []
def chScript (dep tag : Nat) : Script := { ifchange := [[dep]], reads := [dep], tag := tag }

def chOps : List UserOp :=
  [.setProg [5] (chScript 5 1), .setProg [7] (chScript 11 2), .setProg [9] (chScript 12 3),
   .setProg [11] (chScript 13 4), .setProg [13] (chScript 14 5),
   .write 5 0, .write 21 1, .write 22 2, .write 23 3, .write 24 4, .write 25 5]

/-- (user operations other than commands do not depend on `n`) -/
def chW : World := chOps.foldl (fun w op => (applyOp {} 0 op w).2) (initWorld chRules)

theorem ch_source : Buildable chW 5 :=
  .source (fun c hc => by have : chW.rules 5 = [] := by decide +kernel
                          rw [this] at hc; cases hc) (by decide +kernel)

theorem ch_step (t dep tag : Nat) (h1 : firstEx chW (chW.rules t) = some (t + 10))
    (h2 : scriptAt chW (t + 10) = chScript dep tag) (hd : Buildable chW dep) : Buildable chW t :=
  Buildable.one_dep h1 h2 rfl rfl rfl rfl rfl hd

theorem ch_buildable : Buildable chW 15 :=
  ch_step 15 14 5 (by decide +kernel) (by decide +kernel)
    (ch_step 14 13 4 (by decide +kernel) (by decide +kernel)
      (ch_step 13 12 3 (by decide +kernel) (by decide +kernel)
        (ch_step 12 11 2 (by decide +kernel) (by decide +kernel)
          (ch_step 11 5 1 (by decide +kernel) (by decide +kernel) ch_source))))

/-- With `n = 0` (fuel 4, below the depth of the chain) the buildable target is NOT built: the command fails. -/
theorem ch_small_fuel_fails : (runCmd {} 0 (.ifchange [15] false) chW).1.status ≠ 0 := by decide +kernel

/-- With `n = 6` the same command on the same world exits 0. -/
theorem ch_enough_fuel : (runCmd {} 6 (.ifchange [15] false) chW).1.status = 0 := by decide +kernel

end RedoModel.Deps.Rich
