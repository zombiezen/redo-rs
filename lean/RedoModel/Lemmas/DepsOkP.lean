import RedoModel.Lemmas.DepsOk
import RedoModel.Lemmas.DepsSoundKill
/-! A buildable project exits 0, and recovery after a kill succeeds (plain histories): the plain invariant gives `Rich.Lite`,
and the walk of `DepsOk` does the rest.  `Buildable`, `FrU`, `Tr` are those of `DepsOk` (namespace `Rich`). -/
namespace RedoModel.Deps
open RedoModel.Generated
open Rich (Buildable Tr)

theorem scriptAt_rich_eq (w : World) (dof : Nat) : Rich.scriptAt w dof = scriptAt w dof := rfl

theorem trP_ofWEqv {w w' : World} (e : WEqv w w') : Tr w w' :=
  Rich.Tr.of_fields e.fs e.rules e.progs (fun f _ => ⟨e.gen f, e.ovr f, e.stamp f⟩)

theorem Base.lite {rank R} {X : Nat → Prop} {w : World} (hb : Base rank R X w) (hnf : NoFail R w) : Rich.Lite rank R w := by
  refine ⟨hb.rulesOk, hb.rowsLt, hb.noCsum, Rich.not_failedNow hb.flLe hnf, fun t c hc => hb.ranked.1 t c hc,
    fun _ dof _ => (scriptAt_plain hb dof).2.2.2.1, fun t dof hd => ?_⟩
  -- a plain script declares nothing but its `redo-ifchange` targets
  have hp := scriptAt_plain hb dof
  rw [scriptAt_rich_eq]
  refine ⟨fun h => (by rw [hp.1] at h; cases h), fun d h => ?_, fun d h => ?_⟩
  · rcases h with h | h | h
    · obtain ⟨c, hc, hd'⟩ := List.mem_flatten.1 h
      exact scriptAt_ranked hb hd c hc d hd'
    · rw [hp.2.2.1] at h; cases h
    · rw [hp.2.1] at h; cases h
  · rcases h with h | h
    · rw [hp.2.2.1] at h; cases h
    · rw [hp.2.1] at h; cases h

/-! ### C10 — after a plain history WITH kills, a buildable project builds: `redo-ifchange` / `redo` exit 0 -/

theorem runCmd_succP {rank N w} (d : Defects) (hN : ∀ f, rank f < N) (h : Btw rank w) (ts : List Nat) (kg forced : Bool)
    (hB : ∀ t ∈ ts, Buildable w t) :
    (runCmd d N (if forced then .redo ts kg else .ifchange ts kg) w).1.status = 0 := by
  obtain ⟨hi1, hnf1⟩ := Inv_alloc h
  exact (hi1.base.lite hnf1).runCmd_succ d hN ts kg forced hB

/-- **C10, success direction, plain histories with kills.**  After ANY plain history interleaved with ANY number of
killed `redo-ifchange` runs (hypotheses of `noStalePlainK_partial`, in particular `SingleDo`), a later
`redo-ifchange ts` / `redo ts` over buildable targets exits 0 — and leaves them up to date. -/
theorem recoveryExitsZeroPlain (n : Nat) (rules : Nat → List Nat) (rank : Nat → Nat) (ops : List UserOp) (ts : List Nat)
    (kg forced : Bool) (hr : RulesOk rules) (hS : SingleDo rules) (hp : ∀ op ∈ ops, PlainOpK rules op)
    (hrk : ∀ w ∈ worldsOf n {} (initWorld rules) ops, Ranked rank w) (hN : ∀ f, rank f < n)
    (hok : OpsOk n (initWorld rules) ops) :
    let w := ops.foldl (fun w op => (applyOp {} n op w).2) (initWorld rules)
    let r := runCmd {} n (if forced then .redo ts kg else .ifchange ts kg) w
    (∀ t ∈ ts, Buildable w t) → r.1.status = 0 ∧ ∀ t ∈ ts, UpToDateD r.2 t := by
  intro w r hB
  have h0 : Btw rank (initWorld rules) := Btw_init hr (hrk _ (worldsOf_head n {} _ ops))
  obtain ⟨hb, _⟩ := history_btwK hN hS ops (initWorld rules) h0 rfl hp hrk hok
  have hz := runCmd_succP {} hN hb ts kg forced hB
  exact ⟨hz, runCmd_sound {} hN hb ts kg forced hz⟩

end RedoModel.Deps
