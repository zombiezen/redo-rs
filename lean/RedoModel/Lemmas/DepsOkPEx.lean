import RedoModel.Lemmas.DepsOkP
import RedoModel.Lemmas.DepsSoundKillEx
/-!
# C10 — non-vacuity of `recoveryExitsZeroPlain`: the history `exOps` of `DepsSoundKillEx` (two-level project, first
build, edit of a source, rebuild KILLED at step 1 of the script of the inner target).  The project is buildable after
the kill (shown through the frames, without evaluating the killed run), hence the recovery run exits 0 and the
targets are up to date — `ex_recovered` of `DepsSoundKillEx` obtained its `status = 0` by evaluating the whole run.
-/
namespace RedoModel.Deps
open RedoModel.Generated
open Rich (Buildable)

theorem ex_keeps7 : CmdKeeps exW6 exW7 := cmd_keeps {} 3 (.ifchange [5] false) exW6
theorem ex_keeps9 : CmdKeeps exW8 exW9 := crashCmd_keeps {} 3 [5] 6 1 exW8

theorem ex_rules8 : exW8.rules = exRules := ex_keeps7.1
theorem ex_rules9 : exW9.rules = exRules := ex_keeps9.1.trans ex_rules8

theorem ex_fs8 (x : Nat) (hx : x ≠ 4) : exW8.fs x = exW7.fs x := by
  show (setFile _ 4 _).fs x = _
  simp [setFile, hx]

theorem ex_fs9 (x : Nat) (hp : exRules x = []) (hx : x ≠ 4) : exW9.fs x = exW6.fs x := by
  rw [ex_keeps9.2.2 x (ex_rules8 ▸ hp), ex_fs8 x hx, ex_keeps7.2.2 x hp]

theorem ex_progs9 : exW9.progs = exW6.progs := ex_keeps9.2.1.trans ex_keeps7.2.1

theorem ex_ex4 : existsF exW9 4 = true := by
  have : exW9.fs 4 = exW8.fs 4 := ex_keeps9.2.2 4 (ex_rules8 ▸ by decide)
  rw [existsF_congr this]
  show ((setFile _ 4 _).fs 4).isSome = true
  simp [setFile]

theorem ex_buildable9 : Buildable exW9 5 := by
  have hr : exW9.rules = exRules := ex_rules9
  have e1 : exW9.fs 1 = exW6.fs 1 := ex_fs9 1 (by decide) (by decide)
  have e2 : exW9.fs 2 = exW6.fs 2 := ex_fs9 2 (by decide) (by decide)
  have e3 : exW9.fs 3 = exW6.fs 3 := ex_fs9 3 (by decide) (by decide)
  have s1 : Rich.scriptAt exW9 1 = exS1 := by
    rw [Rich.scriptAt_congr e1 ex_progs9]; decide +kernel
  have s2 : Rich.scriptAt exW9 2 = exS2 := by
    rw [Rich.scriptAt_congr e2 ex_progs9]; decide +kernel
  have x1 : existsF exW9 1 = true := by rw [existsF_congr e1]; decide +kernel
  have x2 : existsF exW9 2 = true := by rw [existsF_congr e2]; decide +kernel
  have x3 : existsF exW9 3 = true := by rw [existsF_congr e3]; decide +kernel
  have src : ∀ x, exRules x = [] → existsF exW9 x = true → Buildable exW9 x :=
    fun x hx he => .source (fun c hc => by rw [hr, hx] at hc; cases hc) he
  have b6 : Buildable exW9 6 := by
    refine .target (dof := 2) (by rw [hr]; simp [exRules, Rich.firstEx, x2]) ?_ ?_ ?_ ?_ ?_
    · rw [s2]; intro d hd
      have : d = 4 := by simpa [exS2] using hd
      subst this; exact src 4 (by decide) ex_ex4
    · rw [s2]; intro d hd; simp [exS2] at hd
    · rw [s2]; intro d hd; simp [exS2] at hd
    · rw [s2]; rfl
    · rw [s2]; rfl
  refine .target (dof := 1) (by rw [hr]; simp [exRules, Rich.firstEx, x1]) ?_ ?_ ?_ ?_ ?_
  · rw [s1]; intro d hd
    have : d = 6 ∨ d = 3 := by simpa [exS1] using hd
    rcases this with rfl | rfl
    · exact b6
    · exact src 3 (by decide) x3
  · rw [s1]; intro d hd; simp [exS1] at hd
  · rw [s1]; intro d hd; simp [exS1] at hd
  · rw [s1]; rfl
  · rw [s1]; rfl

end RedoModel.Deps
