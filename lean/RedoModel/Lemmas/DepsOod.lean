import RedoModel.Lemmas.DepsMemo
/-! redo-ood against the builder's check: the mark-free notion of cleanliness, the invariant of a walk, the lower bound. -/
namespace RedoModel.Deps

/-! ### redo-ood vs. the builder's dirtiness check: definitions and basic facts -/

/-- All run ids stored in records are ids of past runs. -/
def WF (w : World) : Prop :=
  ∀ f, (∀ c, (w.recs f).checked = some c → c ≤ w.runCounter) ∧
       (∀ c, (w.recs f).changed = some c → c ≤ w.runCounter) ∧
       (∀ c, (w.recs f).failed = some c → c ≤ w.runCounter)

theorem WF_initWorld (rules : Nat → List Nat) : WF (initWorld rules) := by
  intro f
  simp only [initWorld]
  split <;> simp

/-! ### Mark-free cleanliness -/

/-- What the walk of `private_is_dirty` establishes about `f` under the bound `mx` when it
answers "clean" and no "checked" mark short-cuts it: no failure, a `changed` id not newer than
`mx`, an unchanged stamp, every `m` dependency clean under the file's own bound and every `c`
dependency still missing.  (Inductive: a clean walk is finite, hence acyclic.) -/
inductive PC (w : World) (R : Nat) : Nat → Nat → Prop
  | mk (f mx ch : Nat)
      (hfail : (getRec w R f).failed = none)
      (hch : (getRec w R f).changed = some ch)
      (hle : ch ≤ mx)
      (hst : (getRec w R f).stamp = some (readStamp w f))
      (hm : ∀ d ∈ depsOf w (getRec w R f) f, d.modeM = true →
          PC w R d.source (max ch ((getRec w R f).checked.getD 0)))
      (hc : ∀ d ∈ depsOf w (getRec w R f) f, d.modeM = false → existsF w d.source = false) :
      PC w R f mx

theorem PC.mono {w : World} {R f mx : Nat} (h : PC w R f mx) {mx2 : Nat} (hle2 : mx ≤ mx2) : PC w R f mx2 := by
  cases h with
  | mk _ _ ch hfail hch hle hst hm hc => exact PC.mk f mx2 ch hfail hch (Nat.le_trans hle hle2) hst hm hc

theorem PC.congr {w w2 : World} (hfs : w2.fs = w.fs) (hrecs : w2.recs = w.recs) (hdeps : w2.deps = w.deps)
    {R f mx : Nat} (h : PC w R f mx) : PC w2 R f mx := by
  have hg : ∀ g, getRec w2 R g = getRec w R g := fun g => by simp [getRec, hrecs]
  have hd : ∀ r g, depsOf w2 r g = depsOf w r g := fun r g => by simp [depsOf, hrecs, hdeps]
  have hs : ∀ g, readStamp w2 g = readStamp w g := fun g => by simp [readStamp, hfs]
  have he : ∀ g, existsF w2 g = existsF w g := fun g => by simp [existsF, hfs]
  induction h with
  | mk f mx ch hfail hch hle hst hm hc ih =>
    refine PC.mk f mx ch ?_ ?_ hle ?_ ?_ ?_
    · rw [hg]; exact hfail
    · rw [hg]; exact hch
    · rw [hg, hs]; exact hst
    · intro d hdm hmode
      rw [hg, hd] at hdm
      rw [hg]
      exact ih d hdm hmode
    · intro d hdm hmode
      rw [hg, hd] at hdm
      rw [he]
      exact hc d hdm hmode

theorem getRec_always_fresh {w : World} (hwf : WF w) {R : Nat} (hR : w.runCounter < R) :
    getRec w R alwaysId = { (w.recs alwaysId) with changed := some R } :=
  getRec_always_of_le fun c hc => Nat.le_of_lt (Nat.lt_of_le_of_lt ((hwf alwaysId).2.1 c hc) hR)

/-- `PC` is the same notion for every fresh run id: only the `//ALWAYS` record depends on the run
id, it is newer than every recorded mark, and at top level the bound is the run id itself. -/
theorem PC.shift {w : World} (hwf : WF w) {R1 R2 : Nat} (h1 : w.runCounter < R1) (h2 : w.runCounter < R2)
    {f mx : Nat} (h : PC w R1 f mx) :
    mx ≤ R1 → ∀ mx2, (mx < R1 → mx ≤ mx2) → (mx = R1 → R2 ≤ mx2) → PC w R2 f mx2 := by
  induction h with
  | mk f mx ch hfail hch hle hst hm hc ih =>
    intro hmx mx2 hle2 hR
    by_cases h0 : f = alwaysId
    · subst h0
      rw [getRec_always_fresh hwf h1] at hfail hch hst hm hc ih
      simp only [Option.some.injEq] at hch
      subst hch
      have hmxe : mx = R1 := by omega
      have hd : ∀ R, depsOf w { (w.recs alwaysId) with changed := some R } alwaysId
          = depsOf w (w.recs alwaysId) alwaysId := fun R => rfl
      refine PC.mk alwaysId mx2 R2 ?_ ?_ (hR hmxe) ?_ ?_ ?_
      · rw [getRec_always_fresh hwf h2]; exact hfail
      · rw [getRec_always_fresh hwf h2]
      · rw [getRec_always_fresh hwf h2]; exact hst
      · rw [getRec_always_fresh hwf h2]
        intro d hdm hmode
        obtain ⟨hck, _, _⟩ := hwf alwaysId
        have hcb : (w.recs alwaysId).checked.getD 0 ≤ w.runCounter := by
          cases hx : (w.recs alwaysId).checked with
          | none => simp
          | some c => simpa using hck c hx
        have e1 : max R1 ((w.recs alwaysId).checked.getD 0) = R1 := by
          have := hcb; omega
        have e2 : max R2 ((w.recs alwaysId).checked.getD 0) = R2 := by
          have := hcb; omega
        have := ih d hdm hmode
        dsimp only at this ⊢
        rw [e1] at this
        rw [e2]
        exact this (Nat.le_refl _) R2 (fun h => absurd h (Nat.lt_irrefl _)) (fun _ => Nat.le_refl _)
      · rw [getRec_always_fresh hwf h2]
        exact hc
    · have e1 : getRec w R1 f = w.recs f := getRec_of_ne h0
      have e2 : getRec w R2 f = w.recs f := getRec_of_ne h0
      rw [e1] at hfail hch hst hm hc ih
      obtain ⟨hck, hcg, _⟩ := hwf f
      have hcb : (w.recs f).checked.getD 0 ≤ w.runCounter := by
        cases hx : (w.recs f).checked with
        | none => simp
        | some c => simpa using hck c hx
      have hchb := hcg ch hch
      refine PC.mk f mx2 ch ?_ ?_ (by have := hle2; have := hR; omega) ?_ ?_ ?_
      · rw [e2]; exact hfail
      · rw [e2]; exact hch
      · rw [e2]; exact hst
      · rw [e2]
        intro d hdm hmode
        refine ih d hdm hmode (by omega) _ (fun _ => Nat.le_refl _) (fun he => ?_)
        omega
      · rw [e2]; exact hc

/-! ### redo-ood vs. the builder's check: a "clean" answer of a dirtiness walk is a `PC` derivation

One invariant serves the walk of `redo-ood` (`ood = true`) and the builder's (`ood = false`).  The loop of
`redo-ood` shares one in-memory cache between the walks of all targets, and what an earlier walk wrote (the
"target vanished" conversion) stays visible until the process exits; the builder writes `checked := R` marks
while it goes and works on snapshots of the records taken when the parent's dependency list was loaded.
Invariant (`OInv`): every record is the original one, or one that is reported dirty (`failed` set) of a file whose
recorded stamp was not the file's, or — in the builder's walk — the original one marked checked, of a file with a
`PC` derivation; every cached file has a `PC` derivation on the original world. -/

def RecOk (w : World) (R f : Nat) (r : Rec) : Prop := r = getRec w R f ∨ r.failed.isSome = true

/-- A working copy: the original record, or a failed one of a file whose recorded stamp was not the file's. -/
def ORec (w : World) (R f : Nat) (r : Rec) : Prop :=
  r = getRec w R f ∨ (r.failed.isSome = true ∧ (getRec w R f).stamp ≠ some (readStamp w f))

theorem ORec.toOod {w : World} {R f : Nat} {r : Rec} (h : ORec w R f r) : RecOk w R f r := h.imp id (fun x => x.1)

/-- A working copy in a walk started on `w`: as in redo-ood's, or (only the builder marks) the original record
marked checked in this run, of a file with a `PC` derivation. -/
def WRec (ood : Bool) (w : World) (R f : Nat) (r : Rec) : Prop :=
  ORec w R f r ∨ (ood = false ∧ r = { getRec w R f with checked := some R } ∧ ∃ mx, PC w R f mx)

/-- Worlds met inside a dirtiness walk started on `w`. -/
def OInv (ood : Bool) (w w' : World) (R : Nat) : Prop :=
  w'.fs = w.fs ∧ w'.deps = w.deps ∧ ∀ g, (w'.recs g).row = (w.recs g).row ∧ WRec ood w R g (getRec w' R g)

def CacheOk (w : World) (R : Nat) (cache : List Nat) : Prop := ∀ g ∈ cache, ∃ mx, PC w R g mx

namespace OInv
variable {ood : Bool} {w w' : World} {R : Nat}

theorem refl (w : World) (R : Nat) : OInv ood w w R := ⟨rfl, rfl, fun _ => ⟨rfl, .inl (.inl rfl)⟩⟩

theorem rs (h : OInv ood w w' R) (f : Nat) : readStamp w' f = readStamp w f := by
  simp [readStamp, h.1]

theorem ex (h : OInv ood w w' R) (f : Nat) : existsF w' f = existsF w f := by
  simp [existsF, h.1]

theorem dp (h : OInv ood w w' R) (r : Rec) (f : Nat) : depsOf w' r f = depsOf w r f := by
  have : (fun (a b : Dep) => decide ((w'.recs a.source).row ≤ (w'.recs b.source).row))
      = (fun (a b : Dep) => decide ((w.recs a.source).row ≤ (w.recs b.source).row)) := by
    funext a b
    rw [(h.2.2 a.source).1, (h.2.2 b.source).1]
  simp only [depsOf, h.2.1, this]

theorem ev (h : OInv ood w w' R) (e : Ev) : OInv ood w (Deps.ev w' e) R := h

theorem pre (h : OInv ood w w' R) {f : Nat} {pre : Option Rec} (hpre : ∀ s, pre = some s → WRec ood w R f s) :
    WRec ood w R f (pre.getD (getRec w' R f)) := by
  cases pre with
  | none => exact (h.2.2 f).2
  | some s => exact hpre s rfl

theorem snaps (h : OInv ood w w' R) (r : Rec) (f : Nat) : ∀ p ∈ depsWithRecs w' R r f, WRec ood w R p.1.source p.2 := by
  intro p hp
  obtain ⟨d, _, rfl⟩ := List.mem_map.1 hp
  exact (h.2.2 d.source).2

/-- The rows loaded with the original record are the original rows. -/
theorem rows (h : OInv ood w w' R) (f : Nat) {d : Dep} (hd : d ∈ depsOf w (getRec w R f) f) :
    (d, getRec w' R d.source) ∈ depsWithRecs w' R (getRec w R f) f :=
  List.mem_map.2 ⟨d, by rw [h.dp]; exact hd, rfl⟩

theorem setRec (h : OInv ood w w' R) (f : Nat) (r : Rec) (hrow : r.row = (w.recs f).row)
    (hr : WRec ood w R f (getRec (setRec w' f r) R f)) : OInv ood w (setRec w' f r) R := by
  refine ⟨h.1, h.2.1, fun g => ?_⟩
  by_cases hg : g = f
  · subst hg
    exact ⟨by simp [Deps.setRec, hrow], hr⟩
  · rw [getRec_setRec_ne w' R f g r hg]
    exact ⟨by simp [Deps.setRec, hg, (h.2.2 g).1], (h.2.2 g).2⟩

/-- The "target vanished" write, of a file whose recorded stamp is not the file's. -/
theorem vanish (h : OInv ood w w' R) (f : Nat) (r : Rec) (hrow : r.row = (w.recs f).row)
    (hne : (getRec w R f).stamp ≠ some (readStamp w f)) :
    OInv ood w (Deps.setRec w' f { r with isGenerated := false, isOverride := false, failed := some 0 }) R := by
  refine h.setRec f _ hrow (.inl (.inr ⟨?_, hne⟩))
  rw [getRec_failed_eq]
  simp [Deps.setRec]

/-- The `checked := R` write, on a file with a `PC` derivation. -/
theorem mark (h : OInv false w w' R) (f mx : Nat) (hpc : PC w R f mx) :
    OInv false w (Deps.setRec w' f { getRec w R f with checked := some R }) R := by
  refine h.setRec f _ (getRec_row w R f) (.inr ⟨rfl, ?_, mx, hpc⟩)
  exact getRec_setRec_self w' R f _ (fun h0 => by subst h0; exact getRec_always_changed w R)

end OInv

theorem WRec.orig {ood : Bool} {w : World} {R f : Nat} {r : Rec} (h : WRec ood w R f r) (hnf : r.failed = none) :
    r = getRec w R f ∨ (ood = false ∧ r = { getRec w R f with checked := some R } ∧ ∃ mx, PC w R f mx) :=
  h.imp_left (fun h => h.resolve_right (fun h => by simp [hnf] at h))

theorem PC.rebound {w : World} {R f mx0 : Nat} (h : PC w R f mx0) {ch mx : Nat}
    (hch : (getRec w R f).changed = some ch) (hle : ch ≤ mx) : PC w R f mx := by
  cases h with
  | mk _ _ ch0 hfail hch0 hle0 hst hm hc =>
    rw [hch] at hch0
    cases hch0
    exact PC.mk f mx ch hfail hch hle hst hm hc

/-! ### A "clean" answer is a `PC` derivation -/

/-- What a walk of `f` under the bound `mx` guarantees. -/
def OodPost (ood : Bool) (w : World) (R f mx : Nat) (res : DR × World × List Nat) : Prop :=
  OInv ood w res.2.1 R ∧ CacheOk w R res.2.2 ∧ (res.1 = .clean → PC w R f mx) ∧ res.1 ≠ .need []

theorem OodPost.triv {ood : Bool} {w : World} {R f mx : Nat} {w' : World} {cache : List Nat} {dr : DR}
    (hi : OInv ood w w' R) (hc : CacheOk w R cache) (h1 : dr ≠ .clean) (h2 : dr ≠ .need []) :
    OodPost ood w R f mx (dr, w', cache) := ⟨hi, hc, fun h => absurd h h1, h2⟩

theorem goDeps_clean_pc {ood : Bool} (w : World) (R mx' : Nat)
    (chk : World → List Nat → Nat → Rec → DR × World × List Nat)
    (hchk : ∀ w' cache s snap, OInv ood w w' R → WRec ood w R s snap → CacheOk w R cache →
      OodPost ood w R s mx' (chk w' cache s snap)) (hasCsum : Bool) (f : Nat) :
    ∀ (ds : List (Dep × Rec)) (w' : World) (cache must : List Nat),
      OInv ood w w' R → CacheOk w R cache → (∀ p ∈ ds, WRec ood w R p.1.source p.2) →
      OInv ood w (goDeps chk hasCsum f ds w' cache must).2.1 R ∧
      CacheOk w R (goDeps chk hasCsum f ds w' cache must).2.2 ∧
      (∀ dr, (goDeps chk hasCsum f ds w' cache must).1 = some dr → dr ≠ .clean ∧ dr ≠ .need []) ∧
      ((goDeps chk hasCsum f ds w' cache must).1 = none → must = [] ∧
        ∀ p ∈ ds, (p.1.modeM = true → PC w R p.1.source mx') ∧ (p.1.modeM = false → existsF w p.1.source = false))
  | [], w', cache, must => by
    intro hi hc _
    rw [goDeps]
    refine ⟨hi, hc, ?_, ?_⟩
    · cases must <;> simp
    · cases must <;> simp
  | (d, snap) :: ds, w', cache, must => by
    intro hi hc hds
    have hds' : ∀ p ∈ ds, WRec ood w R p.1.source p.2 := fun p hp => hds p (List.mem_cons_of_mem _ hp)
    rw [goDeps]
    by_cases hm : d.modeM = true
    · simp only [hm, if_true]
      have h1 := hchk w' cache d.source snap hi (hds (d, snap) List.mem_cons_self) hc
      generalize chk w' cache d.source snap = r at h1
      obtain ⟨sub, w1, c1⟩ := r
      obtain ⟨hi1, hc1, hpc, hne⟩ := h1
      dsimp only at hi1 hc1 hpc hne ⊢
      cases sub with
      | cyclic => exact ⟨hi1, hc1, (fun dr h => by cases h; simp), (fun h => by cases h)⟩
      | dirty => exact ⟨hi1, hc1, (fun dr h => by cases hasCsum <;> cases h <;> simp), (fun h => by cases h)⟩
      | clean =>
        obtain ⟨a, b, c0, c⟩ := goDeps_clean_pc w R mx' chk hchk hasCsum f ds w1 c1 must hi1 hc1 hds'
        refine ⟨a, b, c0, fun hn => ⟨(c hn).1, fun p hp => ?_⟩⟩
        rcases List.mem_cons.1 hp with rfl | hp
        · exact ⟨fun _ => hpc rfl, fun h => by simp [hm] at h⟩
        · exact (c hn).2 p hp
      | need ts =>
        obtain ⟨a, b, c0, c⟩ := goDeps_clean_pc w R mx' chk hchk hasCsum f ds w1 c1 (must ++ ts) hi1 hc1 hds'
        refine ⟨a, b, c0, fun hn => ?_⟩
        exfalso
        have := (c hn).1
        cases ts with
        | nil => exact hne rfl
        | cons x xs => simp at this
    · simp only [hm, Bool.false_eq_true, if_false]
      by_cases hex : existsF w' d.source = true
      · simp only [hex, if_true]
        exact ⟨hi, hc, (fun dr h => by cases hasCsum <;> cases h <;> simp), (fun h => by cases h)⟩
      · simp only [hex, Bool.false_eq_true, if_false]
        obtain ⟨a, b, c0, c⟩ := goDeps_clean_pc w R mx' chk hchk hasCsum f ds w' cache must hi hc hds'
        refine ⟨a, b, c0, fun hn => ⟨(c hn).1, fun p hp => ?_⟩⟩
        rcases List.mem_cons.1 hp with rfl | hp
        · refine ⟨fun h => absurd h hm, fun _ => ?_⟩
          rw [← hi.ex]
          simpa using hex
        · exact (c hn).2 p hp

/-- **A "clean" answer of a dirtiness walk is a `PC` derivation** — for redo-ood's walk, wherever in its loop; for
the builder's, in a fresh run `R` (no record carries `checked ≥ R` yet). -/
theorem isDirty_clean_pc {ood : Bool} (w : World) (R : Nat)
    (hb : ood = false → R ≠ 0 ∧ ∀ g, isCheckedR (getRec w R g) R = false) :
    ∀ (fuel : Nat) (w' : World) (cache : List Nat) (f mx : Nat) (seen : List Nat) (pre : Option Rec),
      OInv ood w w' R → (∀ s, pre = some s → WRec ood w R f s) → CacheOk w R cache →
      OodPost ood w R f mx (isDirty ood R fuel w' cache f mx seen pre)
  | 0, _, _, _, _, _, _ => fun hi _ hc => OodPost.triv hi hc (by simp) (by simp)
  | fuel + 1, w', cache, f, mx, seen, pre => by
    intro hi hpre hc
    have hr := hi.pre hpre
    have hgd := fun mx' => goDeps_clean_pc w R mx'
      (fun w cache s snap => isDirty ood R fuel w cache s mx' (f :: seen) (some snap))
      (fun w2 c2 s snap h1 h2 h3 => isDirty_clean_pc w R hb fuel w2 c2 s _ (f :: seen) (some snap) h1
        (fun s' hs' => by cases hs'; exact h2) h3)
      (pre.getD (getRec w' R f)).csum.isSome f _ w' cache [] hi hc (hi.snaps (pre.getD (getRec w' R f)) f)
    rw [isDirty_succ]
    generalize hpr : pre.getD (getRec w' R f) = r at hr hgd
    refine isDirtyStep_cases (P := OodPost ood w R f mx) hpr.symm (fun _ => OodPost.triv hi hc (by simp) (by simp))
      (fun _ _ => OodPost.triv hi hc (by simp) (by simp)) ?_ ?_ ?_ ?_
    · intro ch _ hnf hch hle hck
      refine ⟨hi, hc, fun _ => ?_, by simp⟩
      rcases hr.orig hnf with h | ⟨_, h, mx0, hpc⟩
      · cases ood
        · rw [cond_false, h, (hb rfl).2 f] at hck; cases hck
        · obtain ⟨mx0, hpc⟩ := hc f (of_decide_eq_true hck)
          exact hpc.rebound (h ▸ hch) hle
      · exact hpc.rebound (by rw [h] at hch; exact hch) hle
    · intro _ old _ hnf _ _ _ hold hne
      refine OodPost.triv ?_ hc (by split <;> simp) (by split <;> simp)
      split
      · have hrow : r.row = (w.recs f).row ∧ r.stamp = (getRec w R f).stamp := by
          rcases hr.orig hnf with h | ⟨_, h, _⟩ <;> rw [h] <;> exact ⟨getRec_row w R f, rfl⟩
        refine hi.vanish f r hrow.1 ?_
        rw [← hrow.2, hold, ← hi.rs]
        exact fun e => hne (Option.some.inj e)
      · exact hi
    · intro _ dr g _ _ _ _ _ _ hg hdr
      obtain ⟨hi2, hc2, hne, _⟩ := hg ▸ hgd _
      exact OodPost.triv hi2 hc2 (hne dr hdr).1 (hne dr hdr).2
    · intro ch g _ hnf hch hle hck hst hg hnone
      obtain ⟨hi2, hc2, _, hds⟩ := hg ▸ hgd _
      -- the file has a `PC` derivation: a marked copy says so, and on the original record the walk has built one
      have hpc : PC w R f mx := by
        rcases hr.orig hnf with h | ⟨_, h, mx0, hpc⟩
        · subst h
          have hds := fun (d : Dep) (hd : d ∈ depsOf w (getRec w R f) f) => (hds hnone).2 _ (hi.rows f hd)
          exact PC.mk f mx ch hnf hch hle (by rw [hst, hi.rs]) (fun d hd => (hds d hd).1) (fun d hd => (hds d hd).2)
        · exact hpc.rebound (by rw [h] at hch; exact hch) hle
      cases ood
      · refine ⟨?_, hc2, fun _ => hpc, by simp⟩
        have hre : r = getRec w R f := by
          rcases hr.orig hnf with h | ⟨_, h, _⟩
          · exact h
          · subst h; simp [isCheckedR, (hb rfl).1] at hck
        subst hre
        dsimp only [cond_false]
        split
        · exact (hi2.ev _).mark f mx hpc
        · exact hi2.mark f mx hpc
      · refine ⟨hi2, fun g hg => ?_, fun _ => hpc, by simp⟩
        rcases List.mem_cons.1 hg with rfl | hg
        · exact ⟨mx, hpc⟩
        · exact hc2 g hg

/-! ### The loop of `redo-ood` -/

theorem go_acc_subset (R fuel : Nat) (fs : List Nat) (w' : World) (cache acc : List Nat) (x : Nat) (hx : x ∈ acc) :
    x ∈ (runCmd.go R fuel fs w' cache acc).1 := by
  fun_induction runCmd.go R fuel fs w' cache acc with
  | case1 => simpa using hx
  | case2 f fs w' cache acc dr w1 c1 hd ih => exact ih (by split; exact hx; exact List.mem_cons_of_mem _ hx)

/-- A known target that `redo-ood` does not list has a `PC` derivation on the world the command
started on. -/
theorem go_ood_pc (w : World) (R fuel : Nat) (fs : List Nat) (w' : World) (cache acc : List Nat)
    (hi : OInv true w w' R) (hc : CacheOk w R cache) (t : Nat) (ht : t ∈ fs)
    (hnot : t ∉ (runCmd.go R fuel fs w' cache acc).1) : PC w R t R := by
  fun_induction runCmd.go R fuel fs w' cache acc with
  | case1 => cases ht
  | case2 f fs w' cache acc dr w1 c1 hd ih =>
    obtain ⟨hi1, hc1, hpc, _⟩ := isDirty_clean_pc (ood := true) w R (fun h => nomatch h) fuel w' cache f R [] none hi
      (fun s hs => by cases hs) hc
    rw [hd] at hi1 hc1 hpc
    rcases List.mem_cons.1 ht with rfl | ht
    · -- a target that is not listed was found clean
      refine hpc (Decidable.byContradiction fun hdr => hnot ?_)
      exact go_acc_subset R fuel fs w1 c1 _ t (by rw [if_neg hdr]; exact List.mem_cons_self)
    · exact ih hi1 hc1 ht hnot

/-! ### redo-ood vs. the builder's check: a `PC` derivation makes a dirtiness walk answer "clean"

Fuel is handled abstractly (`FuelCert`): the two instances are the bound on file ids used by `C17b`
(`idCert`: the `seen` list holds distinct files `< n`, so `fuel + seen.length ≥ n + 1` keeps the fuel positive)
and a strict rank along the `m` rows (`rankCert`, for worlds after a rich history). -/

/-! ### Acyclicity of a `PC` derivation -/

/-- `s` is an `m` dependency of `f`. -/
def Chld (w : World) (R : Nat) (s f : Nat) : Prop :=
  ∃ d ∈ depsOf w (getRec w R f) f, d.modeM = true ∧ d.source = s

theorem PC.acc {w : World} {R f mx : Nat} (h : PC w R f mx) : Acc (Chld w R) f := by
  induction h with
  | mk f mx ch hfail hch hle hst hm hc ih =>
    refine Acc.intro f (fun s hs => ?_)
    obtain ⟨d, hd, hmode, rfl⟩ := hs
    exact ih d hd hmode

theorem Acc.irrefl' {α : Type} {r : α → α → Prop} {a : α} (h : Acc r a) : ¬ r a a := by
  induction h with
  | intro a _ ih => exact fun hr => ih a hr hr

theorem PC.not_below_self {w : World} {R f mx : Nat} (h : PC w R f mx) : ¬ Relation.TransGen (Chld w R) f f :=
  Acc.irrefl' h.acc.transGen

/-! ### Fuel certificates -/

/-- `Fu fuel seen f`: the walk may enter `f` with this fuel and this stack of ancestors. -/
structure FuelCert (w : World) (R : Nat) (Fu : Nat → List Nat → Nat → Prop) : Prop where
  enter : ∀ {fuel seen f mx}, Fu fuel seen f → PC w R f mx → f ∉ seen ∧ fuel ≠ 0
  child : ∀ {fuel seen f mx s}, Fu (fuel + 1) seen f → PC w R f mx → Chld w R s f → Fu fuel (f :: seen) s

/-- The certificate used in `C17b`: file ids below `n`, the stack holds distinct ancestors. -/
def IdFu (w : World) (R n : Nat) (fuel : Nat) (seen : List Nat) (f : Nat) : Prop :=
  (∀ g ∈ seen, Relation.TransGen (Chld w R) f g) ∧ seen.Nodup ∧ (∀ g ∈ seen, g < n) ∧ f < n ∧
    n + 1 ≤ fuel + seen.length

theorem idCert (w : World) (R n : Nat) (hb : ∀ d ∈ w.deps, d.modeM = true → d.source < n) :
    FuelCert w R (IdFu w R n) := by
  refine ⟨fun {fuel seen f mx} h hpc => ?_, fun {fuel seen f mx s} h hpc hs => ?_⟩
  · obtain ⟨hanc, hnd, hbd, hfn, hfuel⟩ := h
    have hns : f ∉ seen := fun hin => hpc.not_below_self (hanc f hin)
    have hlen : (f :: seen).length ≤ n :=
      nodup_length_le (List.nodup_cons.2 ⟨hns, hnd⟩)
        (fun g hg => by rcases List.mem_cons.1 hg with rfl | hg; exact hfn; exact hbd g hg)
    simp only [List.length_cons] at hlen
    exact ⟨hns, by omega⟩
  · obtain ⟨hanc, hnd, hbd, hfn, hfuel⟩ := h
    have hns : f ∉ seen := fun hin => hpc.not_below_self (hanc f hin)
    obtain ⟨d, hd, hmode, rfl⟩ := hs
    refine ⟨fun g hg => ?_, List.nodup_cons.2 ⟨hns, hnd⟩, fun g hg => ?_, hb d (mem_depsOf_mem_deps hd) hmode,
      by simp only [List.length_cons]; omega⟩
    · have hstep : Chld w R d.source f := ⟨d, hd, hmode, rfl⟩
      rcases List.mem_cons.1 hg with rfl | hg
      · exact Relation.TransGen.single hstep
      · exact Relation.TransGen.trans (Relation.TransGen.single hstep) (hanc g hg)
    · rcases List.mem_cons.1 hg with rfl | hg
      · exact hfn
      · exact hbd g hg

theorem idFu_top (w : World) (R n fuel t : Nat) (ht : t < n) (hfuel : n + 1 ≤ fuel) : IdFu w R n fuel [] t :=
  ⟨fun _ hg => (nomatch hg), List.nodup_nil, fun _ hg => (nomatch hg), ht, by simpa using hfuel⟩

/-- The certificate by a strict rank along the `m` rows. -/
theorem rankCert (w : World) (R : Nat) (rank : Nat → Nat)
    (hlt : ∀ d ∈ w.deps, d.modeM = true → rank d.source < rank d.target) : FuelCert w R (FuelOk rank) := by
  refine ⟨fun {fuel seen f mx} h _ => ⟨fun hin => by have := h.2 f hin; omega, by have := h.1; omega⟩,
    fun {fuel seen f mx s} h _ hs => ?_⟩
  obtain ⟨d, hd, hmode, rfl⟩ := hs
  exact h.child (mem_depsOf_target hd ▸ hlt d (mem_depsOf_mem_deps hd) hmode)

/-! ### The walk -/

/-- **A file with a `PC` derivation is found clean** by redo-ood's walk wherever in its loop it is asked, and by the
builder's walk of a run that has marked nothing but what it found clean — or the walk gives up (`cyclic`) at a
place the fuel certificate does not cover; never dirty, never `need _`.  The walk stays within the invariant. -/
theorem isDirty_pc_clean {ood : Bool} (w : World) (R : Nat) (hR : ood = false → R ≠ 0)
    {Fu : Nat → List Nat → Nat → Prop} (hF : FuelCert w R Fu) {f mx : Nat} (h : PC w R f mx) :
    ∀ (fuel : Nat) (w' : World) (cache seen : List Nat) (pre : Option Rec),
      OInv ood w w' R → (∀ s, pre = some s → WRec ood w R f s) →
      ((isDirty ood R fuel w' cache f mx seen pre).1 = .clean ∨
        ((isDirty ood R fuel w' cache f mx seen pre).1 = .cyclic ∧ ¬ Fu fuel seen f)) ∧
      OInv ood w (isDirty ood R fuel w' cache f mx seen pre).2.1 R := by
  induction h with
  | mk f mx ch hfail hch hle hst hm hc ih =>
    intro fuel w' cache seen pre hi hpre
    have hpc : PC w R f mx := PC.mk f mx ch hfail hch hle hst hm hc
    cases fuel with
    | zero => exact ⟨Or.inr ⟨rfl, fun hfu => (hF.enter hfu hpc).2 rfl⟩, hi⟩
    | succ fuel =>
    by_cases hseen : f ∈ seen
    · rw [isDirty_seen _ _ _ _ _ _ _ _ _ hseen]
      exact ⟨Or.inr ⟨rfl, fun hfu => (hF.enter hfu hpc).1 hseen⟩, hi⟩
    have hr := (hi.pre hpre).imp_left (fun h => h.resolve_right (fun h => h.2 hst))
    generalize hpr : pre.getD (getRec w' R f) = r at hr
    have hrf : r.failed = none := by rcases hr with h | ⟨_, h, _⟩ <;> (subst h; exact hfail)
    have hrc : r.changed = some ch := by rcases hr with h | ⟨_, h, _⟩ <;> (subst h; exact hch)
    have hrs : r.stamp = some (readStamp w' f) := by
      rw [hi.rs]; rcases hr with h | ⟨_, h, _⟩ <;> (subst h; exact hst)
    rw [isDirty_of_current hpr.symm hseen hrf hrc hle hrs]
    cases hnck : (bif ood then decide (f ∈ cache) else isCheckedR r R)
    · -- an unmarked working copy is the original record, and the walk passes over each of its rows
      have hre : r = getRec w R f := hr.resolve_right (fun ⟨ho, h, _⟩ => by
        subst ho h; simp [isCheckedR, hR rfl] at hnck)
      subst hre
      obtain ⟨hgo, hi2⟩ := goDeps_passed (hasCsum := (getRec w R f).csum.isSome) (f := f)
        (chk := fun w2 cache s snap => isDirty ood R fuel w2 cache s (max ch ((getRec w R f).checked.getD 0)) (f :: seen)
          (some snap))
        (I := fun w2 => OInv ood w w2 R)
        (B := fun _ p => p.1 ∈ depsOf w (getRec w R f) f ∧ WRec ood w R p.1.source p.2)
        (G := fun s => ¬ Fu fuel (f :: seen) s)
        (fun p w2 c2 hi2 hb hmode =>
          (ih p.1 hb.1 hmode fuel w2 c2 (f :: seen) (some p.2) hi2 (fun s hs => by cases hs; exact hb.2)).imp
            (Or.imp_left fun h => ⟨h, fun _ h => h⟩) id)
        (fun p w2 hi2 hb hmode => by rw [hi2.ex]; exact hc p.1 hb.1 hmode)
        (depsWithRecs w' R (getRec w R f) f) w' cache hi (fun p hp => by
          obtain ⟨d, hd, rfl⟩ := List.mem_map.1 hp
          exact ⟨hi.dp _ f ▸ hd, (hi.2.2 d.source).2⟩)
      rw [cond_false]
      rcases hgo with h | ⟨h, p, hp, hmode, hq⟩
      · refine ⟨Or.inl (closeWalk_fst_of_none h), ?_⟩
        cases ood
        · rw [closeWalk_ifchange_of_none h]
          dsimp only
          split
          · exact (hi2.ev _).mark f mx hpc
          · exact hi2.mark f mx hpc
        · rw [closeWalk_ood_of_none h]
          exact hi2
      · rw [closeWalk_of_some h]
        refine ⟨Or.inr ⟨rfl, fun hfu => hq (hF.child hfu hpc ?_)⟩, hi2⟩
        obtain ⟨d, hd, rfl⟩ := List.mem_map.1 hp
        exact ⟨d, hi.dp _ f ▸ hd, hmode, rfl⟩
    · exact ⟨Or.inl rfl, hi⟩

/-! ### redo-ood vs. the builder's check: a target redo-ood does not list is found clean by the
next command's check -/

/-- What `redo-ood` prints, as the loop over the known targets. -/
theorem ood_listing_eq (d : Defects) (n : Nat) (w : World) :
    (runCmd d n .ood w).1.listing =
      (runCmd.go (w.runCounter + 1) (2 * n + 4)
        ((knownFiles { w with runCounter := w.runCounter + 1 } n).filter
          (isTarget { w with runCounter := w.runCounter + 1 } (w.runCounter + 1)))
        { w with runCounter := w.runCounter + 1 } [] []).1 := rfl

/-- A known target that `redo-ood` (run id `runCounter + 1`) does not list is clean in the
mark-free sense for every later fresh run id. -/
theorem ood_not_listed_pc (d : Defects) (n : Nat) (w : World) (hwf : WF w) (t : Nat)
    (hlt : t < n) (hkn : known w t = true) (ht : isTarget w (w.runCounter + 1) t = true)
    (hnot : t ∉ (runCmd d n .ood w).1.listing) {R2 : Nat} (hR2 : w.runCounter < R2) :
    PC w R2 t R2 := by
  rw [ood_listing_eq] at hnot
  have hmem : t ∈ (knownFiles { w with runCounter := w.runCounter + 1 } n).filter
      (isTarget { w with runCounter := w.runCounter + 1 } (w.runCounter + 1)) := by
    rw [List.mem_filter]
    refine ⟨?_, ?_⟩
    · simp only [knownFiles, List.mem_filter, List.mem_range]
      exact ⟨hlt, (known_congr (w := w) (w2 := { w with runCounter := w.runCounter + 1 }) rfl t).trans hkn⟩
    · exact (isTarget_congr (w := w) (w2 := { w with runCounter := w.runCounter + 1 }) rfl rfl _ t).trans ht
  have hpc := go_ood_pc { w with runCounter := w.runCounter + 1 } (w.runCounter + 1) (2 * n + 4) _
    { w with runCounter := w.runCounter + 1 } [] [] (OInv.refl _ _) (fun g hg => by cases hg) t hmem hnot
  have hpc1 : PC w (w.runCounter + 1) t (w.runCounter + 1) := PC.congr (w := { w with runCounter := w.runCounter + 1 }) (w2 := w) rfl rfl rfl hpc
  exact hpc1.shift hwf (Nat.lt_succ_self _) hR2 (Nat.le_refl _) R2
    (fun h => absurd h (Nat.lt_irrefl _)) (fun _ => Nat.le_refl _)

theorem isFailedR_fresh {w : World} (hwf : WF w) {R : Nat} (hR : w.runCounter < R) (f : Nat) :
    isFailedR (getRec w R f) R = false := by
  have hf : (getRec w R f).failed = (w.recs f).failed := by
    simp only [getRec]; split <;> rfl
  obtain ⟨_, _, h3⟩ := hwf f
  unfold isFailedR
  rw [hf]
  cases hx : (w.recs f).failed with
  | none => rfl
  | some c =>
    have := h3 c hx
    simp only [Bool.and_eq_false_imp, bne_iff_ne, ne_eq, decide_eq_false_iff_not]
    intro _; omega

theorem shouldBuild_clean_of_isDirty {w : World} (hwf : WF w) (w2 : World) (hrecs : w2.recs = w.recs)
    (cx : Ctx) (hredo : cx.isRedo = false) (hR : w.runCounter < cx.runid) (fuel t : Nat)
    (h : (isDirty false cx.runid fuel w2 [] t cx.runid [] none).1 = .clean) :
    (shouldBuild cx fuel t w2).1 = some .clean := by
  unfold shouldBuild
  simp only [hredo, Bool.false_eq_true, if_false]
  have hg : getRec w2 cx.runid t = getRec w cx.runid t := by simp [getRec, hrecs]
  rw [hg, isFailedR_fresh hwf hR]
  simp only [Bool.false_eq_true, if_false]
  generalize isDirty false cx.runid fuel w2 [] t cx.runid [] none = r at h
  obtain ⟨dr, w3, c⟩ := r
  dsimp only at h ⊢
  subst h
  rfl

/-- **Lower bound**: a known target whose check by a later command (run id `runCounter + 2`; any world with the files,
records and rows of `w`) is not "clean" is listed by `redo-ood`, for every fuel the certificate covers. -/
theorem ood_lower_coreF (d : Defects) (n : Nat) (w : World) (hwf : WF w) {Fu : Nat → List Nat → Nat → Prop}
    (hF : FuelCert w (w.runCounter + 2) Fu) (t : Nat) (hlt : t < n) (hkn : known w t = true)
    (ht : isTarget w (w.runCounter + 1) t = true) (fuel : Nat) (hfu : Fu fuel [] t)
    (w2 : World) (hfs : w2.fs = w.fs) (hrecs : w2.recs = w.recs) (hdeps : w2.deps = w.deps)
    (hne : (isDirty false (w.runCounter + 2) fuel w2 [] t (w.runCounter + 2) [] none).1 ≠ .clean) :
    t ∈ (runCmd d n .ood w).1.listing := by
  refine Classical.byContradiction fun hnot => hne ?_
  have hpc := ood_not_listed_pc d n w hwf t hlt hkn ht hnot (R2 := w.runCounter + 2) (by omega)
  have hpc2 : PC w2 (w.runCounter + 2) t (w.runCounter + 2) := PC.congr hfs hrecs hdeps hpc
  have hF2 : FuelCert w2 (w.runCounter + 2) Fu := by
    refine ⟨fun {fuel seen f mx} h1 h2 => hF.enter h1 (PC.congr (w := w2) (w2 := w) hfs.symm hrecs.symm hdeps.symm h2),
      fun {fuel seen f mx s} h1 h2 h3 => hF.child h1
        (PC.congr (w := w2) (w2 := w) hfs.symm hrecs.symm hdeps.symm h2) ?_⟩
    obtain ⟨dd, hd, hm, e⟩ := h3
    refine ⟨dd, ?_, hm, e⟩
    have hg : getRec w2 (w.runCounter + 2) f = getRec w (w.runCounter + 2) f := by simp [getRec, hrecs]
    have hdp : depsOf w2 (getRec w (w.runCounter + 2) f) f = depsOf w (getRec w (w.runCounter + 2) f) f := by
      simp [depsOf, hrecs, hdeps]
    rw [hg, hdp] at hd; exact hd
  exact (isDirty_pc_clean (ood := false) w2 (w.runCounter + 2) (fun _ => by omega) hF2 hpc2 fuel w2 [] [] none
    (OInv.refl _ _) (fun s hs => by cases hs)).1.resolve_right (fun h => h.2 hfu)

/-- … under the bound on file ids, with the model's fuel. -/
theorem ood_lower_core (d : Defects) (n : Nat) (w : World) (hwf : WF w)
    (hb : ∀ dep ∈ w.deps, dep.modeM = true → dep.source < n) (t : Nat) (hlt : t < n) (hkn : known w t = true)
    (ht : isTarget w (w.runCounter + 1) t = true)
    (w2 : World) (hfs : w2.fs = w.fs) (hrecs : w2.recs = w.recs) (hdeps : w2.deps = w.deps)
    (hne : (isDirty false (w.runCounter + 2) (2 * n + 4) w2 [] t (w.runCounter + 2) [] none).1 ≠ .clean) :
    t ∈ (runCmd d n .ood w).1.listing :=
  ood_lower_coreF d n w hwf (idCert w _ n hb) t hlt hkn ht _ (idFu_top w _ n _ t hlt (by omega)) w2 hfs hrecs hdeps hne

end RedoModel.Deps
