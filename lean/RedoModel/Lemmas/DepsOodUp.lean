import RedoModel.Lemmas.DepsOod
import RedoModel.Lemmas.DepsQuietEx
import RedoModel.Lemmas.DepsWF
/-! redo-ood, upper bound: what is listed is not found clean by the next check. -/
namespace RedoModel.Deps

/-! ### redo-ood, upper bound: what redo-ood lists has no `PC` derivation

That the walk stays within `OInv` and keeps the cache within `CacheOk` is the first half of `isDirty_clean_pc`. -/

/-- A file with a `PC` derivation is reported clean by redo-ood's walk — or the walk gives up; never dirty, never
`need _`. -/
theorem isDirty_ood_cc (w : World) (R : Nat) {f mx : Nat} (h : PC w R f mx) (fuel : Nat) (w' : World)
    (cache seen : List Nat) (pre : Option Rec) (hi : OInv true w w' R) (hpre : ∀ s, pre = some s → WRec true w R f s) :
    (isDirty true R fuel w' cache f mx seen pre).1 = .clean ∨ (isDirty true R fuel w' cache f mx seen pre).1 = .cyclic :=
  (isDirty_pc_clean (ood := true) w R (fun h => nomatch h) (Fu := fun _ _ _ => False) ⟨fun h _ => h.elim, fun h _ _ => h.elim⟩ h fuel
    w' cache seen pre hi hpre).1.imp_right And.left

theorem go_listed_notPC (w : World) (R fuel : Nat) {Fu : Nat → List Nat → Nat → Prop} (hF : FuelCert w R Fu)
    (fs : List Nat) (w' : World) (cache acc : List Nat) (hi : OInv true w w' R) (hc : CacheOk w R cache)
    (hfu : ∀ t ∈ fs, Fu fuel [] t) (x : Nat) (hx : x ∈ (runCmd.go R fuel fs w' cache acc).1) :
    x ∈ acc ∨ (x ∈ fs ∧ ¬ PC w R x R) := by
  fun_induction runCmd.go R fuel fs w' cache acc with
  | case1 => exact Or.inl (by simpa using hx)
  | case2 f fs w' cache acc dr w1 c1 hd ih =>
    have hfr := isDirty_clean_pc (ood := true) w R (fun h => nomatch h) fuel w' cache f R [] none hi (fun s hs => by cases hs) hc
    have hcl := fun hpc : PC w R f R =>
      isDirty_pc_clean (ood := true) w R (fun h => nomatch h) hF hpc fuel w' cache [] none hi (fun s hs => by cases hs)
    rw [hd] at hfr hcl
    rcases ih hfr.1 hfr.2.1 (fun t ht => hfu t (List.mem_cons_of_mem _ ht)) hx with h | ⟨h1, h2⟩
    · split at h
      · exact Or.inl h
      · rename_i hne
        rcases List.mem_cons.1 h with rfl | h
        · -- listed here: not found clean, though the certificate covers it
          exact Or.inr ⟨List.mem_cons_self, fun hpc => hne ((hcl hpc).1.resolve_right (fun h => h.2 (hfu _ List.mem_cons_self)))⟩
        · exact Or.inl h
    · exact Or.inr ⟨List.mem_cons_of_mem _ h1, h2⟩

/-- **What `redo-ood` lists has no `PC` derivation** (and is a known target below `n`). -/
theorem ood_listed_notPC (d : Defects) (n : Nat) (w : World) {Fu : Nat → List Nat → Nat → Prop}
    (hF : FuelCert { w with runCounter := w.runCounter + 1 } (w.runCounter + 1) Fu)
    (hfu : ∀ t, t < n → Fu (2 * n + 4) [] t) (t : Nat) (ht : t ∈ (runCmd d n .ood w).1.listing) :
    (t < n ∧ known w t = true ∧ isTarget w (w.runCounter + 1) t = true) ∧ ¬ PC w (w.runCounter + 1) t (w.runCounter + 1) := by
  rw [ood_listing_eq] at ht
  have := go_listed_notPC { w with runCounter := w.runCounter + 1 } (w.runCounter + 1) (2 * n + 4) hF _ _ [] []
    (OInv.refl _ _) (fun _ hg => nomatch hg) (fun t ht => by
      simp only [knownFiles, List.mem_filter, List.mem_range] at ht
      exact hfu t ht.1.1) t ht
  rcases this with h | ⟨h1, h2⟩
  · cases h
  · simp only [knownFiles, List.mem_filter, List.mem_range] at h1
    refine ⟨⟨h1.1.1, ?_, ?_⟩, fun hpc => h2 (PC.congr (w := w) (w2 := { w with runCounter := w.runCounter + 1 }) rfl rfl rfl hpc)⟩
    · rw [← known_congr (w := w) (w2 := { w with runCounter := w.runCounter + 1 }) rfl]; exact h1.1.2
    · rw [← isTarget_congr (w := w) (w2 := { w with runCounter := w.runCounter + 1 }) rfl rfl]; exact h1.2

/-! ### redo-ood, upper bound: what `redo-ood` lists is not found clean by the next command's check; exactness -/

theorem isCheckedR_fresh {w : World} (hwf : WF w) {R : Nat} (hR : w.runCounter < R) (g : Nat) :
    isCheckedR (getRec w R g) R = false := by
  have hf : (getRec w R g).checked = (w.recs g).checked := by
    simp only [getRec]; split <;> rfl
  obtain ⟨h1, _, _⟩ := hwf g
  unfold isCheckedR
  rw [hf]
  cases hx : (w.recs g).checked with
  | none => rfl
  | some c =>
    have := h1 c hx
    simp only [Bool.and_eq_false_imp, bne_iff_ne, ne_eq, decide_eq_false_iff_not]
    intro _; omega

/-- The builder's check of a later run answering "clean" yields a `PC` derivation for the run id of the query. -/
theorem builder_clean_pc {w : World} (hwf : WF w) (w2 : World) (hfs : w2.fs = w.fs) (hrecs : w2.recs = w.recs)
    (hdeps : w2.deps = w.deps) (t fuel : Nat)
    (hcl : (isDirty false (w.runCounter + 2) fuel w2 [] t (w.runCounter + 2) [] none).1 = .clean) :
    PC w (w.runCounter + 1) t (w.runCounter + 1) := by
  have hfresh : ∀ g, isCheckedR (getRec w2 (w.runCounter + 2) g) (w.runCounter + 2) = false := fun g => by
    have : getRec w2 (w.runCounter + 2) g = getRec w (w.runCounter + 2) g := by simp [getRec, hrecs]
    rw [this]; exact isCheckedR_fresh hwf (by omega) g
  have h := isDirty_clean_pc (ood := false) w2 (w.runCounter + 2) (fun _ => ⟨by omega, hfresh⟩) fuel w2 [] t
    (w.runCounter + 2) [] none (OInv.refl _ _) (fun s hs => by cases hs) (fun g hg => nomatch hg)
  have hpc2 : PC w2 (w.runCounter + 2) t (w.runCounter + 2) := h.2.2.1 hcl
  have hpc : PC w (w.runCounter + 2) t (w.runCounter + 2) :=
    PC.congr (w := w2) (w2 := w) hfs.symm hrecs.symm hdeps.symm hpc2
  exact hpc.shift hwf (by omega) (by omega) (Nat.le_refl _) _ (fun h => absurd h (Nat.lt_irrefl _))
    (fun _ => Nat.le_refl _)

/-- **Upper bound (core)**: what `redo-ood` lists is a known target that the check of the following command (run id
`runCounter + 2`; any world with the files, records and rows of `w`) does not find clean. -/
theorem ood_upper_core (d : Defects) (n : Nat) (w : World) (hwf : WF w) {Fu : Nat → List Nat → Nat → Prop}
    (hF : FuelCert { w with runCounter := w.runCounter + 1 } (w.runCounter + 1) Fu)
    (hfu : ∀ t, t < n → Fu (2 * n + 4) [] t) (t : Nat) (ht : t ∈ (runCmd d n .ood w).1.listing)
    (w2 : World) (hfs : w2.fs = w.fs) (hrecs : w2.recs = w.recs) (hdeps : w2.deps = w.deps) (fuel : Nat) :
    (t < n ∧ known w t = true ∧ isTarget w (w.runCounter + 1) t = true) ∧
    (isDirty false (w.runCounter + 2) fuel w2 [] t (w.runCounter + 2) [] none).1 ≠ .clean := by
  obtain ⟨h1, h2⟩ := ood_listed_notPC d n w hF hfu t ht
  exact ⟨h1, fun hcl => h2 (builder_clean_pc hwf w2 hfs hrecs hdeps t fuel hcl)⟩

theorem shouldBuild_clean_iff {w : World} (hwf : WF w) (w2 : World) (hrecs : w2.recs = w.recs)
    (cx : Ctx) (hredo : cx.isRedo = false) (hR : w.runCounter < cx.runid) (fuel t : Nat) :
    (shouldBuild cx fuel t w2).1 = some .clean ↔ (isDirty false cx.runid fuel w2 [] t cx.runid [] none).1 = .clean := by
  refine ⟨fun h => ?_, shouldBuild_clean_of_isDirty hwf w2 hrecs cx hredo hR fuel t⟩
  unfold shouldBuild at h
  simp only [hredo, Bool.false_eq_true, if_false] at h
  have hg : getRec w2 cx.runid t = getRec w cx.runid t := by simp [getRec, hrecs]
  rw [hg, isFailedR_fresh hwf hR] at h
  simp only [Bool.false_eq_true, if_false] at h
  generalize isDirty false cx.runid fuel w2 [] t cx.runid [] none = r at h ⊢
  obtain ⟨dr, w3, c⟩ := r
  dsimp only at h ⊢
  cases dr with
  | clean => rfl
  | dirty => cases h
  | cyclic => cases h
  | need ts =>
    exfalso
    split at h
    · split at h <;> cases h
    · cases h

theorem ood_upper_shouldBuild_core (d : Defects) (n : Nat) (w : World) (hwf : WF w)
    {Fu : Nat → List Nat → Nat → Prop}
    (hF : FuelCert { w with runCounter := w.runCounter + 1 } (w.runCounter + 1) Fu)
    (hfu : ∀ t, t < n → Fu (2 * n + 4) [] t) (t : Nat) (ht : t ∈ (runCmd d n .ood w).1.listing) (kg : Bool)
    (hro : (runCmd d n .ood w).2.fs = w.fs ∧ (runCmd d n .ood w).2.recs = w.recs ∧
      (runCmd d n .ood w).2.deps = w.deps ∧ (runCmd d n .ood w).2.runCounter = w.runCounter + 1 ∧
      (runCmd d n .ood w).1.status = 0) :
    (shouldBuild { runid := (allocRun (runCmd d n .ood w).2).1, keepGoing := kg } (2 * n + 4) t
      (allocRun (runCmd d n .ood w).2).2).1 ≠ some .clean := by
  have hrc : (allocRun (runCmd d n .ood w).2).1 = w.runCounter + 2 := by simp [allocRun, hro.2.2.2.1]
  rw [hrc]
  intro hcl
  have := (shouldBuild_clean_iff hwf (allocRun (runCmd d n .ood w).2).2 hro.2.1
    { runid := w.runCounter + 2, keepGoing := kg } rfl (by show w.runCounter < w.runCounter + 2; omega) _ t).1 hcl
  exact (ood_upper_core d n w hwf hF hfu t ht (allocRun (runCmd d n .ood w).2).2 hro.1 hro.2.1 hro.2.2.1 _).2 this

/-! ### redo-ood: exactness ("listed ⇔ not found clean by the next command's check") -/

/-- **Exactness**: a known target below `n` is listed by `redo-ood` iff the check of the following command does not
find it clean. -/
theorem ood_exact_core (d : Defects) (n : Nat) (w : World) (hwf : WF w) {Fu : Nat → List Nat → Nat → Prop}
    (hF1 : FuelCert { w with runCounter := w.runCounter + 1 } (w.runCounter + 1) Fu)
    (hF2 : FuelCert w (w.runCounter + 2) Fu) (hfu : ∀ t, t < n → Fu (2 * n + 4) [] t)
    (t : Nat) (hlt : t < n) (hkn : known w t = true) (ht : isTarget w (w.runCounter + 1) t = true)
    (w2 : World) (hfs : w2.fs = w.fs) (hrecs : w2.recs = w.recs) (hdeps : w2.deps = w.deps) :
    t ∈ (runCmd d n .ood w).1.listing ↔
      (isDirty false (w.runCounter + 2) (2 * n + 4) w2 [] t (w.runCounter + 2) [] none).1 ≠ .clean :=
  ⟨fun h => (ood_upper_core d n w hwf hF1 hfu t h w2 hfs hrecs hdeps _).2,
   fun h => ood_lower_coreF d n w hwf hF2 t hlt hkn ht _ (hfu t hlt) w2 hfs hrecs hdeps h⟩

/-! ### redo-ood, upper bound: the members of a `need` verdict

Without any assumption on fuel: every member of a `need ts` verdict for `f` is a file below `f` (along `m` rows)
that has a recorded checksum and no `PC` derivation under any bound — a checksummed target that needs rebuilding. -/

/-- `x` lies below `f` along recorded `m` rows (of files redo owns). -/
inductive MReach (w : World) (R : Nat) : Nat → Nat → Prop
  | refl (f : Nat) : MReach w R f f
  | step {s f x : Nat} : Chld w R s f → MReach w R s x → MReach w R f x

/-- A checksummed target that needs rebuilding. -/
def NeedOk (w : World) (R x : Nat) : Prop := (getRec w R x).csum.isSome = true ∧ ∀ mx, ¬ PC w R x mx

def ChkNeed (w : World) (R mx' : Nat) (chk : World → List Nat → Nat → Rec → DR × World × List Nat) : Prop :=
  ∀ w' cache s snap, OInv true w w' R → WRec true w R s snap → CacheOk w R cache →
    OInv true w (chk w' cache s snap).2.1 R ∧ CacheOk w R (chk w' cache s snap).2.2 ∧
    ((chk w' cache s snap).1 = .dirty → ¬ PC w R s mx') ∧
    ∀ ts, (chk w' cache s snap).1 = .need ts → ∀ x ∈ ts, MReach w R s x ∧ NeedOk w R x

theorem goDeps_ood_need (w : World) (R mx' : Nat) (chk : World → List Nat → Nat → Rec → DR × World × List Nat)
    (hchk : ChkNeed w R mx' chk) (hasCsum : Bool) (f : Nat) :
    ∀ (ds : List (Dep × Rec)) (w' : World) (cache must : List Nat), OInv true w w' R → CacheOk w R cache →
      (∀ p ∈ ds, WRec true w R p.1.source p.2) →
      ∀ ts, (goDeps chk hasCsum f ds w' cache must).1 = some (.need ts) → ∀ x ∈ ts,
        x ∈ must ∨ (∃ p ∈ ds, p.1.modeM = true ∧ MReach w R p.1.source x ∧ NeedOk w R x) ∨
        (x = f ∧ hasCsum = true ∧ ∃ p ∈ ds, (p.1.modeM = true ∧ ¬ PC w R p.1.source mx') ∨
          (p.1.modeM = false ∧ existsF w p.1.source = true))
  | [], w', cache, must, _, _, _, ts, h, x, hx => by
    rw [goDeps] at h
    split at h
    · cases h
    · cases h; exact Or.inl hx
  | (d, snap) :: ds, w', cache, must, hi, hc, hds, ts, h, x, hx => by
    have hds' : ∀ p ∈ ds, WRec true w R p.1.source p.2 := fun p hp => hds p (List.mem_cons_of_mem _ hp)
    have lift : ∀ must' : List Nat, (x ∈ must' ∨ (∃ p ∈ ds, p.1.modeM = true ∧ MReach w R p.1.source x ∧ NeedOk w R x) ∨
        (x = f ∧ hasCsum = true ∧ ∃ p ∈ ds, (p.1.modeM = true ∧ ¬ PC w R p.1.source mx') ∨
          (p.1.modeM = false ∧ existsF w p.1.source = true))) →
        (x ∈ must' ∨ (∃ p ∈ (d, snap) :: ds, p.1.modeM = true ∧ MReach w R p.1.source x ∧ NeedOk w R x) ∨
        (x = f ∧ hasCsum = true ∧ ∃ p ∈ (d, snap) :: ds, (p.1.modeM = true ∧ ¬ PC w R p.1.source mx') ∨
          (p.1.modeM = false ∧ existsF w p.1.source = true))) := by
      rintro must' (h | ⟨p, hp, h⟩ | ⟨h1, h2, p, hp, h⟩)
      · exact Or.inl h
      · exact Or.inr (Or.inl ⟨p, List.mem_cons_of_mem _ hp, h⟩)
      · exact Or.inr (Or.inr ⟨h1, h2, p, List.mem_cons_of_mem _ hp, h⟩)
    rw [goDeps] at h
    by_cases hm : d.modeM = true
    · simp only [hm, if_true] at h
      have h1 := hchk w' cache d.source snap hi (hds (d, snap) List.mem_cons_self) hc
      generalize chk w' cache d.source snap = r at h1 h
      obtain ⟨sub, w1, c1⟩ := r
      obtain ⟨hi1, hc1, hdirty, hneed⟩ := h1
      dsimp only at hi1 hc1 hdirty hneed h
      cases sub with
      | cyclic => cases h
      | dirty =>
        dsimp only at h
        cases hasCsum with
        | false => cases h
        | true =>
          simp only [if_true, Option.some.injEq, DR.need.injEq] at h
          subst h
          simp only [List.mem_singleton] at hx
          exact Or.inr (Or.inr ⟨hx, rfl, (d, snap), List.mem_cons_self, Or.inl ⟨hm, hdirty rfl⟩⟩)
      | clean => exact lift _ (goDeps_ood_need w R mx' chk hchk hasCsum f ds w1 c1 must hi1 hc1 hds' ts h x hx)
      | need ts' =>
        have := goDeps_ood_need w R mx' chk hchk hasCsum f ds w1 c1 (must ++ ts') hi1 hc1 hds' ts h x hx
        rcases this with hmem | hrest
        · rcases List.mem_append.1 hmem with hmem | hmem
          · exact Or.inl hmem
          · exact Or.inr (Or.inl ⟨(d, snap), List.mem_cons_self, hm, hneed ts' rfl x hmem⟩)
        · exact lift [] (Or.inr hrest) |>.resolve_left (by simp) |> Or.inr
    · simp only [hm, Bool.false_eq_true, if_false] at h
      by_cases hex : existsF w' d.source = true
      · simp only [hex, if_true] at h
        cases hasCsum with
        | false => cases h
        | true =>
          simp only [if_true, Option.some.injEq, DR.need.injEq] at h
          subst h
          simp only [List.mem_singleton] at hx
          refine Or.inr (Or.inr ⟨hx, rfl, (d, snap), List.mem_cons_self, Or.inr ⟨by simpa using hm, ?_⟩⟩)
          rw [← hi.ex]; exact hex
      · simp only [hex, Bool.false_eq_true, if_false] at h
        exact lift _ (goDeps_ood_need w R mx' chk hchk hasCsum f ds w' cache must hi hc hds' ts h x hx)

/-! ### redo-ood, upper bound: the `need` verdict of redo-ood's walk, and the general upper bound -/

/-- redo-ood's walk: a `dirty` verdict excludes a `PC` derivation; the members of a `need` verdict are checksummed
files below `f` without a `PC` derivation. -/
theorem isDirty_ood_need (w : World) (R : Nat) :
    ∀ (fuel : Nat) (w' : World) (cache : List Nat) (f mx : Nat) (seen : List Nat) (pre : Option Rec),
      OInv true w w' R → (∀ s, pre = some s → WRec true w R f s) → CacheOk w R cache →
      OInv true w (isDirty true R fuel w' cache f mx seen pre).2.1 R ∧
      CacheOk w R (isDirty true R fuel w' cache f mx seen pre).2.2 ∧
      ((isDirty true R fuel w' cache f mx seen pre).1 = .dirty → ¬ PC w R f mx) ∧
      ∀ ts, (isDirty true R fuel w' cache f mx seen pre).1 = .need ts → ∀ x ∈ ts, MReach w R f x ∧ NeedOk w R x
  | 0, _, _, _, _, _, _ => fun hi _ hc => ⟨hi, hc, nofun, nofun⟩
  | fuel + 1, w', cache, f, mx, seen, pre => by
    intro hi hpre hc
    have hfr := isDirty_clean_pc (ood := true) w R (fun h => nomatch h) (fuel + 1) w' cache f mx seen pre hi hpre hc
    refine ⟨hfr.1, hfr.2.1, fun hd hpc => ?_, ?_⟩
    · rcases isDirty_ood_cc w R hpc (fuel + 1) w' cache seen pre hi hpre with h | h <;> rw [h] at hd <;> cases hd
    have hr := hi.pre hpre
    have hgd := fun mx' => goDeps_ood_need w R mx'
      (fun w cache s snap => isDirty true R fuel w cache s mx' (f :: seen) (some snap))
      (fun w2 c2 s snap h1 h2 => isDirty_ood_need w R fuel w2 c2 s _ (f :: seen) (some snap) h1
        (fun s' hs' => by cases hs'; exact h2))
      (pre.getD (getRec w' R f)).csum.isSome f (depsWithRecs w' R (pre.getD (getRec w' R f)) f) w' cache [] hi hc
      (hi.snaps _ f)
    rw [isDirty_succ]
    refine isDirtyStep_cases (P := fun res => ∀ ts, res.1 = .need ts → ∀ x ∈ ts, MReach w R f x ∧ NeedOk w R x) rfl
      (fun _ => nofun) (fun _ _ => nofun) (fun _ _ _ _ _ _ => nofun) ?_ ?_ ?_
    · intro _ old _ hnf _ _ _ hold hne ts h x hx
      have hre := (hr.orig hnf).resolve_right (fun h => nomatch h.1)
      dsimp only at h
      split at h
      · rename_i hcs
        cases h
        cases List.mem_singleton.1 hx
        refine ⟨MReach.refl _, hre ▸ hcs, fun mx0 hpc => ?_⟩
        cases hpc with
        | mk _ _ ch0 hfail hch0 hle0 hst hm hc =>
          rw [← hre, hold, ← hi.rs] at hst
          exact hne (Option.some.inj hst)
      · cases h
    · intro ch dr g _ hnf hch _ _ _ hg hdr ts h x hx
      have hre := (hr.orig hnf).resolve_right (fun h => nomatch h.1)
      have hmemd : ∀ p ∈ depsWithRecs w' R (pre.getD (getRec w' R f)) f, p.1 ∈ depsOf w (getRec w R f) f := by
        intro p hp
        obtain ⟨d, hd, rfl⟩ := List.mem_map.1 hp
        rw [hi.dp, hre] at hd
        exact hd
      cases h
      rcases (hg ▸ hgd _) ts hdr x hx with hmem | ⟨p, hp, hm, hreach, hok⟩ | ⟨hxf, hcs, p, hp, hwit⟩
      · cases hmem
      · exact ⟨MReach.step ⟨p.1, hmemd p hp, hm, rfl⟩ hreach, hok⟩
      · subst hxf
        refine ⟨MReach.refl _, hre ▸ hcs, fun mx0 hpc => ?_⟩
        cases hpc with
        | mk _ _ ch0 hfail hch0 hle0 hst hm hc =>
          cases (hre ▸ hch).symm.trans hch0
          rcases hwit with ⟨hmode, hnpc⟩ | ⟨hmode, hex⟩
          · exact hnpc (hre ▸ hm p.1 (hmemd p hp) hmode)
          · rw [hc p.1 (hmemd p hp) hmode] at hex; cases hex
    · intro _ _ _ _ _ _ _ _ _ _
      exact nofun

/-- **General upper bound** (any world, any defect switches, checksums allowed), on the world the query runs on
(`w1 = w` with the run counter advanced) with its run id `R = runCounter + 1`:
what `redo-ood` lists is a known target whose own dirtiness walk does not answer "clean"; and whenever that walk
answers `need ts`, every member of `ts` lies below the target along recorded `m` rows, has a recorded checksum, has
no `PC` derivation, and is itself not found clean — neither by redo-ood's walk nor (in a well-formed world) by the
check of the following command. -/
theorem ood_upper_general_core (d : Defects) (n : Nat) (w : World) {Fu : Nat → List Nat → Nat → Prop}
    (hF : FuelCert { w with runCounter := w.runCounter + 1 } (w.runCounter + 1) Fu)
    (hfu : ∀ t, t < n → Fu (2 * n + 4) [] t) (t : Nat) (ht : t ∈ (runCmd d n .ood w).1.listing) :
    (t < n ∧ known w t = true ∧ isTarget w (w.runCounter + 1) t = true) ∧
    ∀ fuel, (isDirty true (w.runCounter + 1) fuel { w with runCounter := w.runCounter + 1 } [] t
        (w.runCounter + 1) [] none).1 ≠ .clean := by
  obtain ⟨h1, h2⟩ := ood_listed_notPC d n w hF hfu t ht
  refine ⟨h1, fun fuel hcl => h2 ?_⟩
  have := isDirty_clean_pc (ood := true) { w with runCounter := w.runCounter + 1 } (w.runCounter + 1) (fun h => nomatch h)
    fuel { w with runCounter := w.runCounter + 1 } [] t (w.runCounter + 1) [] none (OInv.refl _ _)
    (fun s hs => by cases hs) (fun g hg => by cases hg)
  exact PC.congr (w := { w with runCounter := w.runCounter + 1 }) (w2 := w) rfl rfl rfl (this.2.2.1 hcl)

/-- The `need` members, for any call of redo-ood's walk on the original world. -/
theorem ood_need_members (w : World) (R fuel t mx : Nat) (ts : List Nat)
    (h : (isDirty true R fuel w [] t mx [] none).1 = .need ts) (x : Nat) (hx : x ∈ ts) :
    MReach w R t x ∧ (getRec w R x).csum.isSome = true ∧ (∀ mx', ¬ PC w R x mx') ∧
    ∀ fuel' mx', (isDirty true R fuel' w [] x mx' [] none).1 ≠ .clean := by
  obtain ⟨hr, hcs, hnpc⟩ := (isDirty_ood_need w R fuel w [] t mx [] none (OInv.refl _ _) (fun s hs => by cases hs)
    (fun _ hg => nomatch hg)).2.2.2 ts h x hx
  refine ⟨hr, hcs, hnpc, fun fuel' mx' hcl => hnpc mx' ?_⟩
  exact (isDirty_clean_pc (ood := true) w R (fun h => nomatch h) fuel' w [] x mx' [] none (OInv.refl _ _)
    (fun s hs => by cases hs) (fun g hg => by cases hg)).2.2.1 hcl

end RedoModel.Deps

/-! ### redo-ood, upper bound: worlds after a rich history (fuel by rank), and the closure `RecReach` -/
namespace RedoModel.Deps.Rich
open RedoModel.Generated

theorem MReach.recReach {w : World} {R f x : Nat} (h : MReach w R f x) :
    ∀ ts, RecReach w ts f → RecReach w ts x := by
  induction h with
  | refl f => exact fun _ h => h
  | step hc _ ih =>
    intro ts hf
    obtain ⟨d, hd, _, hs⟩ := hc
    exact ih ts (hs ▸ RecReach.step hf (mem_depsOf_mem_deps hd) (mem_depsOf_target hd))

theorem RecReach_congr {w w' : World} {ts : List Nat} {x : Nat} (hd : w'.deps = w.deps) (h : RecReach w ts x) :
    RecReach w' ts x := by
  induction h with
  | base ht => exact RecReach.base ht
  | step _ hdm ht ih => exact RecReach.step ih (by rw [hd]; exact hdm) ht

theorem shouldBuild_next_eq (d : Defects) (n : Nat) (w : World) (kg : Bool) (t : Nat) :
    shouldBuild { runid := (allocRun (runCmd d n .ood w).2).1, keepGoing := kg } (2 * n + 4) t
        (allocRun (runCmd d n .ood w).2).2 =
      shouldBuild { runid := w.runCounter + 2, keepGoing := kg } (2 * n + 4) t
        { w with runCounter := w.runCounter + 2 } := by
  rw [query_world d n w .ood (Or.inl rfl)]
  rfl

/-- Between commands of a rich history: `redo-ood` lists exactly the known targets that `should_build` of the
following `redo-ifchange` does not answer "clean" for. -/
theorem ood_exact_btw {rank n w} (d : Defects) (hN : ∀ f, rank f < n) (hb : Btw rank w) (hwf : WF w) (kg : Bool)
    (t : Nat) :
    t ∈ (runCmd d n .ood w).1.listing ↔
      ((t < n ∧ known w t = true ∧ isTarget w (w.runCounter + 1) t = true) ∧
        (shouldBuild { runid := (allocRun (runCmd d n .ood w).2).1, keepGoing := kg } (2 * n + 4) t
          (allocRun (runCmd d n .ood w).2).2).1 ≠ some .clean) := by
  have hb' : Base rank w.runCounter NoX w := hb
  have hlt : ∀ dd ∈ w.deps, dd.modeM = true → rank dd.source < rank dd.target := fun dd hd _ => hb'.rowsLt dd hd
  have hF1 := rankCert { w with runCounter := w.runCounter + 1 } (w.runCounter + 1) rank hlt
  have hF2 := rankCert w (w.runCounter + 2) rank hlt
  have hfu : ∀ t, t < n → Deps.FuelOk rank (2 * n + 4) [] t :=
    fun t _ => ⟨by have := hN t; omega, fun x hx => by cases hx⟩
  rw [shouldBuild_next_eq]
  have hiff := shouldBuild_clean_iff hwf { w with runCounter := w.runCounter + 2 } rfl
    { runid := w.runCounter + 2, keepGoing := kg } rfl (by show w.runCounter < w.runCounter + 2; omega) (2 * n + 4) t
  constructor
  · intro h
    obtain ⟨h1, h2⟩ := ood_upper_core d n w hwf hF1 hfu t h { w with runCounter := w.runCounter + 2 } rfl rfl rfl
      (2 * n + 4)
    exact ⟨h1, fun hc => h2 (hiff.1 hc)⟩
  · rintro ⟨⟨h1, h2, h3⟩, h4⟩
    exact ood_lower_coreF d n w hwf hF2 t h1 h2 h3 _ (hfu t h1) { w with runCounter := w.runCounter + 2 } rfl rfl rfl
      (fun hc => h4 (hiff.2 hc))

end RedoModel.Deps.Rich
