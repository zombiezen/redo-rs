import RedoModel.Lemmas.DepsSoundSEx
import RedoModel.Lemmas.DepsOodUp
import RedoModel.Lemmas.DepsEval
/-!
# redo-ood, upper bound: the over-approximation is real, and of the allowed kind

(The general theorems of `DepsOodUp` are applied to the same history, set up under its own names, in the second part.
That a query between does not change what the following build does is `C17.queries_do_not_change_builds_obs`.)

The history of `DepsSoundSEx`: source 5, checksummed `mid` (3, `redo-stamp`) reading it, `top` (4) reading `mid`;
everything is built, then the file of `mid` is removed.  `redo-ood` lists `mid` AND `top`; the following
`redo-ifchange top` rebuilds only `mid` (its checksum is unchanged).  The verdict of redo-ood's walk for `top` is
`need [mid]`: `top` is listed as a dependent of a checksummed target that needs rebuilding.
-/
namespace RedoModel.Deps.S
open RedoModel.Generated

/-- `redo-ood` (scenario size 5) lists `mid` and `top`. -/
theorem sA_ood : (runCmd {} 5 .ood (sW sOpsA)).1.listing = [3, 4] := by
  unfold sW
  eval_model

theorem sA_trace0 : (sW sOpsA).trace = [.ran 3, .ran 4] := by decide +kernel
theorem sA_rc : (sW sOpsA).runCounter = 1 := by decide +kernel
theorem sA_mid_csum : ((sW sOpsA).recs 3).csum.isSome = true := by decide +kernel

/-- The verdict of redo-ood's walk for `top` (run id 2, fuel 2·5+4): `need [mid]`. -/
theorem sA_need : (isDirty true 2 14 { sW sOpsA with runCounter := 2 } [] 4 2 [] none).1 = .need [3] := by
  unfold sW
  eval_model

/-- `redo-ifchange top` on that world exits 0 and executes `mid` only (`sA_status`, `sA_trace` of `DepsSoundSEx`; the
trace before the command was `[ran 3, ran 4]`). -/
theorem sA_build : sResA.1.status = 0 ∧ sResA.2.trace = .ran 3 :: (sW sOpsA).trace := by
  rw [sA_trace0]; exact ⟨sA_status, sA_trace⟩

end RedoModel.Deps.S

/-!
# redo-ood, upper bound: the general theorems applied to the checksum history

The history of the first part (that of `DepsSoundSEx`) once more, under its own names: source 5, checksummed
`mid` (3) reading it, `top` (4) reading `mid`; all built, the file of `mid` removed.
-/
namespace RedoModel.Deps.Rich
open RedoModel.Generated

def uRules : Nat → List Nat := fun t => if t = 3 then [1] else if t = 4 then [2] else []
def uMid : Script := { ifchange := [[5]], reads := [5], tag := 1, stamp := 1 }
def uTop : Script := { ifchange := [[3]], reads := [3], tag := 2 }
def uOps : List UserOp :=
  [.setProg (srcContent 7) uMid, .setProg (srcContent 8) uTop, .write 5 0, .write 1 7, .write 2 8,
   .cmd (.ifchange [4] false), .remove 3]
def uW : World := uOps.foldl (fun w op => (applyOp {} 6 op w).2) (initWorld uRules)

theorem u_rc : uW.runCounter = 1 := by decide +kernel
theorem u_hb : ∀ dep ∈ uW.deps, dep.modeM = true → dep.source < 6 := by decide +kernel
theorem u_wf : WF uW := WF_reachable {} 6 uRules uOps

theorem u_need : (isDirty true 2 16 { uW with runCounter := 2 } [] 4 2 [] none).1 = .need [3] := by
  unfold uW
  eval_model

theorem u_top_target : (4 < 6 ∧ known uW 4 = true ∧ isTarget uW (uW.runCounter + 1) 4 = true) := by decide +kernel

/-- `redo-ood` lists `top` — derived, not evaluated: were it not listed it had a `PC` derivation, and then its walk
could not answer `need [mid]`. -/
theorem u_top_listed : 4 ∈ (runCmd {} 6 .ood uW).1.listing := by
  refine Classical.byContradiction fun hnot => ?_
  have hpc := ood_not_listed_pc {} 6 uW u_wf 4 u_top_target.1 u_top_target.2.1 u_top_target.2.2 hnot
    (R2 := 2) (by rw [u_rc]; omega)
  have hpc' : PC { uW with runCounter := 2 } 2 4 2 := PC.congr (w := uW) (w2 := { uW with runCounter := 2 }) rfl rfl rfl hpc
  rcases isDirty_ood_cc { uW with runCounter := 2 } 2 hpc' 16 _ [] [] none (OInv.refl _ _) (fun s hs => by cases hs)
    with h | h <;> rw [u_need] at h <;> cases h

/-- The general theorem at work: the one member of `top`'s `need` verdict, `mid`, lies below `top`, carries a
checksum, has no `PC` derivation and is not found clean itself. -/
theorem u_need_mid : MReach { uW with runCounter := 2 } 2 4 3 ∧
    (getRec { uW with runCounter := 2 } 2 3).csum.isSome = true ∧
    (∀ mx', ¬ PC { uW with runCounter := 2 } 2 3 mx') ∧
    ∀ fuel' mx', (isDirty true 2 fuel' { uW with runCounter := 2 } [] 3 mx' [] none).1 ≠ .clean :=
  ood_need_members _ 2 16 4 2 [3] u_need 3 (by simp)

end RedoModel.Deps.Rich
