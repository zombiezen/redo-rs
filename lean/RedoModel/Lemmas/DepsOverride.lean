import RedoModel.Deps
/-!
# `start_self` on a generated target that the user has taken over

The file exists and the record says "generated", and either the override is already recorded or the stamps differ in
modification time or size: nothing is run, the record is (re)marked overridden, a warning is the only trace.
-/
namespace RedoModel.Deps

theorem startSelf_override (E : Engine) (d : Defects) (cx : Ctx) (t : Nat) (sf : Rec) (w : World)
    (hex : existsF w t = true) (hg : sf.isGenerated = true)
    (hdo : sf.isOverride = true ∨ detectOverride (sf.stamp.getD .missing) (readStamp w t) = true) :
    (startSelf E d cx t sf w).1 = 0 ∧ (startSelf E d cx t sf w).2.fs = w.fs ∧
    ((startSelf E d cx t sf w).2.recs t).isOverride = true ∧
    (startSelf E d cx t sf w).2.trace = .warnOverride t :: w.trace := by
  have hns : readStamp w t ≠ .missing := by
    unfold readStamp existsF at *
    cases h : w.fs t <;> simp_all
  have hex' : (w.fs t).isSome = true := hex
  have hc : (sf.isOverride || detectOverride (sf.stamp.getD .missing) (readStamp w t)) = true := by
    rcases hdo with h | h <;> simp [h]
  simp [startSelf, hg, hc, hns, hex', existsF, setRec, ev, setOverride]

end RedoModel.Deps
