import RedoModel.Lemmas.DepsOwnedEngine
/-!
# C11 at the level of whole commands and whole histories

"redo never overwrites or deletes files it did not produce": a file that exists and that redo does not
own (`UserOwned`: not recorded as generated, or marked overridden, or generated but with an (mtime,size)
different from the recorded stamp) has the same `FNode` after any top-level command — `redo`,
`redo-ifchange`, `redo-ood`, `redo-targets`, `redo-sources`, a command killed at any script step — and
after any sequence of such commands, and is still user-owned then.  All defect switches are arbitrary.

Definitions, the algebra and scripts/jobs/engine are in `DepsOwnedEngine`.
-/
namespace RedoModel.Deps
open RedoModel.Generated

theorem allocRun_sameOwn (w : World) : SameOwn w (allocRun w).2 := ⟨rfl, fun _ _ => KeyEq.refl _⟩

/-- A fresh run id, then the loop over the targets, in whatever context. -/
theorem freshRun_keepsUser (d : Defects) (cx : Ctx) (n : Nat) (ts : List Nat) (w : World) :
    KeepsUser w (runTargets (engine d n) d cx n ts [] false (allocRun w).2).2 :=
  (allocRun_sameOwn w).keeps.trans (runTargets_keepsUser (engine d n) (engine_keeps d _) d cx n ts [] false _)

/-- **C11, one command.**  Whatever the command, the defect switches and the state, every user-owned file
is byte-for-byte the same afterwards and is still user-owned. -/
theorem runCmd_keepsUser (d : Defects) (n : Nat) (c : Cmd) (w : World) : KeepsUser w (runCmd d n c w).2 :=
  runCmd_cases d n w (P := fun _ w' => KeepsUser w w') (fun _ _ => (allocRun_sameOwn w).keeps)
    (fun ts _ _ => freshRun_keepsUser d _ _ ts w) c

/-- The killed `redo-ifchange` (whole process tree killed at step `k` of the script of `t`). -/
theorem crashCmd_keepsUser (d : Defects) (n : Nat) (ts : List Nat) (t k : Nat) (w : World) :
    KeepsUser w (applyOp d n (.crashCmd ts t k) w).2 :=
  freshRun_keepsUser d _ _ ts w

/-- The user operations that are redo commands (as opposed to the user's own edits). -/
def UserOp.isCommand : UserOp → Bool
  | .cmd _ => true
  | .crashCmd _ _ _ => true
  | _ => false

theorem applyOp_keepsUser (d : Defects) (n : Nat) (op : UserOp) (hop : op.isCommand = true) (w : World) :
    KeepsUser w (applyOp d n op w).2 := by
  cases op with
  | cmd c => exact runCmd_keepsUser d n c w
  | crashCmd ts t k => exact crashCmd_keepsUser d n ts t k w
  | write f v => cases hop
  | remove f => cases hop
  | chmod f => cases hop
  | hide f => cases hop
  | unhide f => cases hop
  | setProg c s => cases hop

def runOps (d : Defects) (n : Nat) (ops : List UserOp) (w : World) : World :=
  ops.foldl (fun w op => (applyOp d n op w).2) w

/-- **C11, whole histories.**  Between two user actions, however many redo commands of whatever kind run
(including killed ones), every user-owned file is byte-for-byte the same and still user-owned. -/
theorem history_keepsUser (d : Defects) (n : Nat) (ops : List UserOp) (h : ∀ op ∈ ops, op.isCommand = true) (w : World) :
    KeepsUser w (runOps d n ops w) :=
  history_inv (P := KeepsUser w) d n ops w (KeepsUser.refl w) fun op hop w' hk => hk.trans (applyOp_keepsUser d n op (h op hop) w')

/-- **C11 in plain words.**  A file that exists and is not redo's has the same node (content, mtime/size,
inode/mode) after any command. -/
theorem runCmd_user_file_same (d : Defects) (n : Nat) (c : Cmd) (w : World) (f : Nat) (h : UserOwned w f) :
    (runCmd d n c w).2.fs f = w.fs f :=
  (runCmd_keepsUser d n c w f h).1

/-- … in particular it still exists (never deleted). -/
theorem runCmd_user_file_exists (d : Defects) (n : Nat) (c : Cmd) (w : World) (f : Nat) (h : UserOwned w f) :
    existsF (runCmd d n c w).2 f = true :=
  (runCmd_keepsUser d n c w f h).2.1

/-- The same after any sequence of commands. -/
theorem history_user_file_same (d : Defects) (n : Nat) (ops : List UserOp) (hops : ∀ op ∈ ops, op.isCommand = true)
    (w : World) (f : Nat) (h : UserOwned w f) : (runOps d n ops w).fs f = w.fs f :=
  (history_keepsUser d n ops hops w f h).1

/-! ### Non-vacuity

Files: 1 = a hand-written file whose name matches a .do rule, 2 = the .do file, 3 = a target with the same
rule.  `redo 1 3` runs the .do for 3 (so the command does write files) and leaves 1 alone. -/

def exRules : Nat → List Nat := fun t => if t = 1 ∨ t = 3 then [2] else []

def exW0 : World :=
  runOps {} 4 [.write 2 0, .setProg (srcContent 0) { tag := 7 }, .write 1 1] (initWorld exRules)

instance (w : World) (f : Nat) : Decidable (UserOwned w f) := by unfold UserOwned; exact inferInstance

/-- The hypothesis of the theorems holds on a concrete state … -/
example : UserOwned exW0 1 := by decide +kernel

/-- … the command is not a no-op there (it creates file 3 by running the .do file) … -/
example : (runCmd {} 4 (.redo [1, 3] false) exW0).2.fs 3 ≠ exW0.fs 3 := by decide +kernel

/-- … and the theorem applies: file 1 is the same. -/
example : (runCmd {} 4 (.redo [1, 3] false) exW0).2.fs 1 = exW0.fs 1 :=
  runCmd_user_file_same {} 4 _ exW0 1 (by decide +kernel)

example : KeepsUser exW0 (runCmd {} 4 (.redo [1, 3] false) exW0).2 := runCmd_keepsUser {} 4 _ exW0

/-- A generated file edited by hand: build 3, then the user rewrites it; it is user-owned through the stamp
mismatch, and a later `redo 3` (which would otherwise rebuild it) keeps it. -/
def exW1 : World :=
  runOps {} 4 [.cmd (.redo [3] false), .write 3 5] exW0

example : (exW1.recs 3).isGenerated = true ∧ (exW1.recs 3).isOverride = false ∧ UserOwned exW1 3 := by
  decide +kernel

example : (runCmd {} 4 (.redo [3] false) exW1).2.fs 3 = exW1.fs 3 :=
  runCmd_user_file_same {} 4 _ exW1 3 (by decide +kernel)

/-- A history of commands of every kind, one of them killed. -/
def exOps : List UserOp :=
  [.cmd (.redo [1, 3] false), .cmd (.ifchange [3] true), .crashCmd [3] 3 0, .cmd .ood, .cmd .targets, .cmd .sources]

example : KeepsUser exW0 (runOps {} 4 exOps exW0) :=
  history_keepsUser {} 4 exOps (by decide) exW0

example : (runOps {} 4 exOps exW0).fs 1 = exW0.fs 1 ∧ (runOps {} 4 exOps exW0).fs 3 ≠ exW0.fs 3 :=
  ⟨history_user_file_same {} 4 exOps (by decide) exW0 1 (by decide +kernel), by decide +kernel⟩

end RedoModel.Deps

section
open RedoModel.Deps
#print axioms runCmd_keepsUser
#print axioms history_keepsUser
#print axioms runCmd_user_file_same
#print axioms history_user_file_same
#print axioms engine_keeps
end
