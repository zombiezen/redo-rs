import RedoModel.Lemmas.Deps
import RedoModel.Lemmas.DepsParts
import RedoModel.Lemmas.DepsEngineFrame
/-!
# C11 at the level of whole commands: the engine

What it means that redo leaves the user's files alone (`UserOwned`, `KeepsUser`), and that every part of the engine does
so: the dirtiness check, the script, `recordNewState`, `startSelf`, jobs, target lists, nested commands (`engine_keeps`).
Top-level commands and histories are in `DepsOwned`.
-/

/-!
# C11 at the level of whole commands: definitions, algebra of the relations, the dirtiness check

`UserOwned w f` : file `f` exists and redo must not touch it.
`KeepsUser w w'` : every user-owned file of `w` is byte-for-byte the same in `w'` and still user-owned.
`SameOwn w w'`   : same files, and the three record fields that decide ownership are the same for
                    every existing file (what the dirtiness check and the bookkeeping writes satisfy).
-/
namespace RedoModel.Deps

/-- A file that exists and that redo must not touch: not recorded as generated, or marked overridden,
or generated but its (mtime,size) differs from the recorded stamp (edited/replaced by hand). -/
def UserOwned (w : World) (f : Nat) : Prop :=
  existsF w f = true ∧ ((w.recs f).isGenerated = false ∨ (w.recs f).isOverride = true ∨
     detectOverride ((w.recs f).stamp.getD .missing) (readStamp w f) = true)

def KeepsUser (w w' : World) : Prop := ∀ f, UserOwned w f → w'.fs f = w.fs f ∧ UserOwned w' f

/-- The same, for every file but `t` (the target of the job in progress). -/
def KeepsUserEx (t : Nat) (w w' : World) : Prop :=
  ∀ f, f ≠ t → UserOwned w f → w'.fs f = w.fs f ∧ UserOwned w' f

/-- The record fields ownership depends on. -/
def KeyEq (a b : Rec) : Prop :=
  a.isGenerated = b.isGenerated ∧ a.isOverride = b.isOverride ∧ a.stamp = b.stamp

def SameOwn (w w' : World) : Prop :=
  w'.fs = w.fs ∧ ∀ f, existsF w f = true → KeyEq (w'.recs f) (w.recs f)

theorem KeyEq.refl (a : Rec) : KeyEq a a := ⟨rfl, rfl, rfl⟩
theorem KeyEq.symm {a b : Rec} (h : KeyEq a b) : KeyEq b a := ⟨h.1.symm, h.2.1.symm, h.2.2.symm⟩
theorem KeyEq.trans {a b c : Rec} (h1 : KeyEq a b) (h2 : KeyEq b c) : KeyEq a c :=
  ⟨h1.1.trans h2.1, h1.2.1.trans h2.2.1, h1.2.2.trans h2.2.2⟩

/-- Ownership of `f` depends only on the node of `f` and the three fields of its record. -/
theorem UserOwned.of_key {w w' : World} {f : Nat} (hfs : w'.fs f = w.fs f) (hk : KeyEq (w'.recs f) (w.recs f))
    (h : UserOwned w f) : UserOwned w' f := by
  obtain ⟨h1, h2⟩ := h
  refine ⟨by rw [existsF_congr hfs]; exact h1, ?_⟩
  rw [hk.1, hk.2.1, hk.2.2, readStamp_congr hfs]
  exact h2

theorem UserOwned.congr {w w' : World} {f : Nat} (hfs : w'.fs f = w.fs f) (hr : w'.recs f = w.recs f)
    (h : UserOwned w f) : UserOwned w' f :=
  UserOwned.of_key hfs (by rw [hr]; exact KeyEq.refl _) h

/-! ### Algebra -/

theorem KeepsUser.refl (w : World) : KeepsUser w w := fun _ h => ⟨rfl, h⟩

theorem KeepsUser.trans {a b c : World} (h1 : KeepsUser a b) (h2 : KeepsUser b c) : KeepsUser a c := by
  intro f hf
  obtain ⟨e1, u1⟩ := h1 f hf
  obtain ⟨e2, u2⟩ := h2 f u1
  exact ⟨e2.trans e1, u2⟩

theorem KeepsUserEx.refl (t : Nat) (w : World) : KeepsUserEx t w w := fun _ _ h => ⟨rfl, h⟩

theorem KeepsUserEx.trans {t : Nat} {a b c : World} (h1 : KeepsUserEx t a b) (h2 : KeepsUserEx t b c) :
    KeepsUserEx t a c := by
  intro f hne hf
  obtain ⟨e1, u1⟩ := h1 f hne hf
  obtain ⟨e2, u2⟩ := h2 f hne u1
  exact ⟨e2.trans e1, u2⟩

theorem KeepsUser.ex {w w' : World} (h : KeepsUser w w') (t : Nat) : KeepsUserEx t w w' := fun f _ hf => h f hf

/-- If the excepted file was not user-owned to begin with, nothing is excepted. -/
theorem KeepsUserEx.toKeeps {t : Nat} {w w' : World} (h : KeepsUserEx t w w') (ht : ¬ UserOwned w t) :
    KeepsUser w w' := by
  intro f hf
  by_cases hft : f = t
  · subst hft; exact absurd hf ht
  · exact h f hft hf

theorem SameOwn.refl (w : World) : SameOwn w w := ⟨rfl, fun _ _ => KeyEq.refl _⟩

theorem SameOwn.trans {a b c : World} (h1 : SameOwn a b) (h2 : SameOwn b c) : SameOwn a c := by
  refine ⟨h2.1.trans h1.1, fun f hf => ?_⟩
  have hb : existsF b f = true := by rw [existsF_congr (congrFun h1.1 f)]; exact hf
  exact (h2.2 f hb).trans (h1.2 f hf)

theorem SameOwn.keeps {w w' : World} (h : SameOwn w w') : KeepsUser w w' := by
  intro f hf
  have hfs : w'.fs f = w.fs f := congrFun h.1 f
  exact ⟨hfs, UserOwned.of_key hfs (h.2 f hf.1) hf⟩

theorem SameOwn.owned_iff {w w' : World} (h : SameOwn w w') (f : Nat) : UserOwned w' f ↔ UserOwned w f := by
  have hfs : w'.fs f = w.fs f := congrFun h.1 f
  constructor
  · intro hf
    have hex : existsF w f = true := by rw [← existsF_congr hfs]; exact hf.1
    exact UserOwned.of_key hfs.symm (h.2 f hex).symm hf
  · exact fun hf => (h.keeps f hf).2

/-! ### Building blocks -/

theorem SameOwn.ev (w : World) (e : Ev) : SameOwn w (ev w e) := ⟨rfl, fun _ _ => KeyEq.refl _⟩

theorem SameOwn.zapDeps1 (w : World) (t : Nat) : SameOwn w (zapDeps1 w t) := ⟨rfl, fun _ _ => KeyEq.refl _⟩

theorem SameOwn.zapDeps2 (w : World) (t : Nat) : SameOwn w (zapDeps2 w t) := ⟨rfl, fun _ _ => KeyEq.refl _⟩

/-- Writing a record that keeps the three fields (or the record of a file that does not exist). -/
theorem SameOwn.setRec_key (w : World) (f : Nat) (r : Rec) (h : existsF w f = true → KeyEq r (w.recs f)) :
    SameOwn w (setRec w f r) := by
  refine ⟨rfl, fun x hx => ?_⟩
  by_cases hxf : x = f
  · subst hxf; simp only [setRec, if_true]; exact h hx
  · simp only [setRec, hxf, if_false]; exact KeyEq.refl _

theorem SameOwn.setRec_vanished (w : World) (f : Nat) (r : Rec) {p : Prop} (h : readStamp w f = .missing ∧ p) :
    SameOwn w (setRec w f r) :=
  SameOwn.setRec_key w f r (fun hx => by rw [existsF_eq_false.2 (readStamp_missing.1 h.1)] at hx; cases hx)

theorem SameOwn.addKnown (w : World) (f : Nat) : SameOwn w (addKnown w f) := by
  unfold Deps.addKnown
  split
  · exact SameOwn.refl w
  · refine ⟨rfl, fun x _ => ?_⟩
    by_cases hxf : x = f
    · subst hxf; simp only [setRec, if_true]; exact KeyEq.refl _
    · simp only [setRec, hxf, if_false]; exact KeyEq.refl _

theorem SameOwn.addDep (w : World) (t s : Nat) (m : Bool) : SameOwn w (addDep w t s m) := by
  have h := SameOwn.addKnown w s
  exact ⟨h.1, h.2⟩

theorem SameOwn.foldl_addDep (p : Nat) (m : Bool) (ts : List Nat) (w : World) :
    SameOwn w (ts.foldl (fun w t => Deps.addDep w p t m) w) :=
  foldl_rel SameOwn.refl SameOwn.trans _ ts (fun w t _ => SameOwn.addDep w p t m) w

/-- A record write keeps user files if it does not make the written file cease to be user-owned. -/
theorem KeepsUser.setRec (w : World) (t : Nat) (r : Rec)
    (h : UserOwned w t → UserOwned (setRec w t r) t) : KeepsUser w (setRec w t r) := by
  intro f hf
  refine ⟨rfl, ?_⟩
  by_cases hft : f = t
  · subst hft; exact h hf
  · exact UserOwned.congr (w := w) (w' := Deps.setRec w t r) rfl (by simp [Deps.setRec, hft]) hf

/-- Anything that changes only the node and the record of `t`. -/
theorem KeepsUserEx.of_off {t : Nat} {w w' : World}
    (h : ∀ f, f ≠ t → w'.fs f = w.fs f ∧ w'.recs f = w.recs f) : KeepsUserEx t w w' :=
  fun f hne hf => ⟨(h f hne).1, UserOwned.congr (h f hne).1 (h f hne).2 hf⟩

theorem KeepsUserEx.setRec (w : World) (t : Nat) (r : Rec) : KeepsUserEx t w (setRec w t r) :=
  KeepsUserEx.of_off (fun f hne => ⟨rfl, by simp [Deps.setRec, hne]⟩)

theorem getRec_keyEq (w : World) (R f : Nat) : KeyEq (getRec w R f) (w.recs f) := by
  unfold getRec
  split <;> exact ⟨rfl, rfl, rfl⟩

/-! ### The dirtiness check -/

/-- The dirtiness check keeps every file, and the ownership fields of every existing file, provided the
record copy it is handed agrees with the database on those fields. -/
theorem isDirty_sameOwn (ood : Bool) (R fuel : Nat) (w : World) (cache : List Nat) (f mx : Nat) (seen : List Nat)
    (pre : Option Rec) (hpre : ∀ s, pre = some s → existsF w f = true → KeyEq s (w.recs f)) :
    SameOwn w (isDirty ood R fuel w cache f mx seen pre).2.1 := by
  refine isDirty_writes_snap (P := fun _ => True) (Q := fun w f r => existsF w f = true → KeyEq r (w.recs f))
    SameOwn.refl SameOwn.trans (fun _ _ => trivial) (fun {w w' f r} h _ hq hex => ?_) (fun w f _ _ => getRec_keyEq w R f)
    (fun w f r _ _ _ hm hg => SameOwn.setRec_vanished w f _ ⟨hm, hg⟩)
    -- the record written back is the working copy, which agrees with the database on the ownership fields
    (fun _ w f r _ hq _ _ => SameOwn.setRec_key w f _ (fun hex => hq hex))
    (fun _ w f => SameOwn.ev w _) fuel w cache f mx seen pre trivial hpre
  have hex0 : existsF w f = true := by rw [← existsF_congr (congrFun h.1 f)]; exact hex
  exact (hq hex0).trans (h.2 f hex0).symm

/-!
# C11 at the level of whole commands: scripts, jobs, commands
-/
open RedoModel.Generated

/-! ### should_build, find_do_file -/

theorem shouldBuild_sameOwn (cx : Ctx) (fuel t : Nat) (w : World) : SameOwn w (shouldBuild cx fuel t w).2 := by
  rcases shouldBuild_world cx fuel t w with h | h <;> rw [h]
  · exact SameOwn.refl w
  · exact isDirty_sameOwn false cx.runid fuel w [] t cx.runid [] none (fun s hs => by cases hs)

/-! ### The script -/

/-- What a nested `redo-ifchange` must satisfy. -/
def EngineKeeps (E : Engine) : Prop := ∀ cx ts w, KeepsUser w (E.ifchangeCmd cx ts w).2

theorem conds_keepsUser (E : Engine) (hE : EngineKeeps E) (t : Nat) (cx' : Ctx) (fs : List Nat) (w : World) :
    KeepsUser w (runScript.conds E t cx' fs w).2 :=
  conds_of_steps (K := fun _ => True) (M := fun _ => True) KeepsUser.refl KeepsUser.trans (fun _ _ => trivial)
    (fun f w _ => hE cx' [f] w) (fun w f _ _ => (SameOwn.addDep w t f false).keeps) fs w (fun _ _ => trivial) trivial

theorem detectOverride_missing_exists {w : World} {f : Nat} (hex : existsF w f = true) :
    detectOverride .missing (readStamp w f) = true := by
  unfold existsF at hex
  unfold readStamp
  cases h : w.fs f with
  | none => rw [h] at hex; cases hex
  | some n => rfl

/-- The record `redo-always` writes keeps `//ALWAYS` user-owned if a file of that name exists. -/
theorem alwaysRec_keepsUser (R : Nat) (w : World) :
    KeepsUser w (setRec w alwaysId (setChanged { (w.recs alwaysId) with stamp := some .missing } R)) := by
  refine KeepsUser.setRec _ _ _ (fun ho => ⟨ho.1, ?_⟩)
  right; right
  simp only [setRec, if_true, setChanged, Option.getD_some]
  exact detectOverride_missing_exists ho.1

theorem rsAlways_keepsUser (cx : Ctx) (t : Nat) (sc : Script) (w : World) : KeepsUser w (rsAlways cx t sc w) := by
  unfold rsAlways
  split
  · exact (SameOwn.addDep w t alwaysId true).keeps.trans (alwaysRec_keepsUser cx.runid _)
  · exact KeepsUser.refl w

/-! ### Recording the result -/

theorem recordNewState_off (cx : Ctx) (t : Nat) (sf : Rec) (rv : Status) (out : Option Content) (w : World)
    (f : Nat) (hf : f ≠ t) :
    (recordNewState cx t sf rv out w).2.fs f = w.fs f ∧ (recordNewState cx t sf rv out w).2.recs f = w.recs f := by
  unfold recordNewState
  split
  · cases out <;> simp [setRec, setFile, zapDeps2, newNode, hf]
  · simp [setRec, zapDeps2, hf]

theorem recordNewState_keepsEx (cx : Ctx) (t : Nat) (sf : Rec) (rv : Status) (out : Option Content) (w : World) :
    KeepsUserEx t w (recordNewState cx t sf rv out w).2 :=
  KeepsUserEx.of_off (recordNewState_off cx t sf rv out w)

/-! ### start_self -/

/-- After the override detection: user files are kept, and if the job goes on to build, its target
is not a user-owned file. -/
theorem ssGuard_spec (cx : Ctx) (t : Nat) (sf0 : Rec) (w : World)
    (hsf : existsF w t = true → KeyEq sf0 (w.recs t)) :
    KeepsUser w (ssGuard cx t sf0 w).2 ∧
    ((existsF (ssGuard cx t sf0 w).2 t && ((ssGuard cx t sf0 w).1.isOverride || !(ssGuard cx t sf0 w).1.isGenerated)) = false →
      ¬ UserOwned (ssGuard cx t sf0 w).2 t) := by
  unfold ssGuard
  split
  · rename_i hc
    simp only [Bool.and_eq_true] at hc
    obtain ⟨⟨_, hns⟩, _⟩ := hc
    have hex : existsF w t = true := existsF_of_readStamp_ne hns
    dsimp only
    have hov : (setOverride (ev w (.warnOverride t)) t sf0 cx.runid).isOverride = true := rfl
    constructor
    · refine (SameOwn.ev w _).keeps.trans (KeepsUser.setRec _ _ _ (fun _ => ⟨hex, ?_⟩))
      right; left
      simp only [setRec, if_true]
      exact hov
    · intro hg
      exfalso
      have hex' : existsF (setRec (ev w (.warnOverride t)) t
          (setOverride (ev w (.warnOverride t)) t sf0 cx.runid)) t = true := hex
      rw [hex', hov] at hg
      simp at hg
  · rename_i hc
    refine ⟨KeepsUser.refl w, ?_⟩
    dsimp only
    intro hg ho
    obtain ⟨hex, hor⟩ := ho
    have hk := hsf hex
    have hns : (readStamp w t != .missing) = true := by
      unfold existsF at hex; unfold readStamp
      cases hfs : w.fs t with
      | none => rw [hfs] at hex; cases hex
      | some n => rfl
    rw [hex] at hg
    rw [← hk.1, ← hk.2.1, ← hk.2.2] at hor
    rw [hns] at hc
    cases hgen : sf0.isGenerated <;> cases hovr : sf0.isOverride <;>
      simp [hgen, hovr] at hg hc hor
    simp [hor] at hc

/-- Inside the job that builds `t`, every user-owned file other than `t` is kept. -/
theorem keepsEx_frame (t : Nat) :
    ScriptFrame (fun _ => True) (fun _ => True) (· = t) (fun _ _ => True) (fun _ => True) (KeepsUserEx t) where
  refl := KeepsUserEx.refl t
  trans := KeepsUserEx.trans
  keepP := fun _ _ => trivial
  keepA := fun _ _ => trivial
  child := fun _ _ => trivial
  script := fun _ _ _ => trivial
  addKnown := fun w f => (SameOwn.addKnown w f).keeps.ex t
  ownRec := fun w ht _ => by subst ht; exact KeepsUserEx.setRec _ _ _
  dofRec := fun w dof _ _ =>
    (KeepsUser.setRec w dof _ (fun ho => ⟨ho.1, Or.inl (by simp [setRec, setStatic])⟩)).ex t
  alwaysRec := fun w _ _ _ => (alwaysRec_keepsUser _ w).ex t
  evWarn := fun w _ => (SameOwn.ev w _).keeps.ex t
  evRan := fun w _ => (SameOwn.ev w _).keeps.ex t
  zapDeps1 := fun w _ => (SameOwn.zapDeps1 w _).keeps.ex t
  findDo := fun w _ _ => findDoFile_rel (KeepsUserEx.refl t) KeepsUserEx.trans
    (fun w c m => (SameOwn.addDep w _ c m).keeps.ex t) _ w
  addDepM := fun w s _ => (SameOwn.addDep w _ s true).keeps.ex t
  addDepC := fun w f _ _ _ _ => (SameOwn.addDep w _ f false).keeps.ex t
  record := fun rv out _ w _ _ ht _ _ _ h _ _ => by
    subst ht
    exact h.trans (recordNewState_keepsEx _ _ _ rv out w)

/-- `start_self` keeps every user-owned file, provided the record copy the job holds agrees with the
database on the ownership fields (which `buildJob` guarantees). -/
theorem startSelf_keepsUser (E : Engine) (hE : EngineKeeps E) (d : Defects) (cx : Ctx) (t : Nat) (sf0 : Rec) (w : World)
    (hsf : existsF w t = true → KeyEq sf0 (w.recs t)) :
    KeepsUser w (startSelf E d cx t sf0 w).2 := by
  rw [startSelf_eq]
  obtain ⟨hk, hno⟩ := ssGuard_spec cx t sf0 w hsf
  generalize ssGuard cx t sf0 w = g at hk hno
  obtain ⟨sf, w1⟩ := g
  dsimp only at hk hno ⊢
  split
  · rename_i hg
    refine hk.trans (KeepsUser.setRec _ _ _ (fun ho => ⟨ho.1, ?_⟩))
    simp only [setRec, if_true]
    cases hovr : sf.isOverride
    · left; simp [setStatic]
    · right; left; simpa using hovr
  · rename_i hg
    have hg' : (existsF w1 t && (sf.isOverride || !sf.isGenerated)) = false := by simpa using hg
    exact hk.trans (((keepsEx_frame t).ssBuild (fun cx ts w _ _ => (hE cx ts w).ex t) d (cx := cx) trivial rfl sf trivial
      w1 trivial).toKeeps (hno hg'))

/-! ### Jobs, target lists, commands -/

theorem buildJob_keepsUser (E : Engine) (hE : EngineKeeps E) (d : Defects) (cx : Ctx) (fuel t : Nat) (w : World) :
    KeepsUser w (buildJob E d cx fuel t w).2 := by
  have hs := shouldBuild_sameOwn cx fuel t w
  refine buildJob_of_steps (Rel := KeepsUser) (P := fun _ => True) KeepsUser.trans (fun _ _ => trivial) trivial hs.keeps
    (startSelf_keepsUser E hE d cx t (w.recs t) _ (fun hex => ?_)) (fun ts w1 _ => hE _ ts w1) (fun ts w1 _ => hE _ ts w1)
  -- the job's copy of the record agrees with the database after the check on the ownership fields
  have hex0 : existsF w t = true := by rw [← existsF_congr (congrFun hs.1 t)]; exact hex
  exact (hs.2 t hex0).symm

theorem runTargets_keepsUser (E : Engine) (hE : EngineKeeps E) (d : Defects) (cx : Ctx) (fuel : Nat)
    (ts seen : List Nat) (errored : Bool) (w : World) : KeepsUser w (runTargets E d cx fuel ts seen errored w).2 :=
  runTargets_of_job (P := fun _ => True) KeepsUser.refl KeepsUser.trans (fun _ _ => trivial)
    (fun w f => (SameOwn.addKnown w f).keeps) (fun t w _ => buildJob_keepsUser E hE d cx fuel t w) ts seen errored w trivial

/-- Every nested `redo-ifchange` of the real engine keeps user-owned files, for every defect switch. -/
theorem engine_keeps (d : Defects) (n : Nat) : EngineKeeps (engine d n) := fun cx ts w =>
  engine_of_job (C := fun _ => True) (P := fun _ => True) KeepsUser.refl KeepsUser.trans (fun _ _ => trivial)
    (fun w f => (SameOwn.addKnown w f).keeps) d (fun _ _ w s => (SameOwn.addDep w _ s true).keeps)
    (fun E hE cx fuel t w _ _ => buildJob_keepsUser E (fun cx ts w => hE cx ts w trivial trivial) d cx fuel t w)
    n cx ts w trivial trivial

end RedoModel.Deps
