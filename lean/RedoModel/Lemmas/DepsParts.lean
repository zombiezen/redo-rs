import RedoModel.Lemmas.Deps
/-!
# The engine in parts

The contexts of nested commands (`scriptCtx`, `oobCtx1`, `oobCtx2`); `runScript`, `recordNewState` and `startSelf` cut where
proofs about them cut them, each part with the equation that puts the whole together again; a job by the answer of
`should_build`, and the command over one target as its one job; a command as the refusal of a self-request or the loop in
the world with the parent's declarations (`declare`); what `recordNewState` does with a failure, and what a recorded
success writes (`Wrote`); `findDoFile`: its answer (`findDoFile_find`) and a relation across it from the relation across
its steps; jobs that go straight to the .do file.  The loops of the engine are in `DepsLoops.lean`, the frames of the
whole engine in `DepsEngineFrame.lean`.
-/
namespace RedoModel.Deps
open RedoModel.Generated

/-! ### The script -/

/-- The context a script's commands run in. -/
def scriptCtx (cx : Ctx) (t : Nat) : Ctx :=
  { runid := cx.runid, parent := some t, cycles := t :: cx.cycles, keepGoing := cx.keepGoing, crash := cx.crash }

/-- The contexts of the two commands of `redo-unlocked t deps…`: the dependencies are built with `t` under construction
(and, with the defect `oobRecordsDepsOnCaller`, still on behalf of the caller's parent), then `t` itself without its lock. -/
abbrev oobCtx1 (d : Defects) (cx : Ctx) (t : Nat) : Ctx :=
  { cx with noOob := true, unlocked := false, isRedo := false, cycles := t :: cx.cycles,
            parent := if d.oobRecordsDepsOnCaller then cx.parent else none }

abbrev oobCtx2 (cx : Ctx) : Ctx := { cx with noOob := true, unlocked := true, isRedo := false }

/-- The order in which `redo-unlocked` is handed the dependencies to build first. -/
def oobTargets (w : World) (ts : List Nat) : List Nat := if w.oobRev then ts.eraseDups.reverse else ts.eraseDups

/-- `redo-always`. -/
def rsAlways (cx : Ctx) (t : Nat) (sc : Script) (w : World) : World :=
  if sc.always then
      let w := addDep w t alwaysId true
      setRec w alwaysId (setChanged { (w.recs alwaysId) with stamp := some .missing } cx.runid)
    else w

/-- The content-dependent failure of a script (`failIfOdd`): the file holds `srcContent v` for an odd version `v`. -/
def rsFailNow (sc : Script) (w : World) : Bool :=
  match sc.failIfOdd with
      | none => false
      | some f => match w.fs f with
        | some n => (match n.content with
          | [x] => x ≥ 3 && x % 2 == 1 && ((x - 3) / 2) % 2 == 1
          | _ => false)
        | none => false

/-- The end of the script: the optional failure, the output, `redo-stamp`. -/
def rsFinish (cx : Ctx) (t : Nat) (sc : Script) (w : World) : Status × Option Content × World :=
    if rsFailNow sc w then (1, none, w) else
    let out := outContent sc.tag (sc.reads.map (fun f => (w.fs f).map (·.content)))
    let w := if sc.stamp = 0 then w else
      let data : Content := if sc.stamp = 1 then out else [sc.stamp - 2]
      let w := addKnown w t
      setRec w t (stampRec (w.recs t) cx.runid data)
    if sc.stamp != 0 && decide (cx.crash = some (t, sc.ifchange.length + 1)) then (CRASHED, none, w) else
    ((sc.exit : Int), if sc.outMode = 2 then none else some out, w)

/-- The world after the `redo-stamp` step (the same whether or not the kill point after it fires). -/
def rsStampW (cx : Ctx) (t : Nat) (sc : Script) (w : World) : World :=
    let out := outContent sc.tag (sc.reads.map (fun f => (w.fs f).map (·.content)))
    if sc.stamp = 0 then w else
      let data : Content := if sc.stamp = 1 then out else [sc.stamp - 2]
      let w := addKnown w t
      setRec w t (stampRec (w.recs t) cx.runid data)

/-- Whether the kill point after `redo-stamp` fires. -/
def rsKill (cx : Ctx) (t : Nat) (sc : Script) : Bool :=
  sc.stamp != 0 && decide (cx.crash = some (t, sc.ifchange.length + 1))

theorem rsFinish_world (cx : Ctx) (t : Nat) (sc : Script) (w : World) :
    (rsFinish cx t sc w).2.2 = if rsFailNow sc w then w else rsStampW cx t sc w := by
  unfold rsFinish rsStampW
  split
  · rfl
  · dsimp only
    split <;> rfl

theorem rsFinish_eq (cx : Ctx) (t : Nat) (sc : Script) (w : World) :
    rsFinish cx t sc w = if rsFailNow sc w then (1, none, w) else
      if rsKill cx t sc then (CRASHED, none, rsStampW cx t sc w) else
      ((sc.exit : Int), (if sc.outMode = 2 then none else
        some (outContent sc.tag (sc.reads.map (fun f => (w.fs f).map (·.content))))), rsStampW cx t sc w) := rfl

theorem rsKill_of_stamp0 (cx : Ctx) (t : Nat) (sc : Script) (h : sc.stamp = 0) : rsKill cx t sc = false := by
  simp [rsKill, h]

theorem rsKill_of_nocrash (cx : Ctx) (t : Nat) (sc : Script) (h : cx.crash = none) : rsKill cx t sc = false := by
  simp [rsKill, h]

/-- The declarations and nested commands, then the end. -/
def rsBody (E : Engine) (cx : Ctx) (t : Nat) (sc : Script) (w : World) : Status × Option Content × World :=
  let cx' : Ctx := scriptCtx cx t
  match runScript.conds E t cx' sc.cond w with
  | (rvc, w) =>
  if rvc ≠ 0 then (rvc, none, w) else
  match runScript.cmds E cx t cx' sc.ifchange 0 w with
  | (rv, w) =>
    if rv ≠ 0 then (rv, none, w) else rsFinish cx t sc w

theorem runScript_eq (E : Engine) (d : Defects) (cx : Ctx) (t : Nat) (sc : Script) (w : World) :
    runScript E d cx t sc w =
      (if sc.ifcreate.any (fun f => existsF (rsAlways cx t sc w) f) then (1, none, rsAlways cx t sc w)
       else rsBody E cx t sc (sc.ifcreate.foldl (fun w f => addDep w t f false) (rsAlways cx t sc w))) := rfl

/-! ### start_self -/

/-- The override detection at the head of `start_self`. -/
def ssGuard (cx : Ctx) (t : Nat) (sf : Rec) (w : World) : Rec × World :=
    if sf.isGenerated && readStamp w t != .missing && (sf.isOverride || detectOverride (sf.stamp.getD .missing) (readStamp w t)) then
      let w := ev w (.warnOverride t)
      let sf := setOverride w t sf cx.runid
      (sf, setRec w t sf)
    else (sf, w)

/-- The part of `start_self` that runs a .do file. -/
def ssBuild (E : Engine) (d : Defects) (cx : Ctx) (t : Nat) (sf : Rec) (w : World) : Status × World :=
    let R := cx.runid
    let w := zapDeps1 w t
    match findDoFile t (w.rules t) w with
    | (none, w) =>
      if existsF w t then (0, setRec w t (setStatic w t sf R))
      else (1, setRec w t (setFailed w t sf R))
    | (some dof, w) =>
      let w := setRec w dof (setStatic w dof (w.recs dof) R)
      let w := ev w (.ran t)
      let sc : Script := match w.fs dof with
        | some n => (w.progs n.content).getD {}
        | none => {}
      match runScript E d cx t sc w with
      | (rv, out, w) => if rv = CRASHED then (CRASHED, w) else recordNewState cx t sf rv out w

/-- Running the script of the chosen .do file and recording the result. -/
def ssRun (E : Engine) (d : Defects) (cx : Ctx) (t : Nat) (sf : Rec) (sc : Script) (w : World) : Status × World :=
  match runScript E d cx t sc w with
  | (rv, out, w) => if rv = CRASHED then (CRASHED, w) else recordNewState cx t sf rv out w

/-- The world in which the script of `t` starts: the .do file is recorded as static, the `ran` event is logged. -/
def startW (w2 : World) (R t dof : Nat) : World := ev (setRec w2 dof (setStatic w2 dof (w2.recs dof) R)) (.ran t)

/-- The preparation of a build of `t`: the old rows of `t` are marked for deletion (`zapDeps1`), then `findDoFile` adds
the rows of the .do candidates; the .do file chosen, and the world in which the job goes on (`w2`). -/
def prepW (w : World) (t : Nat) : Option Nat × World := findDoFile t ((zapDeps1 w t).rules t) (zapDeps1 w t)

theorem ssBuild_eq (E : Engine) (d : Defects) (cx : Ctx) (t : Nat) (sf : Rec) (w : World) :
    ssBuild E d cx t sf w =
      match findDoFile t ((zapDeps1 w t).rules t) (zapDeps1 w t) with
      | (none, w) =>
        if existsF w t then (0, setRec w t (setStatic w t sf cx.runid))
        else (1, setRec w t (setFailed w t sf cx.runid))
      | (some dof, w) =>
        let w := ev (setRec w dof (setStatic w dof (w.recs dof) cx.runid)) (.ran t)
        ssRun E d cx t sf (match w.fs dof with
          | some n => (w.progs n.content).getD {}
          | none => {}) w := rfl

theorem startSelf_eq (E : Engine) (d : Defects) (cx : Ctx) (t : Nat) (sf0 : Rec) (w : World) :
    startSelf E d cx t sf0 w =
      (match ssGuard cx t sf0 w with
       | (sf, w) =>
         if existsF w t && (sf.isOverride || !sf.isGenerated) then
           (0, setRec w t (if !sf.isOverride then setStatic w t sf cx.runid else sf))
         else ssBuild E d cx t sf w) := rfl

/-! ### Jobs and commands -/

/-- `redo t`: the job goes straight to `start_self`. -/
theorem buildJob_forced_eq (E : Engine) (d : Defects) (cx : Ctx) (fuel t : Nat) (w : World) (h : cx.isRedo = true) :
    buildJob E d cx fuel t w = (.done (startSelf E d cx t (w.recs t) w).1, (startSelf E d cx t (w.recs t) w).2) := by
  unfold buildJob shouldBuild
  simp only [h, if_true]

/-- A job is said to run its own `start_self` when the check answers `dirty`, or names dependencies to build
first but the job is the second phase of `redo-unlocked` (`noOob`). -/
def OwnStart (cx : Ctx) (dr : DR) : Prop := dr = .dirty ∨ (∃ ts, dr = .need ts) ∧ cx.noOob = true

theorem buildJob_ownStart (E : Engine) (d : Defects) (cx : Ctx) (fuel t : Nat) (w w1 : World) (dr : DR)
    (hs : shouldBuild cx fuel t w = (some dr, w1)) (ho : OwnStart cx dr) :
    buildJob E d cx fuel t w = (.done (startSelf E d cx t (w.recs t) w1).1, (startSelf E d cx t (w.recs t) w1).2) := by
  unfold buildJob
  dsimp only
  rw [hs]
  rcases ho with rfl | ⟨⟨ts, rfl⟩, hn⟩
  · rfl
  · simp only [hn, if_true]

theorem buildJob_of_clean (E : Engine) (d : Defects) (cx : Ctx) (fuel t : Nat) (w : World)
    (h : (shouldBuild cx fuel t w).1 = some .clean) :
    buildJob E d cx fuel t w = (.done 0, (shouldBuild cx fuel t w).2) := by
  unfold buildJob
  dsimp only
  generalize shouldBuild cx fuel t w = sb at h ⊢
  obtain ⟨o, w1⟩ := sb
  dsimp only at h
  subst h
  rfl

/-- `should_build` of `redo-ifchange` for a target (not `//ALWAYS`) without a failure mark is the walk: its
verdict, a `need` of the target alone read as `dirty`, and the world it leaves. -/
theorem shouldBuild_eq_walk (cx : Ctx) (fuel t : Nat) (w : World) (hr : cx.isRedo = false) (ht : t ≠ alwaysId)
    (hf : (w.recs t).failed = none) :
    shouldBuild cx fuel t w =
      (some (match (isDirty false cx.runid fuel w [] t cx.runid [] none).1 with
        | .need [x] => if x = t then DR.dirty else (isDirty false cx.runid fuel w [] t cx.runid [] none).1
        | x => x), (isDirty false cx.runid fuel w [] t cx.runid [] none).2.1) := by
  have hnf : isFailedR (getRec w cx.runid t) cx.runid = false := by simp [isFailedR, getRec, ht, hf]
  unfold shouldBuild
  simp only [hr, Bool.false_eq_true, if_false, hnf]
  generalize isDirty false cx.runid fuel w [] t cx.runid [] none = res
  obtain ⟨dr, w', c'⟩ := res
  rfl

/-- `should_build` of `redo-ifchange` for a target without a failure mark, from the result of the walk: a verdict other than
`need` is passed on. -/
theorem shouldBuild_of_verdict {cx : Ctx} {fuel t : Nat} {w w1 : World} {c : List Nat} {dr : DR} (hredo : cx.isRedo = false)
    (hfr : isFailedR (getRec w cx.runid t) cx.runid = false)
    (hres : isDirty false cx.runid fuel w [] t cx.runid [] none = (dr, w1, c)) (hn : ∀ ts, dr ≠ .need ts) :
    shouldBuild cx fuel t w = (some dr, w1) := by
  unfold shouldBuild
  simp only [hredo, Bool.false_eq_true, if_false, hfr, hres]
  cases dr with
  | need ts => exact absurd rfl (hn ts)
  | _ => rfl

/-- The same for the verdict `need ts`: `need` of the target alone is read as `dirty`. -/
theorem shouldBuild_of_need {cx : Ctx} {fuel t : Nat} {w w1 : World} {c : List Nat} {ts : List Nat} (hredo : cx.isRedo = false)
    (hfr : isFailedR (getRec w cx.runid t) cx.runid = false)
    (hres : isDirty false cx.runid fuel w [] t cx.runid [] none = (.need ts, w1, c)) :
    shouldBuild cx fuel t w = (some (if ts = [t] then .dirty else .need ts), w1) := by
  unfold shouldBuild
  simp only [hredo, Bool.false_eq_true, if_false, hfr, hres]
  cases ts with
  | nil => simp
  | cons x l =>
    cases l with
    | nil =>
      by_cases e : x = t
      · subst e; simp
      · simp [e]
    | cons y l => simp

theorem runTargets_cons (E : Engine) (d : Defects) (cx : Ctx) (fuel t : Nat) (ts seen : List Nat) (e : Bool) (w : World) :
    runTargets E d cx fuel (t :: ts) seen e w =
      if t ∈ seen then runTargets E d cx fuel ts seen e w else
      if e && !cx.keepGoing then (1, w) else
      if !cx.unlocked && t ∈ cx.cycles then (EXIT_CYCLIC_DEPENDENCY, addKnown w t) else
      match buildJob E d cx fuel t (addKnown w t) with
      | (.abort code, w1) => (code, w1)
      | (.done rv, w1) =>
        if rv = CRASHED then (CRASHED, w1)
        else runTargets E d cx fuel ts (t :: seen) (e || rv ≠ 0) w1 := by
  rw [runTargets]
  rfl

/-- Status of a one-target command from the result of its single job. -/
def finishS (jr : JobResult × World) : Status × World :=
  match jr with
  | (.abort code, w) => (code, w)
  | (.done rv, w) => (if rv = CRASHED then CRASHED else if rv ≠ 0 then 1 else 0, w)

/-- The loop over one target that is not under construction: one job. -/
theorem runTargets_single (E : Engine) (d : Defects) (cx : Ctx) (fuel t : Nat) (w : World)
    (hcy : cx.unlocked = true ∨ t ∉ cx.cycles) :
    runTargets E d cx fuel [t] [] false w = finishS (buildJob E d cx fuel t (addKnown w t)) := by
  have h2 : (!cx.unlocked && decide (t ∈ cx.cycles)) = false := by
    rcases hcy with h | h <;> simp [h]
  rw [runTargets_cons]
  simp only [List.not_mem_nil, if_false, Bool.false_and, Bool.false_eq_true, h2]
  unfold finishS
  generalize buildJob _ _ _ _ _ _ = r
  obtain ⟨jr, w1⟩ := r
  cases jr with
  | abort code => rfl
  | done rv =>
    dsimp only
    by_cases hc : rv = CRASHED
    · simp [hc]
    · simp only [hc, if_false]
      rw [runTargets]
      by_cases h0 : rv = 0 <;> simp [h0]

theorem engine_cmd_eq (d : Defects) (n : Nat) (cx : Ctx) (ts : List Nat) (w : World) :
    (engine d (n + 1)).ifchangeCmd cx ts w = ifchangeWith (engine d n) d (n + 1) cx ts w := rfl

/-- A job aborts `builder::run` only with the two documented non-zero statuses. -/
theorem buildJob_abort_code (E : Engine) (d : Defects) (cx : Ctx) (fuel t : Nat) (w0 : World) (code : Status) (w1 : World)
    (h : buildJob E d cx fuel t w0 = (.abort code, w1)) :
    code = EXIT_TARGET_FAILED ∨ code = EXIT_CYCLIC_DEPENDENCY := by
  unfold buildJob at h
  simp only at h
  generalize shouldBuild cx fuel t w0 = sb at h
  obtain ⟨o, w⟩ := sb
  cases o with
  | none =>
    simp only at h
    split at h
    · simp at h; exact .inl h.1.symm
    · simp at h
  | some dr =>
    cases dr with
    | cyclic => simp at h; exact .inr h.1.symm
    | clean => simp at h
    | dirty => simp at h
    | need ts =>
      simp only at h
      split at h
      · simp at h
      · split at h
        · simp at h
        · simp at h

/-! ### A command: the refusal of a self-request, or the loop in the world with the parent's rows -/

theorem foldl_rel {α : Type} {Rel : World → World → Prop} (refl : ∀ w, Rel w w)
    (trans : ∀ {a b c}, Rel a b → Rel b c → Rel a c) (f : World → α → World) :
    ∀ (xs : List α), (∀ w, ∀ x ∈ xs, Rel w (f w x)) → ∀ w, Rel w (xs.foldl f w)
  | [], _, w => refl w
  | x :: xs, step, w =>
    trans (step w x List.mem_cons_self) (foldl_rel refl trans f xs (fun w y hy => step w y (List.mem_cons_of_mem _ hy)) _)

/-- The command names the target whose script runs it (and is not `redo-unlocked`'s). -/
def selfRequest (cx : Ctx) (ts : List Nat) : Bool :=
  match cx.parent with
  | some p => !cx.unlocked && ts.contains p
  | none => false

/-- The declarations of `redo-ifchange ts` run by the script of `p`. -/
def declare (p : Nat) (ts : List Nat) (w : World) : World := ts.foldl (fun w t => addDep w p t true) w

/-- The world in which the targets of a command are built: a locked command run by the script of `p` first registers
`p` and records the rows `p → t`. -/
def declW (cx : Ctx) (ts : List Nat) (w : World) : World :=
  match cx.parent with
  | some p => if cx.unlocked then w else declare p ts (addKnown w p)
  | none => w

theorem ifchangeWith_eq (E : Engine) (d : Defects) (fuel : Nat) (cx : Ctx) (ts : List Nat) (w : World) :
    ifchangeWith E d fuel cx ts w =
      if selfRequest cx ts then (EXIT_CYCLIC_DEPENDENCY, w) else runTargets E d cx fuel ts [] false (declW cx ts w) := rfl

/-- A command of the script of `p` that does not name `p`: the declarations, then the loop over the targets. -/
theorem ifchangeWith_declare (E : Engine) (d : Defects) (fuel : Nat) {cx : Ctx} {ts : List Nat} (w : World) {p : Nat}
    (hp : cx.parent = some p) (hu : cx.unlocked = false) (hc : p ∉ ts) :
    ifchangeWith E d fuel cx ts w = runTargets E d cx fuel ts [] false (declare p ts (addKnown w p)) := by
  simp [ifchangeWith_eq, selfRequest, declW, hp, hu, hc]

/-- A command at top level, or in the second phase of `redo-unlocked`, declares nothing. -/
theorem ifchangeWith_undeclared (E : Engine) (d : Defects) (fuel : Nat) {cx : Ctx} (ts : List Nat) (w : World)
    (h : cx.parent = none ∨ cx.unlocked = true) :
    ifchangeWith E d fuel cx ts w = runTargets E d cx fuel ts [] false w := by
  rcases h with h | h
  · simp [ifchangeWith_eq, selfRequest, declW, h]
  · cases hp : cx.parent <;> simp [ifchangeWith_eq, selfRequest, declW, h, hp]

/-- `redo-ifchange t` at top level (`parent = none`) or as the second phase of `redo-unlocked`
(`unlocked = true`): one job for `t`. -/
theorem ifchangeWith_single (E : Engine) (d : Defects) (fuel : Nat) (cx : Ctx) (t : Nat) (w : World)
    (hp : cx.parent = none ∨ cx.unlocked = true) (hcy : cx.unlocked = true ∨ t ∉ cx.cycles) :
    ifchangeWith E d fuel cx [t] w = finishS (buildJob E d cx fuel t (addKnown w t)) := by
  rw [ifchangeWith_undeclared E d fuel [t] w hp, runTargets_single E d cx fuel t w hcy]

/-- What relates the world of a command to the world in which its targets are built: every reflexive, transitive
relation closed under `addKnown` and under the rows of the parent on the targets named. -/
def Declared (cx : Ctx) (ts : List Nat) (w w' : World) : Prop :=
  ∀ Rel : World → World → Prop, (∀ w, Rel w w) → (∀ {a b c}, Rel a b → Rel b c → Rel a c) →
    (∀ w f, Rel w (addKnown w f)) → (∀ p, cx.parent = some p → ∀ w, ∀ t ∈ ts, Rel w (addDep w p t true)) → Rel w w'

theorem declared_declW (cx : Ctx) (ts : List Nat) (w : World) : Declared cx ts w (declW cx ts w) := by
  intro Rel refl trans ak ad
  unfold declW
  cases hp : cx.parent with
  | none => exact refl w
  | some p =>
    dsimp only
    split
    · exact refl w
    · exact trans (ak w p) (foldl_rel refl trans _ ts (ad p hp) _)

/-- A command is the refusal of a self-request, or the loop over its targets in the world with the parent's rows. -/
theorem ifchangeWith_cases {E : Engine} {d : Defects} {fuel : Nat} {cx : Ctx} {ts : List Nat} {w : World}
    {P : Status × World → Prop}
    (self : ∀ p, cx.parent = some p → cx.unlocked = false → p ∈ ts → P (EXIT_CYCLIC_DEPENDENCY, w))
    (loop : ∀ w', Declared cx ts w w' → P (runTargets E d cx fuel ts [] false w')) :
    P (ifchangeWith E d fuel cx ts w) := by
  rw [ifchangeWith_eq]
  split
  · rename_i h
    unfold selfRequest at h
    split at h
    · rename_i p hp
      simp only [Bool.and_eq_true, Bool.not_eq_true', List.contains_iff_mem] at h
      exact self p hp h.1 h.2
    · cases h
  · exact loop _ (declared_declW cx ts w)

/-! ### Recording the result -/

def genRec (r : Rec) : Rec := { r with isGenerated := true, isOverride := false }
def withStamp (r : Rec) (s : DStamp) : Rec := { r with stamp := some s }
def noCsum (r : Rec) : Rec := { r with csum := none }

def rnsOut (t : Nat) (out : Option Content) (w : World) : World :=
  match out with
  | some c => let (n, w) := newNode w c; setFile w t (some n)
  | none => setFile w t none

def rnsOk (R t : Nat) (w : World) : Status × World :=
  let sf := genRec (w.recs t)
  let sf := if isCheckedR sf R || isChangedR sf R then withStamp sf (readStamp w t)
    else setChanged (updateStamp w t (noCsum sf) R) R
  (0, setRec (zapDeps2 w t) t sf)

theorem recordNewState_eq (cx : Ctx) (t : Nat) (sfPre : Rec) (rv : Status) (out : Option Content) (w : World) :
    recordNewState cx t sfPre rv out w =
      if rv = 0 then rnsOk cx.runid t (rnsOut t out w)
      else (rv, setRec (zapDeps2 w t) t (setFailed w t sfPre cx.runid)) := by
  unfold recordNewState
  split <;> rfl

theorem recordFail_eq (cx : Ctx) (t : Nat) (sf : Rec) (rv : Status) (out : Option Content) (w : World) (h : rv ≠ 0) :
    recordNewState cx t sf rv out w = (rv, setRec (zapDeps2 w t) t (setFailed w t sf cx.runid)) := by
  rw [recordNewState_eq, if_neg h]

theorem recordNewState_fst (cx : Ctx) (t : Nat) (sf : Rec) (rv : Status) (out : Option Content) (w : World) :
    (recordNewState cx t sf rv out w).1 = rv := by
  unfold recordNewState
  split
  · rename_i h; exact h.symm
  · rfl

/-- A failing script is recorded as failed in this run and the target file is left alone. -/
theorem recordNewState_failure (cx : Ctx) (t : Nat) (sf : Rec) (rv : Status) (out : Option Content) (w : World)
    (hrv : rv ≠ 0) :
    (recordNewState cx t sf rv out w).1 = rv ∧ (recordNewState cx t sf rv out w).2.fs = w.fs ∧
    ((recordNewState cx t sf rv out w).2.recs t).failed = some cx.runid := by
  simp [recordNewState, hrv, setRec, zapDeps2, setFailed]

theorem recordNewState_nonzero (cx : Ctx) (t : Nat) (sf : Rec) (rv : Status) (out : Option Content) (w : World)
    (hrv : rv ≠ 0) : (recordNewState cx t sf rv out w).1 ≠ 0 :=
  (recordNewState_fst cx t sf rv out w).symm ▸ hrv

theorem recordNewState_failed (cx : Ctx) (t : Nat) (sf : Rec) (rv : Status) (out : Option Content) (w : World)
    (h : (recordNewState cx t sf rv out w).1 ≠ 0) : ((recordNewState cx t sf rv out w).2.recs t).failed = some cx.runid :=
  (recordNewState_failure cx t sf rv out w (recordNewState_fst cx t sf rv out w ▸ h)).2.2

/-- The record written after a successful script; `w` already holds the output. -/
def builtRec (w : World) (t R : Nat) : Rec :=
  let sf := { (w.recs t) with isGenerated := true, isOverride := false }
  if isCheckedR sf R || isChangedR sf R then { sf with stamp := some (readStamp w t) }
  else setChanged (updateStamp w t { sf with csum := none } R) R

theorem rnsOk_eq (R t : Nat) (w : World) : rnsOk R t w = (0, setRec (zapDeps2 w t) t (builtRec w t R)) := rfl

/-- A relation across `record_new_state`, from its three writes. -/
theorem recordNewState_rel {Rel : World → World → Prop} (trans : ∀ {a b c}, Rel a b → Rel b c → Rel a c)
    {cx : Ctx} {t : Nat} {sf : Rec} {rv : Status} {out : Option Content} {w : World}
    (hout : Rel w (rnsOut t out w))
    (hok : Rel (rnsOut t out w) (setRec (zapDeps2 (rnsOut t out w) t) t (builtRec (rnsOut t out w) t cx.runid)))
    (hfail : Rel w (setRec (zapDeps2 w t) t (setFailed w t sf cx.runid))) :
    Rel w (recordNewState cx t sf rv out w).2 := by
  rw [recordNewState_eq]
  split
  · rw [rnsOk_eq]
    exact trans hout hok
  · exact hfail

/-! ### What a recorded success writes -/

/-- What both branches of a recorded success of `t` have in common: the output is in place, the rows of `t` marked for
deletion are gone, the record of `t` is that of an unedited target with a current stamp. -/
structure Wrote (t : Nat) (out : Option Content) (w w' : World) : Prop where
  rules : w'.rules = w.rules
  progs : w'.progs = w.progs
  fs : ∀ x, x ≠ t → w'.fs x = w.fs x
  content : (w'.fs t).map (·.content) = out
  recs : ∀ x, x ≠ t → w'.recs x = w.recs x
  deps : w'.deps = w.deps.filter (fun d => !(d.target = t && d.deleteMe))
  clock : w.clock ≤ w'.clock
  rc : w'.runCounter = w.runCounter
  fsB : ∀ n, w'.fs t = some n → n.ms ≤ w'.clock
  gen : (w'.recs t).isGenerated = true
  ovr : (w'.recs t).isOverride = false
  checked : (w'.recs t).checked = (w.recs t).checked
  stamp : (w'.recs t).stamp = some (readStamp w' t)

/-- The script's output put in the place of the target: nothing else moves, and the new file is not from the future. -/
theorem rnsOut_fields (t : Nat) (out : Option Content) (w : World) :
    (rnsOut t out w).rules = w.rules ∧ (rnsOut t out w).progs = w.progs ∧ (rnsOut t out w).recs = w.recs ∧
    (rnsOut t out w).deps = w.deps ∧ (rnsOut t out w).runCounter = w.runCounter ∧
    (∀ x, x ≠ t → (rnsOut t out w).fs x = w.fs x) ∧ ((rnsOut t out w).fs t).map (·.content) = out ∧
    w.clock ≤ (rnsOut t out w).clock ∧ ∀ n, (rnsOut t out w).fs t = some n → n.ms ≤ (rnsOut t out w).clock := by
  cases out with
  | none =>
    exact ⟨rfl, rfl, rfl, rfl, rfl, fun x hx => by simp [rnsOut, setFile, hx], by simp [rnsOut, setFile],
      Nat.le_refl _, fun n hn => by simp [rnsOut, setFile] at hn⟩
  | some c =>
    refine ⟨rfl, rfl, rfl, rfl, rfl, fun x hx => by simp [rnsOut, newNode, setFile, hx],
      by simp [rnsOut, newNode, setFile], Nat.le_succ _, fun n hn => ?_⟩
    simp only [rnsOut, newNode, setFile, if_true, Option.some.injEq] at hn
    subst hn; exact Nat.le_refl _

theorem rnsOut_recs (t : Nat) (out : Option Content) (w : World) : (rnsOut t out w).recs = w.recs :=
  (rnsOut_fields t out w).2.2.1

theorem Wrote.put (w : World) (t : Nat) (out : Option Content) {r : Rec} (hg : r.isGenerated = true)
    (ho : r.isOverride = false) (hck : r.checked = (w.recs t).checked)
    (hs : r.stamp = some (readStamp (rnsOut t out w) t)) :
    Wrote t out w (setRec (zapDeps2 (rnsOut t out w) t) t r) := by
  obtain ⟨a1, a2, a3, a4, a5, a6, a7, a8, a9⟩ := rnsOut_fields t out w
  refine ⟨a1, a2, a6, a7, fun x hx => ?_, by rw [← a4]; rfl, a8, a5, a9, ?_, ?_, ?_, ?_⟩
  · show (if x = t then r else (rnsOut t out w).recs x) = w.recs x
    rw [if_neg hx, a3]
  all_goals simp only [setRec, if_true]
  · exact hg
  · exact ho
  · exact hck
  · exact hs

/-- The record of a success when the target was already marked in this run: only the stamp moves. -/
theorem builtRec_marked {w : World} {t R : Nat} (h : (isCheckedR (w.recs t) R || isChangedR (w.recs t) R) = true) :
    builtRec w t R = { w.recs t with isGenerated := true, isOverride := false, stamp := some (readStamp w t) } := by
  unfold builtRec
  rw [if_pos (by simpa [isCheckedR, isChangedR] using h)]

theorem builtRec_fresh {w : World} {t R : Nat} (h : (isCheckedR (w.recs t) R || isChangedR (w.recs t) R) = false) :
    builtRec w t R =
      setChanged (updateStamp w t { w.recs t with isGenerated := true, isOverride := false, csum := none } R) R := by
  unfold builtRec
  rw [if_neg (by simpa [isCheckedR, isChangedR] using h)]

theorem recordNewState_ok (cx : Ctx) (t : Nat) (sf : Rec) (out : Option Content) (w : World) :
    recordNewState cx t sf 0 out w =
      (0, setRec (zapDeps2 (rnsOut t out w) t) t (builtRec (rnsOut t out w) t cx.runid)) := by
  rw [recordNewState_eq, if_pos rfl, rnsOk_eq]

/-- Whatever the marks of the target say, a recorded success writes `Wrote`. -/
theorem recordOk_wrote (cx : Ctx) (t : Nat) (sf : Rec) (out : Option Content) (w : World) :
    Wrote t out w (recordNewState cx t sf 0 out w).2 := by
  rw [recordNewState_ok]
  cases hm : (isCheckedR ((rnsOut t out w).recs t) cx.runid || isChangedR ((rnsOut t out w).recs t) cx.runid) with
  | true => rw [builtRec_marked hm]; exact Wrote.put w t out rfl rfl (by rw [rnsOut_recs]) rfl
  | false =>
    rw [builtRec_fresh hm]
    exact Wrote.put w t out (by simp [setChanged, updateStamp_gen]) rfl
      (by simp [setChanged, updateStamp_checked, rnsOut_recs]) (by simp [setChanged, updateStamp_stamp])

theorem Wrote.sub {t out w w'} (hf : Wrote t out w w') {d : Dep} (hd : d ∈ w'.deps) : d ∈ w.deps := by
  rw [hf.deps, List.mem_filter] at hd; exact hd.1

theorem Wrote.undeleted {t out w w'} (hf : Wrote t out w w') {d : Dep} (hd : d ∈ w'.deps) (hdt : d.target = t) :
    d.deleteMe = false := by
  rw [hf.deps, List.mem_filter] at hd
  cases hx : d.deleteMe with
  | false => rfl
  | true => have := hd.2; simp [hdt, hx] at this

/-! ### The .do file of a target (`findDoFile`) -/

theorem findDoFile_rel {Rel : World → World → Prop} (refl : ∀ w, Rel w w) (trans : ∀ {a b c}, Rel a b → Rel b c → Rel a c)
    {t : Nat} (h : ∀ w c m, Rel w (addDep w t c m)) : ∀ (cs : List Nat) (w : World), Rel w (findDoFile t cs w).2
  | [], w => by rw [findDoFile]; exact refl w
  | c :: cs, w => by
    rw [findDoFile]
    split
    · exact h w c true
    · exact trans (h w c false) (findDoFile_rel refl trans h cs _)

/-- With a single candidate, a `findDoFile` that finds a .do file only (re-)adds its `m` row. -/
theorem findDoFile_single {t dof : Nat} {cs : List Nat} {w : World} (hl : cs.length ≤ 1)
    (h : (findDoFile t cs w).1 = some dof) : (findDoFile t cs w).2 = addDep w t dof true := by
  cases cs with
  | nil => simp [findDoFile] at h
  | cons c l =>
    have hl0 : l = [] := by
      cases l with
      | nil => rfl
      | cons a l' => simp at hl
    subst hl0
    rw [findDoFile] at h ⊢
    split at h
    · rename_i hex; cases h; simp only [hex, if_true]
    · simp [findDoFile] at h

theorem findDoFile_find (t : Nat) (cs : List Nat) (w : World) : (findDoFile t cs w).1 = cs.find? (existsF w) := by
  fun_induction findDoFile t cs w with
  | case1 w => rfl
  | case2 c cs w hex => exact (List.find?_cons_of_pos hex).symm
  | case3 c cs w hex ih =>
    -- declaring `c` absent touches no file
    have e : existsF (addDep w t c false) = existsF w :=
      funext fun x => existsF_congr (congrFun (addDep_fs w t c false) x)
    rw [ih, e, List.find?_cons_of_neg hex]

theorem findDoFile_some_mem (t : Nat) (cs : List Nat) (w : World) (dof : Nat) (h : (findDoFile t cs w).1 = some dof) :
    dof ∈ cs ∧ existsF w dof = true := by
  rw [findDoFile_find] at h
  exact ⟨List.mem_of_find?_eq_some h, List.find?_some h⟩

theorem findDoFile_some (t : Nat) (cs : List Nat) (w : World) (h : ∃ c ∈ cs, existsF w c = true) :
    ∃ dof, (findDoFile t cs w).1 = some dof := by
  rw [findDoFile_find]
  exact Option.isSome_iff_exists.1 (List.find?_isSome.2 h)

/-! ### Jobs that go straight to the .do file -/

/-- The override detection does nothing for a copy that is not generated, or is an unedited target, or when the file
is missing. -/
theorem ssGuard_eq_self (cx : Ctx) (t : Nat) (sf : Rec) (w : World)
    (h : sf.isGenerated = false ∨ (sf.isOverride = false ∧ sf.stamp = some (readStamp w t)) ∨ w.fs t = none) :
    ssGuard cx t sf w = (sf, w) := by
  unfold ssGuard
  rcases h with h | ⟨h1, h2⟩ | h
  · simp [h]
  · simp [h1, h2, detectOverride]
  · simp [readStamp, h]

theorem ssGuard_missing (cx : Ctx) (t : Nat) (sf : Rec) (w : World) (h : w.fs t = none) : ssGuard cx t sf w = (sf, w) :=
  ssGuard_eq_self cx t sf w (.inr (.inr h))

theorem startSelf_missing (E : Engine) (d : Defects) (cx : Ctx) (t : Nat) (sf0 : Rec) (w : World) (hm : w.fs t = none) :
    startSelf E d cx t sf0 w = ssBuild E d cx t sf0 w := by
  rw [startSelf_eq, ssGuard_eq_self cx t sf0 w (.inr (.inr hm))]
  simp [existsF, hm]

/-- A target that has never been built, or whose last build failed, is not up to date: the check says
`dirty`, or refuses because the target already failed in this very run. -/
theorem shouldBuild_ds (cx : Ctx) (fuel t : Nat) (w : World) (h0 : t ≠ alwaysId)
    (hds : (w.recs t).failed.isSome = true ∨ (w.recs t).changed = none) (hfuel : 0 < fuel) :
    shouldBuild cx fuel t w = (some .dirty, w) ∨ shouldBuild cx fuel t w = (none, w) := by
  obtain ⟨n, rfl⟩ : ∃ n, fuel = n + 1 := ⟨fuel - 1, by omega⟩
  have hg : getRec w cx.runid t = w.recs t := by simp [getRec, h0]
  unfold shouldBuild
  split
  · exact Or.inl rfl
  · dsimp only
    split
    · exact Or.inr rfl
    · left
      rcases hds with hf | hc
      · simp (config := { zeta := true, zetaHave := true }) only [isDirty, hg, hf, Option.getD_none,
          if_true, List.not_mem_nil, if_false]
      · by_cases hf : (w.recs t).failed.isSome = true
        · simp (config := { zeta := true, zetaHave := true }) only [isDirty, hg, hf, Option.getD_none,
            if_true, List.not_mem_nil, if_false]
        · simp (config := { zeta := true, zetaHave := true }) only [isDirty, hg, hf, hc, Option.getD_none,
            Bool.false_eq_true, if_false, List.not_mem_nil]

end RedoModel.Deps
