import RedoModel.Deps
/-! Facts about the primitive functions of the serial engine model (`getRec`, `setRec`, `existsF`, `readStamp`, the marks
of a record, `addKnown`, `depsOf`, `addDep`, `zapDeps1`, `zapDeps2`, the record updates …) that hold of every world: what one
of them does on some form of input, with no invariant assumed. -/
namespace RedoModel.Deps

/-! ### `getRec`: the record as a process of run `R` sees it -/

theorem getRec_of_ne {w : World} {R f : Nat} (h : f ≠ alwaysId) : getRec w R f = w.recs f := by
  simp [getRec, h]

theorem getRec_row (w : World) (R f : Nat) : (getRec w R f).row = (w.recs f).row := by
  unfold getRec
  split <;> rfl

theorem getRec_failed_eq (w : World) (R f : Nat) : (getRec w R f).failed = (w.recs f).failed := by
  unfold getRec
  split <;> rfl

theorem getRec_setRec_ne (w' : World) (R f g : Nat) (r : Rec) (hg : g ≠ f) :
    getRec (setRec w' f r) R g = getRec w' R g := by
  have e1 : (setRec w' f r).recs g = w'.recs g := by simp [setRec, hg]
  simp only [getRec, e1]

/-- A process of run `R` reads back what it wrote, if that carries a `changed` mark not older than `R`. -/
theorem getRec_setRec_self (w' : World) (R f : Nat) (r : Rec)
    (h : f = alwaysId → ∃ x, r.changed = some x ∧ R ≤ x) : getRec (setRec w' f r) R f = r := by
  by_cases h0 : f = alwaysId
  · obtain ⟨x, hx, hle⟩ := h h0
    subst h0
    simp only [getRec, setRec, if_true, hx, Nat.max_eq_right hle]
    rw [← hx]
  · simp [getRec, setRec, h0]

theorem getRec_isGenerated (w : World) (R z : Nat) : (getRec w R z).isGenerated = (w.recs z).isGenerated := by
  unfold getRec; simp only; split <;> rfl

theorem getRec_isOverride (w : World) (R z : Nat) : (getRec w R z).isOverride = (w.recs z).isOverride := by
  unfold getRec; simp only; split <;> rfl

theorem getRec_fields (w : World) (R z : Nat) : ∃ c, getRec w R z = { (w.recs z) with changed := c } := by
  unfold getRec
  simp only
  split
  · exact ⟨_, rfl⟩
  · exact ⟨(w.recs z).changed, rfl⟩

theorem getRec_congr {w w' : World} {R z : Nat} (h : w'.recs z = w.recs z) : getRec w' R z = getRec w R z := by
  simp [getRec, h]

theorem isFailedR_getRec (w : World) (R R' f : Nat) : isFailedR (getRec w R' f) R = isFailedR (w.recs f) R := by
  unfold isFailedR
  rw [getRec_failed_eq]

/-- The snapshot of `//ALWAYS` taken by a process of run `R` is marked changed in a run `≥ R`. -/
theorem getRec_always_changed (w : World) (R : Nat) : ∃ ch, (getRec w R alwaysId).changed = some ch ∧ R ≤ ch := by
  unfold getRec
  simp only [if_true]
  cases (w.recs alwaysId).changed with
  | none => exact ⟨R, rfl, Nat.le_refl _⟩
  | some c0 => exact ⟨max R c0, rfl, Nat.le_max_left _ _⟩

/-- … and in run `R` itself, where no recorded mark is later than `R`. -/
theorem getRec_always_of_le {w : World} {R : Nat} (h : ∀ c, (w.recs alwaysId).changed = some c → c ≤ R) :
    getRec w R alwaysId = { (w.recs alwaysId) with changed := some R } := by
  simp only [getRec, if_true]
  cases hc : (w.recs alwaysId).changed with
  | none => rfl
  | some c => simp only; rw [Nat.max_eq_left (h c hc)]

/-! ### Rows, known files, the classification -/

theorem mem_depsOf {w : World} {r : Rec} {f : Nat} {d : Dep} :
    d ∈ depsOf w r f ↔ (r.isOverride = false ∧ r.isGenerated = true) ∧ d ∈ w.deps ∧ d.target = f := by
  unfold depsOf
  split
  · rename_i h
    simp only [Bool.or_eq_true, Bool.not_eq_true'] at h
    constructor
    · intro hd; simp at hd
    · rintro ⟨⟨h1, h2⟩, _⟩
      rcases h with h | h
      · rw [h1] at h; cases h
      · rw [h2] at h; cases h
  · rename_i h
    simp only [Bool.or_eq_true, Bool.not_eq_true', not_or, Bool.not_eq_true, Bool.not_eq_false] at h
    rw [List.mem_mergeSort, List.mem_filter]
    simp [h.1, h.2]

theorem mem_depsOf_mem_deps {w : World} {r : Rec} {f : Nat} {d : Dep} (h : d ∈ depsOf w r f) : d ∈ w.deps :=
  (mem_depsOf.1 h).2.1

theorem mem_depsOf_target {w : World} {r : Rec} {f : Nat} {d : Dep} (h : d ∈ depsOf w r f) : d.target = f :=
  (mem_depsOf.1 h).2.2

theorem addKnown_static (w : World) (f : Nat) :
    (addKnown w f).deps = w.deps ∧ (addKnown w f).rules = w.rules ∧ (addKnown w f).progs = w.progs := by
  unfold addKnown
  split
  · exact ⟨rfl, rfl, rfl⟩
  · exact ⟨rfl, rfl, rfl⟩

theorem addKnown_deps (w : World) (f : Nat) : (addKnown w f).deps = w.deps := (addKnown_static w f).1

theorem known_congr {w w2 : World} (hrecs : w2.recs = w.recs) (f : Nat) : known w2 f = known w f := by
  simp [known, hrecs]

theorem isTarget_congr {w w2 : World} (hfs : w2.fs = w.fs) (hrecs : w2.recs = w.recs) (R f : Nat) :
    isTarget w2 R f = isTarget w R f := by
  simp [isTarget, isSource, getRec, readStamp, hfs, hrecs]

theorem addKnown_fs (w : World) (f : Nat) : (addKnown w f).fs = w.fs := by
  unfold addKnown
  split <;> rfl

theorem addKnown_rules (w : World) (f : Nat) : (addKnown w f).rules = w.rules := (addKnown_static w f).2.1

theorem addKnown_trace (w : World) (f : Nat) : (addKnown w f).trace = w.trace := by
  unfold addKnown
  split <;> rfl

theorem addKnown_recs_ne (w : World) (f x : Nat) (h : x ≠ f) : (addKnown w f).recs x = w.recs x := by
  unfold addKnown
  split
  · rfl
  · simp [setRec, h]

theorem addKnown_recs_self (w : World) (f : Nat) : ∃ row, (addKnown w f).recs f = { (w.recs f) with row := row } := by
  unfold addKnown
  split
  · exact ⟨(w.recs f).row, rfl⟩
  · exact ⟨w.nextRow, by simp [setRec]⟩

theorem addKnown_recs_known (w : World) (f : Nat) (h : (w.recs f).row ≠ 0) : addKnown w f = w := by
  unfold addKnown
  simp [h]

theorem addKnown_failed (w : World) (f x : Nat) : ((addKnown w f).recs x).failed = (w.recs x).failed := by
  unfold addKnown
  split
  · rfl
  · simp only [setRec]
    split
    · subst_vars; rfl
    · rfl

theorem addDep_fs (w : World) (t s : Nat) (m : Bool) : (addDep w t s m).fs = w.fs := addKnown_fs w s

theorem addDep_trace (w : World) (t s : Nat) (m : Bool) : (addDep w t s m).trace = w.trace :=
  addKnown_trace w s

theorem addDep_failed (w : World) (t s : Nat) (m : Bool) (x : Nat) : ((addDep w t s m).recs x).failed = (w.recs x).failed :=
  addKnown_failed w s x

theorem depsOf_static {w : World} {r : Rec} {f : Nat} (h : r.isGenerated = false ∨ r.isOverride = true) :
    depsOf w r f = [] := by
  rcases h with h | h <;> simp [depsOf, h]

theorem mem_depsWithRecs {w : World} {R : Nat} {r : Rec} {f : Nat} {p : Dep × Rec} :
    p ∈ depsWithRecs w R r f ↔
      p.2 = getRec w R p.1.source ∧ r.isGenerated = true ∧ r.isOverride = false ∧ p.1 ∈ w.deps ∧ p.1.target = f := by
  constructor
  · intro hp
    obtain ⟨d, hd, rfl⟩ := List.mem_map.1 hp
    obtain ⟨⟨ho, hg⟩, h⟩ := mem_depsOf.1 hd
    exact ⟨rfl, hg, ho, h⟩
  · rintro ⟨e, hg, ho, hd⟩
    exact List.mem_map.2 ⟨p.1, mem_depsOf.2 ⟨⟨ho, hg⟩, hd⟩, Prod.ext rfl e.symm⟩

/-! ### Files and marks -/

theorem existsF_of_readStamp_ne {w : World} {t : Nat} (h : (readStamp w t != .missing) = true) :
    existsF w t = true := by
  unfold readStamp at h; unfold existsF
  cases hfs : w.fs t with
  | none => rw [hfs] at h; simp at h
  | some n => rfl

theorem isFailedR_none {r : Rec} {R : Nat} (h : r.failed = none) : isFailedR r R = false := by
  unfold isFailedR; rw [h]

theorem isFailedR_zero {r : Rec} {R : Nat} (h : r.failed = some 0) : isFailedR r R = false := by
  unfold isFailedR; rw [h]; rfl

theorem isCheckedR_some_self {r : Rec} {R : Nat} (hR : 0 < R) (h : r.checked = some R) : isCheckedR r R = true := by
  simp [isCheckedR, h]; omega

theorem isFailedR_self {r : Rec} {R : Nat} (hR : 0 < R) (h : r.failed = some R) : isFailedR r R = true := by
  simp [isFailedR, h]; omega

/-- No failure is recorded for a later run and none for run `R`: no file counts as failed in run `R`. -/
theorem isFailedR_of_le {w : World} {R : Nat} (hfl : ∀ f c, (w.recs f).failed = some c → c ≤ R)
    (hnf : ∀ f, (w.recs f).failed ≠ some R) (t : Nat) : isFailedR (getRec w R t) R = false := by
  unfold isFailedR
  rw [getRec_failed_eq]
  cases hf : (w.recs t).failed with
  | none => rfl
  | some c =>
    have h1 := hfl t c hf
    have h2 : c ≠ R := fun e => hnf t (by rw [hf, e])
    simp only [Bool.and_eq_false_iff, bne_eq_false_iff_eq, decide_eq_false_iff_not]
    omega

/-! ### The record updates -/

theorem setOverride_failed (w : World) (f : Nat) (r : Rec) (R : Nat) : (setOverride w f r R).failed = none := rfl

theorem setOverride_csum (w : World) (f : Nat) (r : Rec) (R : Nat) : (setOverride w f r R).csum = none := rfl

theorem updateStamp_gen (w : World) (t : Nat) (r : Rec) (R : Nat) : (updateStamp w t r R).isGenerated = r.isGenerated := by
  unfold updateStamp setChanged; simp only; split <;> rfl

theorem updateStamp_stamp (w : World) (t : Nat) (r : Rec) (R : Nat) : (updateStamp w t r R).stamp = some (readStamp w t) := by
  unfold updateStamp setChanged; simp only; split <;> simp_all

theorem updateStamp_checked (w : World) (t : Nat) (r : Rec) (R : Nat) : (updateStamp w t r R).checked = r.checked := by
  unfold updateStamp setChanged; simp only; split <;> rfl

theorem updateStamp_csum (w : World) (t : Nat) (r : Rec) (R : Nat) : (updateStamp w t r R).csum = r.csum := by
  unfold updateStamp setChanged; simp only; split <;> rfl

theorem updateStamp_row (w : World) (t : Nat) (r : Rec) (R : Nat) : (updateStamp w t r R).row = r.row := by
  unfold updateStamp setChanged; simp only; split <;> rfl

theorem updateStamp_changed (w : World) (t : Nat) (r : Rec) (R : Nat) :
    (updateStamp w t r R).changed = if r.stamp = some (readStamp w t) then r.changed else some R := by
  unfold updateStamp setChanged; simp only; split <;> rfl

theorem updateStamp_ovr (w : World) (t : Nat) (r : Rec) (R : Nat) (h : r.isOverride = false) :
    (updateStamp w t r R).isOverride = false := by
  unfold updateStamp setChanged; simp only; split <;> simp_all

theorem setStatic_ovr (w t r R) : (setStatic w t r R).isOverride = false := rfl

theorem setStatic_gen (w t r R) : (setStatic w t r R).isGenerated = false := rfl

theorem setStatic_stamp (w t r R) : (setStatic w t r R).stamp = some (readStamp w t) := updateStamp_stamp w t r R

theorem setStatic_checked (w t r R) : (setStatic w t r R).checked = r.checked := updateStamp_checked w t r R

theorem setStatic_changed (w t r R) :
    (setStatic w t r R).changed = if r.stamp = some (readStamp w t) then r.changed else some R :=
  updateStamp_changed w t r R

theorem setFailed_failed (w t r R) : (setFailed w t r R).failed = some R := rfl

theorem setFailed_stamp (w t r R) : (setFailed w t r R).stamp = some (readStamp w t) := updateStamp_stamp w t r R

theorem setFailed_checked (w t r R) : (setFailed w t r R).checked = r.checked := updateStamp_checked w t r R

theorem setFailed_csum (w t r R) : (setFailed w t r R).csum = r.csum := updateStamp_csum w t r R

theorem setFailed_changed (w t r R) :
    (setFailed w t r R).changed = if r.stamp = some (readStamp w t) then r.changed else some R :=
  updateStamp_changed w t r R

theorem setFailed_congr_fs {w w' : World} {t : Nat} (h : w'.fs t = w.fs t) (r : Rec) (R : Nat) :
    setFailed w' t r R = setFailed w t r R := by
  unfold setFailed updateStamp readStamp
  rw [h]

theorem setFailed_ovr (w t r R) (h : r.isOverride = false) : (setFailed w t r R).isOverride = false :=
  updateStamp_ovr w t r R h

theorem setFailed_gen (w t r R) : (setFailed w t r R).isGenerated = (readStamp w t != .missing) := by
  unfold setFailed
  simp only [updateStamp_stamp]
  cases readStamp w t <;> rfl

theorem setStatic_failed (w : World) (f : Nat) (r : Rec) (R : Nat) : (setStatic w f r R).failed = none := rfl
theorem setStatic_csum (w : World) (f : Nat) (r : Rec) (R : Nat) : (setStatic w f r R).csum = none := rfl

/-! ### Files, records and rows: `existsF`, `readStamp`, the marks of a record, `setRec`, `depsOf`, `addDep`, `zapDeps1`, `zapDeps2` -/

theorem existsF_eq_true {w : World} {f : Nat} : existsF w f = true ↔ ∃ n, w.fs f = some n := by
  unfold existsF; cases w.fs f <;> simp

theorem existsF_eq_false {w : World} {f : Nat} : existsF w f = false ↔ w.fs f = none := by
  unfold existsF; cases w.fs f <;> simp

theorem readStamp_missing {w : World} {f : Nat} : readStamp w f = .missing ↔ w.fs f = none := by
  unfold readStamp; cases w.fs f <;> simp

theorem readStamp_ne_missing {w : World} {t : Nat} (h : existsF w t = true) : readStamp w t ≠ .missing := by
  intro e; rw [existsF_eq_false.2 (readStamp_missing.1 e)] at h; cases h

theorem existsF_congr {w w' : World} {f : Nat} (h : w'.fs f = w.fs f) : existsF w' f = existsF w f := by
  unfold existsF; rw [h]

theorem readStamp_congr {w w' : World} {f : Nat} (h : w'.fs f = w.fs f) : readStamp w' f = readStamp w f := by
  unfold readStamp; rw [h]

/-- Run ids never exceed the current one, so "marked in run `R` or later" means "marked in run `R`". -/
theorem isCheckedR_iff {r : Rec} {R : Nat} (hR : 0 < R) (hle : ∀ c, r.checked = some c → c ≤ R) :
    isCheckedR r R = true ↔ r.checked = some R := by
  unfold isCheckedR
  cases hc : r.checked with
  | none => simp
  | some c =>
    have := hle c hc
    simp only [Bool.and_eq_true, bne_iff_ne, ne_eq, decide_eq_true_eq, Option.some.injEq]
    omega

theorem isChangedR_iff {r : Rec} {R : Nat} (hR : 0 < R) (hle : ∀ c, r.changed = some c → c ≤ R) :
    isChangedR r R = true ↔ r.changed = some R := by
  unfold isChangedR
  cases hc : r.changed with
  | none => simp
  | some c =>
    have := hle c hc
    simp only [Bool.and_eq_true, bne_iff_ne, ne_eq, decide_eq_true_eq, Option.some.injEq]
    omega

theorem isCheckedR_false_of {r : Rec} {R : Nat} (hle : ∀ c, r.checked = some c → c ≤ R) (hne : r.checked ≠ some R) :
    isCheckedR r R = false := by
  unfold isCheckedR
  cases hc : r.checked with
  | none => rfl
  | some c =>
    have := hle c hc
    simp only [Bool.and_eq_false_iff, bne_eq_false_iff_eq, decide_eq_false_iff_not]
    right; intro hge
    exact hne (by rw [hc]; congr; omega)

theorem setRec_recs_self (w : World) (f : Nat) (r : Rec) : (setRec w f r).recs f = r := by simp [setRec]

theorem setRec_recs_other (w : World) (f : Nat) (r : Rec) {x : Nat} (h : x ≠ f) : (setRec w f r).recs x = w.recs x := by
  simp [setRec, h]

theorem setRec_self (w : World) (f : Nat) : setRec w f (w.recs f) = w := by
  unfold setRec
  have : (fun x => if x = f then w.recs f else w.recs x) = w.recs := by
    funext x; split
    · subst_vars; rfl
    · rfl
  rw [this]

theorem setRec_fs (w : World) (f : Nat) (r : Rec) : (setRec w f r).fs = w.fs := rfl

theorem setRec_deps (w : World) (f : Nat) (r : Rec) : (setRec w f r).deps = w.deps := rfl

theorem setRec_rules (w : World) (f : Nat) (r : Rec) : (setRec w f r).rules = w.rules := rfl

theorem setRec_progs (w : World) (f : Nat) (r : Rec) : (setRec w f r).progs = w.progs := rfl

theorem setRec_clock (w : World) (f : Nat) (r : Rec) : (setRec w f r).clock = w.clock := rfl

theorem setRec_readStamp (w : World) (f : Nat) (r : Rec) (x) : readStamp (setRec w f r) x = readStamp w x := rfl

theorem setRec_existsF (w : World) (f : Nat) (r : Rec) (x) : existsF (setRec w f r) x = existsF w x := rfl

theorem isSome_false_iff {α} {o : Option α} : o.isSome = false ↔ o = none := by cases o <;> simp

theorem zapDeps1_rows {w : World} {t : Nat} {P : Dep → Prop} (hP : ∀ d, P d → P { d with deleteMe := true })
    (h : ∀ d ∈ w.deps, P d) : ∀ d ∈ (zapDeps1 w t).deps, P d := by
  unfold zapDeps1
  intro d hd
  simp only [List.mem_map] at hd
  obtain ⟨a, ha, e⟩ := hd
  split at e
  · subst e; exact hP a (h a ha)
  · subst e; exact h a ha

theorem zapDeps1_marked {w : World} {t : Nat} : ∀ d ∈ (zapDeps1 w t).deps, d.target = t → d.deleteMe = true := by
  intro d hd hdt
  unfold zapDeps1 at hd
  simp only [List.mem_map] at hd
  obtain ⟨a, _, e⟩ := hd
  split at e
  · subst e; rfl
  · subst e; rename_i h; exact absurd hdt h

theorem addDep_deps (w : World) (t s : Nat) (m : Bool) :
    (addDep w t s m).deps = { target := t, source := s, modeM := m, deleteMe := false } ::
      w.deps.filter (fun d => !(d.target = t && d.source = s)) := by
  unfold addDep Deps.addKnown
  split <;> rfl

theorem addDep_mem {w : World} {t s : Nat} {m : Bool} {d : Dep} (hd : d ∈ (addDep w t s m).deps) :
    d = { target := t, source := s, modeM := m, deleteMe := false } ∨ (d ∈ w.deps ∧ ¬ (d.target = t ∧ d.source = s)) := by
  rw [addDep_deps] at hd
  simp only [List.mem_cons, List.mem_filter, Bool.not_eq_true', Bool.and_eq_false_iff, decide_eq_false_iff_not] at hd
  rcases hd with h | ⟨h1, h2⟩
  · exact Or.inl h
  · exact Or.inr ⟨h1, fun ⟨a, b⟩ => h2.elim (fun h => h a) (fun h => h b)⟩

theorem addDep_mem' {w : World} {t s : Nat} {m : Bool} {d : Dep} (hd : d ∈ (addDep w t s m).deps) :
    d = { target := t, source := s, modeM := m, deleteMe := false } ∨ d ∈ w.deps :=
  (addDep_mem hd).imp id And.left

theorem zapDeps2_sub (w : World) (t : Nat) (r : Rec) : ∀ d ∈ (setRec (zapDeps2 w t) t r).deps, d ∈ w.deps := by
  intro d hd
  have : d ∈ (zapDeps2 w t).deps := hd
  unfold zapDeps2 at this
  exact (List.mem_filter.1 this).1

theorem isCheckedR_ext (r : Rec) (R : Nat) (g o : Bool) :
    isCheckedR { r with isGenerated := g, isOverride := o } R = isCheckedR r R := rfl

theorem isChangedR_ext (r : Rec) (R : Nat) (g o : Bool) :
    isChangedR { r with isGenerated := g, isOverride := o } R = isChangedR r R := rfl

theorem isFailedR_false {r : Rec} {R : Nat} (hR : 0 < R) (h : isFailedR r R = false) : r.failed ≠ some R := by
  intro e
  unfold isFailedR at h
  rw [e] at h
  simp only [Bool.and_eq_false_iff, bne_eq_false_iff_eq, decide_eq_false_iff_not] at h
  omega

/-- Distinct ids below `n` are at most `n`: what bounds the stack of ancestors of a walk. -/
theorem nodup_length_le {n : Nat} {l : List Nat} (hn : l.Nodup) (hb : ∀ g ∈ l, g < n) : l.length ≤ n := by
  have := List.Nodup.length_le_of_subset hn (l₂ := List.range n) (fun g hg => List.mem_range.2 (hb g hg))
  simpa using this

/-- The list of .do candidates splits in one way only into missing ones, an existing one, and the rest. -/
theorem split_unique {w : World} : ∀ (pre pre' : List Nat) (dof dof' : Nat) (post post' : List Nat),
    pre ++ dof :: post = pre' ++ dof' :: post' → (∀ c ∈ pre, existsF w c = false) → existsF w dof = true →
    (∀ c ∈ pre', existsF w c = false) → existsF w dof' = true → pre = pre' ∧ dof = dof' ∧ post = post'
  | [], [], dof, dof', post, post', h, _, _, _, _ => by
    simp only [List.nil_append, List.cons.injEq] at h; exact ⟨rfl, h.1, h.2⟩
  | [], c :: pre', dof, dof', post, post', h, _, hd, hp', _ => by
    simp only [List.nil_append, List.cons_append, List.cons.injEq] at h
    have := hp' c (by simp); rw [← h.1, hd] at this; cases this
  | c :: pre, [], dof, dof', post, post', h, hp, _, _, hd' => by
    simp only [List.nil_append, List.cons_append, List.cons.injEq] at h
    have := hp c (by simp); rw [h.1, hd'] at this; cases this
  | c :: pre, c' :: pre', dof, dof', post, post', h, hp, hd, hp', hd' => by
    simp only [List.cons_append, List.cons.injEq] at h
    obtain ⟨e1, e2, e3⟩ := split_unique pre pre' dof dof' post post' h.2
      (fun x hx => hp x (List.mem_cons_of_mem _ hx)) hd (fun x hx => hp' x (List.mem_cons_of_mem _ hx)) hd'
    exact ⟨by rw [h.1, e1], e2, e3⟩

end RedoModel.Deps
