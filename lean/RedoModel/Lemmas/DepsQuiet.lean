import RedoModel.Lemmas.DepsSoundRHistory
import RedoModel.Lemmas.DepsEngineFrame
import RedoModel.Lemmas.DepsTrace
import RedoModel.Lemmas.DepsOod
import RedoModel.Lemmas.DepsShift
import RedoModel.Lemmas.Once.DepsFrame
/-! C02, converse direction: settled sets and what a command leaves alone in them. -/
namespace RedoModel.Deps.Rich
open RedoModel.Generated

/-! ### C02, the converse direction ("nothing runs without a reason"): definitions.

* `RecReach w ts` : the recorded dependency closure of `ts` (all rows of `w.deps`, whatever their mode or owner).
* `QAt R S w f` / `QSet rank R S w` : what a successful run `R` leaves behind on the good part of the closure of its
  targets.  Every member of `S` has a *settled* record: not failed, changed in a run `≤ R`, recorded stamp = stamp of
  the file, and — if the file is redo's — it was built or verified in a run `≥ R` (`Mof`), its `m` rows lead into `S`
  again and the objects of its `c` rows do not exist.
* `SAt R' S w f` / `SSet R' S w` : the form in which the dirtiness check of a later run `R'` uses it (no dependency
  newer than its dependent instead of the bound `R`); a set of this kind stays one while run `R'` builds other things.
* `SRel R' S w w'` : the frame of everything a command of run `R'` does, as far as the members of `S` can tell. -/

/-- The recorded dependency closure of `ts`: reflexive-transitive closure along ALL rows of `w.deps`. -/
inductive RecReach (w : World) (ts : List Nat) : Nat → Prop
  | base {t} : t ∈ ts → RecReach w ts t
  | step {t} {d : Dep} : RecReach w ts t → d ∈ w.deps → d.target = t → RecReach w ts d.source

/-- To bound a recorded closure of a concrete world: a list closed under the rows that contains the targets. -/
theorem RecReach.sub {w : World} {ts : List Nat} (L : List Nat) (hts : ∀ t ∈ ts, t ∈ L)
    (hstep : ∀ d ∈ w.deps, d.target ∈ L → d.source ∈ L) {f : Nat} (h : RecReach w ts f) : f ∈ L := by
  induction h with
  | base ht => exact hts _ ht
  | step _ hd ht ih => exact hstep _ hd (ht ▸ ih)

theorem not_recReach_of_no_row {w : World} {ts : List Nat} {f : Nat} (hts : f ∉ ts)
    (hrow : ∀ d ∈ w.deps, d.source ≠ f) : ¬ RecReach w ts f := by
  intro h
  cases h with
  | base ht => exact hts ht
  | step _ hd _ => exact hrow _ hd rfl

/-- The record of `f` is settled with respect to the runs up to `R`. -/
structure QAt (R : Nat) (S : Nat → Prop) (w : World) (f : Nat) : Prop where
  ne0 : f ≠ alwaysId
  failed : (w.recs f).failed = none
  ch : ∃ ch, (w.recs f).changed = some ch ∧ ch ≤ R
  stamp : (w.recs f).stamp = some (readStamp w f)
  mof : genT (w.recs f) = true → R ≤ Mof (w.recs f)
  rowsM : genT (w.recs f) = true → ∀ d ∈ w.deps, d.target = f → d.modeM = true → S d.source
  rowsC : genT (w.recs f) = true → ∀ d ∈ w.deps, d.target = f → d.modeM = false → existsF w d.source = false

structure QSet (rank : Nat → Nat) (R : Nat) (S : Nat → Prop) (w : World) : Prop where
  mem : ∀ f, S f → QAt R S w f
  rowsLt : ∀ d ∈ w.deps, rank d.source < rank d.target

/-- Only `checked := R'` marks (and events other than `ran`) were added. -/
structure QExt (R' : Nat) (w w' : World) : Prop where
  same : SameButRecs w w'
  recs : ∀ x, w'.recs x = w.recs x ∨ w'.recs x = { w.recs x with checked := some R' }
  ran : ∀ t, Ev.ran t ∈ w'.trace → Ev.ran t ∈ w.trace

theorem QExt.fields {R' w w'} (h : QExt R' w w') (x) :
    (w'.recs x).failed = (w.recs x).failed ∧ (w'.recs x).changed = (w.recs x).changed ∧
    (w'.recs x).stamp = (w.recs x).stamp ∧ (w'.recs x).isGenerated = (w.recs x).isGenerated ∧
    (w'.recs x).isOverride = (w.recs x).isOverride ∧
    ((w'.recs x).checked = (w.recs x).checked ∨ (w'.recs x).checked = some R') := by
  rcases h.recs x with e | e <;> rw [e] <;> simp

/-- The record of `f` gives the dirtiness check of run `R'` no reason to rebuild `f`. -/
structure SAt (R' : Nat) (S : Nat → Prop) (w : World) (f : Nat) : Prop where
  ne0 : f ≠ alwaysId
  failed : (w.recs f).failed = none
  ch : ∃ ch, (w.recs f).changed = some ch ∧ ch ≤ R'
  ck : ∀ c, (w.recs f).checked = some c → c ≤ R'
  stamp : (w.recs f).stamp = some (readStamp w f)
  rowsM : genT (w.recs f) = true → ∀ d ∈ w.deps, d.target = f → d.modeM = true →
    S d.source ∧ ∀ c, (w.recs d.source).changed = some c → c ≤ Mof (w.recs f)
  rowsC : genT (w.recs f) = true → ∀ d ∈ w.deps, d.target = f → d.modeM = false →
    existsF w d.source = false ∧ w.rules d.source = []

def SSet (R' : Nat) (S : Nat → Prop) (w : World) : Prop := ∀ f, S f → SAt R' S w f

theorem SAt.mono {R1 R2 S w f} (h : SAt R1 S w f) (hR : R1 ≤ R2) : SAt R2 S w f :=
  ⟨h.ne0, h.failed, by obtain ⟨c, e, hle⟩ := h.ch; exact ⟨c, e, Nat.le_trans hle hR⟩,
   fun c hc => Nat.le_trans (h.ck c hc) hR, h.stamp, h.rowsM, h.rowsC⟩

theorem SSet.mono {R1 R2 S w} (h : SSet R1 S w) (hR : R1 ≤ R2) : SSet R2 S w := fun f hf => (h f hf).mono hR

theorem SSet.not0 {R' S w} (hq : SSet R' S w) : ¬ S alwaysId := fun h => (hq _ h).ne0 rfl

theorem SSet_of_QSet {rank R S w} (hq : QSet rank R S w) (hck : ∀ f c, (w.recs f).checked = some c → c ≤ R)
    (hcp : ∀ d ∈ w.deps, d.modeM = false → w.rules d.source = []) : SSet R S w := by
  intro f hf
  have hqa := hq.mem f hf
  refine ⟨hqa.ne0, hqa.failed, hqa.ch, hck f, hqa.stamp, fun hg d hd ht hm => ?_, fun hg d hd ht hm => ?_⟩
  · have hs := hqa.rowsM hg d hd ht hm
    refine ⟨hs, fun c hc => ?_⟩
    obtain ⟨c', e, hle⟩ := (hq.mem _ hs).ch
    rw [e] at hc; cases hc
    exact Nat.le_trans hle (hqa.mof hg)
  · exact ⟨hqa.rowsC hg d hd ht hm, hcp d hd hm⟩

theorem SSet.user {R' S w w'} (hq : SSet R' S w) (hrecs : w'.recs = w.recs) (hdeps : w'.deps = w.deps)
    (hrules : w'.rules = w.rules)
    (hfs : ∀ f, (S f ∨ ∃ d ∈ w.deps, S d.target ∧ d.source = f) → w'.fs f = w.fs f) : SSet R' S w' := by
  intro f hf
  have hqa := hq f hf
  refine ⟨hqa.ne0, by rw [hrecs]; exact hqa.failed, by rw [hrecs]; exact hqa.ch, by rw [hrecs]; exact hqa.ck, ?_,
    fun hg d hd ht hm => ?_, fun hg d hd ht hm => ?_⟩
  · rw [hrecs, readStamp_congr (hfs f (Or.inl hf))]; exact hqa.stamp
  · rw [hrecs] at hg ⊢; rw [hdeps] at hd; exact hqa.rowsM hg d hd ht hm
  · rw [hrecs] at hg; rw [hdeps] at hd
    obtain ⟨a, b⟩ := hqa.rowsC hg d hd ht hm
    exact ⟨by rw [existsF_congr (hfs d.source (Or.inr ⟨d, hd, by rw [ht]; exact hf, rfl⟩))]; exact a,
      by rw [hrules]; exact b⟩

/-- What may happen to the record of a member. -/
structure RecKeep (R' : Nat) (a b : Rec) : Prop where
  failed : b.failed = a.failed
  changed : b.changed = a.changed
  stamp : b.stamp = a.stamp
  checked : b.checked = a.checked ∨ b.checked = some R'
  gen : genT b = true → genT a = true

theorem RecKeep.refl (R' : Nat) (a : Rec) : RecKeep R' a a := ⟨rfl, rfl, rfl, Or.inl rfl, id⟩

theorem RecKeep.trans {R' a b c} (h1 : RecKeep R' a b) (h2 : RecKeep R' b c) : RecKeep R' a c :=
  ⟨h2.failed.trans h1.failed, h2.changed.trans h1.changed, h2.stamp.trans h1.stamp,
   by
    rcases h2.checked with e | e
    · rcases h1.checked with e1 | e1
      · exact Or.inl (e.trans e1)
      · exact Or.inr (e.trans e1)
    · exact Or.inr e,
   fun h => h1.gen (h2.gen h)⟩

theorem RecKeep.mof {R' a b} (h : RecKeep R' a b) (hck : ∀ c, a.checked = some c → c ≤ R') : Mof a ≤ Mof b := by
  unfold Mof
  rw [h.changed]
  rcases h.checked with e | e
  · rw [e]; exact Nat.le_refl _
  · rw [e]
    cases hc : a.checked with
    | none => simp only [Option.getD_none, Option.getD_some]; omega
    | some c => have := hck c hc; simp only [Option.getD_some]; omega

/-- The frame of everything a command of run `R'` does, as far as the members of `S` can tell. -/
structure SRel (R' : Nat) (S : Nat → Prop) (w w' : World) : Prop where
  deps : ∀ d, S d.target → (d ∈ w'.deps ↔ d ∈ w.deps)
  rules : w'.rules = w.rules
  recs : ∀ x, S x → RecKeep R' (w.recs x) (w'.recs x)
  fs : ∀ f, (S f ∨ w.rules f = []) → w'.fs f = w.fs f
  ran : ∀ t, S t → Ev.ran t ∈ w'.trace → Ev.ran t ∈ w.trace

theorem SRel.refl (R' : Nat) (S : Nat → Prop) (w : World) : SRel R' S w w :=
  ⟨fun _ _ => Iff.rfl, rfl, fun _ _ => RecKeep.refl _ _, fun _ _ => rfl, fun _ _ h => h⟩

theorem SRel.trans {R' S a b c} (h1 : SRel R' S a b) (h2 : SRel R' S b c) : SRel R' S a c :=
  ⟨fun d hd => (h2.deps d hd).trans (h1.deps d hd), h2.rules.trans h1.rules,
   fun x hx => (h1.recs x hx).trans (h2.recs x hx),
   fun f hf => (h2.fs f (by rw [h1.rules]; exact hf)).trans (h1.fs f hf),
   fun t ht h => h1.ran t ht (h2.ran t ht h)⟩

theorem SSet.step {R' S w w'} (hq : SSet R' S w) (h : SRel R' S w w') : SSet R' S w' := by
  intro f hf
  have hqa := hq f hf
  have hk := h.recs f hf
  refine ⟨hqa.ne0, by rw [hk.failed]; exact hqa.failed, by rw [hk.changed]; exact hqa.ch, fun c hc => ?_, ?_,
    fun hg d hd ht hm => ?_, fun hg d hd ht hm => ?_⟩
  · rcases hk.checked with e | e
    · exact hqa.ck c (by rw [← e]; exact hc)
    · rw [e] at hc; cases hc; exact Nat.le_refl _
  · rw [hk.stamp, readStamp_congr (h.fs f (Or.inl hf))]; exact hqa.stamp
  · have hd' := (h.deps d (by rw [ht]; exact hf)).1 hd
    obtain ⟨hs, hle⟩ := hqa.rowsM (hk.gen hg) d hd' ht hm
    refine ⟨hs, fun c hc => ?_⟩
    rw [(h.recs d.source hs).changed] at hc
    exact Nat.le_trans (hle c hc) (hk.mof hqa.ck)
  · have hd' := (h.deps d (by rw [ht]; exact hf)).1 hd
    obtain ⟨he, hr⟩ := hqa.rowsC (hk.gen hg) d hd' ht hm
    exact ⟨by rw [existsF_congr (h.fs d.source (Or.inr hr))]; exact he, by rw [h.rules]; exact hr⟩

/-! ### The primitive writes of the engine, on a file outside a settled set `S`, respect the frame `SRel`. -/

theorem SRel.setRec_out {R' S} (w : World) {f : Nat} (r : Rec) (hf : ¬ S f) : SRel R' S w (setRec w f r) :=
  ⟨fun _ _ => Iff.rfl, rfl, fun x hx => by
    have : x ≠ f := fun e => hf (e ▸ hx)
    simp only [setRec, this, if_false]; exact RecKeep.refl _ _, fun _ _ => rfl, fun _ _ h => h⟩

theorem SRel.evWarn {R' S} (w : World) (t : Nat) : SRel R' S w (ev w (.warnOverride t)) :=
  ⟨fun _ _ => Iff.rfl, rfl, fun _ _ => RecKeep.refl _ _, fun _ _ => rfl, fun t' _ h => by
    simp only [ev, List.mem_cons] at h
    rcases h with h | h
    · cases h
    · exact h⟩

theorem SRel.evRan {R' S} (w : World) {t : Nat} (ht : ¬ S t) : SRel R' S w (ev w (.ran t)) :=
  ⟨fun _ _ => Iff.rfl, rfl, fun _ _ => RecKeep.refl _ _, fun _ _ => rfl, fun t' ht' h => by
    simp only [ev, List.mem_cons] at h
    rcases h with h | h
    · cases h; exact absurd ht' ht
    · exact h⟩

theorem SRel.addKnown {R' S} (w : World) (f : Nat) : SRel R' S w (addKnown w f) := by
  unfold Deps.addKnown
  split
  · exact SRel.refl _ _ _
  · refine ⟨fun _ _ => Iff.rfl, rfl, fun x _ => ?_, fun _ _ => rfl, fun _ _ h => h⟩
    by_cases e : x = f
    · subst e; simp only [setRec, if_true]; exact ⟨rfl, rfl, rfl, Or.inl rfl, id⟩
    · simp only [setRec, e, if_false]; exact RecKeep.refl _ _

theorem SRel.addDep {R' S} (w : World) {t : Nat} (s : Nat) (m : Bool) (ht : ¬ S t) : SRel R' S w (addDep w t s m) := by
  refine (SRel.addKnown (R' := R') (S := S) w s).trans
    ⟨fun d hd => ?_, rfl, fun _ _ => RecKeep.refl _ _, fun _ _ => rfl, fun _ _ h => h⟩
  have hne : d.target ≠ t := fun e => ht (e ▸ hd)
  simp only [Deps.addDep, List.mem_cons, List.mem_filter]
  constructor
  · rintro (e | ⟨h, _⟩)
    · rw [e] at hne; exact absurd rfl hne
    · exact h
  · intro h; exact Or.inr ⟨h, by simp [hne]⟩

theorem SRel.zapDeps1 {R' S} (w : World) {t : Nat} (ht : ¬ S t) : SRel R' S w (zapDeps1 w t) := by
  refine ⟨fun d hd => ?_, rfl, fun _ _ => RecKeep.refl _ _, fun _ _ => rfl, fun _ _ h => h⟩
  have hne : d.target ≠ t := fun e => ht (e ▸ hd)
  simp only [Deps.zapDeps1, List.mem_map]
  constructor
  · rintro ⟨d', hd', e⟩
    split at e
    · rename_i h'; subst e; exact absurd h' hne
    · subst e; exact hd'
  · intro h; exact ⟨d, h, by simp [hne]⟩

theorem SRel.zapDeps2 {R' S} (w : World) {t : Nat} (ht : ¬ S t) : SRel R' S w (zapDeps2 w t) := by
  refine ⟨fun d hd => ?_, rfl, fun _ _ => RecKeep.refl _ _, fun _ _ => rfl, fun _ _ h => h⟩
  have hne : d.target ≠ t := fun e => ht (e ▸ hd)
  simp only [Deps.zapDeps2, List.mem_filter]
  constructor
  · exact fun h => h.1
  · intro h; exact ⟨h, by simp [hne]⟩

theorem SRel.setFile {R' S} (w : World) {t : Nat} (x : Option FNode) (ht : ¬ S t) (hr : w.rules t ≠ []) :
    SRel R' S w (setFile w t x) :=
  ⟨fun _ _ => Iff.rfl, rfl, fun _ _ => RecKeep.refl _ _, fun f hf => by
    have : f ≠ t := fun e => by
      subst e
      rcases hf with h | h
      · exact ht h
      · exact hr h
    simp [Deps.setFile, this], fun _ _ h => h⟩

theorem SRel.clock {R' S} (w : World) (c : Nat) : SRel R' S w { w with clock := c } :=
  ⟨fun _ _ => Iff.rfl, rfl, fun _ _ => RecKeep.refl _ _, fun _ _ => rfl, fun _ _ h => h⟩

/-- `set_static` on a member (a .do file that is also somebody's recorded dependency) changes nothing that matters. -/
theorem SRel.setStatic {R' S w} (hq : SSet R' S w) (f : Nat) :
    SRel R' S w (setRec w f (setStatic w f (w.recs f) R')) := by
  by_cases hf : S f
  · have hqa := hq f hf
    have hu : updateStamp w f (w.recs f) R' = w.recs f := by
      unfold updateStamp; simp [hqa.stamp]
    refine ⟨fun _ _ => Iff.rfl, rfl, fun x hx => ?_, fun _ _ => rfl, fun _ _ h => h⟩
    by_cases e : x = f
    · subst e
      simp only [setRec, if_true, Deps.setStatic, hu]
      exact ⟨hqa.failed.symm ▸ rfl, rfl, rfl, Or.inl rfl, fun h => by simp [genT] at h⟩
    · simp only [setRec, e, if_false]; exact RecKeep.refl _ _
  · exact SRel.setRec_out w _ hf

/-! ### The dirtiness check and a settled set: whatever it is asked, it only writes `checked` marks on members (frame
`DExtS`). -/

/-- Frame of the dirtiness check with respect to the members of `S`. -/
structure DExtS (R' : Nat) (S : Nat → Prop) (w w' : World) : Prop where
  same : SameButRecs w w'
  recs : ∀ x, S x → (w'.recs x = w.recs x ∨ w'.recs x = { w.recs x with checked := some R' })
  ran : ∀ t, Ev.ran t ∈ w'.trace → Ev.ran t ∈ w.trace

theorem DExtS.refl (R' : Nat) (S : Nat → Prop) (w : World) : DExtS R' S w w :=
  ⟨SameButRecs.refl w, fun _ _ => Or.inl rfl, fun _ h => h⟩

theorem DExtS.trans {R' S a b c} (h1 : DExtS R' S a b) (h2 : DExtS R' S b c) : DExtS R' S a c := by
  refine ⟨h1.same.trans h2.same, fun x hx => ?_, fun t h => h1.ran t (h2.ran t h)⟩
  rcases h1.recs x hx with e1 | e1 <;> rcases h2.recs x hx with e2 | e2
  · exact Or.inl (e2.trans e1)
  · exact Or.inr (by rw [e2, e1])
  · exact Or.inr (by rw [e2, e1])
  · exact Or.inr (by rw [e2, e1])

theorem DExtS.toRel {R' S w w'} (h : DExtS R' S w w') : SRel R' S w w' := by
  refine ⟨fun d _ => by rw [h.same.2.1], h.same.2.2.2.2.2.2, fun x hx => ?_, fun f _ => congrFun h.same.1 f,
    fun t _ => h.ran t⟩
  rcases h.recs x hx with e | e <;> rw [e]
  · exact RecKeep.refl _ _
  · exact ⟨rfl, rfl, rfl, Or.inr rfl, id⟩

theorem DExtS.setRec_out {R' S w w'} (h : DExtS R' S w w') {f : Nat} (r : Rec) (hf : ¬ S f) :
    DExtS R' S w (setRec w' f r) :=
  ⟨h.same.trans (SameButRecs.setRec w' f r), fun x hx => by
    have : x ≠ f := fun e => hf (e ▸ hx)
    simp only [setRec, this, if_false]; exact h.recs x hx, h.ran⟩

theorem DExtS.mark {R' S w w'} (h : DExtS R' S w w') (f : Nat) :
    DExtS R' S w (setRec w' f { w.recs f with checked := some R' }) :=
  ⟨h.same.trans (SameButRecs.setRec w' f _), fun x hx => by
    by_cases e : x = f
    · subst e; right; simp [setRec]
    · simp only [setRec, e, if_false]; exact h.recs x hx, h.ran⟩

theorem DExtS.mark' {R' S w w'} (h : DExtS R' S w w') (f : Nat) (r' : Rec)
    (e : r' = { w.recs f with checked := some R' }) : DExtS R' S w (setRec w' f r') := e ▸ h.mark f

theorem DExtS.evWarn {R' S w w'} (h : DExtS R' S w w') (f : Nat) : DExtS R' S w (ev w' (.warnOverride f)) :=
  ⟨h.same.trans (SameButRecs.ev w' _), h.recs, fun t ht => by
    simp only [ev, List.mem_cons] at ht
    rcases ht with e | ht
    · cases e
    · exact h.ran t ht⟩

/-- The working copy of a member's record: the record but for an older `checked`. -/
def SnapS (w : World) (f : Nat) (r : Rec) : Prop := ∃ c, r = { w.recs f with checked := c }

theorem SnapS.ext {R' S w w' f r} (hs : SnapS w f r) (h : DExtS R' S w w') (hf : S f) : SnapS w' f r := by
  obtain ⟨c, e⟩ := hs
  refine ⟨c, ?_⟩
  rcases h.recs f hf with e1 | e1 <;> rw [e1, e]

theorem isDirty_frameS {R' S} (ood : Bool) (fuel : Nat) (w : World) (cache : List Nat) (f mx : Nat) (seen : List Nat)
    (pre : Option Rec) (hq : SSet R' S w) (hpre : S f → ∀ s, pre = some s → SnapS w f s) :
    DExtS R' S w (isDirty ood R' fuel w cache f mx seen pre).2.1 := by
  refine isDirty_writes_snap (P := SSet R' S) (Q := fun w f r => S f → SnapS w f r) (DExtS.refl R' S) DExtS.trans
    (fun h hq => hq.step h.toRel) (fun h _ hs hf => (hs hf).ext h hf)
    (fun w f hq hf => by rw [getRec_of_ne (hq f hf).ne0]; exact ⟨_, rfl⟩) (fun w f r hq hs hst _ _ => ?_)
    (fun _ w f r _ hs _ _ => ?_) (fun _ w f => (DExtS.refl R' S w).evWarn f) fuel w cache f mx seen pre hq
    (fun s e hf => hpre hf s e)
  · -- a file of `S` carries its current stamp
    refine (DExtS.refl R' S w).setRec_out _ fun hS => hst ?_
    obtain ⟨c, e⟩ := hs hS
    rw [e]
    exact (hq f hS).stamp
  · by_cases hS : S f
    · obtain ⟨c, e⟩ := hs hS
      exact (DExtS.refl R' S w).mark' f _ (by rw [e])
    · exact (DExtS.refl R' S w).setRec_out _ hS

/-! ### Asked about a member of a settled set, with a bound that covers the member's `changed` mark, the dirtiness check
answers clean (or gives up for lack of fuel / on a cycle: `cyclic`) — never dirty. -/

/-- A working copy that still shows every recorded `m` dependency to be no newer than the copy. -/
def SnapQ (w : World) (f : Nat) (r : Rec) : Prop :=
  SnapS w f r ∧ (genT r = true → ∀ d ∈ w.deps, d.target = f → d.modeM = true →
    ∀ c, (w.recs d.source).changed = some c → c ≤ Mof r)

theorem SnapQ.self {R' S w f} (hq : SAt R' S w f) : SnapQ w f (w.recs f) :=
  ⟨⟨_, rfl⟩, fun hg d hd ht hm => (hq.rowsM hg d hd ht hm).2⟩

theorem DExtS.changed {R' S w w'} (h : DExtS R' S w w') {x : Nat} (hx : S x) :
    (w'.recs x).changed = (w.recs x).changed := by
  rcases h.recs x hx with e | e <;> rw [e]

theorem SnapQ.ext {R' S w w' f r} (hs : SnapQ w f r) (hq : SSet R' S w) (h : DExtS R' S w w') (hf : S f) :
    SnapQ w' f r := by
  refine ⟨hs.1.ext h hf, fun hg d hd ht hm c hc => ?_⟩
  rw [h.same.2.1] at hd
  obtain ⟨c0, e⟩ := hs.1
  have hgw : genT (w.recs f) = true := by rw [e] at hg; exact hg
  have hS := ((hq f hf).rowsM hgw d hd ht hm).1
  rw [h.changed hS] at hc
  exact hs.2 hg d hd ht hm c hc

/-- The recorded `m` rows of members lead strictly downwards in `rank` (what bounds the depth of the check). -/
def RowsLt (rank : Nat → Nat) (S : Nat → Prop) (D : List Dep) : Prop :=
  ∀ d ∈ D, S d.target → d.modeM = true → rank d.source < rank d.target

theorem isDirty_quietS {R' S} (rank : Nat → Nat) (D : List Dep) (ood : Bool) :
    ∀ (fuel f : Nat) (seen : List Nat) (w : World) (cache : List Nat) (pre : Option Rec) (mx : Nat),
    SSet R' S w → w.deps = D → S f → (∀ c, (w.recs f).changed = some c → c ≤ mx) → (∀ s, pre = some s → SnapQ w f s) →
    DExtS R' S w (isDirty ood R' fuel w cache f mx seen pre).2.1 ∧
    ((isDirty ood R' fuel w cache f mx seen pre).1 = .clean ∨
      ((isDirty ood R' fuel w cache f mx seen pre).1 = .cyclic ∧ (RowsLt rank S D → ¬ FuelOk rank fuel seen f)))
  | 0, f, seen, w, cache, pre, mx, _, _, _, _, _ =>
    ⟨DExtS.refl _ _ _, Or.inr ⟨rfl, fun _ h => by have := h.1; omega⟩⟩
  | fuel + 1, f, seen, w, cache, pre, mx, hq, hD, hf, hmx, hpre => by
    have hqa := hq f hf
    refine ⟨isDirty_frameS ood (fuel + 1) w cache f mx seen pre hq (fun _ s e => (hpre s e).1), ?_⟩
    by_cases hseen : f ∈ seen
    · rw [isDirty_seen _ _ _ _ _ _ _ _ _ hseen]
      exact Or.inr ⟨rfl, fun _ h => by have := h.2 f hseen; omega⟩
    have hs : SnapQ w f (pre.getD (getRec w R' f)) := by
      cases pre with
      | none => simp only [Option.getD_none]; rw [getRec_of_ne hqa.ne0]; exact SnapQ.self hqa
      | some s => exact hpre s rfl
    generalize hpr : pre.getD (getRec w R' f) = r at hs
    obtain ⟨⟨c, hre⟩, hmof⟩ := hs
    obtain ⟨ch, hch, _⟩ := hqa.ch
    have hrch : r.changed = some ch := by rw [hre]; exact hch
    rw [isDirty_of_current hpr.symm hseen (by rw [hre]; exact hqa.failed) hrch (hmx ch hch) (by rw [hre]; exact hqa.stamp)]
    cases (bif ood then decide (f ∈ cache) else isCheckedR r R')
    · -- not memoised: every row of a member is passed over (`B`: a row of `f` in `D`, with what `SAt` says of it)
      obtain ⟨hgo, -⟩ := goDeps_passed (hasCsum := r.csum.isSome) (f := f)
        (chk := fun w cache s snap => isDirty ood R' fuel w cache s (max ch (r.checked.getD 0)) (f :: seen) (some snap))
        (I := fun w1 => SSet R' S w1 ∧ w1.deps = D)
        (B := fun w1 p => p.1 ∈ D ∧ p.1.target = f ∧
          (p.1.modeM = true → S p.1.source ∧ SnapQ w1 p.1.source p.2 ∧
            ∀ c, (w1.recs p.1.source).changed = some c → c ≤ max ch (r.checked.getD 0)) ∧
          (p.1.modeM = false → existsF w1 p.1.source = false))
        (G := fun s => RowsLt rank S D → ¬ FuelOk rank fuel (f :: seen) s)
        (fun p w1 c1 hi hb hm => by
          obtain ⟨hS, hsn, hc⟩ := hb.2.2.1 hm
          obtain ⟨hx, hv⟩ := isDirty_quietS rank D ood fuel p.1.source (f :: seen) w1 c1 (some p.2) _ hi.1 hi.2 hS hc
            (fun s' e => by cases e; exact hsn)
          refine ⟨hv.imp_left fun hv => ⟨hv, fun q hb' => ⟨hb'.1, hb'.2.1, fun h => ?_, fun h => ?_⟩⟩,
            hi.1.step hx.toRel, hx.same.2.1.trans hi.2⟩
          · obtain ⟨a1, a2, a3⟩ := hb'.2.2.1 h
            exact ⟨a1, a2.ext hi.1 hx a1, fun c hc => a3 c (by rwa [hx.changed a1] at hc)⟩
          · rw [existsF_congr (congrFun hx.same.1 _)]; exact hb'.2.2.2 h)
        (fun p w1 hi hb hm => hb.2.2.2 hm) (depsWithRecs w R' r f) w cache ⟨hq, hD⟩ (fun p hp => by
          obtain ⟨d, hd, rfl⟩ := List.mem_map.1 hp
          obtain ⟨hg, hd1, hd2⟩ := mem_depsOf.1 hd
          have hgt : genT r = true := genT_true.2 ⟨hg.2, hg.1⟩
          have hgw : genT (w.recs f) = true := by rw [hre] at hgt; exact hgt
          refine ⟨hD ▸ hd1, hd2, fun hm => ?_, fun hm => (hqa.rowsC hgw d hd1 hd2 hm).1⟩
          have hS := (hqa.rowsM hgw d hd1 hd2 hm).1
          refine ⟨hS, by rw [getRec_of_ne (hq _ hS).ne0]; exact SnapQ.self (hq _ hS), fun c' hc' => ?_⟩
          have := hmof hgt d hd1 hd2 hm c' hc'
          unfold Mof at this; rw [hrch] at this; simpa using this)
      rcases hgo with h | ⟨h, p, hp, hpm, hpf⟩
      · exact Or.inl (closeWalk_fst_of_none h)
      · rw [cond_false, closeWalk_of_some h]
        refine Or.inr ⟨rfl, fun hlt hfo => hpf hlt (Deps.FuelOk.child hfo ?_)⟩
        obtain ⟨d, hd, rfl⟩ := List.mem_map.1 hp
        obtain ⟨-, hd1, hd2⟩ := mem_depsOf.1 hd
        exact hd2 ▸ hlt d (hD ▸ hd1) (by rw [hd2]; exact hf) hpm
    · exact Or.inl rfl

/-! ### A whole `redo-ifchange` leaves a settled set `S` settled and runs none of its members: `SRel` is a frame of the
engine, for targets outside `S`; the job on a member finds it clean. -/

/-- The context of a `redo-ifchange` of run `R'` whose calling script (if any) is not a member. -/
def CxOk (R' : Nat) (S : Nat → Prop) (cx : Ctx) : Prop :=
  cx.runid = R' ∧ cx.isRedo = false ∧ ∀ p, cx.parent = some p → ¬ S p

theorem findDoFile_srel {R' S} {t : Nat} (ht : ¬ S t) (cs : List Nat) (w : World) : SRel R' S w (findDoFile t cs w).2 :=
  findDoFile_rel (SRel.refl R' S) SRel.trans (fun w c m => SRel.addDep w c m ht) cs w

theorem recordNewState_srel {R' S} (w : World) (cx : Ctx) {t : Nat} (ht : ¬ S t) (hr : w.rules t ≠ []) (sf : Rec)
    (rv : Status) (out : Option Content) : SRel R' S w (recordNewState cx t sf rv out w).2 := by
  unfold recordNewState
  split
  · cases out with
    | none =>
      exact ((SRel.setFile w none ht hr).trans (SRel.zapDeps2 _ ht)).trans (SRel.setRec_out _ _ ht)
    | some c =>
      exact (((SRel.clock w (w.clock + 1)).trans (SRel.setFile _ _ ht hr)).trans (SRel.zapDeps2 _ ht)).trans
        (SRel.setRec_out _ _ ht)
  · exact (SRel.zapDeps2 w ht).trans (SRel.setRec_out _ _ ht)

/-- `should_build` of a member: clean, or the check gave up (`cyclic`, which it cannot when the rows of the members
lead downwards in `rank` and the fuel exceeds the rank); never dirty. -/
theorem shouldBuild_member {R' S fuel t w} {cx : Ctx} (rank : Nat → Nat) (hcx : CxOk R' S cx) (hq : SSet R' S w)
    (ht : S t) :
    DExtS R' S w (shouldBuild cx fuel t w).2 ∧
    ((shouldBuild cx fuel t w).1 = some .clean ∨
      ((shouldBuild cx fuel t w).1 = some .cyclic ∧ (RowsLt rank S w.deps → ¬ rank t < fuel))) := by
  obtain ⟨hrun, hredo, _⟩ := hcx
  have hqa := hq t ht
  unfold shouldBuild
  simp only [hredo, Bool.false_eq_true, if_false, hrun]
  have hnf : isFailedR (getRec w R' t) R' = false := by
    rw [getRec_of_ne hqa.ne0]; unfold isFailedR; rw [hqa.failed]
  simp only [hnf, Bool.false_eq_true, if_false]
  have h := isDirty_quietS (R' := R') (S := S) rank w.deps false fuel t [] w [] none R' hq rfl ht
    (fun c hc => by obtain ⟨ch, e, hle⟩ := hqa.ch; rw [e] at hc; cases hc; exact hle) (fun s e => by cases e)
  generalize isDirty false R' fuel w [] t R' [] none = r at h
  obtain ⟨dr, w1, c⟩ := r
  obtain ⟨hx, h⟩ := h
  dsimp only at hx h ⊢
  rcases h with h | ⟨h, h'⟩ <;> subst h
  · exact ⟨hx, Or.inl rfl⟩
  · exact ⟨hx, Or.inr ⟨rfl, fun hlt hf => h' hlt (FuelOk.top hf)⟩⟩

theorem shouldBuild_frameS {R' S fuel t w} {cx : Ctx} (hcx : CxOk R' S cx) (hq : SSet R' S w) :
    DExtS R' S w (shouldBuild cx fuel t w).2 := by
  obtain ⟨hrun, hredo, _⟩ := hcx
  unfold shouldBuild
  simp only [hredo, Bool.false_eq_true, if_false, hrun]
  split
  · exact DExtS.refl _ _ _
  · have h := isDirty_frameS (R' := R') (S := S) false fuel w [] t R' [] none hq (fun _ s e => by cases e)
    generalize isDirty false R' fuel w [] t R' [] none = r at h
    obtain ⟨dr, w1, c⟩ := r
    exact h

theorem srel_frame (R' : Nat) (S : Nat → Prop) :
    EngineFrame (CxOk R' S) (SSet R' S) (fun t => ¬ S t) (fun _ _ => True) (fun _ => True) (SRel R' S) where
  refl := SRel.refl R' S
  trans := SRel.trans
  keepP := fun h hq => hq.step h
  keepA := fun _ _ => trivial
  child := fun hcx ht => ⟨hcx.1, rfl, fun p hp => by cases hp; exact ht⟩
  oob1 := fun hcx d _ => ⟨hcx.1, rfl, fun p hp => by
    dsimp only at hp
    split at hp
    · exact hcx.2.2 p hp
    · cases hp⟩
  oob2 := fun hcx => ⟨hcx.1, rfl, hcx.2.2⟩
  parent := fun hcx hp => hcx.2.2 _ hp
  script := fun _ _ _ => trivial
  addKnown := SRel.addKnown
  ownRec := fun w ht _ => SRel.setRec_out w _ ht
  dofRec := fun w dof hcx hq => by rw [hcx.1]; exact SRel.setStatic hq dof
  alwaysRec := fun w _ _ hq => SRel.setRec_out w _ hq.not0
  evWarn := SRel.evWarn
  evRan := fun w ht => SRel.evRan w ht
  zapDeps1 := fun w ht => SRel.zapDeps1 w ht
  findDo := fun w ht _ => findDoFile_srel ht _ w
  addDepM := fun w s ht => SRel.addDep w s true ht
  addDepC := fun w f ht _ _ _ => SRel.addDep w f false ht
  record := fun rv out _ w _ _ ht _ hdm _ h _ _ =>
    h.trans (recordNewState_srel w _ ht (by rw [h.rules]; exact List.ne_nil_of_mem hdm) _ rv out)
  dirty := fun _ _ _ hcx hq => (shouldBuild_frameS hcx hq).toRel
  -- the job on a member: `should_build` answers clean, or gives up
  other := fun E d fuel t w _ hcx hq ht => by
    obtain ⟨hx, hv⟩ := shouldBuild_member (fuel := fuel) (fun _ => 0) hcx hq (Classical.not_not.1 ht)
    unfold buildJob
    generalize shouldBuild _ fuel t w = sb at hx hv
    obtain ⟨o, w1⟩ := sb
    dsimp only at hx hv ⊢
    rcases hv with h | ⟨h, _⟩ <;> subst h <;> exact hx.toRel

/-- **A settled set is left alone by a whole top-level `redo-ifchange`**: it is still settled afterwards, none of its
members' scripts was executed, none of its members' files was touched. -/
theorem ifchange_leaves_settled {S : Nat → Prop} {w : World} (d : Defects) (n : Nat) (ts : List Nat) (kg : Bool)
    (hq : SSet (w.runCounter + 1) S w) :
    SRel (w.runCounter + 1) S w (runCmd d n (.ifchange ts kg) w).2 := by
  have h0 : SRel (w.runCounter + 1) S w (allocRun w).2 :=
    ⟨fun _ _ => Iff.rfl, rfl, fun _ _ => RecKeep.refl _ _, fun _ _ => rfl, fun _ _ h => h⟩
  have F := srel_frame (w.runCounter + 1) S
  exact h0.trans (F.runTargets (F.engine d (2 * n + 4)) d (cx := { runid := w.runCounter + 1, keepGoing := kg })
    ⟨rfl, rfl, (fun p hp => by cases hp)⟩ (2 * n + 4) ts [] false (allocRun w).2 (hq.step h0))

/-! ### Commands over members of a settled set whose rows lead downwards in `rank`: `redo-ifchange` runs nothing,
`redo-ood` lists nothing. -/

/-- The job on a member whose rows lead downwards and whose rank the fuel exceeds: `should_build` answers clean. -/
theorem buildJob_member {R' S fuel t w} {cx : Ctx} (rank : Nat → Nat) (E : Engine) (d : Defects) (hcx : CxOk R' S cx)
    (hq : SSet R' S w) (hlt : RowsLt rank S w.deps) (ht : S t) (hf : rank t < fuel) :
    (buildJob E d cx fuel t w).1 = .done 0 ∧ DExtS R' S w (buildJob E d cx fuel t w).2 := by
  obtain ⟨hx, hv⟩ := shouldBuild_member (fuel := fuel) rank hcx hq ht
  have hclean : (shouldBuild cx fuel t w).1 = some .clean := hv.resolve_right fun h => h.2 hlt hf
  unfold buildJob
  generalize shouldBuild cx fuel t w = sb at hx hclean
  obtain ⟨o, w1⟩ := sb
  subst hclean
  exact ⟨rfl, hx⟩

theorem runTargets_members {R' S fuel} {cx : Ctx} (rank : Nat → Nat) (E : Engine) (d : Defects) (hcx : CxOk R' S cx)
    (hcyc : cx.cycles = []) (ts seen : List Nat) (w : World) (hq : SSet R' S w) (hlt : RowsLt rank S w.deps)
    (hts : ∀ t ∈ ts, S t ∧ rank t < fuel) :
    (runTargets E d cx fuel ts seen false w).1 = 0 ∧ (runTargets E d cx fuel ts seen false w).2.fs = w.fs ∧
    (∀ t, Ev.ran t ∈ (runTargets E d cx fuel ts seen false w).2.trace → Ev.ran t ∈ w.trace) := by
  -- along the loop the set stays settled, its rows lead downwards, and no file or script has been touched since `w`
  refine (runTargets_zero (E := E) (d := d) (cx := cx) (fuel := fuel)
    (S := fun w' => SSet R' S w' ∧ RowsLt rank S w'.deps ∧ w'.fs = w.fs ∧ ∀ t, Ev.ran t ∈ w'.trace → Ev.ran t ∈ w.trace)
    (B := fun _ t => S t ∧ rank t < fuel) (fun t w' hs _ => ?_) (fun t _ _ _ => by simp [hcyc]) (fun t w' hs hb => ?_)
    ts seen w ⟨hq, hlt, rfl, fun _ h => h⟩ hts).imp id (fun h => ⟨h.2.2.1, h.2.2.2⟩)
  · obtain ⟨s1, s2, s3, s4⟩ := hs
    have e := WEqv.addKnown w' t
    exact ⟨⟨s1.step (SRel.addKnown w' t), by rw [e.deps]; exact s2, e.fs.trans s3, fun t' h => s4 t' (addKnown_trace w' t ▸ h)⟩,
      fun _ h => h⟩
  · obtain ⟨s1, s2, s3, s4⟩ := hs
    obtain ⟨hz, hx⟩ := buildJob_member rank E d hcx s1 s2 hb.1 hb.2
    exact ⟨hz, ⟨s1.step hx.toRel, by rw [hx.same.2.1]; exact s2, hx.same.1.trans s3, fun t' h => s4 t' (hx.ran t' h)⟩,
      fun _ h => h⟩

/-- `redo-ifchange ts` over members: exit 0, nothing executed, no file touched. -/
theorem ifchange_members_quiet {rank S n w} (d : Defects) (hq : SSet (w.runCounter + 1) S w)
    (hlt : RowsLt rank S w.deps) (hN : ∀ f, rank f < n) (ts : List Nat) (kg : Bool) (hts : ∀ t ∈ ts, S t) :
    (runCmd d n (.ifchange ts kg) w).1.status = 0 ∧
    (∀ t, Ev.ran t ∈ (runCmd d n (.ifchange ts kg) w).2.trace → Ev.ran t ∈ w.trace) ∧
    (runCmd d n (.ifchange ts kg) w).2.fs = w.fs := by
  have h0 : SRel (w.runCounter + 1) S w (allocRun w).2 :=
    ⟨fun _ _ => Iff.rfl, rfl, fun _ _ => RecKeep.refl _ _, fun _ _ => rfl, fun _ _ h => h⟩
  obtain ⟨a1, a2, a3⟩ := runTargets_members (R' := w.runCounter + 1) (S := S) (fuel := 2 * n + 4)
    (cx := { runid := w.runCounter + 1, keepGoing := kg }) rank (engine d (2 * n + 4)) d
    ⟨rfl, rfl, (fun p hp => by cases hp)⟩ rfl ts [] (allocRun w).2 (hq.step h0) hlt
    (fun t ht => ⟨hts t ht, by have := hN t; omega⟩)
  exact ⟨a1, a3, a2⟩

theorem oodGo_quiet {rank R' S fuel} (fs : List Nat) (w : World) (cache acc : List Nat) (hq : SSet R' S w)
    (hlt : RowsLt rank S w.deps) (hfs : ∀ f ∈ fs, S f ∧ rank f < fuel) :
    (runCmd.go R' fuel fs w cache acc).1 = acc.reverse := by
  fun_induction runCmd.go R' fuel fs w cache acc with
  | case1 w cache acc => rfl
  | case2 f fs w cache acc dr w1 c1 hd ih =>
    obtain ⟨hf, hfu⟩ := hfs f List.mem_cons_self
    have h := isDirty_quietS (R' := R') (S := S) rank w.deps true fuel f [] w cache none R' hq rfl hf
      (fun c hc => by obtain ⟨ch, e, hle⟩ := (hq f hf).ch; rw [e] at hc; cases hc; exact hle) (fun s e => by cases e)
    rw [hd] at h
    obtain ⟨hx, h | ⟨_, h⟩⟩ := h
    · -- a member is clean: nothing is listed
      dsimp only at h
      subst h
      exact ih (hq.step hx.toRel) (by rw [hx.same.2.1]; exact hlt) (fun f' hf' => hfs f' (List.mem_cons_of_mem _ hf'))
    · exact absurd (FuelOk.top hfu) (h hlt)

/-- `redo-ood` over a world whose targets are all members prints nothing. -/
theorem ood_quiet {rank S n w} (d : Defects) (hq : SSet (w.runCounter + 1) S w) (hlt : RowsLt rank S w.deps)
    (hN : ∀ f, rank f < n) (hall : ∀ f, f < n → known w f = true → isTarget w (w.runCounter + 1) f = true → S f) :
    (runCmd d n .ood w).1.listing = [] := by
  rw [ood_listing_eq]
  refine oodGo_quiet (rank := rank) (S := S) _ _ [] [] (hq.user rfl rfl rfl (fun _ _ => rfl)) hlt (fun f hf => ?_)
  simp only [knownFiles, List.mem_filter, List.mem_range] at hf
  obtain ⟨⟨hlt', hk⟩, ht⟩ := hf
  refine ⟨hall f hlt' ?_ ?_, by have := hN f; omega⟩
  · rw [← known_congr (w := w) (w2 := { w with runCounter := w.runCounter + 1 }) rfl]; exact hk
  · rw [← isTarget_congr (w := w) (w2 := { w with runCounter := w.runCounter + 1 }) rfl rfl]; exact ht

/-! ### What may happen between a successful build of `ts` and the next `redo-ifchange ts` without giving the latter
anything to do: the closure of `ts` stays settled (`ifchange_leaves_settled`). -/

/-- What the user may do between the two commands without making the second one run anything: touch (create, edit,
remove, chmod, move away, move back) files outside the closure `C`, give meaning to .do contents, ask
`redo-ood` / `redo-targets` / `redo-sources`, and run `redo-ifchange` on anything. -/
def Harmless (C : Nat → Prop) : UserOp → Prop
  | .write f _ => ¬ C f
  | .remove f => ¬ C f
  | .chmod f => ¬ C f
  | .hide f => ¬ C f
  | .unhide f => ¬ C f
  | .setProg _ _ => True
  | .cmd c => c = .ood ∨ c = .targets ∨ c = .sources ∨ ∃ ts kg, c = .ifchange ts kg
  | .crashCmd _ _ _ => False

/-- The invariant between the two commands. -/
structure Between (rank : Nat → Nat) (S C : Nat → Prop) (w : World) : Prop where
  set : SSet (w.runCounter + 1) S w
  lt : RowsLt rank S w.deps
  clo : ∀ d ∈ w.deps, S d.target → C d.source

theorem runCmd_ifchange_rc (d : Defects) (n : Nat) (ts : List Nat) (kg : Bool) (w : World) :
    (runCmd d n (.ifchange ts kg) w).2.runCounter = w.runCounter + 1 :=
  (Once.runTargets_keeps (Once.engine_keeps d _) (allocRun w).2 d _ _ ts [] false (allocRun w).2 (Once.Keeps.refl _)).1

theorem Between.user {rank S C w w'} (hb : Between rank S C w) (hSC : ∀ f, S f → C f) (hrecs : w'.recs = w.recs)
    (hdeps : w'.deps = w.deps) (hrules : w'.rules = w.rules) (hfs : ∀ f, C f → w'.fs f = w.fs f)
    (hrc : w.runCounter ≤ w'.runCounter) : Between rank S C w' :=
  ⟨(hb.set.user hrecs hdeps hrules (fun f hf => hfs f (by
      rcases hf with h | ⟨d, hd, hs, rfl⟩
      · exact hSC f h
      · exact hb.clo d hd hs))).mono (by omega),
   by rw [hdeps]; exact hb.lt, by rw [hdeps]; exact hb.clo⟩

theorem applyOp_between {rank S C} (hSC : ∀ f, S f → C f) (d : Defects) (n : Nat) (op : UserOp) (h : Harmless C op)
    (w : World) (hb : Between rank S C w) : Between rank S C (applyOp d n op w).2 := by
  revert h
  refine applyOp_cases d n w (P := fun op w' => Harmless C op → Between rank S C w')
    (fun op w' hrecs hdeps hrules hrc _ hfs _ h => ?_) (fun c _ _ => ?_) (fun ts kg r h => ?_) (fun _ _ _ h => h.elim) op
  · -- the file touched lies outside the closure
    refine hb.user hSC hrecs hdeps hrules (fun g hg => hfs g fun e => ?_) (Nat.le_of_eq hrc.symm)
    cases op <;> cases e <;> exact h hg
  · exact hb.user hSC rfl rfl rfl (fun _ _ => rfl) (Nat.le_succ _)
  · cases r with
    | true => rcases h with h | h | h | ⟨_, _, h⟩ <;> cases h
    | false =>
      have hrel := ifchange_leaves_settled d n ts kg hb.set
      have hrc := runCmd_ifchange_rc d n ts kg w
      exact ⟨(hb.set.step hrel).mono (Nat.succ_le_succ (Nat.le_of_lt (Nat.lt_of_lt_of_eq (Nat.lt_succ_self _) hrc.symm))),
        fun dd hd hs hm => hb.lt dd ((hrel.deps dd hs).1 hd) hs hm, fun dd hd hs => hb.clo dd ((hrel.deps dd hs).1 hd) hs⟩

theorem foldl_between {rank S C} (hSC : ∀ f, S f → C f) (d : Defects) (n : Nat) (us : List UserOp) (w : World)
    (h : ∀ u ∈ us, Harmless C u) (hb : Between rank S C w) :
    Between rank S C (us.foldl (fun w op => (applyOp d n op w).2) w) :=
  history_inv d n us w hb fun u hu w hb => applyOp_between hSC d n u (h u hu) w hb

/-! ### After a successful top-level command the good part of the recorded closure of its targets is settled, and stays
so under `Harmless` operations (`Between`). -/

def GoodReach (w : World) (R : Nat) (ts : List Nat) (f : Nat) : Prop := RecReach w ts f ∧ Good w R f

theorem QAt_of_good {rank R X w ts f} (hi : Inv rank R X w) (h0 : ¬ RecReach w ts alwaysId)
    (hf : GoodReach w R ts f) : QAt R (GoodReach w R ts) w f := by
  obtain ⟨hr, hg⟩ := hf
  have hne : f ≠ alwaysId := fun e => h0 (e ▸ hr)
  have hrc := hg.recCur hi
  have hch : ∃ ch, (w.recs f).changed = some ch ∧ ch ≤ R := by
    cases hc : (w.recs f).changed with
    | none => exact absurd hc hrc.2.1
    | some c => exact ⟨c, rfl, hi.base.chLe f c hc⟩
  refine ⟨hne, hrc.1, hch, hrc.2.2, fun hgt => ?_, fun hgt d hd ht hm => ?_, fun hgt d hd ht hm => ?_⟩
  all_goals
    have hv : VerR w R f := by
      rcases hg with hv | ⟨_, _, h⟩
      · exact hv
      · rw [hgt] at h; cases h
  · exact Nat.le_of_eq (hv.Mof_eq hi.base).symm
  · exact ⟨RecReach.step hr hd ht, ((hi.ver f hv).2.2 hgt d hd ht).1 hm⟩
  · exact ((hi.ver f hv).2.2 hgt d hd ht).2 hm

theorem QSet_of_good {rank R X w ts} (hi : Inv rank R X w) (h0 : ¬ RecReach w ts alwaysId) :
    QSet rank R (GoodReach w R ts) w :=
  ⟨fun _ hf => QAt_of_good hi h0 hf, hi.base.rowsLt⟩

/-- The situation right after a successful build whose recorded closure holds no `//ALWAYS` row. -/
theorem between_after_build {rank n w} (hN : ∀ f, rank f < n) (hb : Btw rank w) (ts : List Nat) (kg forced : Bool)
    (hts0 : ∀ t ∈ ts, t ≠ alwaysId)
    (hz : (runCmd {} n (if forced then .redo ts kg else .ifchange ts kg) w).1.status = 0)
    (hna : ¬ RecReach (runCmd {} n (if forced then .redo ts kg else .ifchange ts kg) w).2 ts alwaysId) :
    ∃ S : Nat → Prop, (∀ t ∈ ts, S t) ∧
      (∀ f, S f → RecReach (runCmd {} n (if forced then .redo ts kg else .ifchange ts kg) w).2 ts f) ∧
      Between rank S (RecReach (runCmd {} n (if forced then .redo ts kg else .ifchange ts kg) w).2 ts)
        (runCmd {} n (if forced then .redo ts kg else .ifchange ts kg) w).2 := by
  have key : ∃ w1, (runCmd {} n (if forced then .redo ts kg else .ifchange ts kg) w).2 = w1 ∧
      Inv rank (w.runCounter + 1) NoX w1 ∧ w1.runCounter = w.runCounter + 1 ∧
      ∀ t ∈ ts, Good w1 (w.runCounter + 1) t := by
    cases forced with
    | true =>
      obtain ⟨a1, a2, _, a3⟩ := top_runG (cx := { runid := w.runCounter + 1, keepGoing := kg, isRedo := true }) {} hN hb
        rfl rfl rfl ts hts0
      exact ⟨_, rfl, a1, a2, a3 hz⟩
    | false =>
      obtain ⟨a1, a2, _, a3⟩ := top_runG (cx := { runid := w.runCounter + 1, keepGoing := kg }) {} hN hb
        rfl rfl rfl ts hts0
      exact ⟨_, rfl, a1, a2, a3 hz⟩
  obtain ⟨w1, e, hi, hrc, hg⟩ := key
  rw [e] at hna ⊢
  have hq := QSet_of_good hi hna
  have hs := SSet_of_QSet hq hi.base.ckLe (fun d hd hm => (hi.base.cPlain d hd hm).1)
  refine ⟨GoodReach w1 (w.runCounter + 1) ts, fun t ht => ⟨RecReach.base ht, hg t ht⟩, fun f hf => hf.1,
    hs.mono (by omega), fun d hd _ _ => hi.base.rowsLt d hd, fun d hd hS => RecReach.step hS.1 hd rfl⟩

end RedoModel.Deps.Rich
