import RedoModel.Lemmas.DepsSoundREx
import RedoModel.Lemmas.DepsQuietHistory
import RedoModel.Lemmas.DepsCmdFrameR
import RedoModel.Lemmas.DepsEval
/-!
Concrete histories for the C02 / C17 theorems of `DepsQuiet*`: `ddOps` (non-vacuity, and the `dropped_dep` corollary)
and `alOps` (the hypothesis on `//ALWAYS` is necessary).

Target 2 is built by the .do file 1.  The first script (`sA`, content `[17]`) declares and reads the sources 4 and 5;
the user builds 2, then replaces the .do file by one (`sB`, content `[19]`) that declares and reads 4 only, and
builds 2 again (`redo 2`).  From then on 5 is no longer in the recorded closure of 2.
-/
namespace RedoModel.Deps.Rich
open RedoModel.Generated

def sA : Script := { ifchange := [[4, 5]], reads := [4, 5], tag := 1 }
def sB : Script := { ifchange := [[4]], reads := [4], tag := 2 }
def ddOps : List UserOp :=
  [.setProg [17] sA, .setProg [19] sB, .write 1 7, .write 4 0, .write 5 0, .cmd (.redo [2] false), .write 1 8]
def ddW : World := ddOps.foldl (fun w op => (applyOp {} 6 op w).2) (initWorld cxRules)
def ddRes : Result × World := runCmd {} 6 (.redo [2] false) ddW

theorem dd_status : ddRes.1.status = 0 := by decide +kernel
theorem dd_ran : ddRes.2.trace = [.ran 2, .ran 2] := by decide +kernel
theorem dd_deps : ddRes.2.deps.map (fun d => (d.target, d.source)) = [(2, 4), (2, 1)] := by decide +kernel

theorem dd_ops : ∀ op ∈ ddOps, RichOp cxRules op := by decide +kernel

theorem dd_ranked : ∀ w ∈ worldsOf 6 {} (initWorld cxRules) ddOps, RankedR cxRank w :=
  rankedR_history 6 {} cx_rulesOk cx_support (by decide +kernel) (by decide +kernel)

theorem dd_opsOk : OpsOkW 6 (initWorld cxRules) ddOps := by
  refine ⟨?_, ?_, trivial, trivial, trivial, trivial, trivial, trivial⟩
  · intro t dof _ n hn; cases hn
  · intro t dof _ n hn; cases hn

theorem dd_rankLt : ∀ f, cxRank f < 6 := fun f => Nat.lt_trans (cxRank_lt f) (by decide)

/-- The recorded closure of 2 after the second build: 2, its .do file 1, the source 4 — not 5, not `//ALWAYS`. -/
theorem dd_closure {f : Nat} (h : RecReach ddRes.2 [2] f) : f ∈ [2, 4, 1] :=
  RecReach.sub [2, 4, 1] (by simp) (by
    intro d hd
    have : (d.target, d.source) ∈ ddRes.2.deps.map (fun d => (d.target, d.source)) := List.mem_map.2 ⟨d, hd, rfl⟩
    rw [dd_deps] at this
    simp only [List.mem_cons, Prod.mk.injEq, List.not_mem_nil, or_false] at this
    rcases this with ⟨a, b⟩ | ⟨a, b⟩ <;> simp [a, b]) h

theorem dd_no_always : ¬ RecReach ddRes.2 [2] alwaysId := fun h => by
  have := dd_closure h; simp [alwaysId] at this

theorem dd_five_out : ¬ RecReach ddRes.2 [2] 5 := fun h => by
  have := dd_closure h; simp at this

/-! ### Non-vacuity of the C02 / C17 theorems on `ddOps` -/

/-- Non-vacuity of `C02.repeat_runs_nothing` / `unrelated_change_runs_nothing`: every hypothesis holds for `ddOps`,
`redo 2`. -/
example : (runCmd {} 6 (.ifchange [2] false) { ddRes.2 with trace := [] }).1.status = 0 ∧
    (∀ t, Ev.ran t ∉ (runCmd {} 6 (.ifchange [2] false) { ddRes.2 with trace := [] }).2.trace) ∧
    (runCmd {} 6 (.ifchange [2] false) { ddRes.2 with trace := [] }).2.fs = ddRes.2.fs :=
  otherBuildsQuiet 6 cxRules cxRank ddOps [2] false true cx_rulesOk dd_ops dd_ranked dd_rankLt dd_opsOk
    (by simp [alwaysId]) [] false dd_status dd_no_always (fun _ hu => nomatch hu)

theorem dd_all_targets :
    ∀ f, f < 6 → known ddRes.2 f = true → isTarget ddRes.2 (ddRes.2.runCounter + 1) f = true → f ∈ [2] := by
  decide +kernel

theorem dd_is_target : known ddRes.2 2 = true ∧ isTarget ddRes.2 (ddRes.2.runCounter + 1) 2 = true := by
  decide +kernel

/-- Non-vacuity of `oodEmptyAfterBuild`: 2 is a known target, the build named every target. -/
example : (runCmd {} 6 .ood ddRes.2).1.listing = [] :=
  oodEmptyAfterBuild 6 cxRules cxRank ddOps [2] false true cx_rulesOk dd_ops dd_ranked dd_rankLt dd_opsOk
    (by simp [alwaysId]) dd_status dd_no_always dd_all_targets

/-! ### `runsOnlyForAReason`: the first build of 2 (never built) -/

def ddOps5 : List UserOp := [.setProg [17] sA, .setProg [19] sB, .write 1 7, .write 4 0, .write 5 0]
def ddW5 : World := ddOps5.foldl (fun w op => (applyOp {} 6 op w).2) (initWorld cxRules)

theorem dd5_ran : Ev.ran 2 ∈ (runCmd {} 6 (.ifchange [2] false) { ddW5 with trace := [] }).2.trace := by decide +kernel

theorem dd5_ops : ∀ op ∈ ddOps5, RichOp cxRules op :=
  fun op h => dd_ops op (List.mem_of_mem_take (i := 5) h)

theorem dd5_ranked : ∀ w ∈ worldsOf 6 {} (initWorld cxRules) ddOps5, RankedR cxRank w :=
  fun w h => dd_ranked w (worldsOf_take 6 {} 5 ddOps _ w h)

theorem dd5_opsOk : OpsOkW 6 (initWorld cxRules) ddOps5 := by
  refine ⟨?_, ?_, trivial, trivial, trivial, trivial⟩
  · intro t dof _ n hn; cases hn
  · intro t dof _ n hn; cases hn

/-- Non-vacuity of `runsOnlyForAReason`: a script really ran, and the theorem names a reason (here: never built). -/
example : Reason ddW5 2 :=
  runsOnlyForAReason 6 cxRules cxRank ddOps5 [2] false cx_rulesOk dd5_ops dd5_ranked dd_rankLt dd5_opsOk 2 dd5_ran

/-! ### The hypothesis "no `//ALWAYS` row in the recorded closure" is necessary (`C02.repeat_needs_no_always`) -/

def sAl : Script := { always := true }
def alOps : List UserOp := [.setProg [17] sAl, .write 1 7]
def alW : World := alOps.foldl (fun w op => (applyOp {} 3 op w).2) (initWorld cxRules)
def alRes1 : Result × World := runCmd {} 3 (.ifchange [2] false) alW
def alRes2 : Result × World := runCmd {} 3 (.ifchange [2] false) { alRes1.2 with trace := [] }

theorem al_status1 : alRes1.1.status = 0 := by decide +kernel
theorem al_always_row : (⟨2, alwaysId, true, false⟩ : Dep) ∈ alRes1.2.deps := by decide +kernel

theorem al_run2 : alRes2.1.status = 0 ∧ alRes2.2.trace = [.ran 2] := by
  unfold alRes2 alRes1 alW
  eval_model

theorem al_ops : ∀ op ∈ alOps, RichOp cxRules op := by decide +kernel

theorem al_ranked : ∀ w ∈ worldsOf 3 {} (initWorld cxRules) alOps, RankedR cxRank w :=
  rankedR_history 3 {} cx_rulesOk cx_support (by decide +kernel) (by decide +kernel)

theorem al_opsOk : OpsOkW 3 (initWorld cxRules) alOps := by
  refine ⟨?_, trivial, trivial⟩
  intro t dof _ n hn; cases hn

theorem al_rankLt : ∀ f, cxRank f < 3 := fun f => Nat.lt_trans (cxRank_lt f) (by decide)

/-- `C02.repeat_runs_nothing` without its hypothesis on `//ALWAYS`. -/
def RepeatQuietUnconditional : Prop :=
  ∀ (n : Nat) (rules : Nat → List Nat) (rank : Nat → Nat) (ops : List UserOp) (ts : List Nat) (kg kg2 : Bool),
    RulesOk rules → (∀ op ∈ ops, RichOp rules op) →
    (∀ w ∈ worldsOf n {} (initWorld rules) ops, RankedR rank w) → (∀ f, rank f < n) →
    OpsOkW n (initWorld rules) ops → (∀ t ∈ ts, t ≠ alwaysId) →
    let w := ops.foldl (fun w op => (applyOp {} n op w).2) (initWorld rules)
    let r1 := runCmd {} n (.ifchange ts kg) w
    r1.1.status = 0 →
    let r2 := runCmd {} n (.ifchange ts kg2) { r1.2 with trace := [] }
    ∀ t, Ev.ran t ∉ r2.2.trace

/-! ### Non-vacuity of `otherBuildsQuiet` on `ddOps` -/

def ddUs : List UserOp := [.write 5 9, .cmd (.ifchange [5, 4] false), .cmd .ood]
def ddW2 : World := ddUs.foldl (fun w op => (applyOp {} 6 op w).2) ddRes.2

/-- Non-vacuity (history `ddOps`): after the rebuild of 2, the user edits 5, builds 5 and 4 with `redo-ifchange`
(a different command, naming a member of the closure and a file outside it), asks `redo-ood`; then `redo-ifchange 2`
runs nothing. -/
theorem dd_other_builds :
    (runCmd {} 6 (.ifchange [2] false) { ddW2 with trace := [] }).1.status = 0 ∧
    (∀ t, Ev.ran t ∉ (runCmd {} 6 (.ifchange [2] false) { ddW2 with trace := [] }).2.trace) ∧
    (runCmd {} 6 (.ifchange [2] false) { ddW2 with trace := [] }).2.fs = ddW2.fs :=
  otherBuildsQuiet 6 cxRules cxRank ddOps [2] false true cx_rulesOk dd_ops dd_ranked dd_rankLt dd_opsOk
    (by simp [alwaysId]) ddUs false dd_status dd_no_always (fun u hu => by
      simp only [ddUs, List.mem_cons, List.not_mem_nil, or_false] at hu
      rcases hu with rfl | rfl | rfl
      · exact dd_five_out
      · exact Or.inr (Or.inr (Or.inr ⟨_, _, rfl⟩))
      · exact Or.inl rfl)

end RedoModel.Deps.Rich
