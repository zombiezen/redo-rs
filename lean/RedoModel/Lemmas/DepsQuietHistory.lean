import RedoModel.Lemmas.DepsQuiet
/-! C02, converse direction, and C17 (`redo-ood` lists nothing right after a successful full build), over rich
histories from the empty project. -/
namespace RedoModel.Deps.Rich
open RedoModel.Generated

/-- After any rich history, a successful `redo-ifchange ts` / `redo ts` whose recorded closure holds no `//ALWAYS`
row, then any `Harmless` activity — touching files outside the closure, queries, and `redo-ifchange` of anything:
`redo-ifchange ts` exits 0, executes nothing and touches no file. -/
theorem otherBuildsQuiet (n : Nat) (rules : Nat → List Nat) (rank : Nat → Nat) (ops : List UserOp) (ts : List Nat)
    (kg forced : Bool) (hr : RulesOk rules) (hp : ∀ op ∈ ops, RichOp rules op)
    (hrk : ∀ w ∈ worldsOf n {} (initWorld rules) ops, RankedR rank w) (hN : ∀ f, rank f < n)
    (hok : OpsOkW n (initWorld rules) ops) (hts0 : ∀ t ∈ ts, t ≠ alwaysId) (us : List UserOp) (kg2 : Bool) :
    let w := ops.foldl (fun w op => (applyOp {} n op w).2) (initWorld rules)
    let r1 := runCmd {} n (if forced then .redo ts kg else .ifchange ts kg) w
    r1.1.status = 0 → ¬ RecReach r1.2 ts alwaysId → (∀ u ∈ us, Harmless (RecReach r1.2 ts) u) →
    let w2 := us.foldl (fun w op => (applyOp {} n op w).2) r1.2
    let r2 := runCmd {} n (.ifchange ts kg2) { w2 with trace := [] }
    r2.1.status = 0 ∧ (∀ t, Ev.ran t ∉ r2.2.trace) ∧ r2.2.fs = w2.fs := by
  intro w r1 hz hna hus w2 r2
  have hb := btw_of_history hr hN ops hp hrk hok
  obtain ⟨S, hS, hSC, hbt⟩ := between_after_build hN hb ts kg forced hts0 hz hna
  have hb2 : Between rank S (RecReach r1.2 ts) w2 := foldl_between hSC {} n us r1.2 hus hbt
  have hb3 : Between rank S (RecReach r1.2 ts) { w2 with trace := [] } :=
    hb2.user hSC rfl rfl rfl (fun _ _ => rfl) (Nat.le_refl _)
  obtain ⟨a1, a2, a3⟩ := ifchange_members_quiet {} hb3.set hb3.lt hN ts kg2 hS
  exact ⟨a1, fun t ht => by simpa using a2 t ht, a3⟩

/-- `Harmless` without the builds of other targets. -/
def Unrelated (C : Nat → Prop) : UserOp → Prop
  | .write f _ => ¬ C f
  | .remove f => ¬ C f
  | .chmod f => ¬ C f
  | .hide f => ¬ C f
  | .unhide f => ¬ C f
  | .setProg _ _ => True
  | .cmd c => c = .ood ∨ c = .targets ∨ c = .sources
  | .crashCmd _ _ _ => False

theorem Unrelated.harmless {C : Nat → Prop} : ∀ {u : UserOp}, Unrelated C u → Harmless C u
  | .write _ _, h => h
  | .remove _, h => h
  | .chmod _, h => h
  | .hide _, h => h
  | .unhide _, h => h
  | .setProg _ _, h => h
  | .cmd _, h => h.imp_right (fun h => h.imp_right Or.inl)
  | .crashCmd _ _ _, h => h

/-- World-level core of `oodEmptyAfterBuild`: `Harmless` activity may come in between. -/
theorem ood_after_build {rank n w} (hN : ∀ f, rank f < n) (hb : Btw rank w) (ts : List Nat) (kg forced : Bool)
    (hts0 : ∀ t ∈ ts, t ≠ alwaysId)
    (hz : (runCmd {} n (if forced then .redo ts kg else .ifchange ts kg) w).1.status = 0)
    (hna : ¬ RecReach (runCmd {} n (if forced then .redo ts kg else .ifchange ts kg) w).2 ts alwaysId)
    (us : List UserOp)
    (hus : ∀ u ∈ us, Harmless (RecReach (runCmd {} n (if forced then .redo ts kg else .ifchange ts kg) w).2 ts) u) :
    let w2 := us.foldl (fun w op => (applyOp {} n op w).2) (runCmd {} n (if forced then .redo ts kg else .ifchange ts kg) w).2
    (∀ f, f < n → known w2 f = true → isTarget w2 (w2.runCounter + 1) f = true → f ∈ ts) →
    (runCmd {} n .ood w2).1.listing = [] := by
  intro w2 hall
  obtain ⟨S, hS, hSC, hbt⟩ := between_after_build hN hb ts kg forced hts0 hz hna
  have hb2 := foldl_between hSC {} n us _ hus hbt
  exact ood_quiet {} hb2.set hb2.lt hN (fun f hlt hk ht => hS f (hall f hlt hk ht))

/-- `redo-ood` right after a successful build of all targets there are lists nothing. -/
theorem oodEmptyAfterBuild (n : Nat) (rules : Nat → List Nat) (rank : Nat → Nat) (ops : List UserOp) (ts : List Nat)
    (kg forced : Bool) (hr : RulesOk rules) (hp : ∀ op ∈ ops, RichOp rules op)
    (hrk : ∀ w ∈ worldsOf n {} (initWorld rules) ops, RankedR rank w) (hN : ∀ f, rank f < n)
    (hok : OpsOkW n (initWorld rules) ops) (hts0 : ∀ t ∈ ts, t ≠ alwaysId) :
    let w := ops.foldl (fun w op => (applyOp {} n op w).2) (initWorld rules)
    let r1 := runCmd {} n (if forced then .redo ts kg else .ifchange ts kg) w
    r1.1.status = 0 → ¬ RecReach r1.2 ts alwaysId →
    (∀ f, f < n → known r1.2 f = true → isTarget r1.2 (r1.2.runCounter + 1) f = true → f ∈ ts) →
    (runCmd {} n .ood r1.2).1.listing = [] := by
  intro w r1 hz hna hall
  have hb := btw_of_history hr hN ops hp hrk hok
  exact ood_after_build hN hb ts kg forced hts0 hz hna [] (fun u hu => by simp at hu) hall

/-! C02, "only if": a script executed by `redo-ifchange` had a reason in the world the command started from. -/

/-- The reasons for which `redo-ifchange` may execute the script of `t`, read off the world `w` the command starts
from: the `//ALWAYS` pseudo file; a failure mark; never built; the file is not as recorded (missing, replaced,
edited); a recorded `redo-ifchange` dependency was built or changed in a later run than `t` was last built or
verified; a recorded `redo-ifcreate` object (or higher-priority .do candidate) exists; or, hereditarily, a recorded
`redo-ifchange` dependency has a reason.  (Rows of a file redo does not own, or no longer owns, do not count.) -/
inductive Reason (w : World) : Nat → Prop
  | always : Reason w alwaysId
  | failed {t} : (w.recs t).failed ≠ none → Reason w t
  | never {t} : (w.recs t).changed = none → Reason w t
  | stamp {t} : (w.recs t).stamp ≠ some (readStamp w t) → Reason w t
  | newer {t} {d : Dep} {c : Nat} : genT (w.recs t) = true → d ∈ w.deps → d.target = t → d.modeM = true →
      (w.recs d.source).changed = some c → c > Mof (w.recs t) → Reason w t
  | created {t} {d : Dep} : genT (w.recs t) = true → d ∈ w.deps → d.target = t → d.modeM = false →
      existsF w d.source = true → Reason w t
  | dep {t} {d : Dep} : genT (w.recs t) = true → d ∈ w.deps → d.target = t → d.modeM = true →
      Reason w d.source → Reason w t

theorem Reason.congr {w w' : World} (hrecs : w'.recs = w.recs) (hdeps : w'.deps = w.deps) (hfs : w'.fs = w.fs) {t : Nat}
    (h : Reason w t) : Reason w' t := by
  induction h with
  | always => exact .always
  | failed h => exact .failed (by rw [hrecs]; exact h)
  | never h => exact .never (by rw [hrecs]; exact h)
  | stamp h => exact .stamp (by rw [hrecs, readStamp_congr (congrFun hfs _)]; exact h)
  | newer hg hd ht hm hc hlt =>
    exact .newer (by rw [hrecs]; exact hg) (by rw [hdeps]; exact hd) ht hm (by rw [hrecs]; exact hc)
      (by rw [hrecs]; exact hlt)
  | created hg hd ht hm he =>
    exact .created (by rw [hrecs]; exact hg) (by rw [hdeps]; exact hd) ht hm
      (by rw [existsF_congr (congrFun hfs _)]; exact he)
  | dep hg hd ht hm _ ih => exact .dep (by rw [hrecs]; exact hg) (by rw [hdeps]; exact hd) ht hm ih

/-- The files without a reason form a settled set — in a world whose marks are not from the future and whose
`c` rows name plain files (both hold in every world reachable by a rich history: `Base.chLe`, `ckLe`, `cPlain`). -/
theorem noReason_settled {w : World} {R' : Nat}
    (hch : ∀ f c, (w.recs f).changed = some c → c ≤ R') (hck : ∀ f c, (w.recs f).checked = some c → c ≤ R')
    (hcp : ∀ d ∈ w.deps, d.modeM = false → w.rules d.source = []) :
    SSet R' (fun t => ¬ Reason w t) w := by
  intro f hf
  refine ⟨fun e => hf (e ▸ .always), ?_, ?_, hck f, ?_, fun hg d hd ht hm => ⟨fun hr => hf (.dep hg hd ht hm hr), ?_⟩,
    fun hg d hd ht hm => ⟨?_, hcp d hd hm⟩⟩
  · cases h : (w.recs f).failed with
    | none => rfl
    | some k => exact absurd (Reason.failed (by rw [h]; simp)) hf
  · cases h : (w.recs f).changed with
    | none => exact absurd (Reason.never h) hf
    | some c => exact ⟨c, rfl, hch f c h⟩
  · exact Classical.byContradiction fun h => hf (.stamp h)
  · intro c hc
    exact Classical.byContradiction fun h => hf (.newer hg hd ht hm hc (by omega))
  · cases h : existsF w d.source with
    | false => rfl
    | true => exact absurd (Reason.created hg hd ht hm h) hf

/-- **Nothing runs without a reason** (world level, any defect switches): in a world whose marks are not from the
future and whose `c` rows name plain files, every script executed by `redo-ifchange ts` belongs to a file that had
a `Reason` when the command started. -/
theorem ran_reason_of_world (d : Defects) (n : Nat) (w : World) (ts : List Nat) (kg : Bool)
    (hch : ∀ f c, (w.recs f).changed = some c → c ≤ w.runCounter)
    (hck : ∀ f c, (w.recs f).checked = some c → c ≤ w.runCounter)
    (hcp : ∀ d ∈ w.deps, d.modeM = false → w.rules d.source = []) (t : Nat)
    (hran : Ev.ran t ∈ (runCmd d n (.ifchange ts kg) w).2.trace) : Ev.ran t ∈ w.trace ∨ Reason w t := by
  have hq := noReason_settled (w := w) (R' := w.runCounter + 1)
    (fun f c h => Nat.le_succ_of_le (hch f c h)) (fun f c h => Nat.le_succ_of_le (hck f c h)) hcp
  have hrel := ifchange_leaves_settled d n ts kg hq
  by_cases hr : Reason w t
  · exact Or.inr hr
  · exact Or.inl (hrel.ran t hr hran)

/-- The same in a between-commands world of a rich history. -/
theorem ran_reason_btw {rank w} (hb : Btw rank w) (n : Nat) (ts : List Nat) (kg : Bool) (t : Nat)
    (hran : Ev.ran t ∈ (runCmd {} n (.ifchange ts kg) { w with trace := [] }).2.trace) : Reason w t := by
  have hb' : Base rank w.runCounter NoX w := hb
  rcases ran_reason_of_world {} n { w with trace := [] } ts kg hb'.chLe hb'.ckLe
    (fun d hd hm => (hb'.cPlain d hd hm).1) t hran with h | h
  · simp at h
  · exact Reason.congr (w := { w with trace := [] }) (w' := w) rfl rfl rfl h

theorem runsOnlyForAReason (n : Nat) (rules : Nat → List Nat) (rank : Nat → Nat) (ops : List UserOp) (ts : List Nat)
    (kg : Bool) (hr : RulesOk rules) (hp : ∀ op ∈ ops, RichOp rules op)
    (hrk : ∀ w ∈ worldsOf n {} (initWorld rules) ops, RankedR rank w) (hN : ∀ f, rank f < n)
    (hok : OpsOkW n (initWorld rules) ops) :
    let w := ops.foldl (fun w op => (applyOp {} n op w).2) (initWorld rules)
    ∀ t, Ev.ran t ∈ (runCmd {} n (.ifchange ts kg) { w with trace := [] }).2.trace → Reason w t := by
  intro w t hran
  have hb := btw_of_history hr hN ops hp hrk hok
  exact ran_reason_btw hb n ts kg t hran

end RedoModel.Deps.Rich
