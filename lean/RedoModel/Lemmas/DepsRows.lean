import RedoModel.Lemmas.DepsCsum
/-!
# A row that triggers

The record of `t` is current and one of its recorded rows *triggers*: a `c` row whose source exists or the row on
`//ALWAYS` (`RowFires`, C14), an `m` row whose source changed after the mark of `t` (`ChangedDep`, C03).  Then
`should_build t` answers `dirty` or `cyclic` (`shouldBuild_trigger`), and the command `redo-ifchange t` executes the
script of `t` or exits with the cyclic status (`ifchangeWith_trigger`; for the top-level command: `runCmd_fires`).
The counterpart — every row passes, nothing runs — is `ifchangeWith_cutoff`.
-/
namespace RedoModel.Deps
open RedoModel.Generated

/-- `Current` is `CurrentBefore` seen from the next run. -/
theorem Current.before {w : World} {t : Nat} (h : Current w t) : CurrentBefore (nextRun w) (w.runCounter + 1) t :=
  ⟨h.gen, h.novr, h.nofail, h.changed.imp fun _ hc => ⟨hc.1, Nat.lt_succ_of_le hc.2⟩,
    fun c hc => Nat.lt_succ_of_le (h.checked c hc), h.stamp⟩

/-- `should_build` for a target whose record is current but one of whose rows triggers: `dirty` or `cyclic`, never
`clean`, never the out-of-band `need`. -/
theorem shouldBuild_trigger (cx : Ctx) (fuel t : Nat) (w : World) (hr : cx.isRedo = false)
    (ht : t ≠ alwaysId) (hcur : CurrentBefore w cx.runid t)
    (d0 : Dep) (hd : d0 ∈ w.deps) (hdt : d0.target = t) (hfire : RowFires w d0 ∨ ChangedDep w t d0) :
    (shouldBuild cx (fuel + 2) t w).1 = some .cyclic ∨ (shouldBuild cx (fuel + 2) t w).1 = some .dirty := by
  obtain ⟨ch, hch, hlt⟩ := hcur.changed
  have hf := hcur.nofail
  have hget : getRec w cx.runid t = w.recs t := getRec_of_ne ht
  have hnc : isCheckedR (w.recs t) cx.runid = false := by
    unfold isCheckedR
    cases h : (w.recs t).checked with
    | none => rfl
    | some c => have := hcur.checked c h; simp; omega
  have hmark : mark (w.recs t) = max ch ((w.recs t).checked.getD 0) := by simp [mark, hch]
  have hmlt := hcur.mark_lt
  -- an `m` row whose source's record says "changed after the mark" is found dirty, whatever the state
  have newer : ∀ s, s ≠ t → (∃ c, (getRec w cx.runid s).changed = some c ∧ mark (w.recs t) < c) → ∀ w1 c1,
      (isDirty false cx.runid (fuel + 1) w1 c1 s (max ch ((w.recs t).checked.getD 0)) [t]
        (some (getRec w cx.runid s))).1 = .dirty := fun s hne ⟨c, hc, hgt⟩ w1 c1 => by
    rw [isDirty_record_dirty false cx.runid fuel w1 c1 s _ [t] (some (getRec w cx.runid s)) (by simpa using hne)
      (Or.inr (Or.inr ⟨c, hc, by rw [← hmark]; exact hgt⟩))]
  have key := isDirty_fires cx.runid (fuel + 1) w [] t cx.runid [] ch (by simp) (by rw [hget]; exact hf)
    (by rw [hget]; exact hch) (by omega) (by rw [hget]; exact hnc) (by rw [hget]; exact hcur.stamp)
    ⟨(d0, getRec w cx.runid d0.source),
      mem_depsWithRecs.2 ⟨rfl, by rw [hget]; exact hcur.gen, by rw [hget]; exact hcur.novr, hd, hdt⟩, by
      rw [hget]
      rcases hfire with (⟨h1, h2⟩ | ⟨h1, h2⟩) | ⟨h1, h0, hne, c, hc, hgt⟩
      · exact Or.inl ⟨h1, h2⟩
      · -- the snapshot of `//ALWAYS` reads as changed in this run
        refine Or.inr ⟨h1, newer _ (h2 ▸ Ne.symm ht) ?_⟩
        obtain ⟨ca, hca, hle⟩ := getRec_always_changed w cx.runid
        exact ⟨ca, h2 ▸ hca, by omega⟩
      · exact Or.inr ⟨h1, newer _ hne ⟨c, by rw [getRec_of_ne h0]; exact hc, hgt⟩⟩⟩
  rw [shouldBuild_eq_walk cx _ t w hr ht hf]
  rcases key with h | h <;> rw [h]
  · exact .inl rfl
  · right
    rw [hget]
    cases (w.recs t).csum <;> simp

/-- **A row that triggers, at the command.**  `redo-ifchange t` (top level, or the second phase of `redo-unlocked`)
when `t`'s record is current but one of its rows triggers: the command exits with the cyclic status, or `t`'s script is
executed. -/
theorem ifchangeWith_trigger (E : Engine) (hE : EngineExt E) (d : Defects) (fuel : Nat) (cx : Ctx) (t : Nat) (w : World)
    (hp : cx.parent = none ∨ cx.unlocked = true) (hcy : cx.unlocked = true ∨ t ∉ cx.cycles)
    (hr : cx.isRedo = false) (ht : t ≠ alwaysId) (hcur : CurrentBefore w cx.runid t)
    (d0 : Dep) (hd : d0 ∈ w.deps) (hdt : d0.target = t) (hfire : RowFires w d0 ∨ ChangedDep w t d0)
    (hdo : ∃ c ∈ w.rules t, existsF w c = true) :
    (ifchangeWith E d (fuel + 2) cx [t] w).1 = EXIT_CYCLIC_DEPENDENCY ∨
    RanIn t w (ifchangeWith E d (fuel + 2) cx [t] w).2 := by
  have hrel : RowsOnly t w (addKnown w t) := RowsOnly.addKnown t w t
  have hcur' := hcur.transfer hrel
  have hfs : (addKnown w t).fs = w.fs := addKnown_fs _ _
  have hs := shouldBuild_trigger cx fuel t (addKnown w t) hr ht hcur' d0 (by rw [addKnown_deps]; exact hd) hdt
    (hfire.imp (Or.imp (And.imp_right fun h => by rw [existsF_congr (congrFun hfs _)]; exact h) id)
      (·.transfer hrel d0))
  have key := buildJob_dirty_runs E hE d cx (fuel + 2) t (addKnown w t) hcur'.gen hcur'.novr hcur'.stamp
    (by
      obtain ⟨c, hc, he⟩ := hdo
      exact ⟨c, by rw [addKnown_rules]; exact hc, by rw [existsF_congr (congrFun hfs _)]; exact he⟩) hs
  rw [ifchangeWith_single E d (fuel + 2) cx t w hp hcy]
  have hpre : TraceExt w (addKnown w t) := TraceExt.of_eq (addKnown_trace _ _)
  generalize buildJob _ _ _ _ _ _ = r at key
  obtain ⟨jr, w1⟩ := r
  dsimp only at key
  rcases key with h | ⟨⟨rv, h⟩, hran⟩
  · subst h; left; rfl
  · subst h; right; exact RanIn.after hpre hran

/-- Top-level `redo-ifchange t` when a `c` row of `t` whose source exists, or the row on `//ALWAYS`, is recorded. -/
theorem runCmd_fires (d : Defects) (n : Nat) (kg : Bool) (w : World) (t : Nat) (ht : t ≠ alwaysId)
    (hcur : Current w t) (d0 : Dep) (hd : d0 ∈ w.deps) (hdt : d0.target = t) (hfire : RowFires w d0)
    (hdo : ∃ c ∈ w.rules t, existsF w c = true) :
    (runCmd d n (.ifchange [t] kg) w).1.status = EXIT_CYCLIC_DEPENDENCY ∨
    RanIn t w (runCmd d n (.ifchange [t] kg) w).2 :=
  ifchangeWith_trigger (engine d (2 * n + 4)) (engine_traceExt d _) d (2 * n + 2)
    { runid := w.runCounter + 1, keepGoing := kg } t (nextRun w) (.inl rfl) (.inr (by simp)) rfl ht hcur.before
    d0 hd hdt (.inl hfire) hdo

end RedoModel.Deps
