import RedoModel.Deps
/-! The two build commands of `runCmd` as one function of the engine, the fuel and the `redo` flag. -/
namespace RedoModel.Deps

/-- `redo` / `redo-ifchange` at top level over an arbitrary engine and fuel (what `runCmd` does with
`engine d (2 * nfiles + 4)` and fuel `2 * nfiles + 4`). -/
def runTop (E : Engine) (d : Defects) (fuel : Nat) (isRedo kg : Bool) (ts : List Nat) (w : World) : Result × World :=
  let (R, w) := allocRun w
  let cx : Ctx := { runid := R, keepGoing := kg, isRedo := isRedo }
  let (rv, w) := runTargets E d cx fuel ts [] false w
  ({ status := rv }, w)

theorem runCmd_build_eq (d : Defects) (nf : Nat) (ts : List Nat) (kg : Bool) (w : World) :
    runCmd d nf (.redo ts kg) w = runTop (engine d (2 * nf + 4)) d (2 * nf + 4) true kg ts w ∧
    runCmd d nf (.ifchange ts kg) w = runTop (engine d (2 * nf + 4)) d (2 * nf + 4) false kg ts w :=
  ⟨rfl, rfl⟩

end RedoModel.Deps
