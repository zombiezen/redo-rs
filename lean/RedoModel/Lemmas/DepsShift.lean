import RedoModel.Lemmas.DepsParts
import RedoModel.Lemmas.DepsOod
import RedoModel.Lemmas.DepsRunTop
/-!
# Renaming run ids: a query between two commands does not change what the next build does

`sh R` is the order embedding of the run ids that makes room at `R`: ids `< R` stay, ids `≥ R`
move up by one (so `R ↦ R + 1`).  `shW R` applies it to every record of a world.  A process with
run id `R + 1` on `shW R w` behaves like a process with run id `R` on `w` — every operation of the
engine commutes with the shift (the engine only compares run ids, takes maxima and writes its own): the primitives,
the dirtiness check, scripts, jobs, commands (`engine_sh`).  At a fresh run id the shift is the identity on the records,
and a query only consumes a run id, so the build after a query is the build without it, one run id later.
-/
set_option linter.unusedSimpArgs false
namespace RedoModel.Deps

def sh (R x : Nat) : Nat := if R ≤ x then x + 1 else x

def shRec (R : Nat) (r : Rec) : Rec :=
  { r with checked := r.checked.map (sh R), changed := r.changed.map (sh R), failed := r.failed.map (sh R) }

def shW (R : Nat) (w : World) : World :=
  { w with recs := fun f => shRec R (w.recs f), runCounter := w.runCounter + 1 }

def shCx (cx : Ctx) : Ctx := { cx with runid := cx.runid + 1 }

/-! ### The embedding -/

theorem sh_self (R : Nat) : sh R R = R + 1 := by simp [sh]

theorem sh_zero {R : Nat} (hR : 0 < R) : sh R 0 = 0 := by
  unfold sh; split <;> omega

theorem sh_lt_sh (R a b : Nat) : sh R a < sh R b ↔ a < b := by
  unfold sh; split <;> split <;> omega

theorem sh_gt_sh (R a b : Nat) : sh R a > sh R b ↔ a > b := sh_lt_sh R b a

theorem sh_le_sh (R a b : Nat) : sh R a ≤ sh R b ↔ a ≤ b := by
  unfold sh; split <;> split <;> omega

theorem sh_ge_succ (R a : Nat) : sh R a ≥ R + 1 ↔ a ≥ R := by
  unfold sh; split <;> omega

theorem sh_eq_zero {R : Nat} (hR : 0 < R) (a : Nat) : sh R a = 0 ↔ a = 0 := by
  unfold sh; split <;> omega

/-- `sh R` is monotone, so it commutes with `max`. -/
theorem sh_max (R a b : Nat) : max (sh R a) (sh R b) = sh R (max a b) := by
  rcases Nat.le_total a b with h | h
  · rw [Nat.max_eq_right h, Nat.max_eq_right ((sh_le_sh R a b).2 h)]
  · rw [Nat.max_eq_left h, Nat.max_eq_left ((sh_le_sh R b a).2 h)]

theorem sh_of_lt {R x : Nat} (h : x < R) : sh R x = x := by
  unfold sh; split <;> omega

/-! ### Records -/

@[simp] theorem shRec_row (R : Nat) (r : Rec) : (shRec R r).row = r.row := rfl
@[simp] theorem shRec_isGenerated (R : Nat) (r : Rec) : (shRec R r).isGenerated = r.isGenerated := rfl
@[simp] theorem shRec_isOverride (R : Nat) (r : Rec) : (shRec R r).isOverride = r.isOverride := rfl
@[simp] theorem shRec_stamp (R : Nat) (r : Rec) : (shRec R r).stamp = r.stamp := rfl
@[simp] theorem shRec_csum (R : Nat) (r : Rec) : (shRec R r).csum = r.csum := rfl
@[simp] theorem shRec_checked (R : Nat) (r : Rec) : (shRec R r).checked = r.checked.map (sh R) := rfl
@[simp] theorem shRec_changed (R : Nat) (r : Rec) : (shRec R r).changed = r.changed.map (sh R) := rfl
@[simp] theorem shRec_failed (R : Nat) (r : Rec) : (shRec R r).failed = r.failed.map (sh R) := rfl

theorem markTest_sh {R : Nat} (hR : 0 < R) (c : Nat) :
    (sh R c != 0 && decide (sh R c ≥ R + 1)) = (c != 0 && decide (c ≥ R)) := by
  have h2 : decide (sh R c ≥ R + 1) = decide (c ≥ R) := decide_eq_decide.2 (sh_ge_succ R c)
  rw [h2]
  by_cases hc : c = 0
  · subst hc; rw [sh_zero hR]
  · have : sh R c ≠ 0 := fun h => hc ((sh_eq_zero hR c).1 h)
    have e1 : (sh R c != 0) = true := bne_iff_ne.2 this
    have e2 : (c != 0) = true := bne_iff_ne.2 hc
    rw [e1, e2]

theorem isCheckedR_sh {R : Nat} (hR : 0 < R) (r : Rec) : isCheckedR (shRec R r) (R + 1) = isCheckedR r R := by
  unfold isCheckedR
  simp only [shRec_checked]
  cases r.checked with
  | none => rfl
  | some c =>
    simp only [Option.map_some]
    exact markTest_sh hR c

theorem isChangedR_sh {R : Nat} (hR : 0 < R) (r : Rec) : isChangedR (shRec R r) (R + 1) = isChangedR r R := by
  unfold isChangedR
  simp only [shRec_changed]
  cases r.changed with
  | none => rfl
  | some c =>
    simp only [Option.map_some]
    exact markTest_sh hR c

theorem isFailedR_sh {R : Nat} (hR : 0 < R) (r : Rec) : isFailedR (shRec R r) (R + 1) = isFailedR r R := by
  unfold isFailedR
  simp only [shRec_failed]
  cases r.failed with
  | none => rfl
  | some c =>
    simp only [Option.map_some]
    exact markTest_sh hR c

theorem setChanged_sh (R : Nat) (r : Rec) : setChanged (shRec R r) (R + 1) = shRec R (setChanged r R) := by
  simp [setChanged, shRec, sh_self]

theorem stampRec_sh (R : Nat) (r : Rec) (data : Content) :
    stampRec (shRec R r) (R + 1) data = shRec R (stampRec r R data) := by
  by_cases h : r.csum = some data
  · simp [stampRec, shRec, sh_self, h]
  · simp [stampRec, setChanged, shRec, sh_self, h]

/-! ### Worlds -/

@[simp] theorem shW_fs (R : Nat) (w : World) : (shW R w).fs = w.fs := rfl
@[simp] theorem shW_deps (R : Nat) (w : World) : (shW R w).deps = w.deps := rfl
@[simp] theorem shW_recs (R : Nat) (w : World) (f : Nat) : (shW R w).recs f = shRec R (w.recs f) := rfl
@[simp] theorem shW_clock (R : Nat) (w : World) : (shW R w).clock = w.clock := rfl
@[simp] theorem shW_nextRow (R : Nat) (w : World) : (shW R w).nextRow = w.nextRow := rfl
@[simp] theorem shW_progs (R : Nat) (w : World) : (shW R w).progs = w.progs := rfl
@[simp] theorem shW_rules (R : Nat) (w : World) : (shW R w).rules = w.rules := rfl
@[simp] theorem shW_trace (R : Nat) (w : World) : (shW R w).trace = w.trace := rfl
@[simp] theorem shW_oobRev (R : Nat) (w : World) : (shW R w).oobRev = w.oobRev := rfl

@[simp] theorem readStamp_sh (R : Nat) (w : World) (f : Nat) : readStamp (shW R w) f = readStamp w f := rfl
@[simp] theorem existsF_sh (R : Nat) (w : World) (f : Nat) : existsF (shW R w) f = existsF w f := rfl

theorem getRec_sh (R : Nat) (w : World) (f : Nat) : getRec (shW R w) (R + 1) f = shRec R (getRec w R f) := by
  unfold getRec
  simp only [shW_recs]
  split
  · cases h : (w.recs f).changed with
    | none => simp [shRec, h, sh_self]
    | some c =>
      have := sh_max R R c
      rw [sh_self] at this
      simp [shRec, h, this]
  · rfl

theorem setRec_sh (R : Nat) (w : World) (f : Nat) (r : Rec) :
    setRec (shW R w) f (shRec R r) = shW R (setRec w f r) := by
  simp only [setRec, shW]
  congr 1
  funext x
  split <;> rfl

theorem setFile_sh (R : Nat) (w : World) (f : Nat) (n : Option FNode) :
    setFile (shW R w) f n = shW R (setFile w f n) := rfl

theorem ev_sh (R : Nat) (w : World) (e : Ev) : ev (shW R w) e = shW R (ev w e) := rfl

theorem addKnown_sh (R : Nat) (w : World) (f : Nat) : addKnown (shW R w) f = shW R (addKnown w f) := by
  by_cases h : (w.recs f).row ≠ 0
  · have h' : ((shW R w).recs f).row ≠ 0 := h
    rw [addKnown, addKnown, if_pos h, if_pos h']
  · have h' : ¬ ((shW R w).recs f).row ≠ 0 := h
    rw [addKnown, addKnown, if_neg h, if_neg h']
    have : ({ ((shW R w).recs f) with row := (shW R w).nextRow } : Rec) = shRec R { (w.recs f) with row := w.nextRow } := rfl
    rw [this, setRec_sh]
    rfl

theorem known_sh (R : Nat) (w : World) (f : Nat) : known (shW R w) f = known w f := rfl

theorem addDep_sh (R : Nat) (w : World) (t s : Nat) (m : Bool) : addDep (shW R w) t s m = shW R (addDep w t s m) := by
  unfold addDep
  simp only [addKnown_sh]
  rfl

theorem zapDeps1_sh (R : Nat) (w : World) (t : Nat) : zapDeps1 (shW R w) t = shW R (zapDeps1 w t) := rfl
theorem zapDeps2_sh (R : Nat) (w : World) (t : Nat) : zapDeps2 (shW R w) t = shW R (zapDeps2 w t) := rfl

theorem newNode_sh (R : Nat) (w : World) (c : Content) :
    newNode (shW R w) c = ((newNode w c).1, shW R (newNode w c).2) := rfl

theorem depsOf_sh (R : Nat) (w : World) (r : Rec) (f : Nat) : depsOf (shW R w) (shRec R r) f = depsOf w r f := rfl

theorem depsWithRecs_sh (R : Nat) (w : World) (r : Rec) (f : Nat) :
    depsWithRecs (shW R w) (R + 1) (shRec R r) f = (depsWithRecs w R r f).map (fun p => (p.1, shRec R p.2)) := by
  simp only [depsWithRecs, depsOf_sh, List.map_map]
  congr 1
  funext d
  simp [getRec_sh]

theorem updateStamp_sh (R : Nat) (w : World) (f : Nat) (r : Rec) :
    updateStamp (shW R w) f (shRec R r) (R + 1) = shRec R (updateStamp w f r R) := by
  by_cases h : r.stamp = some (readStamp w f)
  · simp [updateStamp, h]
  · simp [updateStamp, h, setChanged, shRec, sh_self]

theorem setFailed_sh (R : Nat) (w : World) (f : Nat) (r : Rec) :
    setFailed (shW R w) f (shRec R r) (R + 1) = shRec R (setFailed w f r R) := by
  unfold setFailed
  simp only [updateStamp_sh]
  simp [shRec, sh_self]

theorem setStatic_sh (R : Nat) (w : World) (f : Nat) (r : Rec) :
    setStatic (shW R w) f (shRec R r) (R + 1) = shRec R (setStatic w f r R) := by
  unfold setStatic
  simp only [updateStamp_sh]
  simp [shRec]

theorem setOverride_sh (R : Nat) (w : World) (f : Nat) (r : Rec) :
    setOverride (shW R w) f (shRec R r) (R + 1) = shRec R (setOverride w f r R) := by
  unfold setOverride
  simp only [updateStamp_sh]
  simp [shRec]

/-! ### The dirtiness check and `should_build` -/

def sh3 (R : Nat) (x : DR × World × List Nat) : DR × World × List Nat := (x.1, shW R x.2.1, x.2.2)
def shO3 (R : Nat) (x : Option DR × World × List Nat) : Option DR × World × List Nat := (x.1, shW R x.2.1, x.2.2)
def sh2 {α : Type} (R : Nat) (x : α × World) : α × World := (x.1, shW R x.2)

theorem goDeps_sh (R : Nat) (chkA chkB : World → List Nat → Nat → Rec → DR × World × List Nat)
    (h : ∀ w c s r, chkB (shW R w) c s (shRec R r) = sh3 R (chkA w c s r)) (hasCsum : Bool) (f : Nat) :
    ∀ (ds : List (Dep × Rec)) (w : World) (cache must : List Nat),
      goDeps chkB hasCsum f (ds.map (fun p => (p.1, shRec R p.2))) (shW R w) cache must
        = shO3 R (goDeps chkA hasCsum f ds w cache must)
  | [], w, cache, must => by
    simp only [List.map_nil, goDeps]
    rfl
  | (d, snap) :: ds, w, cache, must => by
    rw [List.map_cons, goDeps, goDeps]
    by_cases hm : d.modeM = true
    · simp only [hm, if_true]
      rw [h]
      generalize chkA w cache d.source snap = r
      obtain ⟨sub, w1, c1⟩ := r
      cases sub with
      | cyclic => rfl
      | dirty => rfl
      | clean => exact goDeps_sh R chkA chkB h hasCsum f ds w1 c1 must
      | need ts => exact goDeps_sh R chkA chkB h hasCsum f ds w1 c1 (must ++ ts)
    · simp only [hm, Bool.false_eq_true, if_false, existsF_sh]
      by_cases hex : existsF w d.source = true
      · simp only [hex, if_true]
        rfl
      · simp only [hex, Bool.false_eq_true, if_false]
        exact goDeps_sh R chkA chkB h hasCsum f ds w cache must

theorem getD_map_sh {R : Nat} (hR : 0 < R) (o : Option Nat) : (o.map (sh R)).getD 0 = sh R (o.getD 0) := by
  cases o with
  | none => simp [sh_zero hR]
  | some c => rfl

theorem vanish_sh {R : Nat} (hR : 0 < R) (r : Rec) :
    ({ shRec R r with isGenerated := false, isOverride := false, failed := some 0 } : Rec)
      = shRec R { r with isGenerated := false, isOverride := false, failed := some 0 } := by
  simp [shRec, sh_zero hR]

theorem mark_sh (R : Nat) (r : Rec) :
    ({ shRec R r with checked := some (R + 1) } : Rec) = shRec R { r with checked := some R } := by
  simp [shRec, sh_self]

theorem leaf_setRec {R : Nat} {w : World} {f : Nat} {X Y : Rec} {dr : DR} {c : List Nat} (h : X = shRec R Y) :
    (dr, setRec (shW R w) f X, c) = sh3 R (dr, setRec w f Y, c) := by
  subst h; rw [setRec_sh]; rfl

theorem isDirty_sh (ood : Bool) {R : Nat} (hR : 0 < R) :
    ∀ (fuel : Nat) (w : World) (cache : List Nat) (f mx : Nat) (seen : List Nat) (pre : Option Rec),
      isDirty ood (R + 1) fuel (shW R w) cache f (sh R mx) seen (pre.map (shRec R))
        = sh3 R (isDirty ood R fuel w cache f mx seen pre)
  | 0, w, cache, f, mx, seen, pre => by
    rw [isDirty, isDirty]; rfl
  | fuel + 1, w, cache, f, mx, seen, pre => by
    rw [isDirty, isDirty]
    by_cases hs : f ∈ seen
    · simp only [hs, if_true]; rfl
    simp only [hs, if_false]
    rw [getRec_sh, Option.getD_map]
    generalize pre.getD (getRec w R f) = r
    by_cases hf : r.failed.isSome = true
    · simp only [shRec_failed, Option.isSome_map, hf, if_true]; rfl
    simp only [shRec_failed, Option.isSome_map, hf, if_false, shRec_changed]
    cases hc : r.changed with
    | none => simp only [Option.map_none]; rfl
    | some ch =>
      simp only [Option.map_some, sh_gt_sh]
      by_cases hgt : ch > mx
      · simp only [hgt, if_true]; rfl
      simp only [hgt, if_false, isCheckedR_sh hR]
      by_cases hck : (if ood = true then decide (f ∈ cache) else isCheckedR r R) = true
      · simp only [hck, if_true]; rfl
      simp only [hck, Bool.false_eq_true, if_false, shRec_stamp]
      cases hst : r.stamp with
      | none => rfl
      | some old =>
        simp only [readStamp_sh]
        by_cases hne : old ≠ readStamp w f
        · simp only [hne, ne_eq, not_false_eq_true, if_true, shRec_isGenerated, shRec_csum]
          by_cases hv : readStamp w f = DStamp.missing ∧ r.isGenerated = true
          · simp only [hv, and_self, if_true]
            refine leaf_setRec ?_
            simp [shRec, sh_zero hR, hc]
          · simp only [hv, if_false]
            rfl
        · simp only [hne, ne_eq, not_true_eq_false, not_false_eq_true, if_false, shRec_checked, shRec_csum, shRec_isOverride]
          rw [getD_map_sh hR, sh_max, depsWithRecs_sh]
          rw [goDeps_sh R
            (fun w2 cache s snap => isDirty ood R fuel w2 cache s (max ch (r.checked.getD 0)) (f :: seen) (some snap))
            (fun w2 cache s snap => isDirty ood (R + 1) fuel w2 cache s (sh R (max ch (r.checked.getD 0))) (f :: seen) (some snap))
            (fun w2 c s r2 => isDirty_sh ood hR fuel w2 c s _ (f :: seen) (some r2))]
          generalize goDeps _ r.csum.isSome f (depsWithRecs w R r f) w cache [] = gr
          obtain ⟨o, w2, c2⟩ := gr
          cases o with
          | some dr => rfl
          | none =>
            simp only [shO3]
            cases ood with
            | true => simp only [Bool.not_true, Bool.and_false, Bool.false_eq_true, if_false, if_true]; rfl
            | false =>
              simp only [Bool.not_false, Bool.and_true, Bool.false_eq_true, if_false]
              by_cases hov : r.isOverride = true
              · simp only [hov, if_true]
                rw [ev_sh]
                refine leaf_setRec ?_
                simp [shRec, sh_self, hc]
              · simp only [hov, if_false]
                refine leaf_setRec ?_
                simp [shRec, sh_self, hc]

theorem shouldBuild_sh {R : Nat} (hR : 0 < R) (cx : Ctx) (hcx : cx.runid = R) (fuel t : Nat) (w : World) :
    shouldBuild (shCx cx) fuel t (shW R w) = sh2 R (shouldBuild cx fuel t w) := by
  unfold shouldBuild
  have e1 : (shCx cx).isRedo = cx.isRedo := rfl
  have e2 : (shCx cx).runid = R + 1 := by simp [shCx, hcx]
  rw [e1, e2, hcx]
  by_cases hredo : cx.isRedo = true
  · simp only [hredo, if_true]; rfl
  simp only [hredo, Bool.false_eq_true, if_false]
  rw [getRec_sh, isFailedR_sh hR]
  by_cases hfl : isFailedR (getRec w R t) R = true
  · simp only [hfl, if_true]; rfl
  simp only [hfl, Bool.false_eq_true, if_false]
  have h := isDirty_sh false hR fuel w [] t R [] none
  rw [sh_self, Option.map_none] at h
  rw [h]
  generalize isDirty false R fuel w [] t R [] none = r
  obtain ⟨dr, w1, c⟩ := r
  rfl

/-! ### Scripts -/
open RedoModel.Generated

/-- What a pair of nested-command implementations must satisfy. -/
def EngSh (R : Nat) (EA EB : Engine) : Prop :=
  ∀ cx ts w, cx.runid = R → EB.ifchangeCmd (shCx cx) ts (shW R w) = sh2 R (EA.ifchangeCmd cx ts w)

/-! The three loops: follow the run on `w` branch by branch, and rewrite the run on `shW R w` to the same branch. -/

theorem findDoFile_sh (R t : Nat) (cs : List Nat) (w : World) :
    findDoFile t cs (shW R w) = sh2 R (findDoFile t cs w) := by
  fun_induction findDoFile t cs w with
  | case1 w => rw [findDoFile]; rfl
  | case2 c cs w hex => rw [findDoFile, existsF_sh, if_pos hex, addDep_sh]; rfl
  | case3 c cs w hex ih => rw [findDoFile, existsF_sh, if_neg hex, addDep_sh]; exact ih

theorem conds_sh {R : Nat} {EA EB : Engine} (hE : EngSh R EA EB) (t : Nat) (cx' : Ctx) (hcx : cx'.runid = R)
    (fs : List Nat) (w : World) :
    runScript.conds EB t (shCx cx') fs (shW R w) = sh2 R (runScript.conds EA t cx' fs w) := by
  fun_induction runScript.conds EA t cx' fs w with
  | case1 w => rw [runScript.conds]; rfl
  | case2 f fs w hex w1 hc ih => rw [runScript.conds, existsF_sh, if_pos hex, hE cx' [f] w hcx, hc]; exact ih
  | case3 f fs w hex rv w1 hrv hc =>
    rw [runScript.conds, existsF_sh, if_pos hex, hE cx' [f] w hcx, hc]
    simp only [sh2]
  | case4 f fs w hex ih => rw [runScript.conds, existsF_sh, if_neg hex, addDep_sh]; exact ih

theorem cmds_sh {R : Nat} {EA EB : Engine} (hE : EngSh R EA EB) (cx : Ctx) (t : Nat) (cx' : Ctx) (hcx : cx'.runid = R)
    (cs : List (List Nat)) (k : Nat) (w : World) :
    runScript.cmds EB (shCx cx) t (shCx cx') cs k (shW R w) = sh2 R (runScript.cmds EA cx t cx' cs k w) := by
  have hcr : (shCx cx).crash = cx.crash := rfl
  fun_induction runScript.cmds EA cx t cx' cs k w with
  | case1 k w => rw [runScript.cmds, hcr]; rfl
  | case2 c cs k w hk => rw [runScript.cmds, hcr, if_pos hk]; rfl
  | case3 c cs k w hk w1 hc ih => rw [runScript.cmds, hcr, if_neg hk, hE cx' c w hcx, hc]; exact ih
  | case4 c cs k w hk rv w1 hrv hc =>
    rw [runScript.cmds, hcr, if_neg hk, hE cx' c w hcx, hc]
    simp only [sh2]

theorem rsAlways_sh {R : Nat} (cx : Ctx) (hcx : cx.runid = R) (t : Nat) (sc : Script) (w : World) :
    rsAlways (shCx cx) t sc (shW R w) = shW R (rsAlways cx t sc w) := by
  unfold rsAlways
  split
  · dsimp only
    rw [addDep_sh]
    have e2 : (shCx cx).runid = R + 1 := by simp [shCx, hcx]
    rw [e2, hcx]
    have : ({ ((shW R (addDep w t alwaysId true)).recs alwaysId) with stamp := some DStamp.missing } : Rec)
        = shRec R { ((addDep w t alwaysId true).recs alwaysId) with stamp := some DStamp.missing } := rfl
    rw [this, setChanged_sh, setRec_sh]
  · rfl

theorem foldl_addDep_sh (R t : Nat) (m : Bool) (fs : List Nat) (w : World) :
    fs.foldl (fun w f => addDep w t f m) (shW R w) = shW R (fs.foldl (fun w f => addDep w t f m) w) :=
  List.foldl_hom (shW R) fun w f => addDep_sh R w t f m

def sh3s {α β : Type} (R : Nat) (x : α × β × World) : α × β × World := (x.1, x.2.1, shW R x.2.2)

theorem rsFinish_sh {R : Nat} (cx : Ctx) (hcx : cx.runid = R) (t : Nat) (sc : Script) (w : World) :
    rsFinish (shCx cx) t sc (shW R w) = sh3s R (rsFinish cx t sc w) := by
  unfold rsFinish
  have e0 : rsFailNow sc (shW R w) = rsFailNow sc w := rfl
  rw [e0]
  by_cases hfn : rsFailNow sc w = true
  · simp only [hfn, if_true]; rfl
  simp only [hfn, Bool.false_eq_true, if_false, shW_fs]
  by_cases hst : sc.stamp = 0
  · simp only [hst, if_true]; rfl
  simp only [hst, if_false]
  have e2 : (shCx cx).runid = R + 1 := by simp [shCx, hcx]
  rw [e2, hcx, addKnown_sh, shW_recs, stampRec_sh, setRec_sh]
  have ecr : (shCx cx).crash = cx.crash := rfl
  rw [ecr]
  split <;> rfl

theorem rsBody_sh {R : Nat} {EA EB : Engine} (hE : EngSh R EA EB) (cx : Ctx) (hcx : cx.runid = R) (t : Nat)
    (sc : Script) (w : World) :
    rsBody EB (shCx cx) t sc (shW R w) = sh3s R (rsBody EA cx t sc w) := by
  unfold rsBody
  dsimp only
  have h1 := conds_sh hE t (scriptCtx cx t) hcx sc.cond w
  have h2 := fun w => cmds_sh hE cx t (scriptCtx cx t) hcx sc.ifchange 0 w
  have ec : shCx (scriptCtx cx t) = scriptCtx (shCx cx) t := rfl
  rw [ec] at h1 h2
  rw [h1]
  generalize runScript.conds EA t _ sc.cond w = r1
  obtain ⟨rvc, w1⟩ := r1
  simp only [sh2]
  by_cases hrvc : rvc ≠ 0
  · simp only [hrvc, ne_eq, not_false_eq_true, if_true]; rfl
  simp only [hrvc, if_false, h2]
  generalize runScript.cmds EA cx t _ sc.ifchange 0 w1 = r2
  obtain ⟨rv, w2⟩ := r2
  simp only [sh2]
  by_cases hrv : rv ≠ 0
  · simp only [hrv, ne_eq, not_false_eq_true, if_true]; rfl
  simp only [hrv, if_false]
  exact rsFinish_sh cx hcx t sc w2

theorem runScript_sh {R : Nat} {EA EB : Engine} (hE : EngSh R EA EB) (d : Defects) (cx : Ctx) (hcx : cx.runid = R)
    (t : Nat) (sc : Script) (w : World) :
    runScript EB d (shCx cx) t sc (shW R w) = sh3s R (runScript EA d cx t sc w) := by
  rw [runScript_eq, runScript_eq, rsAlways_sh cx hcx]
  simp only [existsF_sh]
  by_cases hic : (sc.ifcreate.any fun f => existsF (rsAlways cx t sc w) f) = true
  · simp only [hic, if_true]; rfl
  · simp only [hic, Bool.false_eq_true, if_false]
    rw [foldl_addDep_sh]
    exact rsBody_sh hE cx hcx t sc _

theorem shCx_runid {R : Nat} (cx : Ctx) (hcx : cx.runid = R) : (shCx cx).runid = R + 1 := by
  simp [shCx, hcx]

/-! ### `record_new_state` -/

theorem rnsOut_sh (R t : Nat) (out : Option Content) (w : World) :
    rnsOut t out (shW R w) = shW R (rnsOut t out w) := by
  cases out <;> rfl

theorem rnsOk_sh {R : Nat} (hR : 0 < R) (t : Nat) (w : World) :
    rnsOk (R + 1) t (shW R w) = sh2 R (rnsOk R t w) := by
  unfold rnsOk
  have e1 : genRec ((shW R w).recs t) = shRec R (genRec (w.recs t)) := rfl
  have e2 : ∀ r s, withStamp (shRec R r) s = shRec R (withStamp r s) := fun _ _ => rfl
  have e3 : ∀ r, noCsum (shRec R r) = shRec R (noCsum r) := fun _ => rfl
  simp only [e1, isCheckedR_sh hR, isChangedR_sh hR, readStamp_sh, e2, e3, updateStamp_sh, setChanged_sh, zapDeps2_sh]
  by_cases hck : (isCheckedR (genRec (w.recs t)) R || isChangedR (genRec (w.recs t)) R) = true
  · simp only [hck, if_true, setRec_sh]; rfl
  · simp only [hck, Bool.false_eq_true, if_false, setRec_sh]; rfl

theorem recordNewState_sh {R : Nat} (hR : 0 < R) (cx : Ctx) (hcx : cx.runid = R) (t : Nat) (sfPre : Rec)
    (rv : Status) (out : Option Content) (w : World) :
    recordNewState (shCx cx) t (shRec R sfPre) rv out (shW R w) = sh2 R (recordNewState cx t sfPre rv out w) := by
  rw [recordNewState_eq, recordNewState_eq, shCx_runid cx hcx, hcx]
  by_cases hrv : rv = 0
  · simp only [hrv, if_true, rnsOut_sh]
    exact rnsOk_sh hR t _
  · simp only [hrv, if_false]
    rw [setFailed_sh, zapDeps2_sh, setRec_sh]; rfl

/-! ### `start_self` -/

theorem ssGuard_sh {R : Nat} (cx : Ctx) (hcx : cx.runid = R) (t : Nat) (sf : Rec) (w : World) :
    ssGuard (shCx cx) t (shRec R sf) (shW R w) = (shRec R (ssGuard cx t sf w).1, shW R (ssGuard cx t sf w).2) := by
  unfold ssGuard
  rw [shCx_runid cx hcx, hcx]
  simp only [readStamp_sh, shRec_isGenerated, shRec_isOverride, shRec_stamp, ev_sh, setOverride_sh]
  split
  · dsimp only
    rw [setRec_sh]
  · rfl

theorem ssRun_sh {R : Nat} (hR : 0 < R) {EA EB : Engine} (hE : EngSh R EA EB) (d : Defects) (cx : Ctx)
    (hcx : cx.runid = R) (t : Nat) (sf : Rec) (sc : Script) (w : World) :
    ssRun EB d (shCx cx) t (shRec R sf) sc (shW R w) = sh2 R (ssRun EA d cx t sf sc w) := by
  unfold ssRun
  rw [runScript_sh hE d cx hcx]
  generalize runScript EA d cx t sc w = r
  obtain ⟨rv, out, w1⟩ := r
  simp only [sh3s]
  by_cases hcr : rv = CRASHED
  · simp only [hcr, if_true]; rfl
  · simp only [hcr, if_false]
    exact recordNewState_sh hR cx hcx t sf rv out w1

theorem ssBuild_sh {R : Nat} (hR : 0 < R) {EA EB : Engine} (hE : EngSh R EA EB) (d : Defects) (cx : Ctx)
    (hcx : cx.runid = R) (t : Nat) (sf : Rec) (w : World) :
    ssBuild EB d (shCx cx) t (shRec R sf) (shW R w) = sh2 R (ssBuild EA d cx t sf w) := by
  rw [ssBuild_eq, ssBuild_eq, shCx_runid cx hcx, hcx, zapDeps1_sh, shW_rules, findDoFile_sh]
  generalize findDoFile t ((zapDeps1 w t).rules t) (zapDeps1 w t) = r
  obtain ⟨o, w1⟩ := r
  cases o with
  | none =>
    simp only [sh2, existsF_sh, setStatic_sh, setFailed_sh, setRec_sh]
    split <;> rfl
  | some dof =>
    simp only [sh2, shW_recs, setStatic_sh, setRec_sh, ev_sh, shW_fs, shW_progs]
    exact ssRun_sh hR hE d cx hcx t sf _ _

theorem startSelf_sh {R : Nat} (hR : 0 < R) {EA EB : Engine} (hE : EngSh R EA EB) (d : Defects) (cx : Ctx)
    (hcx : cx.runid = R) (t : Nat) (sf0 : Rec) (w : World) :
    startSelf EB d (shCx cx) t (shRec R sf0) (shW R w) = sh2 R (startSelf EA d cx t sf0 w) := by
  rw [startSelf_eq, startSelf_eq, ssGuard_sh cx hcx]
  generalize ssGuard cx t sf0 w = g
  obtain ⟨sf, w1⟩ := g
  simp only [existsF_sh, shRec_isOverride, shRec_isGenerated, shCx_runid cx hcx, hcx, setStatic_sh]
  split
  · split <;> rw [setRec_sh] <;> rfl
  · exact ssBuild_sh hR hE d cx hcx t sf w1

/-! ### Jobs, target lists, commands -/

/-- `redo-unlocked t deps…`. -/
def oobRun (E : Engine) (d : Defects) (cx : Ctx) (t : Nat) (ts : List Nat) (w : World) : JobResult × World :=
  match E.ifchangeCmd (oobCtx1 d cx t) (oobTargets w ts) w with
  | (0, w1) =>
    let r := E.ifchangeCmd (oobCtx2 cx) (if d.oobRebuildsDepsNotTarget then oobTargets w ts else [t]) w1
    (.done r.1, r.2)
  | (rv, w1) => (.done rv, w1)

theorem buildJob_eq (E : Engine) (d : Defects) (cx : Ctx) (fuel t : Nat) (w : World) :
    buildJob E d cx fuel t w =
      match shouldBuild cx fuel t w with
      | (none, w1) => (if d.failedTargetAbortsRun then .abort EXIT_TARGET_FAILED else .done EXIT_TARGET_FAILED, w1)
      | (some .cyclic, w1) => (.abort EXIT_CYCLIC_DEPENDENCY, w1)
      | (some .clean, w1) => (.done 0, w1)
      | (some .dirty, w1) => (.done (startSelf E d cx t (w.recs t) w1).1, (startSelf E d cx t (w.recs t) w1).2)
      | (some (.need ts), w1) =>
        if cx.noOob then (.done (startSelf E d cx t (w.recs t) w1).1, (startSelf E d cx t (w.recs t) w1).2)
        else oobRun E d cx t ts w1 := by
  unfold buildJob
  generalize shouldBuild cx fuel t w = r
  obtain ⟨o, w1⟩ := r
  cases o with
  | none => rfl
  | some dr =>
    cases dr with
    | cyclic => rfl
    | clean => rfl
    | dirty => rfl
    | need ts =>
      dsimp only
      split
      · rfl
      · unfold oobRun oobTargets oobCtx1 oobCtx2
        dsimp only
        split <;> simp_all

theorem oobRun_sh {R : Nat} {EA EB : Engine} (hE : EngSh R EA EB) (d : Defects) (cx : Ctx)
    (hcx : cx.runid = R) (t : Nat) (ts : List Nat) (w : World) :
    oobRun EB d (shCx cx) t ts (shW R w) = sh2 R (oobRun EA d cx t ts w) := by
  unfold oobRun
  have e0 : oobTargets (shW R w) ts = oobTargets w ts := rfl
  have e2 : oobCtx1 d (shCx cx) t = shCx (oobCtx1 d cx t) := rfl
  have e3 : oobCtx2 (shCx cx) = shCx (oobCtx2 cx) := rfl
  rw [e0, e2, e3, hE _ _ _ (show (oobCtx1 d cx t).runid = R from hcx)]
  generalize EA.ifchangeCmd (oobCtx1 d cx t) (oobTargets w ts) w = r1
  obtain ⟨rv, w2⟩ := r1
  by_cases hrv : rv = 0
  · subst hrv
    simp only [sh2]
    rw [hE _ _ _ (show (oobCtx2 cx).runid = R from hcx)]
    rfl
  · simp only [sh2]

theorem buildJob_sh {R : Nat} (hR : 0 < R) {EA EB : Engine} (hE : EngSh R EA EB) (d : Defects) (cx : Ctx)
    (hcx : cx.runid = R) (fuel t : Nat) (w : World) :
    buildJob EB d (shCx cx) fuel t (shW R w) = sh2 R (buildJob EA d cx fuel t w) := by
  rw [buildJob_eq, buildJob_eq, shouldBuild_sh hR cx hcx]
  simp only [shW_recs]
  generalize shouldBuild cx fuel t w = r
  obtain ⟨o, w1⟩ := r
  cases o with
  | none => rfl
  | some dr =>
    cases dr with
    | cyclic => rfl
    | clean => rfl
    | dirty =>
      simp only [sh2]
      rw [startSelf_sh hR hE d cx hcx]
      rfl
    | need ts =>
      simp only [sh2]
      have e1 : (shCx cx).noOob = cx.noOob := rfl
      rw [e1]
      by_cases hno : cx.noOob = true
      · simp only [hno, if_true]
        rw [startSelf_sh hR hE d cx hcx]
        rfl
      · simp only [hno, Bool.false_eq_true, if_false]
        exact oobRun_sh hE d cx hcx t ts w1

theorem runTargets_sh {R : Nat} (hR : 0 < R) {EA EB : Engine} (hE : EngSh R EA EB) (d : Defects) (cx : Ctx)
    (hcx : cx.runid = R) (fuel : Nat) :
    ∀ (ts seen : List Nat) (errored : Bool) (w : World),
      runTargets EB d (shCx cx) fuel ts seen errored (shW R w) = sh2 R (runTargets EA d cx fuel ts seen errored w)
  | [], seen, errored, w => by rw [runTargets, runTargets]; rfl
  | t :: ts, seen, errored, w => by
    rw [runTargets, runTargets]
    have e1 : (shCx cx).keepGoing = cx.keepGoing := rfl
    have e2 : (shCx cx).unlocked = cx.unlocked := rfl
    have e3 : (shCx cx).cycles = cx.cycles := rfl
    rw [e1, e2, e3]
    by_cases hseen : t ∈ seen
    · simp only [hseen, if_true]
      exact runTargets_sh hR hE d cx hcx fuel ts seen errored w
    simp only [hseen, if_false]
    by_cases herr : (errored && !cx.keepGoing) = true
    · simp only [herr, if_true]; rfl
    simp only [herr, Bool.false_eq_true, if_false, addKnown_sh]
    by_cases hcyc : (!cx.unlocked && decide (t ∈ cx.cycles)) = true
    · simp only [hcyc, if_true]; rfl
    simp only [hcyc, Bool.false_eq_true, if_false]
    rw [buildJob_sh hR hE d cx hcx]
    generalize buildJob EA d cx fuel t (addKnown w t) = r
    obtain ⟨jr, w1⟩ := r
    cases jr with
    | abort code => rfl
    | done rv =>
      simp only [sh2]
      by_cases hcr : rv = CRASHED
      · simp only [hcr, if_true]
      · simp only [hcr, if_false]
        exact runTargets_sh hR hE d cx hcx fuel ts (t :: seen) _ w1

theorem declW_sh (R : Nat) (cx : Ctx) (ts : List Nat) (w : World) :
    declW (shCx cx) ts (shW R w) = shW R (declW cx ts w) := by
  unfold declW
  show (match cx.parent with | some p => if cx.unlocked then _ else _ | none => _) = _
  cases cx.parent with
  | none => rfl
  | some p =>
    dsimp only
    split
    · rfl
    · rw [addKnown_sh]; exact foldl_addDep_sh _ _ _ _ _

theorem ifchangeWith_sh {R : Nat} (hR : 0 < R) {EA EB : Engine} (hE : EngSh R EA EB) (d : Defects) (fuel : Nat)
    (cx : Ctx) (hcx : cx.runid = R) (ts : List Nat) (w : World) :
    ifchangeWith EB d fuel (shCx cx) ts (shW R w) = sh2 R (ifchangeWith EA d fuel cx ts w) := by
  rw [ifchangeWith_eq, ifchangeWith_eq, declW_sh]
  show (if selfRequest cx ts then _ else _) = _
  split
  · rfl
  · exact runTargets_sh hR hE d cx hcx fuel ts [] false _

theorem engine_sh {R : Nat} (hR : 0 < R) (d : Defects) : ∀ n, EngSh R (engine d n) (engine d n)
  | 0 => fun _ _ _ _ => rfl
  | n + 1 => fun cx ts w hcx => by
    simp only [engine]
    exact ifchangeWith_sh hR (engine_sh hR d n) d (n + 1) cx hcx ts w

/-! ### Shifting at a fresh run id is the identity on the records -/

theorem shRec_of_wf {w : World} (hwf : WF w) (f : Nat) : shRec (w.runCounter + 1) (w.recs f) = w.recs f := by
  obtain ⟨h1, h2, h3⟩ := hwf f
  have hm : ∀ o : Option Nat, (∀ c, o = some c → c ≤ w.runCounter) → o.map (sh (w.runCounter + 1)) = o := by
    intro o ho
    cases o with
    | none => rfl
    | some c => simp only [Option.map_some]; rw [sh_of_lt (by have := ho c rfl; omega)]
  unfold shRec
  rw [hm _ h1, hm _ h2, hm _ h3]

theorem shW_alloc {w : World} (hwf : WF w) :
    shW (w.runCounter + 1) { w with runCounter := w.runCounter + 1 } = { w with runCounter := w.runCounter + 1 + 1 } := by
  unfold shW
  dsimp only
  congr 1
  funext f
  exact shRec_of_wf hwf f

/-! ### The build commands -/

/-- A build command that starts one run id later on the same records does the same, with its own
run id in place of the earlier one. -/
theorem build_shift (d : Defects) (n : Nat) (w : World) (hwf : WF w) (b : Cmd)
    (hb : ∃ ts kg, b = .redo ts kg ∨ b = .ifchange ts kg) :
    runCmd d n b { w with runCounter := w.runCounter + 1 } =
      ((runCmd d n b w).1, shW (w.runCounter + 1) (runCmd d n b w).2) := by
  have top : ∀ r kg ts, runTop (engine d (2 * n + 4)) d (2 * n + 4) r kg ts { w with runCounter := w.runCounter + 1 } =
      ((runTop (engine d (2 * n + 4)) d (2 * n + 4) r kg ts w).1,
        shW (w.runCounter + 1) (runTop (engine d (2 * n + 4)) d (2 * n + 4) r kg ts w).2) := by
    intro r kg ts
    unfold runTop allocRun
    dsimp only
    rw [← shW_alloc hwf]
    have := runTargets_sh (R := w.runCounter + 1) (by omega) (engine_sh (by omega) d (2 * n + 4)) d
      { runid := w.runCounter + 1, keepGoing := kg, isRedo := r } rfl (2 * n + 4) ts [] false
      { w with runCounter := w.runCounter + 1 }
    exact congrArg (fun x => (({ status := x.1 } : Result), x.2)) this
  obtain ⟨ts, kg, h | h⟩ := hb <;> subst h
  · simp only [(runCmd_build_eq d n ts kg _).1]
    exact top true kg ts
  · simp only [(runCmd_build_eq d n ts kg _).2]
    exact top false kg ts

end RedoModel.Deps
