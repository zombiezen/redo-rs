import RedoModel.Lemmas.DepsSoundSpec
import RedoModel.Lemmas.Deps
import RedoModel.Lemmas.DepsOwnedEngine
/-!
C01 on the full model, definitions: the corrected notion of up-to-date (`UpToDateD`: a .do content without
a `progs` entry means the default script, as in `startSelf`), and the run invariant `Inv`.
-/
namespace RedoModel.Deps

/-- The script a .do file stands for, as `startSelf` computes it. -/
def scriptAt (w : World) (dof : Nat) : Script :=
  match w.fs dof with
  | some n => (w.progs n.content).getD {}
  | none => {}

/-- First existing candidate (what `findDoFile` chooses). -/
def firstEx (w : World) : List Nat → Option Nat
  | [] => none
  | c :: cs => if existsF w c then some c else firstEx w cs

def contentOf (w : World) (f : Nat) : Option Content := (w.fs f).map (·.content)

def outOf (w : World) (sc : Script) : Option Content :=
  if sc.outMode = 2 then none else some (outContent sc.tag (sc.reads.map (contentOf w)))

inductive UpToDateD (w : World) : Nat → Prop
  | source {f} : (∀ c ∈ w.rules f, existsF w c = false) → UpToDateD w f
  | user {f} : (w.recs f).isGenerated = false → existsF w f = true → UpToDateD w f
  | target {t dof} : firstEx w (w.rules t) = some dof →
      (∀ d ∈ (scriptAt w dof).reads, UpToDateD w d) →
      contentOf w t = outOf w (scriptAt w dof) → UpToDateD w t

def RecCur (w : World) (f : Nat) : Prop :=
  (w.recs f).failed = none ∧ (w.recs f).changed ≠ none ∧ (w.recs f).stamp = some (readStamp w f)

/-- A change of the `m` dependency `d` is visible to a parent whose max(changed, checked) is `M`. -/
def DetectM (w : World) (M : Nat) (d : Nat) : Prop :=
  (w.recs d).failed ≠ none ∨ (w.recs d).changed = none ∨
  (∃ ch, (w.recs d).changed = some ch ∧ ch > M) ∨ (w.recs d).stamp ≠ some (readStamp w d)

/-- The part of `DetectM` that does not look at the `failed` flag: the truth clause uses this one. -/
def FailedAbsent (w : World) (d : Nat) : Prop :=
  (w.recs d).failed ≠ none ∧ (w.recs d).isGenerated = false ∧ (w.recs d).stamp = some .missing

def DetectS (w : World) (M : Nat) (d : Nat) : Prop :=
  (w.recs d).changed = none ∨
  (∃ ch, (w.recs d).changed = some ch ∧ ch > M) ∨ (w.recs d).stamp ≠ some (readStamp w d) ∨ FailedAbsent w d

def Mof (r : Rec) : Nat := max (r.changed.getD 0) (r.checked.getD 0)

def VerR (w : World) (R : Nat) (f : Nat) : Prop :=
  (w.recs f).failed = none ∧ ((w.recs f).checked = some R ∨ (w.recs f).changed = some R)

def HasRow (w : World) (t s : Nat) (m : Bool) : Prop :=
  ∃ d ∈ w.deps, d.target = t ∧ d.source = s ∧ d.modeM = m

def rowsOf (w : World) (t : Nat) : List Dep := w.deps.filter (fun d => d.target = t)

/-- What the record of a current generated target `t` promises. -/
def RecTruth (w : World) (t : Nat) : Prop :=
  ∃ (pre : List Nat) (dof : Nat) (post : List Nat) (sc : Script),
    w.rules t = pre ++ dof :: post ∧
    (∀ c ∈ pre, HasRow w t c false) ∧ HasRow w t dof true ∧ (∀ d ∈ sc.reads, HasRow w t d true) ∧
    sc.exit = 0 ∧
    ((existsF w dof = true ∧ scriptAt w dof = sc) ∨ DetectS w (Mof (w.recs t)) dof) ∧
    ∃ cs : List (Option Content),
      contentOf w t = (if sc.outMode = 2 then none else some (outContent sc.tag cs)) ∧
      cs.length = sc.reads.length ∧
      ∀ p ∈ List.zip sc.reads cs, p.2 ≠ contentOf w p.1 → DetectS w (Mof (w.recs t)) p.1

/-- The part of the invariant that also holds between commands (`R` bounds the run ids in use). -/
structure Base (rank : Nat → Nat) (R : Nat) (X : Nat → Prop) (w : World) : Prop where
  rulesOk : RulesOk w.rules
  ranked : Ranked rank w
  plainProgs : ∀ c sc, w.progs c = some sc → sc.Plain
  chLe : ∀ f ch, (w.recs f).changed = some ch → ch ≤ R
  ckLe : ∀ f ck, (w.recs f).checked = some ck → ck ≤ R
  noCsum : ∀ f, (w.recs f).csum = none
  noOvr : ∀ f, (w.recs f).isOverride = false
  srcNotGen : ∀ f, w.rules f = [] → (w.recs f).isGenerated = false
  fs0 : w.fs alwaysId = none
  rec0 : (w.recs alwaysId).failed ≠ none ∨ ((w.recs alwaysId).stamp = none ∧ (w.recs alwaysId).checked = none)
  rowsLt : ∀ d ∈ w.deps, rank d.source < rank d.target
  cPlain : ∀ d ∈ w.deps, d.modeM = false → w.rules d.source = []
  stampCh : ∀ f, (w.recs f).stamp ≠ none → (w.recs f).changed ≠ none
  staticEx : ∀ f, (w.recs f).failed = none → (w.recs f).isGenerated = false → (w.recs f).stamp ≠ some .missing
  genMs : ∀ f, (w.recs f).isGenerated = true → ∀ n, w.fs f = some n → ∃ rest, (w.recs f).stamp = some (.st n.ms rest)
  fsB : ∀ f n, w.fs f = some n → n.ms ≤ w.clock
  stB : ∀ f ms rest, (w.recs f).stamp = some (.st ms rest) →
      ms ≤ w.clock ∧ ∀ n, w.fs f = some n → ms < n.ms ∨ (ms = n.ms ∧ rest ≤ n.rest)
  ckFail : ∀ f, (w.recs f).checked = some R → (w.recs f).failed = none
  markFail : ∀ f, (w.recs f).changed = some R → (w.recs f).failed = none ∨ (w.recs f).failed = some R
  flLe : ∀ f k, (w.recs f).failed = some k → k ≤ R
  recA : ∀ t, (¬ X t ∨ VerR w R t) → RecCur w t → (w.recs t).isGenerated = true → RecTruth w t

/-- Verified in run `R`, or a current record of a file redo does not own (nothing to rebuild). -/
def Good (w : World) (R : Nat) (f : Nat) : Prop :=
  VerR w R f ∨ (RecCur w f ∧ (w.recs f).isGenerated = false)

/-- What "verified in run `R`" guarantees. -/
def Ver (R : Nat) (w : World) : Prop :=
  ∀ f, VerR w R f → RecCur w f ∧ UpToDateD w f ∧
    ((w.recs f).isGenerated = true → ∀ d ∈ w.deps, d.target = f →
      (d.modeM = true → Good w R d.source) ∧ (d.modeM = false → existsF w d.source = false))

structure Inv (rank : Nat → Nat) (R : Nat) (X : Nat → Prop) (w : World) : Prop where
  base : Base rank R X w
  Rpos : 0 < R
  ver : Ver R w

def NoFail (R : Nat) (w : World) : Prop := ∀ f, (w.recs f).failed ≠ some R

end RedoModel.Deps
