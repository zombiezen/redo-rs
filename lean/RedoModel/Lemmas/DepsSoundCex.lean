import RedoModel.Lemmas.DepsCmdFrame
/-!
`NoStalePlain` as stated is FALSE, for two reasons.  The first: a .do file whose content was never given a meaning
with `setProg` runs the default script `{}` (that is what `startSelf` does: `(w.progs n.content).getD {}`), the build
exits 0, but `UpToDate.target` demands `w.progs n.content = some sc`.

History: rules 2 ↦ [1];  `write 1 7`;  `redo-ifchange 2`.
-/
namespace RedoModel.Deps

def cxRules : Nat → List Nat := fun t => if t = 2 then [1] else []
def cxOps : List UserOp := [.write 1 7]

theorem cx_support : ∀ t, t ∉ [2] → cxRules t = [] := by
  intro t ht
  simp only [List.mem_singleton] at ht
  simp [cxRules, ht]

theorem cx_rulesOk : RulesOk cxRules := .of_support cx_support (by decide +kernel)

def cxRank : Nat → Nat := fun f => if f = 2 then 1 else 0

theorem cxRank_lt (f : Nat) : cxRank f < 2 := by unfold cxRank; split <;> omega

def cxW : World := cxOps.foldl (fun w op => (applyOp {} 5 op w).2) (initWorld cxRules)
def cxRes : Result × World := runCmd {} 5 (.ifchange [2] false) cxW

theorem cx_status : cxRes.1.status = 0 := by decide +kernel
theorem cx_progs : cxRes.2.progs = fun _ => none := rfl
theorem cx_exists : existsF cxRes.2 1 = true := by decide +kernel
theorem cx_gen : (cxRes.2.recs 2).isGenerated = true := by decide +kernel

theorem cx_notUpToDate : ¬ UpToDate cxRes.2 2 := by
  intro h
  cases h with
  | source hs =>
    have := hs 1 (by decide)
    rw [cx_exists] at this; cases this
  | user hg _ => rw [cx_gen] at hg; cases hg
  | target _ _ hp _ _ => rw [cx_progs] at hp; cases hp

theorem not_noStalePlain : ¬ NoStalePlain := by
  intro h
  exact cx_notUpToDate (h 5 cxRules cxRank cxOps [2] false false cx_rulesOk (by decide +kernel)
    (ranked_history 5 {} cx_rulesOk cx_support (by decide +kernel) (by decide +kernel))
    (fun f => Nat.lt_trans (cxRank_lt f) (by decide)) cx_status 2 (by simp))

/-! ### Second counterexample: the meaning of a .do content in place is redefined with `setProg`
(no file changes, so nothing is detectable).  Here every .do content has a meaning. -/

def cx2Ops : List UserOp :=
  [.setProg [17] { tag := 1 }, .write 1 7, .cmd (.ifchange [2] false), .setProg [17] { tag := 2 }]
def cx2W : World := cx2Ops.foldl (fun w op => (applyOp {} 5 op w).2) (initWorld cxRules)
def cx2Res : Result × World := runCmd {} 5 (.ifchange [2] false) cx2W

theorem cx2_status : cx2Res.1.status = 0 := by decide +kernel
theorem cx2_exists : existsF cx2Res.2 1 = true := by decide +kernel
theorem cx2_gen : (cx2Res.2.recs 2).isGenerated = true := by decide +kernel
theorem cx2_dof : cx2Res.2.fs 1 = some { content := [17], ms := 1, rest := 0 } := by decide +kernel
theorem cx2_prog : cx2Res.2.progs [17] = some { tag := 2 } := by decide +kernel
theorem cx2_content : (cx2Res.2.fs 2).map (·.content) = some [4] := by decide +kernel
theorem cx2_find dof (h : (findDoFile 2 (cx2Res.2.rules 2) cx2Res.2).1 = some dof) : dof = 1 := by
  have : (findDoFile 2 (cx2Res.2.rules 2) cx2Res.2).1 = some 1 := by decide +kernel
  rw [this] at h; exact (Option.some.inj h).symm

theorem cx2_notUpToDate : ¬ UpToDate cx2Res.2 2 := by
  intro h
  cases h with
  | source hs =>
    have := hs 1 (by decide +kernel)
    rw [cx2_exists] at this; cases this
  | user hg _ => rw [cx2_gen] at hg; cases hg
  | target hf hn hp _ hc =>
    have := cx2_find _ hf; subst this
    rw [cx2_dof] at hn; cases hn
    rw [cx2_prog] at hp; cases hp
    rw [cx2_content] at hc
    simp [outContent] at hc

end RedoModel.Deps
