import RedoModel.Lemmas.DepsSound1
import RedoModel.Lemmas.DepsStartSelf
import RedoModel.Lemmas.DepsMemo
/-!
What the soundness developments (plain and checksums: `DepsSoundS*`; rich: `DepsSoundR*`) share and that rests on no run
invariant: how the functions of `fs` (`contentOf`, `scriptAt`, `firstEx`) and the notions of `DepsSound1` move with the
world; the frames of the single steps with their algebra (`CkExt`, `OffT`, `WEqv`, `RowOp`, `Flds`, `SameT`, `RowsDecl`: each
development states these again in its namespace, with `toPlain`/`toS`/`toRich` to and from the ones here; `SameTriples`,
`FsUpd`: the S chain uses the ones here); what `setStatic`, `setFailed` and `recordNewState` write (`OkFields`, `KeepFields`,
read off `Wrote` of `DepsParts`); the user's operations; a killed command; what `findDoFile` chooses and the rows it leaves.
Facts about the primitive functions alone are in `DepsPrim`, the equations of the engine's functions in `DepsParts` and
`DepsStartSelf`; the vocabulary of the plain statements in `DepsSoundPlainSpec`.
-/
namespace RedoModel.Deps
open RedoModel.Generated

attribute [simp] setRec_recs_self setRec_fs setRec_deps setRec_rules setRec_progs setRec_clock setRec_readStamp setRec_existsF

/-! ### Functions of `fs` (`contentOf`, `scriptAt`, `firstEx`); a record with a current stamp; `Mof`. -/

theorem contentOf_congr {w w' : World} {f : Nat} (h : w'.fs f = w.fs f) : contentOf w' f = contentOf w f := by
  unfold contentOf; rw [h]

theorem scriptAt_congr {w w' : World} {f : Nat} (h : w'.fs f = w.fs f) (hp : w'.progs = w.progs) :
    scriptAt w' f = scriptAt w f := by
  unfold scriptAt; rw [h, hp]

theorem firstEx_congr {w w' : World} : ∀ (cs : List Nat), (∀ c ∈ cs, w'.fs c = w.fs c) → firstEx w' cs = firstEx w cs
  | [], _ => rfl
  | c :: cs, h => by
    simp only [firstEx]
    rw [existsF_congr (h c (by simp)), firstEx_congr cs (fun c' hc' => h c' (List.mem_cons_of_mem _ hc'))]

theorem firstEx_eq_find (w : World) : ∀ cs : List Nat, firstEx w cs = cs.find? (existsF w)
  | [] => rfl
  | c :: cs => by
    simp only [firstEx, List.find?_cons, firstEx_eq_find w cs]
    cases existsF w c <;> rfl

theorem firstEx_mem {w : World} : ∀ (cs : List Nat) (dof : Nat), firstEx w cs = some dof → dof ∈ cs ∧ existsF w dof = true
  | [], _, h => by simp [firstEx] at h
  | c :: cs, dof, h => by
    simp only [firstEx] at h
    split at h
    · cases h; exact ⟨by simp, by assumption⟩
    · have := firstEx_mem cs dof h
      exact ⟨List.mem_cons_of_mem _ this.1, this.2⟩

theorem firstEx_split {w : World} (pre : List Nat) (dof : Nat) (post : List Nat)
    (hpre : ∀ c ∈ pre, existsF w c = false) (hd : existsF w dof = true) :
    firstEx w (pre ++ dof :: post) = some dof := by
  induction pre with
  | nil => simp [firstEx, hd]
  | cons c cs ih =>
    simp only [List.cons_append, firstEx, hpre c (by simp), Bool.false_eq_true, if_false]
    exact ih (fun c' hc' => hpre c' (List.mem_cons_of_mem _ hc'))

theorem firstEx_none {w : World} : ∀ (cs : List Nat), firstEx w cs = none → ∀ c ∈ cs, existsF w c = false
  | [], _, c, hc => by simp at hc
  | c0 :: cs, h, c, hc => by
    simp only [firstEx] at h
    split at h
    · cases h
    · rename_i hne
      rcases List.mem_cons.1 hc with rfl | hc
      · simpa using hne
      · exact firstEx_none cs h c hc

theorem firstEx_some_split {w : World} : ∀ (cs : List Nat) (dof : Nat), firstEx w cs = some dof →
    ∃ pre post, cs = pre ++ dof :: post ∧ (∀ c ∈ pre, existsF w c = false) ∧ existsF w dof = true
  | [], _, h => by simp [firstEx] at h
  | c :: cs, dof, h => by
    simp only [firstEx] at h
    split at h
    · cases h; exact ⟨[], cs, rfl, by simp, by assumption⟩
    · rename_i hne
      obtain ⟨pre, post, e, h1, h2⟩ := firstEx_some_split cs dof h
      refine ⟨c :: pre, post, by simp [e], ?_, h2⟩
      intro c' hc'
      rcases List.mem_cons.1 hc' with rfl | hc'
      · simpa using hne
      · exact h1 c' hc'

/-- A record that carries the current stamp of its file meets the two stamp clauses of the invariant. -/
theorem stampCur_ok {w : World} {t : Nat} (hs : (w.recs t).stamp = some (readStamp w t))
    (hB : ∀ n, w.fs t = some n → n.ms ≤ w.clock) :
    (∀ n, w.fs t = some n → ∃ rest, (w.recs t).stamp = some (.st n.ms rest)) ∧
    ∀ ms rest, (w.recs t).stamp = some (.st ms rest) →
      ms ≤ w.clock ∧ ∀ n, w.fs t = some n → ms < n.ms ∨ (ms = n.ms ∧ rest ≤ n.rest) := by
  refine ⟨fun n hn => ⟨n.rest, by rw [hs]; unfold readStamp; rw [hn]⟩, fun ms rest h => ?_⟩
  rw [hs] at h
  cases hn : w.fs t with
  | none => rw [readStamp_missing.2 hn] at h; cases h
  | some n =>
    have hrs : readStamp w t = .st n.ms n.rest := by unfold readStamp; rw [hn]
    rw [hrs] at h; cases h
    exact ⟨hB n hn, fun n' hn' => by cases hn'; exact Or.inr ⟨rfl, Nat.le_refl _⟩⟩

theorem Mof_eq_R {R : Nat} {r : Rec} (h : Mof r = R) (hR : 0 < R) : r.changed = some R ∨ r.checked = some R := by
  unfold Mof at h
  cases hc : r.changed with
  | none =>
    cases hk : r.checked with
    | none => rw [hc, hk] at h; simp at h; omega
    | some k => rw [hc, hk] at h; simp at h; right; rw [h]
  | some c =>
    cases hk : r.checked with
    | none => rw [hc, hk] at h; simp at h; left; rw [h]
    | some k =>
      rw [hc, hk] at h; simp only [Option.getD_some] at h
      rcases Nat.le_total c k with hck | hck
      · right; rw [← h, Nat.max_eq_right hck]
      · left; rw [← h, Nat.max_eq_left hck]

theorem existsF_of_contentOf {w w' : World} {f : Nat} (h : contentOf w' f = contentOf w f) :
    existsF w' f = existsF w f := by
  unfold contentOf at h; unfold existsF
  cases h1 : w'.fs f <;> cases h2 : w.fs f <;> simp_all

theorem scriptAt_of_contentOf {w w' : World} {f : Nat} (h : contentOf w' f = contentOf w f)
    (hp : w'.progs = w.progs) : scriptAt w' f = scriptAt w f := by
  unfold contentOf at h; unfold scriptAt
  cases h1 : w'.fs f <;> cases h2 : w.fs f <;> simp_all

theorem firstEx_of_contentOf {w w' : World} : ∀ (cs : List Nat), (∀ c ∈ cs, contentOf w' c = contentOf w c) →
    firstEx w' cs = firstEx w cs
  | [], _ => rfl
  | c :: cs, h => by
    simp only [firstEx]
    rw [existsF_of_contentOf (h c (by simp)),
      firstEx_of_contentOf cs (fun c' hc' => h c' (List.mem_cons_of_mem _ hc'))]

/-! ### The frame `CkExt` of a check that only marks files as checked. -/

/-- `w'` differs from `w` only by `checked := some R` on files of rank `< b` (and the ghost trace). -/
def CkExt (rank : Nat → Nat) (R b : Nat) (w w' : World) : Prop :=
  SameButRecs w w' ∧ ∀ x, w'.recs x = w.recs x ∨ (rank x < b ∧ w'.recs x = { w.recs x with checked := some R })

theorem CkExt.refl (rank R b w) : CkExt rank R b w w := ⟨SameButRecs.refl w, fun _ => Or.inl rfl⟩

theorem CkExt.mono {rank R b b' w w'} (h : CkExt rank R b w w') (hb : b ≤ b') : CkExt rank R b' w w' :=
  ⟨h.1, fun x => (h.2 x).imp id (fun ⟨hx, e⟩ => ⟨Nat.lt_of_lt_of_le hx hb, e⟩)⟩

theorem CkExt.trans {rank R b w w' w''} (h1 : CkExt rank R b w w') (h2 : CkExt rank R b w' w'') :
    CkExt rank R b w w'' := by
  refine ⟨h1.1.trans h2.1, fun x => ?_⟩
  rcases h1.2 x with e1 | ⟨hx1, e1⟩ <;> rcases h2.2 x with e2 | ⟨hx2, e2⟩
  · exact Or.inl (e2.trans e1)
  · exact Or.inr ⟨hx2, by rw [e2, e1]⟩
  · exact Or.inr ⟨hx1, by rw [e2, e1]⟩
  · exact Or.inr ⟨hx1, by rw [e2, e1]⟩

theorem CkExt.fs {rank R b w w'} (h : CkExt rank R b w w') : w'.fs = w.fs := h.1.1

theorem CkExt.deps {rank R b w w'} (h : CkExt rank R b w w') : w'.deps = w.deps := h.1.2.1

theorem CkExt.readStamp {rank R b w w'} (h : CkExt rank R b w w') (f) : readStamp w' f = readStamp w f :=
  readStamp_congr (congrFun h.fs f)

theorem CkExt.existsF {rank R b w w'} (h : CkExt rank R b w w') (f) : existsF w' f = existsF w f :=
  existsF_congr (congrFun h.fs f)

theorem CkExt.contentOf {rank R b w w'} (h : CkExt rank R b w w') (f) : contentOf w' f = contentOf w f :=
  contentOf_congr (congrFun h.fs f)

theorem CkExt.fields {rank R b w w'} (h : CkExt rank R b w w') (x) :
    (w'.recs x).failed = (w.recs x).failed ∧ (w'.recs x).changed = (w.recs x).changed ∧
    (w'.recs x).stamp = (w.recs x).stamp ∧ (w'.recs x).isGenerated = (w.recs x).isGenerated ∧
    (w'.recs x).isOverride = (w.recs x).isOverride ∧ (w'.recs x).csum = (w.recs x).csum ∧
    ((w'.recs x).checked = (w.recs x).checked ∨ (w'.recs x).checked = some R) := by
  rcases h.2 x with e | ⟨_, e⟩ <;> rw [e] <;> simp

theorem CkExt.above {rank R b w w'} (h : CkExt rank R b w w') {x} (hx : b ≤ rank x) : w'.recs x = w.recs x := by
  rcases h.2 x with e | ⟨hx', _⟩
  · exact e
  · omega

theorem DetectM_ext {rank R b w w'} (h : CkExt rank R b w w') (M d) : DetectM w' M d ↔ DetectM w M d := by
  obtain ⟨f1, f2, f3, _⟩ := h.fields d
  unfold DetectM; rw [f1, f2, f3, h.readStamp]

theorem DetectS_ext {rank R b w w'} (h : CkExt rank R b w w') (M d) : DetectS w' M d ↔ DetectS w M d := by
  obtain ⟨f1, f2, f3, f4, _⟩ := h.fields d
  unfold DetectS FailedAbsent; rw [f1, f2, f3, f4, h.readStamp]

theorem RecCur_ext {rank R b w w'} (h : CkExt rank R b w w') (f) : RecCur w' f ↔ RecCur w f := by
  obtain ⟨f1, f2, f3, _⟩ := h.fields f
  unfold RecCur; rw [f1, f2, f3, h.readStamp]

theorem VerR_ext {rank R b w w'} (h : CkExt rank R b w w') {f} (hv : VerR w R f) : VerR w' R f := by
  obtain ⟨f1, f2, _, _, _, _, f6⟩ := h.fields f
  unfold VerR at *; rw [f1, f2]
  refine ⟨hv.1, ?_⟩
  rcases hv.2 with h1 | h1
  · rcases f6 with e | e
    · exact Or.inl (e.trans h1)
    · exact Or.inl e
  · exact Or.inr h1

theorem HasRow_ext {rank R b w w'} (h : CkExt rank R b w w') (t s m) : HasRow w' t s m ↔ HasRow w t s m := by
  unfold HasRow; rw [h.deps]

/-! ### One file updated (`OffT`). -/

/-- `w'` differs from `w` only at file `t`: its file, its record, the rows whose target is `t`; the clock may advance. -/
structure OffT (t : Nat) (w w' : World) : Prop where
  rules : w'.rules = w.rules
  progs : w'.progs = w.progs
  fs : ∀ x, x ≠ t → w'.fs x = w.fs x
  fsP : w.rules t = [] → w'.fs t = w.fs t
  recs : ∀ x, x ≠ t → w'.recs x = w.recs x
  rows : ∀ d : Dep, d.target ≠ t → (d ∈ w'.deps ↔ d ∈ w.deps)
  clock : w.clock ≤ w'.clock
  rc : w'.runCounter = w.runCounter

theorem OffT.refl (t : Nat) (w : World) : OffT t w w :=
  ⟨rfl, rfl, fun _ _ => rfl, fun _ => rfl, fun _ _ => rfl, fun _ _ => Iff.rfl, Nat.le_refl _, rfl⟩

theorem OffT.trans {t : Nat} {a b c : World} (h1 : OffT t a b) (h2 : OffT t b c) : OffT t a c :=
  ⟨h2.rules.trans h1.rules, h2.progs.trans h1.progs, fun x hx => (h2.fs x hx).trans (h1.fs x hx),
   fun ht => (h2.fsP (by rw [h1.rules]; exact ht)).trans (h1.fsP ht),
   fun x hx => (h2.recs x hx).trans (h1.recs x hx),
   fun d hd => (h2.rows d hd).trans (h1.rows d hd), Nat.le_trans h1.clock h2.clock, h2.rc.trans h1.rc⟩

theorem OffT.hasRow {t w w'} (h : OffT t w w') {x s m} (hx : x ≠ t) : HasRow w' x s m ↔ HasRow w x s m := by
  unfold HasRow
  constructor
  · rintro ⟨d, hd, h1, h2, h3⟩
    exact ⟨d, (h.rows d (by rw [h1]; exact hx)).1 hd, h1, h2, h3⟩
  · rintro ⟨d, hd, h1, h2, h3⟩
    exact ⟨d, (h.rows d (by rw [h1]; exact hx)).2 hd, h1, h2, h3⟩

theorem OffT.fsPlain {t w w'} (h : OffT t w w') {x} (hx : w.rules x = []) : w'.fs x = w.fs x := by
  by_cases e : x = t
  · subst e; exact h.fsP hx
  · exact h.fs x e

theorem OffT.readStamp {t w w'} (h : OffT t w w') {x} (hx : x ≠ t) : readStamp w' x = readStamp w x :=
  readStamp_congr (h.fs x hx)

theorem OffT.recCur {t w w'} (h : OffT t w w') {x} (hx : x ≠ t) : RecCur w' x ↔ RecCur w x := by
  unfold RecCur; rw [h.recs x hx, h.readStamp hx]

theorem OffT.verR {t w w'} (h : OffT t w w') {x} (hx : x ≠ t) (R) : VerR w' R x ↔ VerR w R x := by
  unfold VerR; rw [h.recs x hx]

@[simp] theorem setRec_contentOf (w : World) (f : Nat) (r : Rec) (x) : contentOf (setRec w f r) x = contentOf w x := rfl

theorem OffT.setRec (w : World) (f : Nat) (r : Rec) : OffT f w (setRec w f r) :=
  ⟨rfl, rfl, fun _ _ => rfl, fun _ => rfl, fun _ hx => setRec_recs_other w f r hx, fun _ _ => Iff.rfl, Nat.le_refl _, rfl⟩

theorem ck_verR {w : World} {R f x : Nat} (hv : VerR w R x) :
    VerR (setRec w f { w.recs f with checked := some R }) R x := by
  by_cases e : x = f
  · subst e; unfold VerR; simp only [setRec_recs_self]; exact ⟨hv.1, Or.inl trivial⟩
  · unfold VerR; rw [setRec_recs_other _ _ _ e]; exact hv

/-! ### Worlds equal up to rows and row ids (`WEqv`), row operations on one target (`RowOp`), records equal up to `row`
(`Flds`); what `zapDeps1` and `addDep` do to the rows. -/

structure WEqv (w w' : World) : Prop where
  fs : w'.fs = w.fs
  deps : w'.deps = w.deps
  rules : w'.rules = w.rules
  progs : w'.progs = w.progs
  clock : w'.clock = w.clock
  rc : w'.runCounter = w.runCounter
  gen : ∀ x, (w'.recs x).isGenerated = (w.recs x).isGenerated
  ovr : ∀ x, (w'.recs x).isOverride = (w.recs x).isOverride
  checked : ∀ x, (w'.recs x).checked = (w.recs x).checked
  changed : ∀ x, (w'.recs x).changed = (w.recs x).changed
  failed : ∀ x, (w'.recs x).failed = (w.recs x).failed
  stamp : ∀ x, (w'.recs x).stamp = (w.recs x).stamp
  csum : ∀ x, (w'.recs x).csum = (w.recs x).csum

theorem WEqv.refl (w : World) : WEqv w w :=
  ⟨rfl, rfl, rfl, rfl, rfl, rfl, fun _ => rfl, fun _ => rfl, fun _ => rfl, fun _ => rfl, fun _ => rfl, fun _ => rfl, fun _ => rfl⟩

theorem WEqv.symm {w w'} (h : WEqv w w') : WEqv w' w :=
  ⟨h.fs.symm, h.deps.symm, h.rules.symm, h.progs.symm, h.clock.symm, h.rc.symm, fun x => (h.gen x).symm, fun x => (h.ovr x).symm,
   fun x => (h.checked x).symm, fun x => (h.changed x).symm, fun x => (h.failed x).symm, fun x => (h.stamp x).symm,
   fun x => (h.csum x).symm⟩

theorem WEqv.trans {a b c} (h1 : WEqv a b) (h2 : WEqv b c) : WEqv a c :=
  ⟨h2.fs.trans h1.fs, h2.deps.trans h1.deps, h2.rules.trans h1.rules, h2.progs.trans h1.progs, h2.clock.trans h1.clock,
   h2.rc.trans h1.rc, fun x => (h2.gen x).trans (h1.gen x), fun x => (h2.ovr x).trans (h1.ovr x),
   fun x => (h2.checked x).trans (h1.checked x), fun x => (h2.changed x).trans (h1.changed x),
   fun x => (h2.failed x).trans (h1.failed x), fun x => (h2.stamp x).trans (h1.stamp x),
   fun x => (h2.csum x).trans (h1.csum x)⟩

theorem WEqv.readStamp {w w'} (h : WEqv w w') (f) : readStamp w' f = readStamp w f := readStamp_congr (congrFun h.fs f)

theorem WEqv.existsF {w w'} (h : WEqv w w') (f) : existsF w' f = existsF w f := existsF_congr (congrFun h.fs f)

theorem WEqv.contentOf {w w'} (h : WEqv w w') (f) : contentOf w' f = contentOf w f := contentOf_congr (congrFun h.fs f)

theorem WEqv.scriptAt {w w'} (h : WEqv w w') (f) : scriptAt w' f = scriptAt w f := scriptAt_congr (congrFun h.fs f) h.progs

theorem WEqv.recCur {w w'} (h : WEqv w w') (f) : RecCur w' f ↔ RecCur w f := by
  unfold RecCur; rw [h.failed, h.changed, h.stamp, h.readStamp]

theorem WEqv.verR {w w'} (h : WEqv w w') (R f) : VerR w' R f ↔ VerR w R f := by
  unfold VerR; rw [h.failed, h.changed, h.checked]

theorem WEqv.mof {w w'} (h : WEqv w w') (f) : Mof (w'.recs f) = Mof (w.recs f) := by
  unfold Mof; rw [h.changed, h.checked]

theorem WEqv.hasRow {w w'} (h : WEqv w w') (t s m) : HasRow w' t s m ↔ HasRow w t s m := by
  unfold HasRow; rw [h.deps]

theorem WEqv.addKnown (w : World) (f : Nat) : WEqv w (addKnown w f) := by
  unfold Deps.addKnown
  split
  · exact WEqv.refl w
  · refine ⟨rfl, rfl, rfl, rfl, rfl, rfl, ?_, ?_, ?_, ?_, ?_, ?_, ?_⟩ <;> intro x <;> by_cases e : x = f <;> simp [setRec, e]

theorem WEqv.ev (w : World) (e : Ev) : WEqv w (ev w e) :=
  ⟨rfl, rfl, rfl, rfl, rfl, rfl, fun _ => rfl, fun _ => rfl, fun _ => rfl, fun _ => rfl, fun _ => rfl, fun _ => rfl, fun _ => rfl⟩

theorem WEqv.setRec_self (w : World) (t : Nat) : WEqv w (setRec w t (w.recs t)) := by
  refine ⟨rfl, rfl, rfl, rfl, rfl, rfl, ?_, ?_, ?_, ?_, ?_, ?_, ?_⟩ <;> intro x <;> by_cases e : x = t <;> simp [setRec, e]

theorem NoFail.eqv {R w w'} (h : WEqv w w') (hn : NoFail R w) : NoFail R w' := fun f => by rw [h.failed]; exact hn f

/-- `w'` is `w` up to `row`/`nextRow`/`trace` and the rows whose target is `t`. -/
structure RowOp (t : Nat) (w w' : World) : Prop where
  eqv : WEqv w { w' with deps := w.deps }
  rows : ∀ d : Dep, d.target ≠ t → (d ∈ w'.deps ↔ d ∈ w.deps)

theorem RowOp.refl (t : Nat) (w : World) : RowOp t w w := ⟨WEqv.refl w, fun _ _ => Iff.rfl⟩

theorem RowOp.of_eqv {t : Nat} {w w' : World} (h : WEqv w w') : RowOp t w w' :=
  ⟨{ h with deps := rfl }, fun _ _ => by rw [h.deps]⟩

theorem RowOp.trans {t : Nat} {a b c : World} (h1 : RowOp t a b) (h2 : RowOp t b c) : RowOp t a c := by
  refine ⟨?_, fun d hd => (h2.rows d hd).trans (h1.rows d hd)⟩
  have e1 := h1.eqv
  have e2 := h2.eqv
  exact ⟨e2.fs.trans e1.fs, rfl, e2.rules.trans e1.rules, e2.progs.trans e1.progs, e2.clock.trans e1.clock,
    e2.rc.trans e1.rc,
    fun x => (e2.gen x).trans (e1.gen x), fun x => (e2.ovr x).trans (e1.ovr x),
    fun x => (e2.checked x).trans (e1.checked x), fun x => (e2.changed x).trans (e1.changed x),
    fun x => (e2.failed x).trans (e1.failed x), fun x => (e2.stamp x).trans (e1.stamp x),
    fun x => (e2.csum x).trans (e1.csum x)⟩

theorem RowOp.fs {t w w'} (h : RowOp t w w') : w'.fs = w.fs := h.eqv.fs

theorem RowOp.rules {t w w'} (h : RowOp t w w') : w'.rules = w.rules := h.eqv.rules

theorem RowOp.clock {t w w'} (h : RowOp t w w') : w'.clock = w.clock := h.eqv.clock

theorem RowOp.existsF {t w w'} (h : RowOp t w w') (f) : existsF w' f = existsF w f := h.eqv.existsF f

theorem RowOp.contentOf {t w w'} (h : RowOp t w w') (f) : contentOf w' f = contentOf w f := h.eqv.contentOf f

theorem RowOp.readStamp {t w w'} (h : RowOp t w w') (f) : readStamp w' f = readStamp w f := h.eqv.readStamp f

theorem RowOp.scriptAt {t w w'} (h : RowOp t w w') (f) : scriptAt w' f = scriptAt w f := h.eqv.scriptAt f

theorem RowOp.hasRow {t w w'} (h : RowOp t w w') {x s m} (hx : x ≠ t) : HasRow w' x s m ↔ HasRow w x s m := by
  unfold HasRow
  constructor
  · rintro ⟨d, hd, h1, h2, h3⟩
    exact ⟨d, (h.rows d (by rw [h1]; exact hx)).1 hd, h1, h2, h3⟩
  · rintro ⟨d, hd, h1, h2, h3⟩
    exact ⟨d, (h.rows d (by rw [h1]; exact hx)).2 hd, h1, h2, h3⟩

/-- All fields but `row` agree. -/
structure Flds (a b : Rec) : Prop where
  gen : a.isGenerated = b.isGenerated
  ovr : a.isOverride = b.isOverride
  checked : a.checked = b.checked
  changed : a.changed = b.changed
  failed : a.failed = b.failed
  stamp : a.stamp = b.stamp
  csum : a.csum = b.csum

theorem Flds.refl (a : Rec) : Flds a a := ⟨rfl, rfl, rfl, rfl, rfl, rfl, rfl⟩

theorem Flds.of_eq {a b : Rec} (h : a = b) : Flds a b := h ▸ Flds.refl a

theorem Flds.symm {a b : Rec} (h : Flds a b) : Flds b a :=
  ⟨h.gen.symm, h.ovr.symm, h.checked.symm, h.changed.symm, h.failed.symm, h.stamp.symm, h.csum.symm⟩

theorem Flds.trans {a b c : Rec} (h1 : Flds a b) (h2 : Flds b c) : Flds a c :=
  ⟨h1.gen.trans h2.gen, h1.ovr.trans h2.ovr, h1.checked.trans h2.checked, h1.changed.trans h2.changed,
   h1.failed.trans h2.failed, h1.stamp.trans h2.stamp, h1.csum.trans h2.csum⟩

theorem RowOp.zapDeps1 (w : World) (t : Nat) : RowOp t w (zapDeps1 w t) := by
  refine ⟨WEqv.refl w, fun d hd => ?_⟩
  unfold Deps.zapDeps1
  simp only [List.mem_map]
  constructor
  · rintro ⟨a, ha, e⟩
    split at e
    · rename_i hat; subst e; exact absurd hat hd
    · subst e; exact ha
  · intro hm
    exact ⟨d, hm, by simp [hd]⟩

theorem RowOp.addDep (w : World) (t s : Nat) (m : Bool) : RowOp t w (addDep w t s m) := by
  refine ⟨?_, fun d hd => ?_⟩
  · have h := WEqv.addKnown w s
    unfold Deps.addDep
    exact { h with deps := rfl }
  · rw [addDep_deps]
    simp only [List.mem_cons, List.mem_filter, Bool.not_eq_true', Bool.and_eq_false_iff, decide_eq_false_iff_not]
    constructor
    · rintro (rfl | ⟨h, _⟩)
      · exact absurd rfl hd
      · exact h
    · exact fun h => Or.inr ⟨h, Or.inl hd⟩

theorem addDep_hasRow_new (w : World) (t s : Nat) (m : Bool) : HasRow (addDep w t s m) t s m := by
  refine ⟨{ target := t, source := s, modeM := m, deleteMe := false }, ?_, rfl, rfl, rfl⟩
  rw [addDep_deps]; simp

theorem addDep_hasRow_keep {w : World} {t s : Nat} {m : Bool} {x s' : Nat} {m' : Bool} (h : HasRow w x s' m')
    (hne : ¬ (x = t ∧ s' = s)) : HasRow (addDep w t s m) x s' m' := by
  obtain ⟨d, hd, h1, h2, h3⟩ := h
  refine ⟨d, ?_, h1, h2, h3⟩
  rw [addDep_deps]
  simp only [List.mem_cons, List.mem_filter, Bool.not_eq_true', Bool.and_eq_false_iff, decide_eq_false_iff_not]
  refine Or.inr ⟨hd, ?_⟩
  rw [h1, h2]
  by_cases e : x = t
  · exact Or.inr (fun e2 => hne ⟨e, e2⟩)
  · exact Or.inl e

/-- A row declared during the current build of `t` (`U`: not marked for deletion). -/
def HasRowU (w : World) (t s : Nat) (m : Bool) : Prop :=
  ∃ d ∈ w.deps, d.target = t ∧ d.source = s ∧ d.modeM = m ∧ d.deleteMe = false

theorem HasRowU.hasRow {w t s m} (h : HasRowU w t s m) : HasRow w t s m := by
  obtain ⟨d, hd, h1, h2, h3, _⟩ := h
  exact ⟨d, hd, h1, h2, h3⟩

theorem addDep_hasRowU_new (w : World) (t s : Nat) (m : Bool) : HasRowU (addDep w t s m) t s m := by
  refine ⟨{ target := t, source := s, modeM := m, deleteMe := false }, ?_, rfl, rfl, rfl, rfl⟩
  rw [addDep_deps]; simp

theorem addDep_hasRowU_keep {w : World} {t s : Nat} {m : Bool} {x s' : Nat} {m' : Bool} (h : HasRowU w x s' m')
    (hne : ¬ (x = t ∧ s' = s)) : HasRowU (addDep w t s m) x s' m' := by
  obtain ⟨d, hd, h1, h2, h3, h4⟩ := h
  refine ⟨d, ?_, h1, h2, h3, h4⟩
  rw [addDep_deps]
  simp only [List.mem_cons, List.mem_filter, Bool.not_eq_true', Bool.and_eq_false_iff, decide_eq_false_iff_not]
  refine Or.inr ⟨hd, ?_⟩
  rw [h1, h2]
  by_cases e : x = t
  · exact Or.inr (fun e2 => hne ⟨e, e2⟩)
  · exact Or.inl e

/-! ### What `setStatic`, `setFailed` and `recordNewState` write (`OkFields`, `KeepFields`); the rows a command declares
(`RowsDecl`). -/

attribute [simp] setStatic_failed setStatic_csum setStatic_ovr setStatic_gen setStatic_stamp setStatic_checked setFailed_failed setFailed_stamp setFailed_checked setFailed_csum

theorem NoFail.setRec {R w t r} (h : NoFail R w) (hr : r.failed ≠ some R) : NoFail R (setRec w t r) := by
  intro f
  by_cases e : f = t
  · subst e; simpa using hr
  · rw [setRec_recs_other _ _ _ e]; exact h f

theorem setStatic_cur {w : World} {t R : Nat} (hc : RecCur w t) (hg : (w.recs t).isGenerated = false)
    (ho : (w.recs t).isOverride = false) (hcs : (w.recs t).csum = none) :
    setStatic w t (w.recs t) R = w.recs t := by
  obtain ⟨h1, _, h3⟩ := hc
  unfold setStatic updateStamp
  simp only [h3, if_true]
  generalize w.recs t = r at *
  cases r; simp_all

theorem setStatic_flds {a b : Rec} (h : Flds a b) (w : World) (t R : Nat) :
    Flds (setStatic w t a R) (setStatic w t b R) := by
  refine ⟨rfl, rfl, ?_, ?_, rfl, ?_, ?_⟩
  · simp [h.checked]
  · rw [setStatic_changed, setStatic_changed, h.stamp, h.changed]
  · simp
  · simp

theorem setFailed_flds {a b : Rec} (h : Flds a b) (w : World) (t R : Nat) :
    Flds (setFailed w t a R) (setFailed w t b R) := by
  refine ⟨?_, ?_, ?_, ?_, rfl, ?_, ?_⟩
  · rw [setFailed_gen, setFailed_gen]
  · unfold setFailed updateStamp setChanged; simp only [h.stamp]; split <;> simp [h.ovr]
  · simp [h.checked]
  · rw [setFailed_changed, setFailed_changed, h.stamp, h.changed]
  · simp
  · simp [h.csum]

/-- How the rows of the parent `p` change in a command that declares `ts`. -/
def RowsDecl (p : Nat) (ts : List Nat) (w w' : World) : Prop :=
  (∀ d ∈ w'.deps, d.target = p → d ∈ w.deps ∨ (d.modeM = true ∧ d.source ∈ ts ∧ d.deleteMe = false)) ∧
  (∀ s m, HasRowU w p s m → (s ∈ ts → m = true) → HasRowU w' p s m)

theorem RowsDecl.refl (p : Nat) (ts : List Nat) (w : World) : RowsDecl p ts w w :=
  ⟨fun _ hd _ => Or.inl hd, fun _ _ h _ => h⟩

theorem RowsDecl.trans {p ts1 ts2 w w1 w2} (h1 : RowsDecl p ts1 w w1) (h2 : RowsDecl p ts2 w1 w2) :
    RowsDecl p (ts1 ++ ts2) w w2 := by
  refine ⟨fun d hd hdt => ?_, fun s m h hm => ?_⟩
  · rcases h2.1 d hd hdt with h | ⟨a, b, c⟩
    · rcases h1.1 d h hdt with h | ⟨a, b, c⟩
      · exact Or.inl h
      · exact Or.inr ⟨a, List.mem_append_left _ b, c⟩
    · exact Or.inr ⟨a, List.mem_append_right _ b, c⟩
  · exact h2.2 s m (h1.2 s m h (fun hs => hm (List.mem_append_left _ hs))) (fun hs => hm (List.mem_append_right _ hs))

theorem RowsDecl.mono {p ts ts' w w'} (h : RowsDecl p ts w w') (hs : ∀ x ∈ ts, x ∈ ts') : RowsDecl p ts' w w' :=
  ⟨fun d hd hdt => (h.1 d hd hdt).imp id (fun ⟨a, b, c⟩ => ⟨a, hs _ b, c⟩),
   fun s m hr hm => h.2 s m hr (fun hx => hm (hs _ hx))⟩

theorem rowsDecl_of_same {p : Nat} {ts : List Nat} {w w' : World}
    (h : ∀ d : Dep, d.target = p → (d ∈ w'.deps ↔ d ∈ w.deps)) : RowsDecl p ts w w' := by
  refine ⟨fun d hd hdt => Or.inl ((h d hdt).1 hd), fun s m hr _ => ?_⟩
  obtain ⟨d, hd, h1, h2, h3, h4⟩ := hr
  exact ⟨d, (h d h1).2 hd, h1, h2, h3, h4⟩

theorem rowsDecl_eqv {p : Nat} {ts : List Nat} {w w' : World} (h : w'.deps = w.deps) : RowsDecl p ts w w' :=
  rowsDecl_of_same (fun _ _ => by rw [h])

structure OkFields (R t : Nat) (out : Option Content) (w w' : World) : Prop where
  rules : w'.rules = w.rules
  progs : w'.progs = w.progs
  fs : ∀ x, x ≠ t → w'.fs x = w.fs x
  content : contentOf w' t = out
  recs : ∀ x, x ≠ t → w'.recs x = w.recs x
  deps : w'.deps = w.deps.filter (fun d => !(d.target = t && d.deleteMe))
  clock : w.clock ≤ w'.clock
  rc : w'.runCounter = w.runCounter
  fsB : ∀ n, w'.fs t = some n → n.ms ≤ w'.clock
  gen : (w'.recs t).isGenerated = true
  ovr : (w'.recs t).isOverride = false
  checked : (w'.recs t).checked = (w.recs t).checked
  changed : (w'.recs t).changed = some R
  failed : (w'.recs t).failed = none
  stamp : (w'.recs t).stamp = some (readStamp w' t)
  csum : (w'.recs t).csum = none

theorem recordOk_fields (cx : Ctx) (t : Nat) (sf : Rec) (out : Option Content) (w : World)
    (hck : isCheckedR (w.recs t) cx.runid = false) (hch : isChangedR (w.recs t) cx.runid = false) :
    (recordNewState cx t sf 0 out w).1 = 0 ∧ OkFields cx.runid t out w (recordNewState cx t sf 0 out w).2 := by
  have h := recordOk_wrote cx t sf out w
  have hm : (isCheckedR ((rnsOut t out w).recs t) cx.runid || isChangedR ((rnsOut t out w).recs t) cx.runid) = false := by
    rw [rnsOut_recs, hck, hch]; rfl
  rw [recordNewState_ok] at h ⊢
  -- the record is not marked in this run: the stamp is taken anew, `changed` moves to this run, the checksum is dropped
  refine ⟨rfl, h.rules, h.progs, h.fs, h.content, h.recs, h.deps, h.clock, h.rc, h.fsB, h.gen, h.ovr, h.checked, ?_, ?_,
    h.stamp, ?_⟩
  all_goals simp [builtRec_fresh hm, setChanged, updateStamp_csum]

/-- The other branch of `recordNewState`: the record was already marked in this run; only its stamp moves. -/
structure KeepFields (t : Nat) (out : Option Content) (w w' : World) : Prop where
  rules : w'.rules = w.rules
  progs : w'.progs = w.progs
  fs : ∀ x, x ≠ t → w'.fs x = w.fs x
  content : contentOf w' t = out
  recs : ∀ x, x ≠ t → w'.recs x = w.recs x
  deps : w'.deps = w.deps.filter (fun d => !(d.target = t && d.deleteMe))
  clock : w.clock ≤ w'.clock
  rc : w'.runCounter = w.runCounter
  fsB : ∀ n, w'.fs t = some n → n.ms ≤ w'.clock
  gen : (w'.recs t).isGenerated = true
  ovr : (w'.recs t).isOverride = false
  checked : (w'.recs t).checked = (w.recs t).checked
  changed : (w'.recs t).changed = (w.recs t).changed
  failed : (w'.recs t).failed = (w.recs t).failed
  stamp : (w'.recs t).stamp = some (readStamp w' t)
  csum : (w'.recs t).csum = (w.recs t).csum

theorem recordKeep_fields (cx : Ctx) (t : Nat) (sf : Rec) (out : Option Content) (w : World)
    (hm : (isCheckedR (w.recs t) cx.runid || isChangedR (w.recs t) cx.runid) = true) :
    (recordNewState cx t sf 0 out w).1 = 0 ∧ KeepFields t out w (recordNewState cx t sf 0 out w).2 := by
  have h := recordOk_wrote cx t sf out w
  have hm' : (isCheckedR ((rnsOut t out w).recs t) cx.runid || isChangedR ((rnsOut t out w).recs t) cx.runid) = true := by
    rw [rnsOut_recs]; exact hm
  rw [recordNewState_ok] at h ⊢
  refine ⟨rfl, h.rules, h.progs, h.fs, h.content, h.recs, h.deps, h.clock, h.rc, h.fsB, h.gen, h.ovr, h.checked, ?_, ?_,
    h.stamp, ?_⟩
  all_goals simp [builtRec_marked hm', rnsOut_recs]

/-- A world that differs from `w` at the target `t` (which has a build rule) and has lost the rows of `t` marked for
deletion: every way of recording the result of a build is of this form. -/
theorem OffT.of_zapped {t : Nat} {w w' : World} (hru : w'.rules = w.rules) (hpr : w'.progs = w.progs)
    (hfs : ∀ x, x ≠ t → w'.fs x = w.fs x) (hrecs : ∀ x, x ≠ t → w'.recs x = w.recs x)
    (hd : w'.deps = w.deps.filter (fun d => !(d.target = t && d.deleteMe))) (hc : w.clock ≤ w'.clock)
    (hrc : w'.runCounter = w.runCounter) (hr : w.rules t ≠ []) : OffT t w w' := by
  refine ⟨hru, hpr, hfs, fun h => absurd h hr, hrecs, fun d hdt => ?_, hc, hrc⟩
  rw [hd, List.mem_filter]
  simp [hdt]

theorem zapDeps2_off (w : World) (t : Nat) (r : Rec) : OffT t w (setRec (zapDeps2 w t) t r) := by
  refine ⟨rfl, rfl, fun _ _ => rfl, fun _ => rfl, fun x hx => setRec_recs_other _ _ _ hx, fun d hd => ?_, Nat.le_refl _, rfl⟩
  show d ∈ (zapDeps2 w t).deps ↔ d ∈ w.deps
  unfold zapDeps2
  simp only [List.mem_filter]
  simp [hd]

/-- The rows declared during the build are not marked for deletion: they are the rows of the target afterwards. -/
theorem HasRowU.zapped {t s : Nat} {m : Bool} {w w' : World} (h : HasRowU w t s m)
    (hd : w'.deps = w.deps.filter (fun d => !(d.target = t && d.deleteMe))) : HasRow w' t s m := by
  obtain ⟨d, hm, h1, h2, h3, h4⟩ := h
  refine ⟨d, ?_, h1, h2, h3⟩
  rw [hd, List.mem_filter]
  simp [hm, h4]

theorem Wrote.offT {t out w w'} (hf : Wrote t out w w') (hr : w.rules t ≠ []) : OffT t w w' :=
  .of_zapped hf.rules hf.progs hf.fs hf.recs hf.deps hf.clock hf.rc hr

theorem Wrote.hasRow {t out w w' s m} (hf : Wrote t out w w') (h : HasRowU w t s m) : HasRow w' t s m := h.zapped hf.deps

/-! ### The target's own record and file (`SameT`); the exempt set; rows as triples (`SameTriples`). -/

structure SameT (t : Nat) (w w' : World) : Prop where
  flds : Flds (w'.recs t) (w.recs t)
  fs : w'.fs t = w.fs t

theorem SameT.refl (t : Nat) (w : World) : SameT t w w := ⟨Flds.refl _, rfl⟩

theorem SameT.trans {t a b c} (h1 : SameT t a b) (h2 : SameT t b c) : SameT t a c :=
  ⟨h2.flds.trans h1.flds, h2.fs.trans h1.fs⟩

theorem WEqv.sameT {w w'} (h : WEqv w w') (t : Nat) : SameT t w w' :=
  ⟨⟨h.gen t, h.ovr t, h.checked t, h.changed t, h.failed t, h.stamp t, h.csum t⟩, congrFun h.fs t⟩

theorem RowOp.sameT {t' w w'} (h : RowOp t' w w') (t : Nat) : SameT t w w' := by
  have e := h.eqv
  exact ⟨⟨e.gen t, e.ovr t, e.checked t, e.changed t, e.failed t, e.stamp t, e.csum t⟩, congrFun e.fs t⟩

theorem SameT.existsF {t w w'} (h : SameT t w w') : existsF w' t = existsF w t := existsF_congr h.fs

/-- The exempt set while `t` is under construction. -/
def addX (X : Nat → Prop) (t : Nat) : Nat → Prop := fun x => X x ∨ x = t

theorem addX_drop {X : Nat → Prop} {t : Nat} : ∀ u, u ≠ t → ¬ X u → ¬ addX X t u :=
  fun _ hu hx h => h.elim hx hu

/-- The exempt set while `t` is under construction when builds may be killed (`k`): then nothing new is exempt. -/
def addXk (k : Prop) (X : Nat → Prop) (t : Nat) : Nat → Prop := fun x => X x ∨ (x = t ∧ ¬ k)

theorem addXk_open (k : Prop) (X : Nat → Prop) (t : Nat) : addXk k X t t ∨ k :=
  (Classical.em k).elim Or.inr (fun nk => Or.inl (Or.inr ⟨rfl, nk⟩))

theorem addXk_sub {k X t} : ∀ x, addXk k X t x → addX X t x := fun _ h => h.imp id And.left

def SameTriples (w w' : World) : Prop := ∀ x s m, HasRow w' x s m ↔ HasRow w x s m

theorem SameTriples.refl (w : World) : SameTriples w w := fun _ _ _ => Iff.rfl

theorem SameTriples.trans {a b c : World} (h1 : SameTriples a b) (h2 : SameTriples b c) : SameTriples a c :=
  fun x s m => (h2 x s m).trans (h1 x s m)

theorem mem_hasRow {w : World} {d : Dep} (h : d ∈ w.deps) : HasRow w d.target d.source d.modeM := ⟨d, h, rfl, rfl, rfl⟩

theorem SameTriples.zapDeps1 (w : World) (t : Nat) : SameTriples w (zapDeps1 w t) := by
  intro x s m
  unfold HasRow Deps.zapDeps1
  simp only [List.mem_map]
  constructor
  · rintro ⟨d, ⟨a, ha, e⟩, h1, h2, h3⟩
    refine ⟨a, ha, ?_⟩
    split at e <;> subst e <;> exact ⟨h1, h2, h3⟩
  · rintro ⟨d, hd, h1, h2, h3⟩
    by_cases e : d.target = t
    · exact ⟨{ d with deleteMe := true }, ⟨d, hd, by simp [e]⟩, h1, h2, h3⟩
    · exact ⟨d, ⟨d, hd, by simp [e]⟩, h1, h2, h3⟩

/-- Declaring again a row that is there changes no triple, when the pair occurs with one mode only. -/
theorem SameTriples.readd {w : World} {t s : Nat} {m : Bool} (hu : HasRow w t s true → HasRow w t s false → False)
    (hrow : HasRow w t s m) : SameTriples w (addDep w t s m) := by
  intro x s' m'
  unfold HasRow
  rw [addDep_deps]
  simp only [List.mem_cons, List.mem_filter, Bool.not_eq_true', Bool.and_eq_false_iff, decide_eq_false_iff_not]
  constructor
  · rintro ⟨d, (rfl | ⟨hd, _⟩), h1, h2, h3⟩
    · simp only at h1 h2 h3; subst h1 h2 h3; exact hrow
    · exact ⟨d, hd, h1, h2, h3⟩
  · rintro ⟨d, hd, h1, h2, h3⟩
    by_cases e : d.target = t ∧ d.source = s
    · have hm : m' = m := by
        cases hm' : m' <;> cases hm0 : m <;> try rfl
        · exfalso; subst hm' hm0
          exact hu hrow ⟨d, hd, e.1, e.2, h3⟩
        · exfalso; subst hm' hm0
          exact hu ⟨d, hd, e.1, e.2, h3⟩ hrow
      exact ⟨_, Or.inl rfl, e.1.symm.trans h1, e.2.symm.trans h2, hm.symm⟩
    · refine ⟨d, Or.inr ⟨hd, ?_⟩, h1, h2, h3⟩
      by_cases e1 : d.target = t
      · exact Or.inr (fun e2 => e ⟨e1, e2⟩)
      · exact Or.inl e1

/-! ### What the user does between commands (`FsUpd`, the worlds after `write`, `chmod`, `setProg`); the rows of the
declarations of a command (`declare_rows`). -/

/-- `w'` is `w` with the file `f` changed by hand (and the clock possibly advanced). -/
structure FsUpd (f : Nat) (w w' : World) : Prop where
  rules : w'.rules = w.rules
  progs : w'.progs = w.progs
  recs : w'.recs = w.recs
  deps : w'.deps = w.deps
  rc : w'.runCounter = w.runCounter
  fs : ∀ x, x ≠ f → w'.fs x = w.fs x
  clock : w.clock ≤ w'.clock

theorem setFile_fsUpd (w : World) (f : Nat) (n : Option FNode) : FsUpd f w (setFile w f n) :=
  ⟨rfl, rfl, rfl, rfl, rfl, fun x hx => by simp [setFile, hx], Nat.le_refl _⟩

def writeW (w : World) (f v : Nat) : World :=
  setFile { w with clock := w.clock + 1 } f (some { content := srcContent v, ms := w.clock + 1, rest := 0 })

theorem applyOp_write (d : Defects) (n f v : Nat) (w : World) : (applyOp d n (.write f v) w).2 = writeW w f v := rfl

theorem applyOp_remove (d : Defects) (n f : Nat) (w : World) : (applyOp d n (.remove f) w).2 = setFile w f none := rfl

def chmodW (w : World) (f : Nat) : World :=
  match w.fs f with
  | some n => setFile w f (some { n with rest := n.rest + 1 })
  | none => w

theorem applyOp_chmod (d : Defects) (n f : Nat) (w : World) : (applyOp d n (.chmod f) w).2 = chmodW w f := rfl

def setProgW (w : World) (c : Content) (s : Script) : World :=
  { w with progs := fun x => if x = c then some s else w.progs x }

theorem applyOp_setProg (d : Defects) (n : Nat) (c : Content) (s : Script) (w : World) :
    (applyOp d n (.setProg c s) w).2 = setProgW w c s := rfl

/-- Giving content `c` the meaning `s` does not change what any .do candidate in place means. -/
def SetProgOk (w : World) (c : Content) (s : Script) : Prop :=
  ∀ t, ∀ dof ∈ w.rules t, ∀ n, w.fs dof = some n → n.content = c → (w.progs c).getD {} = s

theorem scriptAt_setProg {w : World} {c : Content} {s : Script} (hok : SetProgOk w c s) {t dof : Nat}
    (hd : dof ∈ w.rules t) : scriptAt (setProgW w c s) dof = scriptAt w dof := by
  unfold scriptAt setProgW
  cases hn : w.fs dof with
  | none => rfl
  | some n =>
    simp only
    by_cases e : n.content = c
    · simp only [e, if_true, Option.getD_some]
      exact (hok t dof hd n hn e).symm
    · simp only [e, if_false]

theorem worldsOf_head (n : Nat) (d : Defects) (w : World) (ops : List UserOp) : w ∈ worldsOf n d w ops := by
  cases ops <;> simp [worldsOf]

theorem declare_rows (p : Nat) : ∀ (ts : List Nat) (w : World),
    RowOp p w (declare p ts w) ∧ RowsDecl p ts w (declare p ts w) ∧ ∀ d ∈ ts, HasRowU (declare p ts w) p d true
  | [], w => ⟨RowOp.refl p w, RowsDecl.refl _ _ _, fun d hd => by simp at hd⟩
  | t :: ts, w => by
    obtain ⟨a2, a3, a4⟩ := declare_rows p ts (addDep w p t true)
    have hstep : RowsDecl p [t] w (addDep w p t true) := by
      refine ⟨fun d hd _ => ?_, fun s m hr hm => ?_⟩
      · rcases addDep_mem hd with rfl | ⟨h, _⟩
        · exact Or.inr ⟨rfl, by simp, rfl⟩
        · exact Or.inl h
      · by_cases e : s = t
        · subst e; rw [hm (by simp)]; exact addDep_hasRowU_new w p s true
        · exact addDep_hasRowU_keep hr (fun ⟨_, h2⟩ => e h2)
    refine ⟨(RowOp.addDep w p t true).trans a2, hstep.trans a3, fun d hd => ?_⟩
    rcases List.mem_cons.1 hd with rfl | hd
    · exact a3.2 d true (addDep_hasRowU_new w p d true) (fun _ => rfl)
    · exact a4 d hd

/-! ### A killed command; projects with one .do candidate per target. -/

theorem applyOp_crashCmd (d : Defects) (n : Nat) (ts : List Nat) (t k : Nat) (w : World) :
    (applyOp d n (.crashCmd ts t k) w).2 =
      (runTargets (engine d (2 * n + 4)) d { runid := w.runCounter + 1, crash := some (t, k) } (2 * n + 4) ts [] false
        (allocRun w).2).2 := rfl

def SingleDo (rules : Nat → List Nat) : Prop := ∀ t, (rules t).length ≤ 1

/-- With a single candidate the split of `rules t` in `RecTruth` has no `pre`. -/
theorem single_split {rules : Nat → List Nat} (hS : SingleDo rules) {t : Nat} {pre post : List Nat} {dof : Nat}
    (h : rules t = pre ++ dof :: post) : pre = [] ∧ post = [] := by
  have := hS t
  rw [h] at this
  simp only [List.length_append, List.length_cons] at this
  exact ⟨List.eq_nil_of_length_eq_zero (by omega), List.eq_nil_of_length_eq_zero (by omega)⟩

/-! ### What `findDoFile` chooses and the rows it leaves, whatever the state of the records. -/

/-- Shape of the rows `findDoFile` adds for `t`. -/
def DoRow (w : World) (dofo : Option Nat) (d : Dep) : Prop :=
  d.deleteMe = false ∧ (d.modeM = false → existsF w d.source = false) ∧ (d.modeM = true → dofo = some d.source)

theorem findDoFile_keeps (t s : Nat) : ∀ (cs : List Nat) (w : World), HasRowU w t s false → existsF w s = false →
    HasRowU (findDoFile t cs w).2 t s false
  | [], w, h, _ => by simpa [findDoFile] using h
  | c :: cs, w, h, hs => by
    rw [findDoFile]
    by_cases e : c = s
    · subst e
      simp only [hs, Bool.false_eq_true, if_false]
      exact findDoFile_keeps t c cs _ (addDep_hasRowU_new w t c false)
        (by rw [(RowOp.addDep w t c false).existsF]; exact hs)
    · have hk : ∀ m, HasRowU (addDep w t c m) t s false := fun m => addDep_hasRowU_keep h (fun ⟨_, h2⟩ => e h2.symm)
      split
      · exact hk true
      · exact findDoFile_keeps t s cs _ (hk false) (by rw [(RowOp.addDep w t c false).existsF]; exact hs)

theorem findDoFile_rows (t : Nat) : ∀ (cs : List Nat) (w : World),
      RowOp t w (findDoFile t cs w).2 ∧
      (∀ d ∈ (findDoFile t cs w).2.deps, d.target = t → d ∈ w.deps ∨ DoRow w (firstEx w cs) d) ∧
      (∀ pre dof post, cs = pre ++ dof :: post → (∀ c ∈ pre, existsF w c = false) → existsF w dof = true →
        (∀ c ∈ pre, HasRowU (findDoFile t cs w).2 t c false) ∧ HasRowU (findDoFile t cs w).2 t dof true)
  | [], w => by
    simp only [findDoFile, firstEx]
    refine ⟨RowOp.refl t w, fun d hd _ => Or.inl hd, ?_⟩
    intro pre dof post h; simp at h
  | c :: cs, w => by
    rw [findDoFile]
    simp only [firstEx]
    cases hex : existsF w c with
    | true =>
      simp only [if_true]
      refine ⟨RowOp.addDep w t c true, ?_, ?_⟩
      · intro d hd _
        rcases addDep_mem hd with rfl | ⟨h, _⟩
        · exact Or.inr ⟨rfl, (fun h => by cases h), fun _ => rfl⟩
        · exact Or.inl h
      · intro pre dof post h hpre hdof
        cases pre with
        | nil =>
          simp only [List.nil_append, List.cons.injEq] at h
          obtain ⟨rfl, _⟩ := h
          exact ⟨fun c hc => by simp at hc, addDep_hasRowU_new w t c true⟩
        | cons p pre =>
          simp only [List.cons_append, List.cons.injEq] at h
          obtain ⟨rfl, _⟩ := h
          have := hpre c (by simp); rw [hex] at this; cases this
    | false =>
      simp only [Bool.false_eq_true, if_false]
      have hro := RowOp.addDep w t c false
      obtain ⟨h3, h4, h5⟩ := findDoFile_rows t cs (addDep w t c false)
      have hfe : firstEx (addDep w t c false) cs = firstEx w cs := firstEx_congr cs (fun x _ => congrFun hro.fs x)
      refine ⟨hro.trans h3, ?_, ?_⟩
      · intro d hd hdt
        rcases h4 d hd hdt with h | ⟨a, b, c'⟩
        · rcases addDep_mem h with rfl | ⟨h, _⟩
          · exact Or.inr ⟨rfl, (fun _ => hex), (fun h => by cases h)⟩
          · exact Or.inl h
        · exact Or.inr ⟨a, fun hm => by rw [← hro.existsF]; exact b hm, fun hm => by rw [← hfe]; exact c' hm⟩
      · intro pre dof post h hpre hdof
        cases pre with
        | nil =>
          simp only [List.nil_append, List.cons.injEq] at h
          obtain ⟨rfl, _⟩ := h
          rw [hex] at hdof; cases hdof
        | cons p pre =>
          simp only [List.cons_append, List.cons.injEq] at h
          obtain ⟨rfl, rfl⟩ := h
          obtain ⟨h6, h7⟩ := h5 pre dof post rfl
            (fun c' hc' => by rw [hro.existsF]; exact hpre c' (List.mem_cons_of_mem _ hc'))
            (by rw [hro.existsF]; exact hdof)
          refine ⟨fun c' hc' => ?_, h7⟩
          rcases List.mem_cons.1 hc' with rfl | hc'
          · exact findDoFile_keeps t c' _ _ (addDep_hasRowU_new w t c' false) (by rw [hro.existsF]; exact hex)
          · exact h6 c' hc'

theorem findDoFile_fst (t : Nat) (cs : List Nat) (w : World) : (findDoFile t cs w).1 = firstEx w cs :=
  (findDoFile_find t cs w).trans (firstEx_eq_find w cs).symm

theorem ssb_prep_rows (t : Nat) (w : World) :
    (prepW w t).1 = firstEx w (w.rules t) ∧
    RowOp t w (prepW w t).2 ∧
    (∀ d ∈ (prepW w t).2.deps, d.target = t → d.deleteMe = false →
      DoRow w (firstEx w (w.rules t)) d) ∧
    (∀ pre dof post, w.rules t = pre ++ dof :: post → (∀ c ∈ pre, existsF w c = false) → existsF w dof = true →
      (∀ c ∈ pre, HasRowU (prepW w t).2 t c false) ∧
      HasRowU (prepW w t).2 t dof true) := by
  have hfe : ∀ cs, firstEx (zapDeps1 w t) cs = firstEx w cs := fun cs => firstEx_congr cs (fun _ _ => rfl)
  obtain ⟨h3, h4, h5⟩ := findDoFile_rows t ((zapDeps1 w t).rules t) (zapDeps1 w t)
  refine ⟨(findDoFile_fst t _ _).trans (hfe _), (RowOp.zapDeps1 w t).trans h3, fun d hd hdt hdm => ?_, h5⟩
  rcases h4 d hd hdt with h | h
  · have := zapDeps1_marked d h hdt
    rw [hdm] at this; cases this
  · rw [hfe] at h; exact h

end RedoModel.Deps
