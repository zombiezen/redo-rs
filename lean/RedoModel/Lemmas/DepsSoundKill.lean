import RedoModel.Lemmas.DepsSoundPlain
/-! C10, plain histories with killed builds: a killed `redo-ifchange` keeps the between-commands invariant when every target
has one .do candidate (`SingleDo`: the case in which the counterexample of `DepsSoundKillEx` cannot arise) — the induction of
DepsSoundSJob read with `k` and without checksums —, histories, and the recovery theorems.  The statement vocabulary
(`PlainOpK`, `NoStalePlainK`) is in `DepsSoundPlainSpec`. -/
namespace RedoModel.Deps
open RedoModel.Generated

/-! ### Releasing a target under construction from the exempt set, when the promise of its old record has survived (over the
plain invariant; `S.BaseN.release` is the one the induction uses). -/

/-- The clause `Base.recA` for one file. -/
def KeepT (w : World) (t : Nat) : Prop := RecCur w t → (w.recs t).isGenerated = true → RecTruth w t

theorem Base.release {rank R w t} {X : Nat → Prop} (hb : Base rank R (addX X t) w) (hk : KeepT w t) :
    Base rank R X w :=
  { hb with recA := fun u hx hrc hg =>
      if e : u = t then e ▸ hk (e ▸ hrc) (e ▸ hg)
      else hb.recA u (hx.imp (fun hn hxu => hxu.elim hn e) id) hrc hg }

theorem Inv.release {rank R w t} {X : Nat → Prop} (hi : Inv rank R (addX X t) w) (hk : KeepT w t) :
    Inv rank R X w := ⟨hi.base.release hk, hi.Rpos, hi.ver⟩

/-! ### Killed builds: the between-commands invariant survives a killed `redo-ifchange`; histories. -/

/-- **A killed run keeps the between-commands invariant** (single .do candidate per target): whatever the
targets, the script and the step at which the whole process tree dies. -/
theorem crashCmd_btw {rank N w} (d : Defects) (hN : ∀ f, rank f < N) (hS : SingleDo w.rules) (h : Btw rank w)
    (ts : List Nat) (t k : Nat) :
    Btw rank (applyOp d N (.crashCmd ts t k) w).2 ∧ (applyOp d N (.crashCmd ts t k) w).2.rules = w.rules := by
  rw [applyOp_crashCmd]
  obtain ⟨hi1, _⟩ := Inv_alloc h
  -- the one induction (DepsSoundSJob), read with kills (`k`) and without checksums (`nc`)
  rcases S.runTargets_spec (k := True) (nc := true) (fuel := 2 * N + 4) (b := N)
    (cx := { runid := w.runCounter + 1, crash := some (t, k) })
    (S.engine_spec True rank (w.runCounter + 1) d (fun h => by cases h) (2 * N + 4)) d (fun h => by cases h) rfl rfl
    (fun _ hx => hx.elim) none ts [] false (allocRun w).2 ⟨fun h => absurd trivial h, fun _ => rfl, fun _ => hS⟩
    (Inv.iffN.1 hi1) (fun t _ => hN t) (fun _ s hs => by simp at hs) with ⟨_, _, hb, hrc, hru⟩ | a
  · refine ⟨?_, hru⟩
    show Base rank _ NoX _
    rw [hrc]; exact Base.iffN.2 hb
  · refine ⟨?_, a.frame.rules⟩
    show Base rank _ NoX _
    rw [a.frame.rc]; exact (Inv.iffN.2 a.inv).base

theorem applyOp_btwK {rank n rules w} (hN : ∀ f, rank f < n) (hS : SingleDo rules) (h : Btw rank w)
    (hr : w.rules = rules) (op : UserOp) (hp : PlainOpK rules op) (hok : OpOk w op)
    (hrk : Ranked rank (applyOp {} n op w).2) :
    Btw rank (applyOp {} n op w).2 ∧ (applyOp {} n op w).2.rules = rules := by
  cases op with
  | crashCmd ts t k =>
    obtain ⟨a1, a2⟩ := crashCmd_btw {} hN (by rw [hr]; exact hS) h ts t k
    exact ⟨a1, a2.trans hr⟩
  | _ => exact applyOp_btw hN h hr _ hp hok hrk

theorem history_btwK {rank n rules} (hN : ∀ f, rank f < n) (hS : SingleDo rules) :
    ∀ (ops : List UserOp) (w : World), Btw rank w → w.rules = rules → (∀ op ∈ ops, PlainOpK rules op) →
      (∀ w' ∈ worldsOf n {} w ops, Ranked rank w') → OpsOk n w ops →
      Btw rank (ops.foldl (fun w op => (applyOp {} n op w).2) w) ∧
      (ops.foldl (fun w op => (applyOp {} n op w).2) w).rules = rules
  | [], w, h, hr, _, _, _ => ⟨h, hr⟩
  | op :: ops, w, h, hr, hp, hrk, hok => by
    have hrk1 : Ranked rank (applyOp {} n op w).2 :=
      hrk _ (by simp only [worldsOf, List.mem_cons]; exact Or.inr (worldsOf_head n {} _ ops))
    obtain ⟨a1, a2⟩ := applyOp_btwK hN hS h hr op (hp op (by simp)) hok.1 hrk1
    exact history_btwK hN hS ops _ a1 a2 (fun op' h' => hp op' (List.mem_cons_of_mem _ h'))
      (fun w' hw' => hrk w' (by simp only [worldsOf, List.mem_cons]; exact Or.inr hw')) hok.2

/-! ### **C10 on the full model, main theorems.**  The unrestricted statement is false (`not_noStalePlainK`,
`DepsSoundKillEx`); it holds when every target has at most one .do candidate (`SingleDo`). -/

/-- **No stale target after histories with killed builds** (partial: hypothesis `SingleDo rules` added, forced by
the counterexample `not_noStalePlainK`).  After ANY plain history interleaved with ANY number of killed
`redo-ifchange` runs (killed in any script, at any step), whenever a later `redo-ifchange ts` / `redo ts` exits 0,
every `t ∈ ts` is up to date. -/
theorem noStalePlainK_partial (n : Nat) (rules : Nat → List Nat) (rank : Nat → Nat) (ops : List UserOp) (ts : List Nat)
    (kg forced : Bool) (hr : RulesOk rules) (hS : SingleDo rules) (hp : ∀ op ∈ ops, PlainOpK rules op)
    (hrk : ∀ w ∈ worldsOf n {} (initWorld rules) ops, Ranked rank w) (hN : ∀ f, rank f < n)
    (hok : OpsOk n (initWorld rules) ops) :
    let w := ops.foldl (fun w op => (applyOp {} n op w).2) (initWorld rules)
    let r := runCmd {} n (if forced then .redo ts kg else .ifchange ts kg) w
    r.1.status = 0 → ∀ t ∈ ts, UpToDateD r.2 t := by
  intro w r
  have h0 : Btw rank (initWorld rules) := Btw_init hr (hrk _ (worldsOf_head n {} _ ops))
  obtain ⟨hb, _⟩ := history_btwK hN hS ops (initWorld rules) h0 rfl hp hrk hok
  exact runCmd_sound {} hN hb ts kg forced

/-- The companion with `UpToDate` of `DepsSoundSpec` (hypotheses `OpsOk`, `Meaningful` as in `noStalePlain_partial`). -/
theorem noStalePlainK_partial_upToDate (n : Nat) (rules : Nat → List Nat) (rank : Nat → Nat) (ops : List UserOp)
    (ts : List Nat) (kg forced : Bool) (hr : RulesOk rules) (hS : SingleDo rules)
    (hp : ∀ op ∈ ops, PlainOpK rules op)
    (hrk : ∀ w ∈ worldsOf n {} (initWorld rules) ops, Ranked rank w) (hN : ∀ f, rank f < n)
    (hok : OpsOk n (initWorld rules) ops) :
    let w := ops.foldl (fun w op => (applyOp {} n op w).2) (initWorld rules)
    let r := runCmd {} n (if forced then .redo ts kg else .ifchange ts kg) w
    r.1.status = 0 → Meaningful r.2 → ∀ t ∈ ts, UpToDate r.2 t := by
  intro w r hz hm t ht
  have h0 : Btw rank (initWorld rules) := Btw_init hr (hrk _ (worldsOf_head n {} _ ops))
  obtain ⟨hb, _⟩ := history_btwK hN hS ops (initWorld rules) h0 rfl hp hrk hok
  have hb' : Btw rank r.2 := (runCmd_btw {} hN hb _).1
  exact (noStalePlainK_partial n rules rank ops ts kg forced hr hS hp hrk hN hok hz t ht).toUpToDate hm (fun c sc h => (hb'.plainProgs c sc h).2.2.2.2.2)

/-- **Recovery is sound.**  In any state reachable as above (`Btw`), kill a `redo-ifchange ts` anywhere; then the
invariant holds again at once, it holds after the next `redo-ifchange ts'` / `redo ts'`, and if that command exits 0
its targets are up to date.  (Because `Btw` holds again, `noStalePlainK_partial` applies to every longer history:
later edits of sources are reacted to.) -/
theorem recovery_is_sound {rank N w} (hN : ∀ f, rank f < N) (hS : SingleDo w.rules) (h : Btw rank w)
    (ts : List Nat) (t k : Nat) (ts' : List Nat) (kg forced : Bool) :
    let w1 := (applyOp {} N (.crashCmd ts t k) w).2
    let r := runCmd {} N (if forced then .redo ts' kg else .ifchange ts' kg) w1
    Btw rank w1 ∧ Btw rank r.2 ∧ (r.1.status = 0 → ∀ x ∈ ts', UpToDateD r.2 x) := by
  intro w1 r
  obtain ⟨hb1, _⟩ := crashCmd_btw {} hN hS h ts t k
  exact ⟨hb1, (runCmd_btw {} hN hb1 _).1, runCmd_sound {} hN hb1 ts' kg forced⟩

#print axioms crashCmd_btw
#print axioms noStalePlainK_partial
#print axioms noStalePlainK_partial_upToDate
#print axioms recovery_is_sound

end RedoModel.Deps
