import RedoModel.Lemmas.DepsSoundPlain
import RedoModel.Lemmas.DepsEval
import RedoModel.Lemmas.DepsCmdFrame
import RedoModel.Lemmas.DepsSoundKill
/-!
C10 on the full model: histories with killed builds.  The COUNTEREXAMPLE to the unrestricted statement (`NoStalePlainK`,
with `PlainOpK`, of `DepsSoundPlainSpec`): a target with two .do candidates whose chosen .do file was removed, killed
while the script of the fallback .do file runs, is afterwards reported up to date with its OLD content.  After it, the
history `exOps`, on which every hypothesis of `noStalePlainK_partial` and of `recovery_is_sound` holds.

Mechanism: `findDoFile` of the killed build replaces the row `(5, 1, m)` of the removed .do file by
`(5, 1, c)` (insert-or-replace on the key (target, source)), and adds `(5, 3, m)` for the fallback; the
record of 5 is untouched.  The next `redo-ifchange 5` sees: 1 absent (a `c` row: clean), 3 current and
changed long ago (clean) -- nothing is rebuilt, exit status 0, content still that of the removed script.
-/
namespace RedoModel.Deps
open RedoModel.Generated

def kxRules : Nat → List Nat := fun t => if t = 5 then [1, 3] else if t = 6 then [3] else []
def kxRank : Nat → Nat := fun f => if f = 5 then 1 else if f = 6 then 1 else 0

/-- 1 and 3 are .do files (contents [17] and [19], scripts with tags 1 and 2, no dependencies).  Build 6
(by 3), build 5 (by 1), remove 1, build 5 again and kill it at step 0 of its script (now 3). -/
def kxOps : List UserOp :=
  [.setProg [17] { tag := 1 }, .setProg [19] { tag := 2 }, .write 1 7, .write 3 8,
   .cmd (.ifchange [6] false), .cmd (.ifchange [5] false), .remove 1, .crashCmd [5] 5 0]

def kxW : World := kxOps.foldl (fun w op => (applyOp {} 2 op w).2) (initWorld kxRules)
def kxRes : Result × World := runCmd {} 2 (.ifchange [5] false) kxW

/-- What the recovery command returns and leaves: 5 keeps the output `[4]` of the removed script, though its
first existing candidate is now 3, whose script has tag 2. -/
theorem kx_eval : kxRes.1.status = 0 ∧ contentOf kxRes.2 5 = some [4] ∧ existsF kxRes.2 3 = true ∧
    existsF kxRes.2 1 = false ∧ (kxRes.2.recs 5).isGenerated = true ∧ scriptAt kxRes.2 3 = { tag := 2 } ∧
    kxRes.2.rules 5 = [1, 3] := by
  unfold kxRes kxW
  eval_model

theorem kx_notUpToDate : ¬ UpToDateD kxRes.2 5 := by
  obtain ⟨_, h5, hex3, hex1, hg, hsc, hr⟩ := kx_eval
  intro h
  cases h with
  | source hs =>
    have := hs 3 (by rw [hr]; simp)
    rw [hex3] at this; cases this
  | user hg' _ => rw [hg] at hg'; cases hg'
  | target hf _ hc =>
    rw [hr] at hf
    simp only [firstEx, hex1, hex3, Bool.false_eq_true, if_false, if_true, Option.some.injEq] at hf
    subst hf
    rw [h5, hsc] at hc
    simp [outOf, outContent] at hc

/-! The counterexample history satisfies every hypothesis of the statement: `NoStalePlainK` is false. -/

theorem kx_support : ∀ t, t ∉ [5, 6] → kxRules t = [] := by
  intro t ht
  simp only [List.mem_cons, List.not_mem_nil, or_false, not_or] at ht
  simp [kxRules, ht]

theorem kx_rulesOk : RulesOk kxRules := .of_support kx_support (by decide +kernel)

/-- rules as given, and no script in `progs` declares anything. -/
def KxSimple (w : World) : Prop := w.rules = kxRules ∧ ∀ c sc, w.progs c = some sc → sc.ifchange = []

theorem KxSimple.ranked {w : World} (h : KxSimple w) : Ranked kxRank w := by
  refine ⟨fun t c hc => ?_, fun t dof _ n sc _ hp c hc => by rw [h.2 _ sc hp] at hc; simp at hc⟩
  rw [h.1] at hc; unfold kxRules at hc
  split at hc
  · simp at hc; rcases hc with rfl | rfl <;> subst_vars <;> simp [kxRank]
  · split at hc
    · simp at hc; subst hc; subst_vars; simp [kxRank]
    · simp at hc

theorem kx_rank_lt : ∀ f, kxRank f < 2 := by
  intro f; unfold kxRank; split
  · omega
  · split <;> omega

theorem kx_worlds : ∀ w ∈ worldsOf 2 {} (initWorld kxRules) kxOps, KxSimple w := by
  intro w hw
  have h := worldsOf_fromOps 2 {} (by decide +kernel) w hw
  refine ⟨h.rules_eq, fun c sc hc => ?_⟩
  have hs := h.progs_set c sc hc
  simp only [kxOps, List.mem_cons, List.not_mem_nil, or_false, reduceCtorEq, UserOp.setProg.injEq] at hs
  rcases hs with ⟨_, rfl⟩ | ⟨_, rfl⟩ <;> rfl

theorem kx_opsOk : OpsOk 2 (initWorld kxRules) kxOps :=
  ⟨fun _ _ _ _ hn => (nomatch hn), fun _ _ _ _ hn => (nomatch hn), trivial, trivial, trivial, trivial, trivial, trivial,
    trivial⟩

instance (rules : Nat → List Nat) (op : UserOp) : Decidable (PlainOpK rules op) := by
  cases op <;> simp only [PlainOpK] <;> infer_instance

theorem kx_plainK : ∀ op ∈ kxOps, PlainOpK kxRules op := by decide +kernel

/-- **Finding.**  `NoStalePlainK` is false: the history `kxOps` (all hypotheses hold) ends with a killed
build of 5; the recovery `redo-ifchange 5` exits 0 without running anything and 5 keeps the output of the removed
.do file. -/
theorem not_noStalePlainK : ¬ NoStalePlainK := by
  intro h
  exact kx_notUpToDate (h 2 kxRules kxRank kxOps [5] false false kx_rulesOk kx_plainK
    (fun w hw => (kx_worlds w hw).ranked) kx_rank_lt kx_opsOk kx_eval.1 5 (by simp))

#print axioms not_noStalePlainK

/-!
Non-vacuity of `noStalePlainK_partial`: a two-level project (5 <- 6, 3;  6 <- 4), built, a source edited, the
rebuild killed inside the script of the inner target 6 (after its `redo-ifchange 4`), then recovered.
-/

def exRules : Nat → List Nat := fun t => if t = 5 then [1] else if t = 6 then [2] else []
def exRank : Nat → Nat := fun f => if f = 5 then 2 else if f = 6 then 1 else 0
def exS1 : Script := { tag := 1, ifchange := [[6], [3]], reads := [6, 3] }
def exS2 : Script := { tag := 2, ifchange := [[4]], reads := [4] }

/-- set-up (scripts, .do files 1 and 2, sources 3 and 4) -/
def exOps0 : List UserOp :=
  [.setProg [17] exS1, .setProg [19] exS2, .write 1 7, .write 2 8, .write 3 1, .write 4 2]
/-- build, edit source 4, rebuild killed at step 1 of the script of 6 -/
def exOps : List UserOp :=
  exOps0 ++ [.cmd (.ifchange [5] false), .write 4 3, .crashCmd [5] 6 1]

theorem ex_support : ∀ t, t ∉ [5, 6] → exRules t = [] := by
  intro t ht
  simp only [List.mem_cons, List.not_mem_nil, or_false, not_or] at ht
  simp [exRules, ht]

theorem ex_rulesOk : RulesOk exRules := .of_support ex_support (by decide +kernel)

theorem ex_single : SingleDo exRules := by
  intro t; unfold exRules; split
  · simp
  · split <;> simp

theorem ex_rank_lt : ∀ f, exRank f < 3 := by
  intro f; unfold exRank; split
  · omega
  · split <;> omega

/-- rules as given, the two scripts only, and the .do files 1 and 2 hold (if anything) their own script. -/
def ExShape (w : World) : Prop :=
  w.rules = exRules ∧ (∀ c sc, w.progs c = some sc → (c = [17] ∧ sc = exS1) ∨ (c = [19] ∧ sc = exS2)) ∧
  (∀ n, w.fs 1 = some n → n.content = [17]) ∧ (∀ n, w.fs 2 = some n → n.content = [19])

theorem ExShape.ranked {w : World} (h : ExShape w) : Ranked exRank w := by
  obtain ⟨hr, hp, h1, h2⟩ := h
  refine ⟨fun t c hc => ?_, fun t dof hd n sc hn hsc c hc d hdc => ?_⟩
  · rw [hr] at hc; unfold exRules at hc
    split at hc
    · simp at hc; subst hc; subst_vars; simp [exRank]
    · split at hc
      · simp at hc; subst hc; subst_vars; simp [exRank]
      · simp at hc
  · rw [hr] at hd; unfold exRules at hd
    split at hd
    · simp at hd; subst hd; subst_vars
      have hc17 := h1 n hn
      rcases hp _ sc hsc with ⟨_, rfl⟩ | ⟨e, _⟩
      · simp [exS1] at hc; rcases hc with rfl | rfl <;> simp at hdc <;> subst hdc <;> simp [exRank]
      · rw [hc17] at e; simp at e
    · split at hd
      · simp at hd; subst hd; subst_vars
        have hc19 := h2 n hn
        rcases hp _ sc hsc with ⟨e, _⟩ | ⟨_, rfl⟩
        · rw [hc19] at e; simp at e
        · simp [exS2] at hc; subst hc; simp at hdc; subst hdc; simp [exRank]
      · simp at hd

theorem ex_shape : ∀ w ∈ worldsOf 3 {} (initWorld exRules) exOps, ExShape w := by
  intro w hw
  have h := worldsOf_fromOps 3 {} (by decide +kernel) w hw
  refine ⟨h.rules_eq, fun c sc hc => by simpa [exOps, exOps0] using h.progs_set c sc hc, fun n hn => ?_, fun n hn => ?_⟩
  · obtain ⟨v, hv, e⟩ := h.fs_written 1 n rfl hn
    simp [exOps, exOps0] at hv
    rw [e, hv]; rfl
  · obtain ⟨v, hv, e⟩ := h.fs_written 2 n rfl hn
    simp [exOps, exOps0] at hv
    rw [e, hv]; rfl

theorem ex_ranked : ∀ w ∈ worldsOf 3 {} (initWorld exRules) exOps, Ranked exRank w :=
  fun w hw => (ex_shape w hw).ranked

theorem ex_plainK : ∀ op ∈ exOps, PlainOpK exRules op := by decide +kernel

theorem ex_opsOk : OpsOk 3 (initWorld exRules) exOps :=
  ⟨fun _ _ _ _ hn => (nomatch hn), fun _ _ _ _ hn => (nomatch hn), trivial, trivial, trivial, trivial, trivial, trivial,
    trivial, trivial⟩

/-- **Non-vacuity of `noStalePlainK_partial`**: every hypothesis holds for the history `exOps` (which ends with
a kill in the middle of a two-level rebuild). -/
example : let w := exOps.foldl (fun w op => (applyOp {} 3 op w).2) (initWorld exRules)
    let r := runCmd {} 3 (.ifchange [5] false) w
    r.1.status = 0 → ∀ t ∈ [5], UpToDateD r.2 t :=
  noStalePlainK_partial 3 exRules exRank exOps [5] false false ex_rulesOk ex_single ex_plainK ex_ranked ex_rank_lt
    ex_opsOk

def exW6 : World := exOps0.foldl (fun w op => (applyOp {} 3 op w).2) (initWorld exRules)
def exW7 : World := (applyOp {} 3 (.cmd (.ifchange [5] false)) exW6).2
def exW8 : World := (applyOp {} 3 (.write 4 3) exW7).2
def exW9 : World := (applyOp {} 3 (.crashCmd [5] 6 1) exW8).2

theorem exW9_eq : exOps.foldl (fun w op => (applyOp {} 3 op w).2) (initWorld exRules) = exW9 := rfl

/-- The run is really killed (status `CRASHED`), the recovery exits 0, and rebuilds 6 from the edited source 4
and 5 from the new 6. -/
theorem ex_eval : (applyOp {} 3 (.crashCmd [5] 6 1) exW8).1.map (·.status) = some CRASHED ∧
    (runCmd {} 3 (.ifchange [5] false) exW9).1.status = 0 ∧
    contentOf (runCmd {} 3 (.ifchange [5] false) exW9).2 6 = some [6, 0, 9, 1] ∧
    contentOf (runCmd {} 3 (.ifchange [5] false) exW9).2 5 = some [4, 0, 6, 0, 9, 1, 1, 0, 5, 1] := by
  unfold exW9 exW8 exW7 exW6
  eval_model

/-- The conclusion of the theorem on this history, with its premise discharged by evaluation: after the kill and
the recovery, 5 is up to date. -/
theorem ex_recovered :
    UpToDateD (runCmd {} 3 (.ifchange [5] false)
      (exOps.foldl (fun w op => (applyOp {} 3 op w).2) (initWorld exRules))).2 5 := by
  have h := ex_eval.2.1
  rw [← exW9_eq] at h
  exact noStalePlainK_partial 3 exRules exRank exOps [5] false false ex_rulesOk ex_single ex_plainK ex_ranked
    ex_rank_lt ex_opsOk h 5 (by simp)

#print axioms ex_recovered

theorem exW8_eq : (exOps.take 8).foldl (fun w op => (applyOp {} 3 op w).2) (initWorld exRules) = exW8 := rfl

/-- The state before the kill.  (Proved for the prefix of the history and rewritten with `exW8_eq`: asked to identify the
two forms of the world by unification under `Btw`, Lean would evaluate the build.) -/
theorem ex_btw8 : Btw exRank exW8 ∧ exW8.rules = exRules :=
  exW8_eq ▸ history_btwK ex_rank_lt ex_single (exOps.take 8) _
    (Btw_init ex_rulesOk (ex_ranked _ (worldsOf_head 3 {} _ exOps))) rfl
    (fun op h => ex_plainK op (List.mem_of_mem_take h)) (fun w h => ex_ranked w (worldsOf_take 3 {} 8 exOps _ w h))
    ⟨fun _ _ _ _ hn => (nomatch hn), fun _ _ _ _ hn => (nomatch hn), trivial, trivial, trivial, trivial, trivial, trivial,
      trivial⟩

/-- Non-vacuity of `recovery_is_sound` (the state before the kill of the history above). -/
example := recovery_is_sound ex_rank_lt (by rw [ex_btw8.2]; exact ex_single) ex_btw8.1 [5] 6 1 [5] false false
end RedoModel.Deps
