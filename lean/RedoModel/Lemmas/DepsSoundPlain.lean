import RedoModel.Lemmas.DepsSoundSHistory
/-!
C01 on the full engine model, plain histories: the statements of the plain development (`Inv`, `Btw`, `ESpec` … of
`DepsSound1`, `DepsSoundPlainSpec`), read off the one induction of `DepsSoundSVerified` … `DepsSoundSHistory` at `nc = true`.
The plain invariant is `S.InvN true` (`Inv.iffN`), a contract for nested commands over the one is a contract over the other
(`ESpec.iffN`), and the frames, which each namespace states for itself, convert field by field.  `DepsOkP` and the property
theorems of C01, C09c, C10 build on these statements; the killed-build theorems (`DepsSoundKill`) read the same induction
with its switch for kills on.  Conversions named `.iffN`/`.toN` here go to the statement over `S.InvN true`.
-/
namespace RedoModel.Deps
open RedoModel.Generated

/-! ### Direct consequences of the definitions -/

/-- The clauses of `Base` that speak about one record, for file `t` in world `w`. -/
structure RecOk (R t : Nat) (w : World) : Prop where
  chLe : ∀ ch, (w.recs t).changed = some ch → ch ≤ R
  ckLe : ∀ ck, (w.recs t).checked = some ck → ck ≤ R
  noCsum : (w.recs t).csum = none
  noOvr : (w.recs t).isOverride = false
  srcNotGen : w.rules t = [] → (w.recs t).isGenerated = false
  rec0 : t = alwaysId → ((w.recs t).failed ≠ none ∨ ((w.recs t).stamp = none ∧ (w.recs t).checked = none))
  stampCh : (w.recs t).stamp ≠ none → (w.recs t).changed ≠ none
  staticEx : (w.recs t).failed = none → (w.recs t).isGenerated = false → (w.recs t).stamp ≠ some .missing
  genMs : (w.recs t).isGenerated = true → ∀ n, w.fs t = some n → ∃ rest, (w.recs t).stamp = some (.st n.ms rest)
  fsB : ∀ n, w.fs t = some n → n.ms ≤ w.clock
  stB : ∀ ms rest, (w.recs t).stamp = some (.st ms rest) →
      ms ≤ w.clock ∧ ∀ n, w.fs t = some n → ms < n.ms ∨ (ms = n.ms ∧ rest ≤ n.rest)
  ckFail : (w.recs t).checked = some R → (w.recs t).failed = none
  markFail : (w.recs t).changed = some R → (w.recs t).failed = none ∨ (w.recs t).failed = some R
  flLe : ∀ k, (w.recs t).failed = some k → k ≤ R

theorem Base.recOk {rank R w} (hb : Base rank R X w) (t : Nat) : RecOk R t w :=
  ⟨hb.chLe t, hb.ckLe t, hb.noCsum t, hb.noOvr t, hb.srcNotGen t, fun e => e ▸ hb.rec0, hb.stampCh t,
   hb.staticEx t, hb.genMs t, hb.fsB t, hb.stB t, hb.ckFail t, hb.markFail t, hb.flLe t⟩

theorem JobPost.weak {rank R X t b po w res} (h : JobPost rank R X t b po w res) : JobPostW rank R X t b po w res :=
  h.mono (fun _ hg _ => hg)

/-! ### The plain invariant is the one with checksums, with the switch on -/

/-- The promise of a record without its checksum clause. -/
theorem _root_.RedoModel.Deps.S.RecTruth.toPlain {w t} (h : S.RecTruth w t) : RecTruth w t := by
  obtain ⟨pre, dof, post, sc, h1, h2, h3, h4, h5, h6, cs, h7, h8, hz⟩ := h
  exact ⟨pre, dof, post, sc, h1, h2, h3, h4, h5, h6, cs, h7, h8, fun p hp => (hz p hp).1⟩

theorem Base.iffN {rank R X w} : Base rank R X w ↔ S.BaseN true rank R X w := by
  constructor
  · exact fun hb => ⟨hb.toS, fun _ => ⟨hb.noCsum, hb.plainProgs⟩⟩
  · intro hb
    have hn := hb.nostamp rfl
    exact { hb.toBase with
      plainProgs := hn.progs
      noCsum := hn.csum
      recA := fun t hx hrc hg => (hb.recA t hx hrc hg).toPlain }

theorem Inv.iffN {rank R X w} : Inv rank R X w ↔ S.InvN true rank R X w :=
  ⟨fun hi => ⟨Base.iffN.1 hi.base, hi.Rpos, hi.ver⟩, fun hi => ⟨Base.iffN.2 hi.base, hi.Rpos, hi.ver⟩⟩

theorem Btw.iffN {rank w} : Btw rank w ↔ S.Btw true rank w := Base.iffN

theorem ESpec.iffN {rank R E} : ESpec rank R E ↔ S.ESpecG False true rank R E := by
  constructor
  · intro hE X cx ts w b h1 h2 hm hi hts hXb hpar hun
    have h3 := hun rfl
    obtain ⟨a1, a2, a3, a4, a5, a6⟩ := hE X cx ts w b h1 h2 h3 (hm.quiet id) (Inv.iffN.2 hi) hts hXb
      (fun p hp => ⟨(hpar h3 p hp).1, (hpar h3 p hp).2.1.resolve_right id, (hpar h3 p hp).2.2⟩)
    rw [if_neg (by simp [h3])]
    exact Or.inr ⟨⟨Inv.iffN.1 a1, a2.toS, a4, a5, a6⟩, a3⟩
  · intro hE X cx ts w b h1 h2 h3 h4 hi hts hXb hpar
    have a := hE.unkilled X cx ts w b h1 h2 h4 (Inv.iffN.1 hi) hts hXb (fun _ => hpar) (fun _ => h3)
    rw [if_neg (by simp [h3])] at a
    exact ⟨Inv.iffN.2 a.post.inv, a.post.frame.toPlain, a.rows, a.post.ok, a.post.keep, a.post.notCrashed⟩

/-! ### Conversions between the copies of the frames and the postconditions -/

theorem _root_.RedoModel.Deps.S.DExt.toPlain {rank R b w w'} (h : S.DExt rank R b w w') : DExt rank R b w w' :=
  ⟨h.same, h.above, h.ver, h.stat, h.fail⟩

theorem _root_.RedoModel.Deps.Snap.toS {w R f r} (h : Snap w R f r) : S.Snap w R f r :=
  ⟨h.failed, h.stamp, h.gen, h.ovr, h.csum, h.row, h.changed, h.checked, h.ckLe⟩

theorem _root_.RedoModel.Deps.S.Post.toPlain {rank R X b po G w res} (h : S.Post true rank R X b po G w res) :
    Post rank R X b po G w res :=
  ⟨Inv.iffN.2 h.inv, h.frame.toPlain, h.ok, h.keep, h.notCrashed⟩

theorem _root_.RedoModel.Deps.PlainOp.toN {rules op} (h : PlainOp rules op) : S.PlainOpN true rules op := by
  refine ⟨?_, fun _ => h⟩
  cases op <;> first | exact h | exact h.plainS

/-! ### What the invariant says about good and verified files -/

theorem Good.recCur {rank R w d} (hi : Inv rank R X w) (hg : Good w R d) : RecCur w d := S.Good.recCur (Inv.iffN.1 hi) hg

theorem Good.notDetectM {rank R w d} (hi : Inv rank R X w) (hg : Good w R d) : ¬ DetectM w R d := S.Good.notDetectM (Inv.iffN.1 hi).toInv hg

theorem static_exists {rank R w d} (hb : Base rank R X w) (hc : RecCur w d) (hg : (w.recs d).isGenerated = false) :
    existsF w d = true := S.static_exists (Base.iffN.1 hb) hc hg

theorem HasRow.absent {rank R w x s} (hi : Inv rank R X w) (hv : VerR w R x) (hg : (w.recs x).isGenerated = true)
    (h : HasRow w x s false) : existsF w s = false := S.HasRow.absent (Inv.iffN.1 hi).toInv hv hg h

theorem OffT.ranked {rank R t w w'} (h : OffT t w w') (hb : Base rank R X w) : Ranked rank w' := S.OffT.ranked h.toS hb.toS

/-! ### The dirtiness check -/

theorem isDirty_spec {rank R} : ∀ (fuel f mx : Nat) (seen : List Nat) (w : World) (cache : List Nat) (pre : Option Rec),
    Inv rank R X w → (∀ s, pre = some s → Snap w R f s) → (∀ x, X x → rank f < rank x) →
    ChkPost rank X R mx f w (isDirty false R fuel w cache f mx seen pre) := by
  intro fuel f mx seen w cache pre hi hpre hXa
  have hn := ((Inv.iffN.1 hi).base.nostamp rfl).csum
  obtain ⟨a1, a2, _, a4, a5⟩ := S.isDirty_specN fuel f mx seen w cache pre (Inv.iffN.1 hi) (fun s e => (hpre s e).toS) hXa
  refine ⟨Inv.iffN.2 a1, a2.toPlain, ?_, fun hc => ⟨(a4 hc).1.toPlain, (a4 hc).2⟩, a5⟩
  exact (isDirty_nocsum false R fuel w cache f mx seen pre hn (fun r e => ((hpre r e).csum).trans (hn f))).2

theorem good_clean {rank R} : ∀ (fuel f : Nat) (seen : List Nat) (w : World) (cache : List Nat) (pre : Option Rec),
    Inv rank R X w → Good w R f → (∀ s, pre = some s → Snap w R f s ∧ GoodRec R s) →
    (∀ x, X x → rank f < rank x) →
    (isDirty false R fuel w cache f R seen pre).1 = .clean ∨
    ((isDirty false R fuel w cache f R seen pre).1 = .cyclic ∧ ¬ FuelOk rank fuel seen f) :=
  fun fuel f seen w cache pre hi hg hpre hXa =>
    S.good_clean fuel f seen w cache pre (Inv.iffN.1 hi) hg (fun s e => ⟨(hpre s e).1.toS, (hpre s e).2⟩) hXa

/-! ### Rows, the preparation of `ssBuild`, the world in which a script starts -/

theorem WEqv.inv {rank R w w'} (h : WEqv w w') (hi : Inv rank R X w) : Inv rank R X w' := Inv.iffN.2 (h.toS.inv (Inv.iffN.1 hi))

theorem ssGuard_noop {rank R X w} (hb : Base rank R X w) (cx : Ctx) (t : Nat) :
    ssGuard cx t (w.recs t) w = (w.recs t, w) := S.ssGuard_noop (Base.iffN.1 hb) cx t

theorem startW_spec {rank R t dof w2} {X : Nat → Prop} (hi2 : Inv rank R X w2) (hdm : dof ∈ w2.rules t)
    (hdex : existsF w2 dof = true) :
    Inv rank R X (startW w2 R t dof) ∧ Good (startW w2 R t dof) R dof ∧
    BExt rank R (rank t) (some t) w2 (startW w2 R t dof) ∧ (startW w2 R t dof).deps = w2.deps ∧
    (NoFail R w2 → NoFail R (startW w2 R t dof)) := by
  obtain ⟨a1, a2, a3, a4⟩ := S.startW_spec (Inv.iffN.1 hi2) hdm hdex
  exact ⟨Inv.iffN.2 a1, a2, a3.toPlain, a4⟩

theorem ssb_prep {rank R t w} {X : Nat → Prop} (hi : Inv rank R X w) (hng : ¬ Good w R t) :
    (prepW w t).1 = firstEx w (w.rules t) ∧
    Inv rank R (addX X t) (prepW w t).2 ∧
    RowOp t w (prepW w t).2 ∧
    (∀ d ∈ (prepW w t).2.deps, d.target = t → d.deleteMe = false →
      DoRow w (firstEx w (w.rules t)) d) ∧
    (∀ pre dof post, w.rules t = pre ++ dof :: post → (∀ c ∈ pre, existsF w c = false) → existsF w dof = true →
      (∀ c ∈ pre, HasRowU (prepW w t).2 t c false) ∧
      HasRowU (prepW w t).2 t dof true) :=
  ⟨(ssb_prep_rows t w).1, Inv.iffN.2 (S.ssb_prep_inv (Inv.iffN.1 hi) hng), (ssb_prep_rows t w).2⟩

theorem scriptAt_plain {rank R X w} (hb : Base rank R X w) (dof : Nat) : (scriptAt w dof).Plain := (S.scriptAt_plain (Base.iffN.1 hb) dof).plain

theorem scriptAt_ranked {rank R X w t dof} (hb : Base rank R X w) (hd : dof ∈ w.rules t) :
    ∀ c ∈ (scriptAt w dof).ifchange, ∀ d ∈ c, rank d < rank t := S.scriptAt_ranked (Base.iffN.1 hb) hd

theorem notMarked {rank R X w t} (hi : Inv rank R X w) (hng : ¬ Good w R t) (hnf : (w.recs t).failed ≠ some R) :
    isCheckedR (w.recs t) R = false ∧ isChangedR (w.recs t) R = false := S.notMarked (Inv.iffN.1 hi) hng hnf

/-! ### Jobs, commands, the engine -/

theorem buildJob_spec {rank R E t w b fuel} {cx : Ctx} {X : Nat → Prop} (hE : ESpec rank R E) (d : Defects)
    (hcx : cx.runid = R) (hredo : cx.isRedo = false) (hcrash : cx.crash = none) (hi : Inv rank R X w)
    (hXa : ∀ x, X x → rank t < rank x) (hlt : rank t < b) (po : Option Nat) :
    JobPost rank R X t b po w ((buildJob E d cx fuel t w).1.st, (buildJob E d cx fuel t w).2) :=
  (S.buildJob_spec (ESpec.iffN.1 hE) d (fun h => by cases h) hcx hredo (S.KillMode.none hcrash) (Inv.iffN.1 hi) hXa hlt
    po).unkilled.toPlain

theorem declare_spec {rank R X p} (hX : X p) (b : Nat) (hb : b ≤ rank p) :
    ∀ (ts : List Nat) (w : World), Inv rank R X w → ¬ Good w R p → (∀ t ∈ ts, rank t < b) →
      Inv rank R X (declare p ts w) ∧ RowOp p w (declare p ts w) ∧ RowsDecl p ts w (declare p ts w) ∧
      ∀ d ∈ ts, HasRowU (declare p ts w) p d true :=
  fun ts w hi hng hts =>
    ⟨Inv.iffN.2 (S.declare_inv ts w (Inv.iffN.1 hi) (Or.inl hX) hng (fun t ht => Nat.lt_of_lt_of_le (hts t ht) hb)), declare_rows p ts w⟩

theorem engine_spec (rank : Nat → Nat) (R : Nat) (d : Defects) : ∀ n, ESpec rank R (engine d n) :=
  fun n => ESpec.iffN.2 (S.engine_spec False rank R d (fun h => by cases h) n)

/-! ### Forced rebuilds -/

theorem buildJob_forced_spec {rank R t w b n fuel} {cx : Ctx} (d : Defects) (hcx : cx.runid = R)
    (hredo : cx.isRedo = true) (hcrash : cx.crash = none) (hcyc : cx.cycles = []) (hi : Inv rank R NoX w)
    (hfuel : rank t ≤ n + 1) (hlt : rank t < b) (po : Option Nat) :
    JobPostW rank R NoX t b po w
      ((buildJob (engine d (n + 1)) d cx fuel t w).1.st, (buildJob (engine d (n + 1)) d cx fuel t w).2) :=
  (S.buildJob_forced_spec d (fun h => by cases h) hcx hredo hcrash hcyc (Inv.iffN.1 hi) hfuel hlt po (fun h => by cases h)).toPlain

/-! ### Between commands; histories; the main theorems -/

theorem Inv_alloc {rank w} (h : Btw rank w) :
    Inv rank (w.runCounter + 1) NoX (allocRun w).2 ∧ NoFail (w.runCounter + 1) (allocRun w).2 :=
  ⟨Inv.iffN.2 (S.Inv_alloc (Btw.iffN.1 h)).1, (S.Inv_alloc (Btw.iffN.1 h)).2⟩

theorem runCmd_btw {rank N w} (d : Defects) (hN : ∀ f, rank f < N) (h : Btw rank w) (c : Cmd) :
    Btw rank (runCmd d N c w).2 ∧ (runCmd d N c w).2.rules = w.rules := by
  obtain ⟨a1, a2⟩ := S.runCmd_btw d (fun h => by cases h) hN (Btw.iffN.1 h) c (fun h => by cases h)
  exact ⟨Btw.iffN.2 a1, a2⟩

theorem runCmd_sound {rank N w} (d : Defects) (hN : ∀ f, rank f < N) (h : Btw rank w) (ts : List Nat) (kg forced : Bool) :
    (runCmd d N (if forced then .redo ts kg else .ifchange ts kg) w).1.status = 0 →
    ∀ t ∈ ts, UpToDateD (runCmd d N (if forced then .redo ts kg else .ifchange ts kg) w).2 t :=
  S.runCmd_sound d (fun h => by cases h) hN (Btw.iffN.1 h) ts kg forced

theorem applyOp_btw {rank n rules w} (hN : ∀ f, rank f < n) (h : Btw rank w) (hr : w.rules = rules) (op : UserOp)
    (hp : PlainOp rules op) (hok : OpOk w op) (hrk : Ranked rank (applyOp {} n op w).2) :
    Btw rank (applyOp {} n op w).2 ∧ (applyOp {} n op w).2.rules = rules := by
  obtain ⟨a1, a2⟩ := S.applyOp_btw hN (Btw.iffN.1 h) hr op hp.toN hok (fun h => by cases h) hrk
  exact ⟨Btw.iffN.2 a1, a2⟩

theorem history_btw {rank n rules} (hN : ∀ f, rank f < n) :
    ∀ (ops : List UserOp) (w : World), Btw rank w → w.rules = rules → (∀ op ∈ ops, PlainOp rules op) →
      (∀ w' ∈ worldsOf n {} w ops, Ranked rank w') → OpsOk n w ops →
      Btw rank (ops.foldl (fun w op => (applyOp {} n op w).2) w) ∧
      (ops.foldl (fun w op => (applyOp {} n op w).2) w).rules = rules := by
  intro ops w h hr hp hrk hok
  obtain ⟨a1, a2⟩ := S.history_btw hN ops w (Btw.iffN.1 h) hr (fun op ho => (hp op ho).toN) hrk hok (fun h => by cases h)
  exact ⟨Btw.iffN.2 a1, a2⟩

/-- **Main theorem.**  `NoStalePlain` with `UpToDateD` (a .do content without a
`progs` entry means the default script, which is what `startSelf` runs) in place of `UpToDate`, under the one
extra hypothesis `OpsOk`: no `setProg` redefines the meaning of the content of a .do candidate that is in place. -/
theorem noStalePlainD (n : Nat) (rules : Nat → List Nat) (rank : Nat → Nat) (ops : List UserOp) (ts : List Nat)
    (kg forced : Bool) (hr : RulesOk rules) (hp : ∀ op ∈ ops, PlainOp rules op)
    (hrk : ∀ w ∈ worldsOf n {} (initWorld rules) ops, Ranked rank w) (hN : ∀ f, rank f < n)
    (hok : OpsOk n (initWorld rules) ops) :
    let w := ops.foldl (fun w op => (applyOp {} n op w).2) (initWorld rules)
    let r := runCmd {} n (if forced then .redo ts kg else .ifchange ts kg) w
    r.1.status = 0 → ∀ t ∈ ts, UpToDateD r.2 t := by
  intro w r
  have h0 : Btw rank (initWorld rules) := Btw_init hr (hrk _ (worldsOf_head n {} _ ops))
  obtain ⟨hb, _⟩ := history_btw hN ops (initWorld rules) h0 rfl hp hrk hok
  exact runCmd_sound {} hN hb ts kg forced

/-- **`NoStalePlain`, partial version.**  Two hypotheses are added to the statement of `DepsSoundSpec`, both
forced by counterexamples (`not_noStalePlain`, `cx2_notUpToDate`):
* `OpsOk`: a `setProg c s` never changes what a .do candidate currently in place means;
* `Meaningful` of the final world: every .do candidate in place has a `progs` entry. -/
theorem noStalePlain_partial (n : Nat) (rules : Nat → List Nat) (rank : Nat → Nat) (ops : List UserOp) (ts : List Nat)
    (kg forced : Bool) (hr : RulesOk rules) (hp : ∀ op ∈ ops, PlainOp rules op)
    (hrk : ∀ w ∈ worldsOf n {} (initWorld rules) ops, Ranked rank w) (hN : ∀ f, rank f < n)
    (hok : OpsOk n (initWorld rules) ops) :
    let w := ops.foldl (fun w op => (applyOp {} n op w).2) (initWorld rules)
    let r := runCmd {} n (if forced then .redo ts kg else .ifchange ts kg) w
    r.1.status = 0 → Meaningful r.2 → ∀ t ∈ ts, UpToDate r.2 t := by
  intro w r hz hm t ht
  have h0 : Btw rank (initWorld rules) := Btw_init hr (hrk _ (worldsOf_head n {} _ ops))
  obtain ⟨hb, _⟩ := history_btw hN ops (initWorld rules) h0 rfl hp hrk hok
  have hb' : Btw rank r.2 := (runCmd_btw {} hN hb _).1
  exact (noStalePlainD n rules rank ops ts kg forced hr hp hrk hN hok hz t ht).toUpToDate hm (fun c sc h => (hb'.plainProgs c sc h).2.2.2.2.2)

end RedoModel.Deps
