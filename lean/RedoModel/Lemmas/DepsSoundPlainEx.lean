import RedoModel.Lemmas.DepsSoundPlain
import RedoModel.Lemmas.DepsSoundCex
/-! Non-vacuity: a concrete plain history satisfying every hypothesis of the main theorems, ending in a real build
(target 2, built by the .do file 1 whose script declares and reads the source 5). -/
namespace RedoModel.Deps
open RedoModel.Generated

def nvScript : Script := { ifchange := [[5]], reads := [5], tag := 1 }
def nvOps : List UserOp := [.setProg [17] nvScript, .write 5 0, .write 1 7]
def nvW : World := nvOps.foldl (fun w op => (applyOp {} 2 op w).2) (initWorld cxRules)
def nvRes : Result × World := runCmd {} 2 (.ifchange [2] false) nvW

theorem nv_status : nvRes.1.status = 0 := by decide +kernel
theorem nv_ran : nvRes.2.trace = [.ran 2] := by decide +kernel

theorem nv_plainOps : ∀ op ∈ nvOps, PlainOp cxRules op := by decide +kernel

theorem nv_ranked : ∀ w ∈ worldsOf 2 {} (initWorld cxRules) nvOps, Ranked cxRank w :=
  ranked_history 2 {} cx_rulesOk cx_support (by decide +kernel) (by decide +kernel)

theorem nv_opsOk : OpsOk 2 (initWorld cxRules) nvOps := by
  refine ⟨?_, trivial, trivial, trivial⟩
  intro t dof _ n hn
  cases hn

theorem nv_rankLt : ∀ f, cxRank f < 2 := cxRank_lt

/-- Non-vacuity of `noStalePlainD`: all hypotheses hold, the command exits 0 after really running the script. -/
example : UpToDateD nvRes.2 2 :=
  noStalePlainD 2 cxRules cxRank nvOps [2] false false cx_rulesOk nv_plainOps nv_ranked nv_rankLt nv_opsOk
    nv_status 2 (by simp)

theorem nv_meaningful : Meaningful nvRes.2 := by
  intro t dof hd nd hn
  have hr : nvRes.2.rules = cxRules := rfl
  rw [hr] at hd
  unfold cxRules at hd
  split at hd
  · simp only [List.mem_singleton] at hd; subst hd
    have h1 : nvRes.2.fs 1 = some { content := [17], ms := 2, rest := 0 } := by decide +kernel
    rw [h1] at hn; cases hn
    have h2 : nvRes.2.progs [17] = some nvScript := by decide +kernel
    rw [h2]; simp
  · simp at hd

/-- Non-vacuity of `noStalePlain_partial`. -/
example : UpToDate nvRes.2 2 :=
  noStalePlain_partial 2 cxRules cxRank nvOps [2] false false cx_rulesOk nv_plainOps nv_ranked nv_rankLt nv_opsOk
    nv_status nv_meaningful 2 (by simp)

/-- The second counterexample history violates exactly the hypothesis `OpsOk`. -/
theorem cx2_not_opsOk : ¬ OpsOk 5 (initWorld cxRules) cx2Ops := by
  intro h
  have h4 := h.2.2.2.1
  have := h4 2 1 (by decide +kernel) { content := [17], ms := 1, rest := 0 } (by decide +kernel) rfl
  revert this
  decide +kernel

/-- The first counterexample violates exactly the hypothesis `Meaningful`. -/
theorem cx_not_meaningful : ¬ Meaningful cxRes.2 := by
  intro h
  have h1 : cxRes.2.fs 1 = some { content := [17], ms := 1, rest := 0 } := by decide +kernel
  exact h 2 1 (by decide +kernel) _ h1 (by rw [cx_progs])

end RedoModel.Deps
