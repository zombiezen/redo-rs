import RedoModel.Lemmas.DepsSoundFrames
/-!
The vocabulary in which the soundness theorems for plain histories are stated, in the order of the induction (dirtiness
check, rows, script, job, forced rebuild, between commands): the frames and postconditions over the plain invariant `Inv`
(`DExt`, `BExt`, `ChkPost`, `ESpec`, `JobPost`, `Ran`, `IdemStep`, `Btw`, …) with the lemmas about them that need no
induction, and the hypotheses and classes of the theorems themselves (`OpOk`/`OpsOk`, `Meaningful`; `PlainOpK`, `NoStalePlainK`
for histories with kills; `SetProgOk` stands with the user's operations in `DepsSoundFrames`, `PlainOp`, `RulesOk`, `Ranked`,
`UpToDate` in `DepsSoundSpec`).  The theorems are in `DepsSoundPlain`, read off the induction over `S.InvN`, which takes these lemmas through
`toPlain`/`toS`.
-/
namespace RedoModel.Deps
open RedoModel.Generated

/-! ### One record updated: what the other files see; rows that are all clean (`RowsClean`). -/

theorem OffT.good {t w w'} (h : OffT t w w') {x} (hx : x ≠ t) (R) : Good w' R x ↔ Good w R x := by
  unfold Good; rw [h.verR hx, h.recCur hx, h.recs x hx]

theorem DetectS.toM {w M M' d} (h : DetectS w M d) (hm : M' ≤ M) : DetectM w M' d := by
  rcases h with h | ⟨ch, h1, h2⟩ | h | h
  · exact Or.inr (Or.inl h)
  · exact Or.inr (Or.inr (Or.inl ⟨ch, h1, by omega⟩))
  · exact Or.inr (Or.inr (Or.inr h))
  · exact Or.inl h.1

/-- What the loop over the recorded rows of `f` has established when it reports "all clean". -/
def RowsClean (w : World) (R mx f : Nat) : Prop :=
  (w.recs f).isGenerated = true → ∀ d ∈ w.deps, d.target = f →
    (d.modeM = true → VerR w R d.source ∧ ¬ DetectM w mx d.source) ∧
    (d.modeM = false → existsF w d.source = false)

theorem ck_good {w : World} {R f x : Nat} (hv : Good w R x) :
    Good (setRec w f { w.recs f with checked := some R }) R x := by
  rcases hv with hv | ⟨hc, hg⟩
  · exact Or.inl (ck_verR hv)
  · right
    by_cases e : x = f
    · subst e; unfold RecCur; simp only [setRec_recs_self, setRec_readStamp]; exact ⟨hc, hg⟩
    · unfold RecCur; rw [setRec_recs_other _ _ _ e]; exact ⟨hc, hg⟩

/-! ### The dirtiness check: its frame `DExt`, the copies of records it works on (`Snap`), its postcondition over the plain
invariant (`ChkPost`). -/

/-- Frame of the dirtiness check of a file of rank `< b`, whatever its verdict. -/
structure DExt (rank : Nat → Nat) (R b : Nat) (w w' : World) : Prop where
  same : SameButRecs w w'
  above : ∀ x, b ≤ rank x → w'.recs x = w.recs x
  ver : ∀ x, VerR w R x → VerR w' R x ∧ (w'.recs x).isGenerated = (w.recs x).isGenerated
  stat : ∀ x, RecCur w x → (w.recs x).isGenerated = false → RecCur w' x ∧ (w'.recs x).isGenerated = false
  fail : ∀ x, (w'.recs x).failed = (w.recs x).failed ∨ (w'.recs x).failed = some 0

/-- The copy `r` of the record of `f` that the check works on agrees with the database except perhaps for an
older `checked` (and the synthetic `changed` of `//ALWAYS`). -/
structure Snap (w : World) (R f : Nat) (r : Rec) : Prop where
  failed : r.failed = (w.recs f).failed
  stamp : r.stamp = (w.recs f).stamp
  gen : r.isGenerated = (w.recs f).isGenerated
  ovr : r.isOverride = (w.recs f).isOverride
  csum : r.csum = (w.recs f).csum
  row : r.row = (w.recs f).row
  changed : f ≠ alwaysId → r.changed = (w.recs f).changed
  checked : r.checked = (w.recs f).checked ∨ (w.recs f).checked = some R
  ckLe : ∀ c, r.checked = some c → c ≤ R

/-- What a non-clean verdict may have done to the record of the file itself. -/
def OwnRel (w w' : World) (f : Nat) : Prop :=
  w'.recs f = w.recs f ∨
  (w'.recs f = { w.recs f with isGenerated := false, isOverride := false, failed := some 0 } ∧ w.fs f = none)

def ChkPost (rank : Nat → Nat) (X : Nat → Prop) (R mx f : Nat) (w : World) (res : DR × World × List Nat) : Prop :=
  Inv rank R X res.2.1 ∧ DExt rank R (rank f + 1) w res.2.1 ∧ (∀ ts, res.1 ≠ .need ts) ∧
  (res.1 = .clean → CkExt rank R (rank f + 1) w res.2.1 ∧ VerR res.2.1 R f ∧ ¬ DetectM w mx f) ∧
  (res.1 ≠ .clean → OwnRel w res.2.1 f)

theorem Snap.eq_of_checked {w R f r} (hs : Snap w R f r) (h0 : f ≠ alwaysId) (hc : r.checked = (w.recs f).checked) :
    r = w.recs f := by
  have h1 := hs.failed; have h2 := hs.stamp; have h3 := hs.gen; have h4 := hs.ovr
  have h5 := hs.csum; have h6 := hs.row; have h7 := hs.changed h0
  generalize w.recs f = c at *
  cases r; cases c; simp_all

theorem Snap.withChecked {w R f r} (hs : Snap w R f r) (h0 : f ≠ alwaysId) (x : Option Nat) :
    { r with checked := x } = { w.recs f with checked := x } := by
  have h1 := hs.failed; have h2 := hs.stamp; have h3 := hs.gen; have h4 := hs.ovr
  have h5 := hs.csum; have h6 := hs.row; have h7 := hs.changed h0
  generalize w.recs f = c at *
  cases r; cases c; simp_all

/-- The record copy itself shows that the file is good. -/
def GoodRec (R : Nat) (r : Rec) : Prop := r.checked = some R ∨ r.changed = some R ∨ r.isGenerated = false

/-! ### Worlds equal up to what the invariant does not look at, row operations; the frame `BExt` of building files of rank `< b`. -/

theorem WEqv.firstEx {w w'} (h : WEqv w w') (cs) : firstEx w' cs = firstEx w cs := firstEx_congr cs (fun c _ => congrFun h.fs c)

theorem WEqv.detectS {w w'} (h : WEqv w w') (M f) : DetectS w' M f ↔ DetectS w M f := by
  unfold DetectS FailedAbsent; rw [h.changed, h.stamp, h.readStamp, h.failed, h.gen]

theorem WEqv.good {w w'} (h : WEqv w w') (R f) : Good w' R f ↔ Good w R f := by
  unfold Good; rw [h.verR, h.recCur, h.gen]

theorem WEqv.upToDate {w w'} (h : WEqv w w') {f} (hu : UpToDateD w f) : UpToDateD w' f := by
  induction hu with
  | source hs => exact UpToDateD.source (fun c hc => by rw [h.existsF]; exact hs c (by rw [← h.rules]; exact hc))
  | user hg hex => exact UpToDateD.user (by rw [h.gen]; exact hg) (by rw [h.existsF]; exact hex)
  | @target t dof hfe _ hc ih =>
    refine UpToDateD.target (dof := dof) (by rw [h.rules, h.firstEx]; exact hfe) (by rw [h.scriptAt]; exact ih) ?_
    rw [h.scriptAt, h.contentOf, hc]
    unfold outOf
    have : (Deps.scriptAt w dof).reads.map (Deps.contentOf w') = (Deps.scriptAt w dof).reads.map (Deps.contentOf w) :=
      List.map_congr_left (fun d _ => h.contentOf d)
    rw [this]

theorem RowOp.good {t w w'} (h : RowOp t w w') (R f) : Good w' R f ↔ Good w R f := h.eqv.good R f

/-- Frame of a command that builds files of rank `< b` on behalf of `po` (whose rows it may extend). -/
structure BExt (rank : Nat → Nat) (R b : Nat) (po : Option Nat) (w w' : World) : Prop where
  rules : w'.rules = w.rules
  progs : w'.progs = w.progs
  plain : ∀ x, w.rules x = [] → w'.fs x = w.fs x
  above : ∀ x, b ≤ rank x → w'.fs x = w.fs x ∧
    (w'.recs x).isGenerated = (w.recs x).isGenerated ∧ (w'.recs x).isOverride = (w.recs x).isOverride ∧
    (w'.recs x).checked = (w.recs x).checked ∧ (w'.recs x).changed = (w.recs x).changed ∧
    (w'.recs x).failed = (w.recs x).failed ∧ (w'.recs x).stamp = (w.recs x).stamp ∧
    (w'.recs x).csum = (w.recs x).csum
  rowsAbove : ∀ d : Dep, b ≤ rank d.target → po ≠ some d.target → (d ∈ w'.deps ↔ d ∈ w.deps)
  ver : ∀ x, VerR w R x → VerR w' R x ∧ contentOf w' x = contentOf w x ∧
    (w'.recs x).isGenerated = (w.recs x).isGenerated
  stat : ∀ x, RecCur w x → (w.recs x).isGenerated = false →
    RecCur w' x ∧ (w'.recs x).isGenerated = false ∧ w'.fs x = w.fs x
  clock : w.clock ≤ w'.clock
  rc : w'.runCounter = w.runCounter

theorem BExt.refl (rank R b po w) : BExt rank R b po w w :=
  ⟨rfl, rfl, fun _ _ => rfl, fun _ _ => ⟨rfl, rfl, rfl, rfl, rfl, rfl, rfl, rfl⟩, fun _ _ _ => Iff.rfl,
   fun _ h => ⟨h, rfl, rfl⟩, fun _ h1 h2 => ⟨h1, h2, rfl⟩, Nat.le_refl _, rfl⟩

theorem BExt.trans {rank R b po w w' w''} (h1 : BExt rank R b po w w') (h2 : BExt rank R b po w' w'') :
    BExt rank R b po w w'' := by
  refine ⟨h2.rules.trans h1.rules, h2.progs.trans h1.progs,
    fun x hx => (h2.plain x (by rw [h1.rules]; exact hx)).trans (h1.plain x hx), fun x hx => ?_,
    fun d hd hp => (h2.rowsAbove d hd hp).trans (h1.rowsAbove d hd hp), fun x hv => ?_, fun x hc hg => ?_,
    Nat.le_trans h1.clock h2.clock, h2.rc.trans h1.rc⟩
  · obtain ⟨a1, a2, a3, a4, a5, a6, a7, a8⟩ := h1.above x hx
    obtain ⟨b1, b2, b3, b4, b5, b6, b7, b8⟩ := h2.above x hx
    exact ⟨b1.trans a1, b2.trans a2, b3.trans a3, b4.trans a4, b5.trans a5, b6.trans a6, b7.trans a7, b8.trans a8⟩
  · obtain ⟨a1, a2, a3⟩ := h1.ver x hv
    obtain ⟨b1, b2, b3⟩ := h2.ver x a1
    exact ⟨b1, b2.trans a2, b3.trans a3⟩
  · obtain ⟨a1, a2, a3⟩ := h1.stat x hc hg
    obtain ⟨b1, b2, b3⟩ := h2.stat x a1 a2
    exact ⟨b1, b2, b3.trans a3⟩

theorem BExt.mono {rank R b b' po w w'} (h : BExt rank R b po w w') (hb : b ≤ b') : BExt rank R b' po w w' :=
  ⟨h.rules, h.progs, h.plain, fun x hx => h.above x (Nat.le_trans hb hx),
   fun d hd hp => h.rowsAbove d (Nat.le_trans hb hd) hp, h.ver, h.stat, h.clock, h.rc⟩

theorem BExt.good {rank R b po w w'} (h : BExt rank R b po w w') {x} (hg : Good w R x) : Good w' R x := by
  rcases hg with hv | ⟨hc, hg⟩
  · exact Or.inl (h.ver x hv).1
  · exact Or.inr ⟨(h.stat x hc hg).1, (h.stat x hc hg).2.1⟩

/-! ### A job before and after its script: the smaller frames as `BExt`, the contract `ESpec` of nested commands over the plain
invariant, `ssBuild` by what its script returns, what is known when a success is recorded (`Built`). -/

theorem OffT.toBExt {rank R t w w' b po} (h : OffT t w w') (hlt : rank t < b)
    (hver : VerR w R t → VerR w' R t ∧ contentOf w' t = contentOf w t ∧
      (w'.recs t).isGenerated = (w.recs t).isGenerated)
    (hstat : RecCur w t → (w.recs t).isGenerated = false →
      RecCur w' t ∧ (w'.recs t).isGenerated = false ∧ w'.fs t = w.fs t) : BExt rank R b po w w' := by
  refine ⟨h.rules, h.progs, fun x hx => h.fsPlain hx, fun x hx => ?_, fun d hd _ => ?_, fun x hv => ?_,
    fun x hc hg => ?_, h.clock, h.rc⟩
  · have e : x ≠ t := fun e => by subst e; omega
    rw [h.recs x e]; exact ⟨h.fs x e, rfl, rfl, rfl, rfl, rfl, rfl, rfl⟩
  · exact h.rows d (fun e => by rw [e] at hd; omega)
  · by_cases e : x = t
    · subst e; exact hver hv
    · exact ⟨(h.verR e R).2 hv, contentOf_congr (h.fs x e), by rw [h.recs x e]⟩
  · by_cases e : x = t
    · subst e; exact hstat hc hg
    · exact ⟨(h.recCur e).2 hc, by rw [h.recs x e]; exact hg, h.fs x e⟩

theorem WEqv.toBExt {rank R b po w w'} (h : WEqv w w') : BExt rank R b po w w' :=
  ⟨h.rules, h.progs, fun x _ => congrFun h.fs x,
   fun x _ => ⟨congrFun h.fs x, h.gen x, h.ovr x, h.checked x, h.changed x, h.failed x, h.stamp x, h.csum x⟩,
   fun d _ _ => by rw [h.deps], fun x hv => ⟨(h.verR R x).2 hv, h.contentOf x, h.gen x⟩,
   fun x hc hg => ⟨(h.recCur x).2 hc, by rw [h.gen]; exact hg, congrFun h.fs x⟩, Nat.le_of_eq h.clock.symm, h.rc⟩

theorem notFA_of_cur {w : World} {t : Nat} (hex : existsF w t = true)
    (hs : (w.recs t).stamp = some (readStamp w t)) : ¬ FailedAbsent w t := by
  intro h; have := h.2.2; rw [hs] at this; exact readStamp_ne_missing hex (Option.some.inj this)

theorem BExt.good_above {rank R b po w w'} (h : BExt rank R b po w w') {t} (ht : b ≤ rank t) :
    Good w' R t ↔ Good w R t := by
  obtain ⟨a1, a2, _, a4, a5, a6, a7, _⟩ := h.above t ht
  unfold Good VerR RecCur
  rw [a2, a4, a5, a6, a7, readStamp_congr a1]

def ESpec (rank : Nat → Nat) (R : Nat) (E : Engine) : Prop :=
  ∀ (X : Nat → Prop) (cx : Ctx) (ts : List Nat) (w : World) (b : Nat),
    cx.runid = R → cx.isRedo = false → cx.unlocked = false → cx.crash = none →
    Inv rank R X w → (∀ t ∈ ts, rank t < b) → (∀ x, X x → b ≤ rank x) →
    (∀ p, cx.parent = some p → b ≤ rank p ∧ X p ∧ ¬ Good w R p) →
    Inv rank R X (E.ifchangeCmd cx ts w).2 ∧ BExt rank R b cx.parent w (E.ifchangeCmd cx ts w).2 ∧
    (∀ p, cx.parent = some p → RowsDecl p ts w (E.ifchangeCmd cx ts w).2 ∧
      ((E.ifchangeCmd cx ts w).1 = 0 → ∀ d ∈ ts, HasRowU (E.ifchangeCmd cx ts w).2 p d true)) ∧
    ((E.ifchangeCmd cx ts w).1 = 0 → ∀ t ∈ ts, Good (E.ifchangeCmd cx ts w).2 R t) ∧
    (NoFail R w → (E.ifchangeCmd cx ts w).1 = 0 → NoFail R (E.ifchangeCmd cx ts w).2) ∧
    (E.ifchangeCmd cx ts w).1 ≠ CRASHED

/-- `ssBuild` when the .do file `dof` is chosen, by the three components of what its script returns. -/
theorem ssBuild_some {E : Engine} {d : Defects} {cx : Ctx} {t dof : Nat} {sf : Rec} {w w2 : World}
    (h : prepW w t = (some dof, w2)) :
    ssBuild E d cx t sf w =
      if (runScript E d cx t (scriptAt (startW w2 cx.runid t dof) dof) (startW w2 cx.runid t dof)).1 = CRASHED then
        (CRASHED, (runScript E d cx t (scriptAt (startW w2 cx.runid t dof) dof) (startW w2 cx.runid t dof)).2.2)
      else recordNewState cx t sf (runScript E d cx t (scriptAt (startW w2 cx.runid t dof) dof) (startW w2 cx.runid t dof)).1
        (runScript E d cx t (scriptAt (startW w2 cx.runid t dof) dof) (startW w2 cx.runid t dof)).2.1
        (runScript E d cx t (scriptAt (startW w2 cx.runid t dof) dof) (startW w2 cx.runid t dof)).2.2 := by
  rw [ssBuild_eq_some (scriptAt _ dof) h rfl]

/-- Everything known about the world `w` just before the result of a successful build of `t` is recorded. -/
structure Built (rank : Nat → Nat) (R t : Nat) (pre : List Nat) (dof : Nat) (post : List Nat) (sc : Script) (w : World) : Prop where
  notGood : ¬ Good w R t
  rules : w.rules t = pre ++ dof :: post
  pre : ∀ c ∈ pre, existsF w c = false ∧ HasRowU w t c false
  dofEx : existsF w dof = true
  dofRow : HasRowU w t dof true
  dofGood : Good w R dof
  script : scriptAt w dof = sc
  exit : sc.exit = 0
  reads : ∀ d ∈ sc.reads, Good w R d ∧ HasRowU w t d true
  shape : ∀ d ∈ w.deps, d.target = t → d.deleteMe = false →
    (d.modeM = false → existsF w d.source = false) ∧ (d.modeM = true → d.source = dof ∨ d.source ∈ sc.reads)

/-! ### What jobs and commands guarantee, over the plain invariant (`Post`, `JobPost`, `JobPostW`, `Ran`); the declarations of a
command. -/

theorem BExt.sameT {rank R b po w w'} (h : BExt rank R b po w w') {t : Nat} (ht : b ≤ rank t) : SameT t w w' := by
  obtain ⟨a1, a2, a3, a4, a5, a6, a7, a8⟩ := h.above t ht
  exact ⟨⟨a2, a3, a4, a5, a6, a7, a8⟩, a1⟩

theorem SameT.good {t w w'} (h : SameT t w w') (R : Nat) : Good w' R t ↔ Good w R t := by
  obtain ⟨⟨a2, _, a4, a5, a6, a7, _⟩, a1⟩ := h
  unfold Good VerR RecCur
  rw [a2, a4, a5, a6, a7, readStamp_congr a1]

theorem RowOp.toBExt {rank R b po t w w'} (h : RowOp t w w') (hlt : rank t < b) : BExt rank R b po w w' := by
  have e := h.eqv
  refine ⟨e.rules, e.progs, fun x _ => congrFun e.fs x,
    fun x _ => ⟨congrFun e.fs x, e.gen x, e.ovr x, e.checked x, e.changed x, e.failed x, e.stamp x, e.csum x⟩,
    fun d hd _ => h.rows d (fun e' => by rw [e'] at hd; omega),
    fun x hv => ⟨(e.verR R x).2 hv, e.contentOf x, e.gen x⟩,
    fun x hc hg => ⟨(e.recCur x).2 hc, by rw [e.gen]; exact hg, congrFun e.fs x⟩, Nat.le_of_eq e.clock.symm, e.rc⟩

/-- The frame of the commands run on behalf of `t` is a frame of a job on `t`. -/
theorem BExt.lift {rank R t b po w w'} (h : BExt rank R (rank t) (some t) w w') (hlt : rank t < b) :
    BExt rank R b po w w' :=
  ⟨h.rules, h.progs, h.plain, fun x hx => h.above x (Nat.le_trans (Nat.le_of_lt hlt) hx),
   fun d hd _ => h.rowsAbove d (Nat.le_trans (Nat.le_of_lt hlt) hd) (fun e => by cases e; omega),
   h.ver, h.stat, h.clock, h.rc⟩

/-- The outcome of a step over the plain invariant: `StepPost` with the invariant, the frame of building files of rank
`< b` on behalf of `po`, and "no failure recorded in this run". -/
abbrev Post (rank : Nat → Nat) (R : Nat) (X : Nat → Prop) (b : Nat) (po : Option Nat) (G : World → Prop) (w : World)
    (res : Status × World) : Prop :=
  StepPost (Inv rank R X) (BExt rank R b po) (NoFail R) G w res

abbrev JobPost (rank : Nat → Nat) (R : Nat) (X : Nat → Prop) (t b : Nat) (po : Option Nat) (w : World)
    (res : Status × World) : Prop :=
  Post rank R X b po (fun w' => Good w' R t) w res

/-- `JobPost`, except that a target which had already failed in this run need not become good. -/
abbrev JobPostW (rank : Nat → Nat) (R : Nat) (X : Nat → Prop) (t b : Nat) (po : Option Nat) (w : World)
    (res : Status × World) : Prop :=
  Post rank R X b po (fun w' => (w.recs t).failed ≠ some R → Good w' R t) w res

/-- The state after the script of `t` (chosen .do file `dof`, script `sc`) has run its commands. -/
structure Ran (rank : Nat → Nat) (R : Nat) (X : Nat → Prop) (t dof : Nat) (sc : Script) (w2 w5 : World) (rv : Status) : Prop where
  inv : Inv rank R (addX X t) w5
  bext : BExt rank R (rank t) (some t) w2 w5
  decl : RowsDecl t sc.ifchange.flatten w2 w5
  ok : rv = 0 → ∀ d ∈ sc.ifchange.flatten, Good w5 R d ∧ HasRowU w5 t d true
  noFail : NoFail R w2 → rv = 0 → NoFail R w5
  notCrashed : rv ≠ CRASHED
  dofGood : Good w5 R dof
  script : scriptAt w5 dof = sc
  plain : sc.Plain

theorem DExt.noFail {rank R b w w'} (h : DExt rank R b w w') (hR : 0 < R) (hn : NoFail R w) : NoFail R w' := by
  intro f
  rcases h.fail f with e | e
  · rw [e]; exact hn f
  · rw [e]; intro h; cases h; omega

theorem RowOp.toBExtP {rank R b p w w'} (h : RowOp p w w') : BExt rank R b (some p) w w' := by
  have e := h.eqv
  refine ⟨e.rules, e.progs, fun x _ => congrFun e.fs x,
    fun x _ => ⟨congrFun e.fs x, e.gen x, e.ovr x, e.checked x, e.changed x, e.failed x, e.stamp x, e.csum x⟩,
    fun d _ hp => h.rows d (fun e' => hp (by rw [e'])),
    fun x hv => ⟨(e.verR R x).2 hv, e.contentOf x, e.gen x⟩,
    fun x hc hg => ⟨(e.recCur x).2 hc, by rw [e.gen]; exact hg, congrFun e.fs x⟩, Nat.le_of_eq e.clock.symm, e.rc⟩

theorem BExt.weakenPo {rank R b po w w'} (h : BExt rank R b none w w') : BExt rank R b po w w' :=
  ⟨h.rules, h.progs, h.plain, h.above, fun d hd _ => h.rowsAbove d hd (by simp), h.ver, h.stat, h.clock, h.rc⟩

/-- `redo-ifchange ts` run by the script of `p`: the declarations, then a command `w'` that leaves the rows of `p` alone. -/
theorem declare_then {rank R b p ts w w'} (hbp : b ≤ rank p) (a2 : BExt rank R b none (declare p ts (addKnown w p)) w') :
    BExt rank R b (some p) w w' ∧ RowsDecl p ts w w' ∧ (∀ d ∈ ts, HasRowU w' p d true) ∧
    (∀ s m, HasRow (declare p ts (addKnown w p)) p s m → HasRow w' p s m) ∧
    (NoFail R w → NoFail R (declare p ts (addKnown w p))) := by
  have e1 := WEqv.addKnown w p
  obtain ⟨d2, d3, d4⟩ := declare_rows p ts (addKnown w p)
  have hsame : ∀ dd : Dep, dd.target = p → (dd ∈ w'.deps ↔ dd ∈ (declare p ts (addKnown w p)).deps) :=
    fun dd hdd => a2.rowsAbove dd (by rw [hdd]; exact hbp) (by simp)
  have r1 : RowsDecl p [] w (addKnown w p) := rowsDecl_eqv e1.deps
  have r3 : RowsDecl p [] (declare p ts (addKnown w p)) w' := rowsDecl_of_same hsame
  refine ⟨(e1.toBExt.trans d2.toBExtP).trans a2.weakenPo, ((r1.trans d3).trans r3).mono (fun x hx => by simpa using hx),
    fun dd hdd => ?_, fun s m hr => ?_, fun hn f => by rw [d2.eqv.failed]; exact (hn.eqv e1) f⟩
  · obtain ⟨r, hr, q1, q2, q3, q4⟩ := d4 dd hdd
    exact ⟨r, (hsame r q1).2 hr, q1, q2, q3, q4⟩
  · obtain ⟨r, hr, q1, q2, q3⟩ := hr
    exact ⟨r, (hsame r q1).2 hr, q1, q2, q3⟩

/-! ### Forced rebuild of a verified target: what a nested command of its script does (`IdemStep`). -/

/-- No file is exempt (top level). -/
def NoX : Nat → Prop := fun _ => False

/-- What a nested command of the script of a verified target `t` does. -/
structure IdemStep (rank : Nat → Nat) (R t : Nat) (c : List Nat) (w : World) (res : Status × World) : Prop where
  status : res.1 = 0
  inv : Inv rank R NoX res.2
  bext : BExt rank R (rank t) (some t) w res.2
  decl : RowsDecl t c w res.2
  rows : ∀ d ∈ c, HasRowU res.2 t d true
  keep : ∀ s m, HasRow w t s m → HasRow res.2 t s m
  noFail : NoFail R w → NoFail R res.2

/-! ### Between commands (`Btw`); what the user may do (`OpOk`, `OpsOk`); `UpToDate` from `UpToDateD`; the empty project. -/

/-- The invariant between commands: run ids in use are at most the run counter. -/
def Btw (rank : Nat → Nat) (w : World) : Prop := Base rank w.runCounter NoX w

theorem FsUpd.key {f w w'} (h : FsUpd f w w')
    (hdiff : w'.fs f ≠ w.fs f → (w.recs f).stamp ≠ some (readStamp w' f) ∨ FailedAbsent w f) (d M : Nat) :
    (w'.fs d = w.fs d ∧ (DetectS w' M d ↔ DetectS w M d)) ∨ DetectS w' M d := by
  have hsame : w'.fs d = w.fs d → (w'.fs d = w.fs d ∧ (DetectS w' M d ↔ DetectS w M d)) := fun e =>
    ⟨e, by unfold DetectS FailedAbsent; rw [h.recs, readStamp_congr e]⟩
  by_cases e : d = f
  · subst e
    by_cases e2 : w'.fs d = w.fs d
    · exact Or.inl (hsame e2)
    · right; unfold DetectS FailedAbsent; rw [h.recs]; exact Or.inr (Or.inr (hdiff e2))
  · exact Or.inl (hsame (h.fs d e))

theorem Btw_init {rank rules} (hr : RulesOk rules) (hrk : Ranked rank (initWorld rules)) : Btw rank (initWorld rules) := by
  have hrec : ∀ f, (initWorld rules).recs f = {} ∨ (initWorld rules).recs f = { row := 1 } := by
    intro f; unfold initWorld; simp only; split
    · exact Or.inr rfl
    · exact Or.inl rfl
  have hdeps : (initWorld rules).deps = [] := rfl
  have hfs : ∀ f, (initWorld rules).fs f = none := fun _ => rfl
  exact {
    rulesOk := hr
    ranked := hrk
    plainProgs := fun c sc h => by cases h
    chLe := fun f ch h => by rcases hrec f with e | e <;> rw [e] at h <;> cases h
    ckLe := fun f ck h => by rcases hrec f with e | e <;> rw [e] at h <;> cases h
    noCsum := fun f => by rcases hrec f with e | e <;> rw [e]
    noOvr := fun f => by rcases hrec f with e | e <;> rw [e]
    srcNotGen := fun f _ => by rcases hrec f with e | e <;> rw [e]
    fs0 := rfl
    rec0 := Or.inr (by rcases hrec alwaysId with e | e <;> rw [e] <;> exact ⟨rfl, rfl⟩)
    rowsLt := fun d hd => by rw [hdeps] at hd; cases hd
    cPlain := fun d hd => by rw [hdeps] at hd; cases hd
    stampCh := fun f h => by rcases hrec f with e | e <;> rw [e] at h <;> exact absurd rfl h
    staticEx := fun f _ _ => by rcases hrec f with e | e <;> rw [e] <;> simp
    genMs := fun f hg => by rcases hrec f with e | e <;> rw [e] at hg <;> cases hg
    fsB := fun f n h => by rw [hfs] at h; cases h
    stB := fun f ms rest h => by rcases hrec f with e | e <;> rw [e] at h <;> cases h
    ckFail := fun f h => by rcases hrec f with e | e <;> rw [e] at h <;> cases h
    markFail := fun f h => by rcases hrec f with e | e <;> rw [e] at h <;> cases h
    flLe := fun f k h => by rcases hrec f with e | e <;> rw [e] at h <;> cases h
    recA := fun t _ hrc _ => by
      have := hrc.2.1
      rcases hrec t with e | e <;> rw [e] at this <;> exact absurd rfl this }

/-- The extra condition on `setProg` operations (see `SetProgOk`). -/
def OpOk (w : World) : UserOp → Prop
  | .setProg c s => SetProgOk w c s
  | _ => True

def OpsOk (n : Nat) : World → List UserOp → Prop
  | _, [] => True
  | w, op :: ops => OpOk w op ∧ OpsOk n (applyOp {} n op w).2 ops

/-- Every .do candidate in place has a meaning (`progs` entry). -/
def Meaningful (w : World) : Prop :=
  ∀ t, ∀ dof ∈ w.rules t, ∀ nd, w.fs dof = some nd → w.progs nd.content ≠ none

/-- `UpToDateD` is `UpToDate` where every .do candidate in place has a meaning and every script reads the files its commands
name (plain scripts, with or without `redo-stamp`). -/
theorem UpToDateD.toUpToDate {w : World} (hm : Meaningful w)
    (hpl : ∀ c sc, w.progs c = some sc → sc.reads = sc.ifchange.flatten) {f : Nat} (h : UpToDateD w f) : UpToDate w f := by
  induction h with
  | source hs => exact UpToDate.source hs
  | user hg hex => exact UpToDate.user hg hex
  | @target t dof hfe _ hc ih =>
    obtain ⟨hdm, hdex⟩ := firstEx_mem _ _ hfe
    obtain ⟨n, hn⟩ := existsF_eq_true.1 hdex
    cases hp : w.progs n.content with
    | none => exact absurd hp (hm t dof hdm n hn)
    | some sc =>
      have hsc : scriptAt w dof = sc := by unfold scriptAt; rw [hn]; simp [hp]
      rw [hsc] at ih hc
      refine UpToDate.target (dof := dof) (sc := sc) (n := n) (by rw [findDoFile_fst]; exact hfe) hn hp ?_ hc
      intro c hcm d hd
      exact ih d (by rw [hpl _ sc hp]; exact List.mem_flatten.2 ⟨c, hcm, hd⟩)

/-! ### Histories with killed builds: the operations, and the statement without further hypotheses (refuted in
`DepsSoundKillEx`; `DepsSoundKill` proves it for projects with one .do candidate per target). -/

/-- `PlainOp` plus killed builds. -/
def PlainOpK (rules : Nat → List Nat) : UserOp → Prop
  | .crashCmd _ _ _ => True
  | op => PlainOp rules op

/-- The statement of `noStalePlainD` with `PlainOpK`. -/
def NoStalePlainK : Prop :=
  ∀ (n : Nat) (rules : Nat → List Nat) (rank : Nat → Nat) (ops : List UserOp) (ts : List Nat) (kg forced : Bool),
    RulesOk rules → (∀ op ∈ ops, PlainOpK rules op) →
    (∀ w ∈ worldsOf n {} (initWorld rules) ops, Ranked rank w) → (∀ f, rank f < n) →
    OpsOk n (initWorld rules) ops →
    let w := ops.foldl (fun w op => (applyOp {} n op w).2) (initWorld rules)
    let r := runCmd {} n (if forced then .redo ts kg else .ifchange ts kg) w
    r.1.status = 0 → ∀ t ∈ ts, UpToDateD r.2 t

end RedoModel.Deps
