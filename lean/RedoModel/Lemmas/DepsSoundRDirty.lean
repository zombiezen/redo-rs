import RedoModel.Lemmas.DepsSoundRUpdate
import RedoModel.Lemmas.DepsMemo
/-! C01 on the full engine model, rich histories. The dirtiness check: its frame, the stale copies it works with, the specification of `goDeps` and `isDirty`; good files are found clean. -/
namespace RedoModel.Deps.Rich

/-- Frame of the dirtiness check of a file of rank `< b`, whatever its verdict. -/
structure DExt (rank : Nat → Nat) (R b : Nat) (w w' : World) : Prop where
  same : SameButRecs w w'
  above : ∀ x, b ≤ rank x → w'.recs x = w.recs x
  ver : ∀ x, VerR w R x → VerR w' R x ∧ genT (w'.recs x) = genT (w.recs x)
  stat : ∀ x, RecCur w x → genT (w.recs x) = false → RecCur w' x ∧ genT (w'.recs x) = false
  fail : ∀ x, (w'.recs x).failed = (w.recs x).failed ∨ (w'.recs x).failed = some 0

theorem DExt.refl (rank R b w) : DExt rank R b w w :=
  ⟨SameButRecs.refl w, fun _ _ => rfl, fun _ h => ⟨h, rfl⟩, fun _ h1 h2 => ⟨h1, h2⟩, fun _ => Or.inl rfl⟩

theorem DExt.trans {rank R b w w' w''} (h1 : DExt rank R b w w') (h2 : DExt rank R b w' w'') : DExt rank R b w w'' :=
  ⟨h1.same.trans h2.same, fun x hx => (h2.above x hx).trans (h1.above x hx),
   fun x hv => ⟨(h2.ver x (h1.ver x hv).1).1, (h2.ver x (h1.ver x hv).1).2.trans (h1.ver x hv).2⟩,
   fun x hc hg => h2.stat x (h1.stat x hc hg).1 (h1.stat x hc hg).2,
   fun x => by
    rcases h2.fail x with e2 | e2
    · rcases h1.fail x with e1 | e1
      · exact Or.inl (e2.trans e1)
      · exact Or.inr (e2.trans e1)
    · exact Or.inr e2⟩

theorem DExt.mono {rank R b b' w w'} (h : DExt rank R b w w') (hb : b ≤ b') : DExt rank R b' w w' :=
  ⟨h.same, fun x hx => h.above x (Nat.le_trans hb hx), h.ver, h.stat, h.fail⟩

theorem DExt.notFailed {rank R b w w' f} (h : DExt rank R b w w') (hR : 0 < R) (hn : (w.recs f).failed ≠ some R) :
    (w'.recs f).failed ≠ some R := by
  rcases h.fail f with e | e
  · rw [e]; exact hn
  · rw [e]; intro h; cases h; omega

theorem DExt.noFail {rank R b w w'} (h : DExt rank R b w w') (hR : 0 < R) (hn : NoFail R w) : NoFail R w' :=
  fun f => h.notFailed hR (hn f)

theorem CkExt.toDExt {rank R b w w'} (h : CkExt rank R b w w') : DExt rank R b w w' :=
  ⟨h.1, fun _ hx => h.above hx, fun x hv => ⟨VerR_ext h hv, h.genT x⟩,
   fun x hc hg => ⟨(RecCur_ext h x).2 hc, by rw [h.genT]; exact hg⟩,
   fun x => Or.inl (h.fields x).1⟩

/-- The copy `r` of the record of `f` that the check works on agrees with the database except perhaps for an
older `checked` (and the synthetic `changed` of `//ALWAYS`). -/
structure Snap (w : World) (R f : Nat) (r : Rec) : Prop where
  failed : r.failed = (w.recs f).failed
  stamp : r.stamp = (w.recs f).stamp
  gen : r.isGenerated = (w.recs f).isGenerated
  ovr : r.isOverride = (w.recs f).isOverride
  csum : r.csum = (w.recs f).csum
  row : r.row = (w.recs f).row
  changed : f ≠ alwaysId → r.changed = (w.recs f).changed
  changed0 : f = alwaysId → r.changed = some (match (w.recs f).changed with
      | some c => max R c
      | none => R)
  checked : r.checked = (w.recs f).checked ∨ (w.recs f).checked = some R
  ckLe : ∀ c, r.checked = some c → c ≤ R

theorem Snap.getRec {rank R w} (hb : Base rank R X w) (f : Nat) : Snap w R f (getRec w R f) := by
  unfold Deps.getRec
  split
  · exact ⟨rfl, rfl, rfl, rfl, rfl, rfl, fun h => absurd ‹_› h, fun _ => rfl, Or.inl rfl, hb.ckLe f⟩
  · exact ⟨rfl, rfl, rfl, rfl, rfl, rfl, fun _ => rfl, fun h => absurd h ‹_›, Or.inl rfl, hb.ckLe f⟩

theorem Snap.ext {rank R b w w' f r} (hs : Snap w R f r) (h : CkExt rank R b w w') : Snap w' R f r := by
  obtain ⟨f1, f2, f3, f4, f5, f6, f7⟩ := h.fields f
  refine ⟨by rw [f1]; exact hs.failed, by rw [f3]; exact hs.stamp, by rw [f4]; exact hs.gen,
    by rw [f5]; exact hs.ovr, by rw [f6]; exact hs.csum, ?_, fun h0 => by rw [f2]; exact hs.changed h0,
    fun h0 => by rw [f2]; exact hs.changed0 h0, ?_, ?_⟩
  · rcases h.2 f with e | ⟨_, e⟩ <;> rw [e] <;> exact hs.row
  · rcases f7 with e | e
    · rw [e]; exact hs.checked
    · exact Or.inr e
  · exact hs.ckLe

/-- What a non-clean verdict may have done to the record of the file itself. -/
def OwnRel (w w' : World) (f : Nat) : Prop :=
  w'.recs f = w.recs f ∨
  (w'.recs f = { w.recs f with isGenerated := false, isOverride := false, failed := some 0 } ∧ w.fs f = none ∧
    (w.recs f).stamp ≠ some .missing)

def ChkPost (rank : Nat → Nat) (X : Nat → Prop) (R mx f : Nat) (w : World) (res : DR × World × List Nat) : Prop :=
  Inv rank R X res.2.1 ∧ DExt rank R (rank f + 1) w res.2.1 ∧ (∀ ts, res.1 ≠ .need ts) ∧
  (res.1 = .clean → CkExt rank R (rank f + 1) w res.2.1 ∧ VerR res.2.1 R f ∧ ¬ DetectM w mx f) ∧
  (res.1 ≠ .clean → OwnRel w res.2.1 f)

/-- The `//ALWAYS` record is only walked with `mx ≥ R` when it is verified in this run (then its `changed` is `R`). -/
def A0 (w : World) (R mx s : Nat) : Prop := s = alwaysId → R ≤ mx → VerR w R alwaysId

theorem A0.ext {rank R b w w' mx s} (h : A0 w R mx s) (hc : CkExt rank R b w w') : A0 w' R mx s :=
  fun e hm => VerR_ext hc (h e hm)

def ChkSpec (rank : Nat → Nat) (X : Nat → Prop) (R mx : Nat) (chk : World → List Nat → Nat → Rec → DR × World × List Nat) : Prop :=
  ∀ w cache s snap, Inv rank R X w → Snap w R s snap → (∀ x, X x → rank s < rank x) → A0 w R mx s →
    ChkPost rank X R mx s w (chk w cache s snap)

/-- Outcome of the loop over recorded rows. -/
def GoPost (rank : Nat → Nat) (X : Nat → Prop) (R mx b : Nat) (ds : List (Dep × Rec)) (w : World)
    (res : Option DR × World × List Nat) : Prop :=
  Inv rank R X res.2.1 ∧ DExt rank R b w res.2.1 ∧
  (res.1 = some .dirty ∨ res.1 = some .cyclic ∨
    (res.1 = none ∧ CkExt rank R b w res.2.1 ∧ ∀ p ∈ ds,
      (p.1.modeM = true → VerR res.2.1 R p.1.source ∧ ¬ DetectM res.2.1 mx p.1.source) ∧
      (p.1.modeM = false → existsF res.2.1 p.1.source = false)))

theorem GoPost.step {rank R mx b d snap ds w w1 res} (h1 : CkExt rank R b w w1)
    (hd : (d.modeM = true → VerR w1 R d.source ∧ ¬ DetectM w1 mx d.source) ∧
      (d.modeM = false → existsF w1 d.source = false))
    (h : GoPost rank X R mx b ds w1 res) : GoPost rank X R mx b ((d, snap) :: ds) w res := by
  obtain ⟨hi, hdx, hr⟩ := h
  refine ⟨hi, h1.toDExt.trans hdx, ?_⟩
  rcases hr with hr | hr | ⟨hn, hck, hall⟩
  · exact Or.inl hr
  · exact Or.inr (Or.inl hr)
  · refine Or.inr (Or.inr ⟨hn, h1.trans hck, ?_⟩)
    intro p hp
    rcases List.mem_cons.1 hp with rfl | hp
    · exact ⟨fun hm => ⟨VerR_ext hck (hd.1 hm).1, fun hdt => (hd.1 hm).2 ((DetectM_ext hck _ _).1 hdt)⟩,
        fun hm => by rw [hck.existsF]; exact hd.2 hm⟩
    · exact hall p hp

theorem goDeps_spec {rank R mx} (chk : World → List Nat → Nat → Rec → DR × World × List Nat)
    (hchk : ChkSpec rank X R mx chk) (f b : Nat) (hXb : ∀ x, X x → b ≤ rank x) :
    ∀ (ds : List (Dep × Rec)) (w : World) (cache : List Nat), Inv rank R X w →
      (∀ p ∈ ds, Snap w R p.1.source p.2 ∧ rank p.1.source < b ∧ (p.1.modeM = true → A0 w R mx p.1.source)) →
      GoPost rank X R mx b ds w (goDeps chk false f ds w cache [])
  | [], w, cache, hi, _ => by
    simp only [goDeps, List.isEmpty_nil, if_true]
    exact ⟨hi, DExt.refl _ _ _ _, Or.inr (Or.inr ⟨rfl, CkExt.refl _ _ _ _, fun p hp => by simp at hp⟩)⟩
  | (d, snap) :: ds, w, cache, hi, hds => by
    obtain ⟨hsn, hrk, ha0⟩ := hds (d, snap) (by simp)
    have hrest : ∀ w1, CkExt rank R b w w1 →
        ∀ p ∈ ds, Snap w1 R p.1.source p.2 ∧ rank p.1.source < b ∧ (p.1.modeM = true → A0 w1 R mx p.1.source) :=
      fun w1 h1 p hp => ⟨(hds p (List.mem_cons_of_mem _ hp)).1.ext h1, (hds p (List.mem_cons_of_mem _ hp)).2.1,
        fun hm => ((hds p (List.mem_cons_of_mem _ hp)).2.2 hm).ext h1⟩
    apply goDeps_cons_cases chk false f d snap ds w cache []
    · exact fun _ _ => ⟨hi, DExt.refl _ _ _ _, Or.inl rfl⟩
    · intro hm' hex
      refine GoPost.step (CkExt.refl _ _ _ _) ⟨fun h => ?_, fun _ => hex⟩
        (goDeps_spec chk hchk f b hXb ds w cache hi (hrest w (CkExt.refl _ _ _ _)))
      rw [hm'] at h; cases h
    · intro hm sub w1 c1 hres
      obtain ⟨hi1, hdx, hnn, hcl, _⟩ :=
        hres ▸ hchk w cache d.source snap hi hsn (fun x hx => Nat.lt_of_lt_of_le hrk (hXb x hx)) (ha0 hm)
      cases sub with
      | cyclic => exact ⟨hi1, hdx.mono hrk, Or.inr (Or.inl rfl)⟩
      | dirty => exact ⟨hi1, hdx.mono hrk, Or.inl rfl⟩
      | need ts => exact absurd rfl (hnn ts)
      | clean =>
        obtain ⟨hck, hv, hnd⟩ := hcl rfl
        have hck' : CkExt rank R b w w1 := hck.mono hrk
        refine GoPost.step hck' ⟨fun _ => ⟨hv, fun h => hnd ((DetectM_ext hck _ _).1 h)⟩, fun h => ?_⟩
          (goDeps_spec chk hchk f b hXb ds w1 c1 hi1 (hrest w1 hck'))
        rw [hm] at h; cases h

theorem ne_always_of_rawgen {rank R w f} (hb : Base rank R X w) (hg : (w.recs f).isGenerated = true) :
    f ≠ alwaysId := by
  intro e; subst e
  rw [hb.rec0.gen] at hg; cases hg

theorem ne_always_of_gen {rank R w f} (hb : Base rank R X w) (hg : genT (w.recs f) = true) : f ≠ alwaysId :=
  ne_always_of_rawgen hb (genT_true.1 hg).1

theorem CkExt.ev (rank : Nat → Nat) (R b : Nat) (w : World) (e : Ev) : CkExt rank R b w (ev w e) :=
  ⟨SameButRecs.ev w e, fun _ => Or.inl rfl⟩

theorem Snap.withChecked {w R f r} (hs : Snap w R f r) (h7 : r.changed = (w.recs f).changed) (x : Option Nat) :
    { r with checked := x } = { w.recs f with checked := x } := by
  have h1 := hs.failed; have h2 := hs.stamp; have h3 := hs.gen; have h4 := hs.ovr
  have h5 := hs.csum; have h6 := hs.row
  generalize w.recs f = c at *
  cases r; cases c; simp_all

theorem Snap.eq_of_checked {w R f r} (hs : Snap w R f r) (h7 : r.changed = (w.recs f).changed)
    (hc : r.checked = (w.recs f).checked) :
    r = w.recs f := by
  exact (hs.withChecked h7 r.checked).trans (by rw [hc])

theorem Snap.chGe {R w f r c} (hs : Snap w R f r) (hc : (w.recs f).changed = some c) :
    ∃ ch, r.changed = some ch ∧ c ≤ ch ∧ (f = alwaysId → R ≤ ch) := by
  by_cases h0 : f = alwaysId
  · refine ⟨max R c, ?_, Nat.le_max_right _ _, fun _ => Nat.le_max_left _ _⟩
    rw [hs.changed0 h0, hc]
  · exact ⟨c, by rw [hs.changed h0, hc], Nat.le_refl _, fun e => absurd e h0⟩

theorem Snap.chLe {rank R w f r ch} (hb : Base rank R X w) (hs : Snap w R f r) (hch : r.changed = some ch) : ch ≤ R := by
  by_cases h0 : f = alwaysId
  · have h1 := hs.changed0 h0
    rw [hch] at h1
    cases hc : (w.recs f).changed with
    | none => rw [hc] at h1; simp only [Option.some.injEq] at h1; omega
    | some c =>
      rw [hc] at h1; simp only [Option.some.injEq] at h1
      have := hb.chLe f c hc; omega
  · exact hb.chLe f ch (by rw [← hs.changed h0]; exact hch)

/-- When the copy of the `//ALWAYS` record is not newer than `mx` and `A0` holds, the copy's `changed` is the
recorded one (`R`). -/
theorem Snap.changed_eq {rank R w f r ch mx} (hb : Base rank R X w) (hs : Snap w R f r) (hch : r.changed = some ch)
    (hle : ¬ ch > mx) (ha : A0 w R mx f) : r.changed = (w.recs f).changed := by
  by_cases h0 : f = alwaysId
  · subst h0
    have h1 := hs.changed0 rfl
    have hR : R ≤ mx := by
      rw [hch] at h1
      cases hc : (w.recs alwaysId).changed with
      | none => rw [hc] at h1; simp only [Option.some.injEq] at h1; omega
      | some c => rw [hc] at h1; simp only [Option.some.injEq] at h1; omega
    have hv := ha rfl hR
    have hc : (w.recs alwaysId).changed = some R := by
      rcases hv.2 with h | h
      · exact hb.rec0.ck h
      · exact h
    rw [h1, hc]; simp
  · exact hs.changed h0

/-! ### The cases of `isDirty`, then its specification. -/

theorem isSome_false_iff {α} {o : Option α} : o.isSome = false ↔ o = none := Deps.isSome_false_iff

theorem chk_checked {rank R w f r mx ch} (hi : Inv rank R X w) (hs : Snap w R f r) (hf : r.failed = none)
    (hch : r.changed = some ch) (hle : ¬ ch > mx) (hck : isCheckedR r R = true) :
    VerR w R f ∧ ¬ DetectM w mx f := by
  have hfail : (w.recs f).failed = none := by rw [← hs.failed]; exact hf
  have hcR : (w.recs f).checked = some R := by
    rcases hs.checked with h | h
    · rw [← h]; exact (isCheckedR_iff hi.Rpos hs.ckLe).1 hck
    · exact h
  have hv : VerR w R f := ⟨hfail, Or.inl hcR⟩
  have hrc := (hi.ver f hv).1
  refine ⟨hv, ?_⟩
  rintro (h | h | ⟨c, h1, h2⟩ | h)
  · exact h hfail
  · exact hrc.2.1 h
  · obtain ⟨ch', e1, e2, _⟩ := hs.chGe h1
    rw [hch] at e1; cases e1; omega
  · exact h hrc.2.2

theorem DExt_vanished {rank R w f} (hi : Inv rank R X w) (hs : (w.recs f).stamp ≠ some (readStamp w f)) (r : Rec)
    (hr : r.failed = some 0) :
    DExt rank R (rank f + 1) w (setRec w f r) := by
  have hne : ∀ x, RecCur w x → x ≠ f := fun x hx e => hs (e ▸ hx.2.2)
  refine ⟨SameButRecs.setRec w f _, fun x hx => ?_, fun x hv => ?_, fun x hc hg => ?_, fun x => ?_⟩
  · have : x ≠ f := fun e => by subst e; omega
    exact setRec_recs_other _ _ _ this
  · have e := hne x (hi.ver x hv).1
    unfold VerR; rw [setRec_recs_other _ _ _ e]; exact ⟨hv, rfl⟩
  · have e := hne x hc
    unfold RecCur; rw [setRec_recs_other _ _ _ e]; exact ⟨hc, hg⟩
  · by_cases e : x = f
    · subst e; right; simp [hr]
    · left; rw [setRec_recs_other _ _ _ e]

theorem chk_vanished {rank R w f r old} (hi : Inv rank R X w) (hs : Snap w R f r) (hf : r.failed = none)
    (hst : r.stamp = some old) (hne : old ≠ readStamp w f) :
    Inv rank R X (if readStamp w f = .missing ∧ r.isGenerated = true then
        setRec w f { r with isGenerated := false, isOverride := false, failed := some 0 } else w) ∧
    DExt rank R (rank f + 1) w (if readStamp w f = .missing ∧ r.isGenerated = true then
        setRec w f { r with isGenerated := false, isOverride := false, failed := some 0 } else w) ∧
    OwnRel w (if readStamp w f = .missing ∧ r.isGenerated = true then
        setRec w f { r with isGenerated := false, isOverride := false, failed := some 0 } else w) f := by
  split
  · have hfail : (w.recs f).failed = none := by rw [← hs.failed]; exact hf
    have hstamp : (w.recs f).stamp ≠ some (readStamp w f) := by
      rw [← hs.stamp, hst]; intro h; exact hne (Option.some.inj h)
    rename_i hcond
    have h0 : f ≠ alwaysId := ne_always_of_rawgen hi.base (by rw [← hs.gen]; exact hcond.2)
    have hck : r.checked = (w.recs f).checked := by
      rcases hs.checked with h | h
      · exact h
      · exact absurd (hi.ver f ⟨hfail, Or.inl h⟩).1.2.2 hstamp
    have hr := hs.eq_of_checked (hs.changed h0) hck
    subst hr
    exact ⟨Inv_vanished hi h0 hfail hstamp, DExt_vanished hi hstamp _ rfl, Or.inr ⟨by simp, readStamp_missing.1 hcond.1, by rw [← hcond.1]; exact hstamp⟩⟩
  · exact ⟨hi, DExt.refl _ _ _ _, Or.inl rfl⟩

theorem CkExt.setChecked (rank : Nat → Nat) (R : Nat) (w : World) (f : Nat) :
    CkExt rank R (rank f + 1) w (setRec w f { w.recs f with checked := some R }) := by
  refine ⟨SameButRecs.setRec w f _, fun x => ?_⟩
  by_cases e : x = f
  · subst e; exact Or.inr ⟨Nat.lt_succ_self _, by simp⟩
  · exact Or.inl (setRec_recs_other _ _ _ e)

theorem chk_mark {rank R w w' f r mx ch old} (hi : Inv rank R X w) (hi' : Inv rank R X w') (hx : ¬ X f)
    (hs : Snap w R f r)
    (hck : CkExt rank R (rank f) w w') (hf : r.failed = none) (hch : r.changed = some ch) (hle : ¬ ch > mx)
    (hst : r.stamp = some old) (heq : old = readStamp w f) (ha : A0 w R mx f)
    (hall : ∀ p ∈ depsWithRecs w R r f,
      (p.1.modeM = true → VerR w' R p.1.source ∧ ¬ DetectM w' (max ch (r.checked.getD 0)) p.1.source) ∧
      (p.1.modeM = false → existsF w' p.1.source = false)) :
    Inv rank R X (setRec w' f { r with checked := some R }) ∧
    CkExt rank R (rank f + 1) w (setRec w' f { r with checked := some R }) ∧
    VerR (setRec w' f { r with checked := some R }) R f ∧ ¬ DetectM w mx f := by
  have hfail : (w.recs f).failed = none := by rw [← hs.failed]; exact hf
  have hstamp : (w.recs f).stamp = some (readStamp w f) := by rw [← hs.stamp, hst, heq]
  have hceq := hs.changed_eq hi.base hch hle ha
  have hchg : (w.recs f).changed = some ch := by rw [← hceq]; exact hch
  have hsame : w'.recs f = w.recs f := hck.above (Nat.le_refl _)
  have hs' : Snap w' R f r := hs.ext hck
  rw [hs'.withChecked (by rw [hsame]; exact hceq)]
  have h0R : f = alwaysId → (w'.recs f).changed = some R := by
    intro e
    obtain ⟨ch', e1, _, e3⟩ := hs.chGe hchg
    rw [hch] at e1; cases e1
    have := hi.base.chLe f ch hchg
    have := e3 e
    rw [hsame, hchg]; congr; omega
  have hrc : RecCur w' f := by
    refine ⟨by rw [hsame]; exact hfail, by rw [hsame, hchg]; simp, ?_⟩
    rw [hsame, hck.readStamp]; exact hstamp
  have hmx : max ch (r.checked.getD 0) ≤ Mof (w'.recs f) := by
    unfold Mof; rw [hsame, hchg]
    simp only [Option.getD_some]
    rcases hs.checked with h | h
    · rw [h]; exact Nat.le_refl _
    · rw [h]; simp only [Option.getD_some]
      have h1 : ch ≤ R := hi.base.chLe f ch hchg
      have h2 : r.checked.getD 0 ≤ R := by
        cases hc : r.checked with
        | none => simp
        | some c => simpa using hs.ckLe c hc
      omega
  have hrows : RowsClean w' R (max ch (r.checked.getD 0)) f := by
    intro hg d hd hdt
    rw [hsame] at hg
    have hm : d ∈ depsOf w r f :=
      mem_depsOf.2 ⟨⟨by rw [hs.ovr]; exact (genT_true.1 hg).2, by rw [hs.gen]; exact (genT_true.1 hg).1⟩, by rw [← hck.deps]; exact hd, hdt⟩
    exact hall (d, getRec w R d.source) (List.mem_map.2 ⟨d, hm, rfl⟩)
  refine ⟨Inv_setChecked hi' hx hrc h0R hmx hrows, (hck.mono (Nat.le_succ _)).trans (CkExt.setChecked rank R w' f), ?_, ?_⟩
  · unfold VerR; simp only [setRec_recs_self]; exact ⟨by rw [hsame]; exact hfail, Or.inl trivial⟩
  · rintro (h | h | ⟨c, h1, h2⟩ | h)
    · exact h hfail
    · rw [hchg] at h; cases h
    · rw [hchg] at h1; cases h1; exact hle h2
    · exact h hstamp

/-- The rows of a file whose own marks reach `R` are those of a verified file: `//ALWAYS` among them is verified. -/
theorem A0_deps {rank R w f r ch} (hi : Inv rank R X w) (hs : Snap w R f r) (hf : r.failed = none)
    (hch : r.changed = some ch) {d : Dep} (hd : d ∈ depsOf w r f) (hm : d.modeM = true) :
    A0 w R (max ch (r.checked.getD 0)) d.source := by
  intro e hR
  obtain ⟨⟨ho, hg⟩, hd1, hd2⟩ := mem_depsOf.1 hd
  rw [hs.gen] at hg
  rw [hs.ovr] at ho
  have h0 := ne_always_of_rawgen hi.base hg
  have hg : genT (w.recs f) = true := genT_true.2 ⟨hg, ho⟩
  have hchg : (w.recs f).changed = some ch := by rw [← hs.changed h0]; exact hch
  have hfail : (w.recs f).failed = none := by rw [← hs.failed]; exact hf
  have h1 : ch ≤ R := hi.base.chLe f ch hchg
  have hv : VerR w R f := by
    refine ⟨hfail, ?_⟩
    cases hc : r.checked with
    | none => rw [hc] at hR; simp only [Option.getD_none] at hR; right; rw [hchg]; congr; omega
    | some c =>
      rw [hc] at hR; simp only [Option.getD_some] at hR
      have h2 := hs.ckLe c hc
      by_cases e1 : ch = R
      · right; rw [hchg, e1]
      · left
        have e2 : c = R := by omega
        rcases hs.checked with h | h
        · rw [← h, hc, e2]
        · exact h
  rcases ((hi.ver f hv).2.2 hg d hd1 hd2).1 hm with h | ⟨h, _⟩
  · exact e ▸ h
  · exact absurd e h

theorem ChkPost.notClean {rank R mx f w dr w' c} (hi : Inv rank R X w') (hd : DExt rank R (rank f + 1) w w')
    (h1 : dr = .dirty ∨ dr = .cyclic) (ho : OwnRel w w' f) : ChkPost rank X R mx f w (dr, w', c) := by
  refine ⟨hi, hd, ?_, ?_, fun _ => ho⟩
  · intro ts e; dsimp only at e; rcases h1 with h | h <;> rw [h] at e <;> cases e
  · intro e; dsimp only at e; rcases h1 with h | h <;> rw [h] at e <;> cases e

theorem isDirty_spec {rank R} : ∀ (fuel f mx : Nat) (seen : List Nat) (w : World) (cache : List Nat) (pre : Option Rec),
    Inv rank R X w → (∀ s, pre = some s → Snap w R f s) → (∀ x, X x → rank f < rank x) → A0 w R mx f →
    ChkPost rank X R mx f w (isDirty false R fuel w cache f mx seen pre)
  | 0, f, mx, seen, w, cache, pre, hi, _, _, _ => ChkPost.notClean hi (DExt.refl _ _ _ _) (Or.inr rfl) (Or.inl rfl)
  | fuel + 1, f, mx, seen, w, cache, pre, hi, hpre, hXa, ha0 => by
    have hs : Snap w R f (pre.getD (getRec w R f)) := by
      cases pre with
      | none => exact Snap.getRec hi.base f
      | some s => exact hpre s rfl
    have hdirty : ChkPost rank X R mx f w (DR.dirty, w, cache) :=
      ChkPost.notClean hi (DExt.refl _ _ _ _) (Or.inl rfl) (Or.inl rfl)
    rw [isDirty_succ]
    generalize hpr : pre.getD (getRec w R f) = r at hs
    have hcs : r.csum.isSome = false := by have := hs.csum; rw [hi.base.noCsum f] at this; rw [this]; rfl
    have hg := fun ch (hf : r.failed = none) (hch : r.changed = some ch) =>
      goDeps_spec (rank := rank) (R := R) (mx := max ch (r.checked.getD 0))
        (fun w cache s snap => isDirty false R fuel w cache s (max ch (r.checked.getD 0)) (f :: seen) (some snap))
        (fun w1 c1 s snap hi1 hs1 hx1 ha1 => isDirty_spec fuel s _ _ w1 c1 (some snap) hi1
          (fun s' e => by cases e; exact hs1) hx1 ha1)
        f (rank f) (fun x hx => Nat.le_of_lt (hXa x hx)) (depsWithRecs w R r f) w cache hi (by
          intro p hp
          obtain ⟨d, hd, rfl⟩ := List.mem_map.1 hp
          obtain ⟨_, hd1, hd2⟩ := mem_depsOf.1 hd
          exact ⟨Snap.getRec hi.base _, hd2 ▸ hi.base.rowsLt d hd1, fun hm => A0_deps hi hs hf hch hd hm⟩)
    refine isDirtyStep_cases (P := ChkPost rank X R mx f w) hpr.symm
      (fun _ => ChkPost.notClean hi (DExt.refl _ _ _ _) (Or.inr rfl) (Or.inl rfl)) (fun _ _ => hdirty) ?_ ?_ ?_ ?_
    · intro ch _ hf hch hle hck
      obtain ⟨hv, hnd⟩ := chk_checked hi hs hf hch (Nat.not_lt.2 hle) hck
      exact ⟨hi, DExt.refl _ _ _ _, (fun ts e => by cases e), (fun _ => ⟨CkExt.refl _ _ _ _, hv, hnd⟩), fun h => absurd rfl h⟩
    · intro _ old _ hf _ _ _ hst hne
      obtain ⟨h1, h2, h3⟩ := chk_vanished hi hs hf hst hne
      rw [hcs]
      exact ChkPost.notClean h1 h2 (Or.inl rfl) h3
    · intro ch dr g _ hf hch _ _ _ hg' hdr
      rw [hcs] at hg'
      obtain ⟨hi', hdx, hr⟩ := hg' ▸ hg ch hf hch
      have hd : dr = .dirty ∨ dr = .cyclic := by
        rcases hr with hr | hr | ⟨hn, _⟩
        · exact Or.inl (Option.some.inj (hdr.symm.trans hr))
        · exact Or.inr (Option.some.inj (hdr.symm.trans hr))
        · cases hdr.symm.trans hn
      exact ChkPost.notClean hi' (hdx.mono (Nat.le_succ _)) hd (Or.inl (hdx.above f (Nat.le_refl _)))
    · intro ch g _ hf hch hle _ hst hg' hnone
      rw [hcs] at hg'
      obtain ⟨hi', hdx, hr⟩ := hg' ▸ hg ch hf hch
      obtain ⟨_, hckx, hall⟩ := hr.resolve_left (fun h => nomatch hnone.symm.trans h) |>.resolve_left
        (fun h => nomatch hnone.symm.trans h)
      dsimp only [cond_false]
      split
      · obtain ⟨h1, h2, h3, h4⟩ := chk_mark (w' := ev g.2.1 (.warnOverride f)) hi ((WEqv.ev g.2.1 _).inv hi')
          (fun h => Nat.lt_irrefl _ (hXa f h)) hs (hckx.trans (CkExt.ev rank R _ g.2.1 _)) hf hch (Nat.not_lt.2 hle) hst rfl
          ha0 hall
        exact ⟨h1, h2.toDExt, (fun ts e => by cases e), (fun _ => ⟨h2, h3, h4⟩), fun h => absurd rfl h⟩
      · obtain ⟨h1, h2, h3, h4⟩ := chk_mark hi hi' (fun h => Nat.lt_irrefl _ (hXa f h)) hs hckx hf hch (Nat.not_lt.2 hle)
          hst rfl ha0 hall
        exact ⟨h1, h2.toDExt, (fun ts e => by cases e), (fun _ => ⟨h2, h3, h4⟩), fun h => absurd rfl h⟩

/-! ### Good files are found clean, or the check runs out of fuel. -/

/-- Enough fuel, and no ancestor in the way. -/
def FuelOk (rank : Nat → Nat) (fuel : Nat) (seen : List Nat) (f : Nat) : Prop :=
  rank f < fuel ∧ ∀ x ∈ seen, rank f < rank x

theorem FuelOk.top {rank : Nat → Nat} {fuel f : Nat} (h : rank f < fuel) : FuelOk rank fuel [] f :=
  ⟨h, fun x hx => by simp at hx⟩

/-- The record copy itself shows that the file is good. -/
def GoodRec (R : Nat) (r : Rec) : Prop := r.checked = some R ∨ r.changed = some R ∨ genT r = false

theorem Good.goodRec {R w f} (hg : Good w R f) : GoodRec R (getRec w R f) := by
  by_cases h0 : f = alwaysId
  · subst h0
    rcases hg with ⟨_, h | h⟩ | ⟨h, _⟩
    · left; unfold getRec; simpa using h
    · right; left; unfold getRec; simp [h]
    · exact absurd rfl h
  · rw [getRec_ne w R h0]
    rcases hg with ⟨_, h | h⟩ | ⟨_, _, h⟩
    · exact Or.inl h
    · exact Or.inr (Or.inl h)
    · exact Or.inr (Or.inr h)

theorem good_clean {rank R} : ∀ (fuel f : Nat) (seen : List Nat) (w : World) (cache : List Nat) (pre : Option Rec),
    Inv rank R X w → Good w R f → (∀ s, pre = some s → Snap w R f s ∧ GoodRec R s) →
    (∀ x, X x → rank f < rank x) →
    (isDirty false R fuel w cache f R seen pre).1 = .clean ∨
    ((isDirty false R fuel w cache f R seen pre).1 = .cyclic ∧ ¬ FuelOk rank fuel seen f)
  | 0, f, seen, w, cache, pre, _, _, _, _ => Or.inr ⟨rfl, fun h => by have := h.1; omega⟩
  | fuel + 1, f, seen, w, cache, pre, hi, hg, hpre, hXa => by
    have hs : Snap w R f (pre.getD (getRec w R f)) ∧ GoodRec R (pre.getD (getRec w R f)) := by
      cases pre with
      | none => exact ⟨Snap.getRec hi.base f, hg.goodRec⟩
      | some s => exact hpre s rfl
    by_cases hseen : f ∈ seen
    · rw [isDirty_seen _ _ _ _ _ _ _ _ _ hseen]
      exact Or.inr ⟨rfl, fun h => by have := h.2 f hseen; omega⟩
    generalize hpr : pre.getD (getRec w R f) = r at hs
    obtain ⟨hs, hgr⟩ := hs
    have hrc := hg.recCur hi
    have hcs : r.csum.isSome = false := by have := hs.csum; rw [hi.base.noCsum f] at this; rw [this]; rfl
    have hfl : r.failed = none := by have := hs.failed; rw [hrc.1] at this; exact this
    have hst : r.stamp = some (readStamp w f) := by have := hs.stamp; rw [hrc.2.2] at this; exact this
    obtain ⟨ch, hch⟩ : ∃ ch, r.changed = some ch := by
      cases hc : (w.recs f).changed with
      | none => exact absurd hc hrc.2.1
      | some c => obtain ⟨ch', e1, _⟩ := hs.chGe hc; exact ⟨ch', e1⟩
    -- a good file has a current record: its check is the memoised answer, or the walk over its rows
    rw [isDirty_of_current hpr.symm hseen hfl hch (hs.chLe hi.base hch) hst, cond_false]
    cases hnck : isCheckedR r R
    · rw [cond_false, hcs]
      cases hgt : genT r with
      | false =>
        have hnil : depsWithRecs w R r f = [] := by
          unfold depsWithRecs depsOf
          rcases genT_false.1 hgt with h | h <;> simp [h]
        rw [hnil, goDeps]
        exact Or.inl rfl
      | true =>
      have hmx : max ch (r.checked.getD 0) = R := by
        have hckle : r.checked.getD 0 ≤ R := by
          cases hc : r.checked with
          | none => simp
          | some c => simpa using hs.ckLe c hc
        have := hs.chLe hi.base hch
        rcases hgr with h | h | h
        · rw [(isCheckedR_iff hi.Rpos hs.ckLe).2 h] at hnck; cases hnck
        · rw [hch] at h; simp only [Option.some.injEq] at h; omega
        · rw [hgt] at h; cases h
      rw [hmx]
      have hgen : genT (w.recs f) = true := genT_true.2 ⟨hs.gen.symm ▸ (genT_true.1 hgt).1, hs.ovr.symm ▸ (genT_true.1 hgt).2⟩
      have hv : VerR w R f := by
        rcases hg with h | ⟨_, _, h⟩
        · exact h
        · rw [hgen] at h; cases h
      -- every recorded row is passed over: the source of an `m` row is good, the object of a `c` row does not exist
      obtain ⟨hgo, -⟩ := goDeps_passed (hasCsum := false) (f := f)
        (chk := fun w cache s snap => isDirty false R fuel w cache s R (f :: seen) (some snap))
        (I := Inv rank R X)
        (B := fun w1 p => p.1 ∈ w.deps ∧ p.1.target = f ∧ Snap w1 R p.1.source p.2 ∧
          (p.1.modeM = true → Good w1 R p.1.source ∧ GoodRec R p.2) ∧ (p.1.modeM = false → existsF w1 p.1.source = false))
        (G := fun s => ¬ FuelOk rank fuel (f :: seen) s)
        (fun p w1 c1 hi1 hb hm => by
          obtain ⟨hd1, hd2, hsn, hgood, _⟩ := hb
          have hxa : ∀ x, X x → rank p.1.source < rank x := fun x hx =>
            Nat.lt_trans (hd2 ▸ hi.base.rowsLt p.1 hd1) (hXa x hx)
          obtain ⟨hi2, _, _, hcl, _⟩ := isDirty_spec fuel p.1.source R (f :: seen) w1 c1 (some p.2) hi1
            (fun s' e => by cases e; exact hsn) hxa (fun e _ => by
              rcases (hgood hm).1 with h | ⟨h, _⟩
              · exact e ▸ h
              · exact absurd e h)
          refine ⟨(good_clean fuel p.1.source (f :: seen) w1 c1 (some p.2) hi1 (hgood hm).1
            (fun s' e => by cases e; exact ⟨hsn, (hgood hm).2⟩) hxa).imp_left fun hc => ⟨hc, fun q hq => ?_⟩, hi2⟩
          -- the check that answers `clean` only marks records checked
          obtain ⟨hck, _, _⟩ := hcl hc
          exact ⟨hq.1, hq.2.1, hq.2.2.1.ext hck, fun h => ⟨Good_ext hck (hq.2.2.2.1 h).1, (hq.2.2.2.1 h).2⟩,
            fun h => by rw [hck.existsF]; exact hq.2.2.2.2 h⟩)
        (fun p w1 _ hb hm => hb.2.2.2.2 hm) (depsWithRecs w R r f) w cache hi (fun p hp => by
          obtain ⟨d, hd, rfl⟩ := List.mem_map.1 hp
          obtain ⟨_, hd1, hd2⟩ := mem_depsOf.1 hd
          have hcl := (hi.ver f hv).2.2 hgen d hd1 hd2
          exact ⟨hd1, hd2, Snap.getRec hi.base _, fun hm => ⟨hcl.1 hm, (hcl.1 hm).goodRec⟩, hcl.2⟩)
      rcases hgo with h | ⟨h, p, hp, hpm, hpf⟩
      · exact Or.inl (markChecked_fst_of_none h)
      · -- the walk gave up at a row of `f`: then the fuel did not suffice for `f` either
        refine Or.inr ⟨markChecked_fst_of_some h, fun hfo => hpf (Deps.FuelOk.child hfo ?_)⟩
        obtain ⟨d, hd, rfl⟩ := List.mem_map.1 hp
        obtain ⟨_, hd1, hd2⟩ := mem_depsOf.1 hd
        exact hd2 ▸ hi.base.rowsLt d hd1
    · exact Or.inl rfl

end RedoModel.Deps.Rich
