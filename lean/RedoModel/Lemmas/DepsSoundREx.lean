import RedoModel.Lemmas.DepsSoundRHistory
import RedoModel.Lemmas.DepsSoundCex
import RedoModel.Lemmas.DepsEval
import RedoModel.Lemmas.DepsCmdFrameR
/-!
Non-vacuity of the rich soundness theorems, one history for each class of operations (`AlwaysOp`, `WatchOp`, `RichOp`).
`noStaleRich` asks (`OpsOk`) that the user never writes a file at the name of a redo-owned target whose
recorded stamp is "missing" (a target whose script produced no output).  The invariant remembers "recorded as absent"
(`contentV`, `RecCurV`, the third conjunct of the reads clause of `RecTruth`), so the restriction is not needed:
`OpsOkW` (the `setProg` condition alone) suffices (`noStaleRichFree`); the last history, `sqOps`, is one that `OpsOk`
excludes.
-/
namespace RedoModel.Deps.Rich
open RedoModel.Generated

/-! ### `AlwaysOp`: `redo-always` and content-dependent failure

Target 2 is built by the .do file 1, whose script says `redo-always`, declares and reads the source 5 and fails on odd
versions of it.  It is built, and built again by the next command although nothing changed. -/

def nvScript : Script := { always := true, ifchange := [[5]], reads := [5], failIfOdd := some 5, tag := 1 }
def nvOps : List UserOp := [.setProg [17] nvScript, .write 5 0, .write 1 7, .cmd (.ifchange [2] false)]
def nvW : World := nvOps.foldl (fun w op => (applyOp {} 2 op w).2) (initWorld cxRules)
def nvRes : Result × World := runCmd {} 2 (.redo [2] false) nvW

theorem nv_status : nvRes.1.status = 0 := by decide +kernel
theorem nv_ran : nvRes.2.trace = [.ran 2, .ran 2] := by decide +kernel
theorem nv_always_row : (⟨2, alwaysId, true, false⟩ : Dep) ∈ nvRes.2.deps := by decide +kernel

theorem nv_ops : ∀ op ∈ nvOps, AlwaysOp cxRules op := by decide +kernel

theorem nv_ranked : ∀ w ∈ worldsOf 2 {} (initWorld cxRules) nvOps, RankedR cxRank w :=
  rankedR_history 2 {} cx_rulesOk cx_support (by decide +kernel) (by decide +kernel)

theorem nv_opsOk : OpsOkW 2 (initWorld cxRules) nvOps :=
  OpsOkW.of_progsFirst _ _ _ (fun _ => rfl) rfl

theorem nv_rankLt : ∀ f, cxRank f < 2 := cxRank_lt

/-- Non-vacuity of `noStaleRichFree` on an `AlwaysOp` history: all hypotheses hold; the script really ran in both
commands. -/
example : UpToDateR nvRes.2 2 :=
  noStaleRichFree 2 cxRules cxRank nvOps [2] false true cx_rulesOk (fun op h => (nv_ops op h).toWatch.toRich) nv_ranked
    nv_rankLt nv_opsOk (by simp [alwaysId]) nv_status 2 (by simp)

/-! The same with `redo-ifchange` as the final command: the dirtiness check walks the `//ALWAYS` row. -/

def nvRes2 : Result × World := runCmd {} 2 (.ifchange [2] false) nvW

theorem nv2_run : nvRes2.1.status = 0 ∧ nvRes2.2.trace = [.ran 2, .ran 2] := by
  unfold nvRes2 nvW
  eval_model

/-- The `redo-always` target is rebuilt though nothing changed. -/
example : UpToDateR nvRes2.2 2 :=
  noStaleRichFree 2 cxRules cxRank nvOps [2] false false cx_rulesOk (fun op h => (nv_ops op h).toWatch.toRich) nv_ranked
    nv_rankLt nv_opsOk (by simp [alwaysId]) nv2_run.1 2 (by simp)

/-! ### `WatchOp`: `redo-ifcreate` and conditional declarations

Target 2 (.do file 1): `redo-ifcreate 6`; conditional files 7 (present: `redo-ifchange 7`) and 8 (absent:
`redo-ifcreate 8`); `redo-ifchange 5`; reads 5, 7, 8.  It is built, then the user creates 8: the next
`redo-ifchange 2` rebuilds it. -/

def nwScript : Script :=
  { ifcreate := [6], cond := [7, 8], ifchange := [[5]], reads := [5, 7, 8], failIfOdd := some 5, tag := 1 }
def nwOps : List UserOp :=
  [.setProg [17] nwScript, .write 5 0, .write 7 1, .write 1 7, .cmd (.ifchange [2] false), .write 8 3]
def nwW : World := nwOps.foldl (fun w op => (applyOp {} 2 op w).2) (initWorld cxRules)
def nwRes : Result × World := runCmd {} 2 (.ifchange [2] false) nwW

theorem nw_run : nwRes.1.status = 0 ∧ nwRes.2.trace = [.ran 2, .ran 2] := by
  unfold nwRes nwW
  eval_model

theorem nw_ops : ∀ op ∈ nwOps, WatchOp cxRules op := by decide +kernel

theorem nw_ranked : ∀ w ∈ worldsOf 2 {} (initWorld cxRules) nwOps, RankedR cxRank w :=
  rankedR_history 2 {} cx_rulesOk cx_support (by decide +kernel) (by decide +kernel)

theorem nw_opsOk : OpsOkW 2 (initWorld cxRules) nwOps :=
  OpsOkW.of_progsFirst _ _ _ (fun _ => rfl) rfl

/-- Non-vacuity of `noStaleRichFree` on a `WatchOp` history: all hypotheses hold; after the user created the
conditional file 8 the target is rebuilt and is up to date. -/
example : UpToDateR nwRes.2 2 :=
  noStaleRichFree 2 cxRules cxRank nwOps [2] false false cx_rulesOk (fun op h => (nw_ops op h).toRich) nw_ranked
    nv_rankLt nw_opsOk (by simp [alwaysId]) nw_run.1 2 (by simp)

/-! ### `RichOp`: a hand edit of a generated target

Target 2 (.do file 1, reads the source 5) and target 3 (.do file 4, reads target 2).  Both are built; then the user
overwrites the generated file 2 by hand.  The next `redo-ifchange 3` detects the edit (`warnOverride 2`), keeps the
user's file and rebuilds 3 from it. -/

def r3Rules : Nat → List Nat := fun t => if t = 2 then [1] else if t = 3 then [4] else []
def r3Rank : Nat → Nat := fun f => if f = 3 then 2 else if f = 2 then 1 else 0
def s2 : Script := { ifchange := [[5]], reads := [5], tag := 1 }
def s3 : Script := { ifchange := [[2]], reads := [2], tag := 2 }
def roOps : List UserOp :=
  [.setProg [17] s2, .setProg [19] s3, .write 5 0, .write 1 7, .write 4 8, .cmd (.ifchange [3] false), .write 2 9]
def roW : World := roOps.foldl (fun w op => (applyOp {} 3 op w).2) (initWorld r3Rules)
def roRes : Result × World := runCmd {} 3 (.ifchange [3] false) roW

theorem ro_run : roRes.1.status = 0 ∧ roRes.2.trace = [.warnOverride 2, .ran 3, .ran 2, .ran 3] ∧
    (roRes.2.recs 2).isOverride = true ∧ contentOf roRes.2 2 = some (srcContent 9) := by
  unfold roRes roW
  eval_model

theorem r3_support : ∀ t, t ∉ [2, 3] → r3Rules t = [] := by
  intro t ht
  simp only [List.mem_cons, List.not_mem_nil, or_false, not_or] at ht
  simp [r3Rules, ht]

theorem r3_rulesOk : RulesOk r3Rules := .of_support r3_support (by decide +kernel)

theorem ro_ops : ∀ op ∈ roOps, RichOp r3Rules op := by decide +kernel

theorem ro_ranked : ∀ w ∈ worldsOf 3 {} (initWorld r3Rules) roOps, RankedR r3Rank w :=
  rankedR_history 3 {} r3_rulesOk r3_support (by decide +kernel) (by decide +kernel)

theorem ro_opsOk : OpsOk 3 (initWorld r3Rules) roOps := by
  refine ⟨?_, ?_, ?_, ?_, ?_, trivial, ?_, trivial⟩
  · intro t dof _ n hn; cases hn
  · intro t dof _ n hn; cases hn
  · intro hg; revert hg; decide +kernel
  · intro hg; revert hg; decide +kernel
  · intro hg; revert hg; decide +kernel
  · intro _; decide +kernel

theorem r3_rankLt : ∀ f, r3Rank f < 3 := by intro f; unfold r3Rank; split <;> (try split) <;> omega

/-- Non-vacuity of `noStaleRich`: the hand-edited target 2 stands for itself, and 3 is rebuilt from the user's
content of 2. -/
example : UpToDateR roRes.2 3 ∧ UpToDateR roRes.2 2 := by
  have h := noStaleRich 3 r3Rules r3Rank roOps [3] false false r3_rulesOk ro_ops ro_ranked r3_rankLt ro_opsOk
    (by simp [alwaysId]) ro_run.1
  exact ⟨h 3 (by simp), UpToDateR.override ro_run.2.2.1 (by
    have := ro_run.2.2.2
    unfold contentOf at this
    unfold existsF
    cases hfs : roRes.2.fs 2 with
    | none => rw [hfs] at this; cases this
    | some n => rfl)⟩

/-! Non-vacuity of `noStaleRichFree` on a history that `noStaleRich` does not cover: target 2 has a script without
output, target 3 declares and reads 2.  After a first build the user puts a file at the name 2 (a write that `OpsOk`
forbids), removes it again, and asks for 3. -/

def q2 : Script := { outMode := 2, tag := 1 }
def q3 : Script := { ifchange := [[2]], reads := [2], tag := 2 }
def sqOps : List UserOp :=
  [.setProg [17] q2, .setProg [19] q3, .write 1 7, .write 4 8, .cmd (.ifchange [3] false), .write 2 9, .remove 2]
def sqW : World := sqOps.foldl (fun w op => (applyOp {} 3 op w).2) (initWorld r3Rules)
def sqRes : Result × World := runCmd {} 3 (.ifchange [3] false) sqW

theorem sq_run : sqRes.1.status = 0 ∧ sqRes.2.trace = [.ran 2, .ran 3] ∧ contentOf sqRes.2 2 = none := by
  unfold sqRes sqW
  eval_model

/-- The history is outside `noStaleRich`: `OpsOk` fails at the write of 2. -/
theorem sq_not_opsOk : ¬ OpsOk 3 (initWorld r3Rules) sqOps := by
  intro h
  exact h.2.2.2.2.2.1 (by decide +kernel) (by decide +kernel)

theorem sq_ops : ∀ op ∈ sqOps, RichOp r3Rules op := by decide +kernel

theorem sq_ranked : ∀ w ∈ worldsOf 3 {} (initWorld r3Rules) sqOps, RankedR r3Rank w :=
  rankedR_history 3 {} r3_rulesOk r3_support (by decide +kernel) (by decide +kernel)

theorem sq_opsOkW : OpsOkW 3 (initWorld r3Rules) sqOps :=
  OpsOkW.of_progsFirst _ _ _ (fun _ => rfl) rfl

/-- Non-vacuity of `noStaleRichFree` on a history that `noStaleRich` does not cover (`sq_not_opsOk`): after the user
has put a file at the name of the output-less target 2 and removed it again, `redo-ifchange 3` exits 0 without
running anything, and 3 is up to date. -/
example : UpToDateR sqRes.2 3 :=
  noStaleRichFree 3 r3Rules r3Rank sqOps [3] false false r3_rulesOk sq_ops sq_ranked r3_rankLt sq_opsOkW
    (by simp [alwaysId]) sq_run.1 3 (by simp)

end RedoModel.Deps.Rich
