import RedoModel.Lemmas.DepsSoundRJob
/-! C01 on the full engine model, rich histories. Forced rebuild of a verified target (every declaration re-adds an existing row), and the command `redo ts`.  Names as in `DepsSoundSForced`: `_good` is for a job on a good target, `idem`/`Idem` for the forced rebuild of a verified target and its pieces, `forced` for a job of `redo`. -/
namespace RedoModel.Deps.Rich
open RedoModel.Generated

/-! ### The invariant looks at the dependency table only through (target, source, mode) triples. -/

def SameTriples (w w' : World) : Prop := ∀ x s m, HasRow w' x s m ↔ HasRow w x s m

theorem SameTriples.refl (w : World) : SameTriples w w := Deps.SameTriples.refl w

theorem SameTriples.trans {a b c : World} (h1 : SameTriples a b) (h2 : SameTriples b c) : SameTriples a c :=
  Deps.SameTriples.trans h1 h2

theorem RecTruth_triples {w : World} {ds : List Dep} (ht : SameTriples w { w with deps := ds }) {t : Nat}
    (h : RecTruth w t) : RecTruth { w with deps := ds } t :=
  RecTruth.mono (w := w) rfl (fun _ _ => (ht _ _ _).2) rfl rfl (fun _ _ _ => ⟨Or.inl ⟨rfl, rfl⟩, id⟩)
    (fun _ _ => Hdet.same (.refl _) rfl) h

theorem Inv_triples {rank R X w} {ds : List Dep} (hi : Inv rank R X w) (ht : SameTriples w { w with deps := ds }) :
    Inv rank R X { w with deps := ds } := by
  have hb := hi.base
  have hback : ∀ d ∈ ds, ∃ d0 ∈ w.deps, d0.target = d.target ∧ d0.source = d.source ∧ d0.modeM = d.modeM := by
    intro d hd
    exact (ht _ _ _).1 (mem_hasRow (w := { w with deps := ds }) hd)
  refine ⟨{ hb with rowsLt := ?_, cPlain := ?_, recA := ?_ }, hi.Rpos, ?_⟩
  · intro d hd
    obtain ⟨d0, h0, e1, e2, _⟩ := hback d hd
    rw [← e1, ← e2]; exact hb.rowsLt d0 h0
  · intro d hd hm
    obtain ⟨d0, h0, _, e2, e3⟩ := hback d hd
    have := hb.cPlain d0 h0 (by rw [e3]; exact hm)
    rw [e2] at this; exact this
  · intro t hx hrc hg
    exact RecTruth_triples ht (hb.recA t hx hrc hg)
  · intro f hv
    obtain ⟨h1, _, h3⟩ := hi.ver f hv
    refine ⟨h1, ?_, ?_⟩
    · exact good_upToDate (w' := { w with deps := ds }) hi rfl rfl (fun _ _ => rfl) (fun _ _ => ⟨rfl, rfl⟩)
        (rank f + 1) f (Nat.lt_succ_self _) (Or.inl hv)
    · intro hg d hd hdt
      obtain ⟨d0, h0, e1, e2, e3⟩ := hback d hd
      have := h3 hg d0 h0 (by rw [e1]; exact hdt)
      rw [e2, e3] at this
      exact this

theorem verR_modeUniq {rank R X w t s} (hi : Inv rank R X w) (hv : VerR w R t) (hg : genT (w.recs t) = true)
    (h1 : HasRow w t s true) (h2 : HasRow w t s false) : False := by
  have hgood := h1.good hi hv hg
  have habs := h2.absent hi hv hg
  obtain ⟨d, hd, _, e2, e3⟩ := h2
  have hpl : w.rules s = [] := e2 ▸ (hi.base.cPlain d hd e3).1
  have hs0 : s ≠ alwaysId := e2 ▸ (hi.base.cPlain d hd e3).2
  have := static_exists hi.base hs0 (hgood.recCur hi) (hi.base.srcT s hpl)
  rw [habs] at this; cases this

theorem SameTriples.zapDeps1 (w : World) (t : Nat) : SameTriples w (zapDeps1 w t) := Deps.SameTriples.zapDeps1 w t

theorem Inv_zapDeps1_triples {rank R X w} (hi : Inv rank R X w) (t : Nat) : Inv rank R X (zapDeps1 w t) :=
  Inv_triples hi (SameTriples.zapDeps1 w t)

theorem Inv_readd {rank R X w t s m} (hi : Inv rank R X w) (hv : VerR w R t)
    (hg : genT (w.recs t) = true) (hrow : HasRow w t s m) :
    Inv rank R X (addDep w t s m) ∧ SameTriples w (addDep w t s m) := by
  have e := WEqv.addKnown w s
  have hi1 := e.inv hi
  have hst : SameTriples w (addDep w t s m) := Deps.SameTriples.readd (verR_modeUniq hi hv hg) hrow
  refine ⟨?_, hst⟩
  have : addDep w t s m = { addKnown w s with deps := (addDep w t s m).deps } := rfl
  rw [this]
  refine Inv_triples hi1 (fun x s' m' => ?_)
  have h1 : HasRow { addKnown w s with deps := (addDep w t s m).deps } x s' m' ↔ HasRow (addDep w t s m) x s' m' := Iff.rfl
  rw [h1, hst x s' m']
  exact (e.hasRow x s' m').symm

/-! ### Forced rebuild of a verified generated target: `findDoFile`, the declarations and the nested commands
only re-declare what is recorded and find everything clean. -/

/-- Choosing the .do file of a verified target again re-declares recorded rows only. -/
theorem findDoFile_idem {rank R X t dof post} :
    ∀ (pre : List Nat) (w : World), Inv rank R X w → VerR w R t → genT (w.recs t) = true →
      (∀ c ∈ pre, existsF w c = false ∧ HasRow w t c false) → existsF w dof = true → HasRow w t dof true →
      Inv rank R X (findDoFile t (pre ++ dof :: post) w).2 ∧ SameTriples w (findDoFile t (pre ++ dof :: post) w).2
  | [], w, hi, hv, hg, _, hdex, hdrow => by
    simp only [List.nil_append, findDoFile, hdex, if_true]
    exact Inv_readd hi hv hg hdrow
  | c :: pre, w, hi, hv, hg, hpre, hdex, hdrow => by
    obtain ⟨hcabs, hcrow⟩ := hpre c (by simp)
    simp only [List.cons_append, findDoFile, hcabs, Bool.false_eq_true, if_false]
    have hro := RowOp.addDep w t c false
    obtain ⟨hi1, hst⟩ := Inv_readd hi hv hg hcrow
    obtain ⟨a2, a7⟩ := findDoFile_idem pre (addDep w t c false) hi1 ((hro.verR R t).2 hv)
      (by rw [hro.eqv.genT]; exact hg)
      (fun c' hc' => ⟨by rw [hro.existsF]; exact (hpre c' (List.mem_cons_of_mem _ hc')).1,
        (hst _ _ _).2 (hpre c' (List.mem_cons_of_mem _ hc')).2⟩)
      (by rw [hro.existsF]; exact hdex) ((hst _ _ _).2 hdrow)
    exact ⟨a2, hst.trans a7⟩

theorem declare_idem {rank R X p} :
    ∀ (ts : List Nat) (w : World), Inv rank R X w → VerR w R p → genT (w.recs p) = true →
      (∀ d ∈ ts, HasRow w p d true) → Inv rank R X (declare p ts w) ∧ SameTriples w (declare p ts w)
  | [], w, hi, _, _, _ => ⟨hi, SameTriples.refl w⟩
  | t :: ts, w, hi, hv, hg, hrows => by
    have hro := RowOp.addDep w p t true
    obtain ⟨hi1, hst⟩ := Inv_readd hi hv hg (hrows t (by simp))
    obtain ⟨a1, a2⟩ := declare_idem ts (addDep w p t true) hi1 ((hro.verR R p).2 hv)
      (by rw [hro.eqv.genT]; exact hg) (fun d hd => (hst _ _ _).2 (hrows d (List.mem_cons_of_mem _ hd)))
    exact ⟨a1, hst.trans a2⟩

theorem buildJob_good {rank R X t w fuel} {cx : Ctx} (E : Engine) (d : Defects) (hcx : cx.runid = R)
    (hredo : cx.isRedo = false) (hi : Inv rank R X w) (hg : Good w R t) (hXa : ∀ x, X x → rank t < rank x)
    (hfuel : rank t < fuel) : (buildJob E d cx fuel t w).1 = .done 0 := by
  subst hcx
  have hrc := hg.recCur hi
  have hfr : isFailedR (getRec w cx.runid t) cx.runid = false := by
    unfold isFailedR; rw [getRec_failed_eq, hrc.1]
  have hgc := good_clean (rank := rank) (R := cx.runid) (X := X) fuel t [] w [] none hi hg (fun s e => by cases e) hXa
  unfold buildJob shouldBuild
  simp only [hredo, Bool.false_eq_true, if_false, hfr]
  generalize isDirty false cx.runid fuel w [] t cx.runid [] none = res at hgc
  obtain ⟨dr, w1, c⟩ := res
  rcases hgc with h | ⟨_, h⟩
  · dsimp only at h; subst h; rfl
  · exact absurd ⟨hfuel, fun x hx => by simp at hx⟩ h

theorem runTargets_good {rank R E b fuel} {cx : Ctx} {X : Nat → Prop} (hE : ESpecG False rank R E) (d : Defects)
    (hcx : cx.runid = R) (hredo : cx.isRedo = false) (hcrash : cx.crash = none)
    (hXb : ∀ x, X x → b ≤ rank x) (hfuel : b ≤ fuel) (ts seen : List Nat) (w : World) (hi : Inv rank R X w)
    (hts : ∀ t ∈ ts, rank t < b ∧ Good w R t ∧ t ∉ cx.cycles ∧ t ≠ alwaysId) :
    (runTargets E d cx fuel ts seen false w).1 = 0 :=
  (runTargets_zero (S := Inv rank R X) (B := fun w t => rank t < b ∧ Good w R t ∧ t ∉ cx.cycles ∧ t ≠ alwaysId)
    (fun t w hi _ => ⟨(WEqv.addKnown w t).inv hi, fun t' h => ⟨h.1, ((WEqv.addKnown w t).good R t').2 h.2.1, h.2.2⟩⟩)
    (fun t w _ h => by simp [h.2.2.1])
    (fun t w hi h =>
      have hXa : ∀ x, X x → rank t < rank x := fun x hx => Nat.lt_of_lt_of_le h.1 (hXb x hx)
      have hj := (buildJob_spec (fuel := fuel) (b := b) hE False.elim d hcx hredo (KillMode.none hcrash) hi h.2.2.2 hXa h.1
        none).unkilled
      ⟨buildJob_good (fuel := fuel) E d hcx hredo hi h.2.1 hXa (Nat.lt_of_lt_of_le h.1 hfuel), hj.inv,
        fun t' h' => ⟨h'.1, hj.frame.good h'.2.1, h'.2.2⟩⟩)
    ts seen w hi hts).1

/-! ### Forced rebuild of a verified generated target: the commands of its script. -/

/-- No file is exempt (top level). -/
def NoX : Nat → Prop := fun _ => False

/-- What a nested command of the script of a verified target `t` does. -/
structure IdemStep (rank : Nat → Nat) (R t : Nat) (c : List Nat) (w : World) (res : Status × World) : Prop where
  status : res.1 = 0
  inv : Inv rank R NoX res.2
  bext : BExt rank R (rank t) (some t) w res.2
  decl : RowsDecl t c w res.2
  rows : ∀ d ∈ c, HasRowU res.2 t d true
  keep : ∀ s m, HasRow w t s m → HasRow res.2 t s m
  noFail : NoFail R w → NoFail R res.2

theorem ifchange_idem {rank R t w fuel} {cx : Ctx} (E : Engine) (hE : ESpecG False rank R E) (d : Defects)
    (hcx : cx.runid = R) (hredo : cx.isRedo = false)
    (hunl : cx.unlocked = false) (hcrash : cx.crash = none) (hpar : cx.parent = some t) (hcyc : cx.cycles = [t])
    (hi : Inv rank R NoX w) (hv : VerR w R t) (hg : genT (w.recs t) = true) (hfuel : rank t ≤ fuel)
    (c : List Nat) (hc : ∀ x ∈ c, (rank x < rank t ∧ x ≠ alwaysId) ∧ Good w R x ∧ HasRow w t x true) :
    IdemStep rank R t c w (ifchangeWith E d fuel cx c w) := by
  have hnc : c.contains t = false := by
    cases h : c.contains t with
    | false => rfl
    | true =>
      have := (hc t (by simpa using h)).1.1
      exact absurd this (Nat.lt_irrefl _)
  unfold ifchangeWith
  simp only [hpar, hunl, Bool.not_false, Bool.true_and, hnc, Bool.false_eq_true, if_false]
  have e1 := WEqv.addKnown w t
  have hi1 := e1.inv hi
  obtain ⟨d1, d5⟩ := declare_idem (rank := rank) (R := R) (X := NoX) (p := t) c (addKnown w t) hi1
    ((e1.verR R t).2 hv) (by rw [e1.genT]; exact hg) (fun x hx => (e1.hasRow _ _ _).2 (hc x hx).2.2)
  have d2 : RowOp t (addKnown w t) (declare t c (addKnown w t)) := (declare_rows t c (addKnown w t)).1.toRich
  obtain ⟨-, d3, d4⟩ := declare_rows t c (addKnown w t)
  have hXb : ∀ x, NoX x → rank t ≤ rank x := fun _ h => h.elim
  obtain ⟨a1, a2, a3, a4, a5⟩ := (runTargets_spec (fuel := fuel) hE False.elim d hcx hredo hXb none c [] false
    (declare t c (addKnown w t)) (KillMode.none hcrash) d1 (fun x hx => (hc x hx).1) (fun _ s hs => by simp at hs)).unkilled
  have hst := runTargets_good (fuel := fuel) hE d hcx hredo hcrash hXb hfuel c [] (declare t c (addKnown w t)) d1
    (fun x hx => ⟨(hc x hx).1.1, (d2.good R x).2 ((e1.good R x).2 (hc x hx).2.1), by
      rw [hcyc]; simp only [List.mem_singleton]; intro e; have := (hc x hx).1.1; rw [e] at this; omega, (hc x hx).1.2⟩)
  have hsame : ∀ dd : Dep, dd.target = t →
      (dd ∈ (runTargets E d cx fuel c [] false (declare t c (addKnown w t))).2.deps ↔
        dd ∈ (declare t c (addKnown w t)).deps) :=
    fun dd hdd => a2.rowsAbove dd (by rw [hdd]; exact Nat.le_refl _) (by simp)
  refine ⟨hst, a1, (e1.toBExt.trans d2.toBExtP).trans a2.weakenPo, ?_, fun x hx => ?_, fun s m hr => ?_,
    fun hn => a4 (fun f => by rw [d2.eqv.failed]; exact (hn.eqv e1) f) hst⟩
  · have r1 : RowsDecl t [] w (addKnown w t) := rowsDecl_eqv e1.deps
    have r3 : RowsDecl t [] (declare t c (addKnown w t))
        (runTargets E d cx fuel c [] false (declare t c (addKnown w t))).2 := rowsDecl_of_same hsame
    exact ((r1.trans d3).trans r3).mono (fun x hx => by simpa using hx)
  · obtain ⟨r, hr, q1, q2, q3, q4⟩ := d4 x hx
    exact ⟨r, (hsame r q1).2 hr, q1, q2, q3, q4⟩
  · obtain ⟨r, hr, q1, q2, q3⟩ := (d5 t s m).2 ((e1.hasRow t s m).2 hr)
    exact ⟨r, (hsame r q1).2 hr, q1, q2, q3⟩

theorem cmds_idem {rank R t} {Eo : Engine} {cx cx' : Ctx} (hcrash : cx.crash = none)
    (hstep : ∀ (c : List Nat) (w : World), Inv rank R NoX w → VerR w R t → genT (w.recs t) = true →
      (∀ x ∈ c, (rank x < rank t ∧ x ≠ alwaysId) ∧ Good w R x ∧ HasRow w t x true) →
      IdemStep rank R t c w (Eo.ifchangeCmd cx' c w)) :
    ∀ (cs : List (List Nat)) (k : Nat) (w : World), Inv rank R NoX w → VerR w R t → genT (w.recs t) = true →
      (∀ c ∈ cs, ∀ x ∈ c, (rank x < rank t ∧ x ≠ alwaysId) ∧ Good w R x ∧ HasRow w t x true) →
      IdemStep rank R t cs.flatten w (runScript.cmds Eo cx t cx' cs k w)
  | [], k, w, hi, _, _, _ => by
    simp only [runScript.cmds, hcrash, reduceCtorEq, if_false]
    exact ⟨rfl, hi, BExt.refl _ _ _ _ _, RowsDecl.refl _ _ _, fun d hd => by simp at hd, fun _ _ h => h, fun h => h⟩
  | c :: cs, k, w, hi, hv, hg, hcs => by
    rw [runScript.cmds]
    simp only [hcrash, reduceCtorEq, if_false]
    have hs := hstep c w hi hv hg (hcs c (by simp))
    generalize Eo.ifchangeCmd cx' c w = res at hs
    obtain ⟨rv, w1⟩ := res
    obtain ⟨s1, s2, s3, s4, s5, s6, s7⟩ := hs
    dsimp only at s1 s2 s3 s4 s5 s6 s7
    subst s1
    simp only
    have hv1 := (s3.ver t hv).1
    have hg1 : genT (w1.recs t) = true := by rw [(s3.ver t hv).2.2]; exact hg
    obtain ⟨a1, a2, a3, a4, a5, a6, a7⟩ := cmds_idem hcrash hstep cs (k + 1) w1 s2 hv1 hg1
      (fun c' hc' x hx => ⟨(hcs c' (List.mem_cons_of_mem _ hc') x hx).1,
        s3.good (hcs c' (List.mem_cons_of_mem _ hc') x hx).2.1,
        s6 _ _ (hcs c' (List.mem_cons_of_mem _ hc') x hx).2.2⟩)
    refine ⟨a1, a2, s3.trans a3, by rw [List.flatten_cons]; exact s4.trans a4, fun x hx => ?_,
      fun s m h => a6 s m (s6 s m h), fun h => a7 (s7 h)⟩
    rw [List.flatten_cons, List.mem_append] at hx
    rcases hx with hx | hx
    · exact a4.2 x true (s5 x hx) (fun _ => rfl)
    · exact a5 x hx

/-- A phase of the script of a verified target `t` re-declaring `tm` with `m` rows and `tc` with `c` rows. -/
structure IdemStep2 (rank : Nat → Nat) (R t : Nat) (tm tc : List Nat) (w : World) (res : Status × World) : Prop where
  status : res.1 = 0
  inv : Inv rank R NoX res.2
  bext : BExt rank R (rank t) (some t) w res.2
  decl : RowsDecl2 t tm tc w res.2
  rowsM : ∀ d ∈ tm, HasRowU res.2 t d true
  rowsC : ∀ d ∈ tc, HasRowU res.2 t d false
  keep : ∀ s m, HasRow w t s m → HasRow res.2 t s m
  noFail : NoFail R w → NoFail R res.2

theorem IdemStep.to2 {rank R t c w res} (h : IdemStep rank R t c w res) : IdemStep2 rank R t c [] w res :=
  ⟨h.status, h.inv, h.bext, h.decl.to2, h.rows, (fun d hd => by simp at hd), h.keep, h.noFail⟩

theorem IdemStep2.carry {rank R t tm tc w res} (h : IdemStep2 rank R t tm tc w res) (hv : VerR w R t)
    (hg : genT (w.recs t) = true) {s : Nat} {m : Bool} (hr : HasRowU w t s m) : HasRowU res.2 t s m := by
  have hv' := (h.bext.ver t hv).1
  have hg' : genT (res.2.recs t) = true := by rw [(h.bext.ver t hv).2.2]; exact hg
  have hk := h.keep s m hr.hasRow
  refine h.decl.2 s m hr (fun hin => ?_) (fun hin => ?_)
  · cases m with
    | true => rfl
    | false => exact (verR_modeUniq h.inv hv' hg' (h.rowsM s hin).hasRow hk).elim
  · cases m with
    | false => rfl
    | true => exact (verR_modeUniq h.inv hv' hg' hk (h.rowsC s hin).hasRow).elim

theorem IdemStep2.refl {rank R t w} (hi : Inv rank R NoX w) : IdemStep2 rank R t [] [] w ((0 : Status), w) :=
  ⟨rfl, hi, BExt.refl _ _ _ _ _, RowsDecl2.refl _ _ _ _, (fun d hd => by simp at hd), (fun d hd => by simp at hd),
   fun _ _ h => h, fun h => h⟩

theorem IdemStep2.trans {rank R t tm1 tc1 tm2 tc2 w w1 res} (h1 : IdemStep2 rank R t tm1 tc1 w ((0 : Status), w1))
    (h2 : IdemStep2 rank R t tm2 tc2 w1 res) (hv : VerR w R t) (hg : genT (w.recs t) = true) :
    IdemStep2 rank R t (tm1 ++ tm2) (tc1 ++ tc2) w res := by
  have hv1 := (h1.bext.ver t hv).1
  have hg1 : genT (w1.recs t) = true := by rw [(h1.bext.ver t hv).2.2]; exact hg
  refine ⟨h2.status, h2.inv, h1.bext.trans h2.bext, h1.decl.trans h2.decl, fun d hd => ?_, fun d hd => ?_,
    fun s m h => h2.keep s m (h1.keep s m h), fun h => h2.noFail (h1.noFail h)⟩
  · rcases List.mem_append.1 hd with hd | hd
    · exact h2.carry hv1 hg1 (h1.rowsM d hd)
    · exact h2.rowsM d hd
  · rcases List.mem_append.1 hd with hd | hd
    · exact h2.carry hv1 hg1 (h1.rowsC d hd)
    · exact h2.rowsC d hd

/-! ### Forced rebuild of a verified generated target: the record at the end. -/

/-- Recording the successful forced rebuild of a verified target whose script re-declared what was recorded (`hf`: `w'` is
`w` with the marked record of `t` re-stamped). -/
theorem recordIdem_spec {rank R X t w w' b po pre dof post} (hi : Inv rank R X w) (hv : VerR w R t)
    (hg : genT (w.recs t) = true) (hr : w.rules t = pre ++ dof :: post)
    (hpre : ∀ c ∈ pre, existsF w c = false ∧ HasRowU w t c false) (hdex : existsF w dof = true)
    (hdrow : HasRowU w t dof true) (hdecl : ∀ d ∈ (scriptAt w dof).ifchange.flatten, HasRowU w t d true)
    (halw : (scriptAt w dof).always = true → HasRowU w t alwaysId true)
    (hic : ∀ d ∈ (scriptAt w dof).ifcreate, HasRowU w t d false)
    (hcd : ∀ d ∈ (scriptAt w dof).cond, HasRowU w t d true ∨ (existsF w d = false ∧ HasRowU w t d false))
    (hf : KeepFields t (outOf w (scriptAt w dof)) w w') (hlt : rank t < b) :
    Inv rank R X w' ∧ VerR w' R t ∧ BExt rank R b po w w' := by
  obtain ⟨pre', dof', post', vs0⟩ := verR_script hi hv hg
  obtain ⟨e1, e2, e3⟩ := split_unique pre pre' dof dof' post post' (hr.symm.trans vs0.rules)
    (fun c hc => (hpre c hc).1) hdex (fun c hc => (vs0.pre c hc).1) vs0.dofEx
  subst e1 e2 e3
  have hrne : w.rules t ≠ [] := by rw [hr]; simp
  have h0 : t ≠ alwaysId := fun e => hrne (e ▸ hi.base.rulesOk.1)
  have hrc := (hi.ver t hv).1
  have hw := hf.wrote
  have off := (hw.offT hrne).toRich
  have hne : ∀ x, rank x < rank t → x ≠ t := fun x hx e => by rw [e] at hx; exact Nat.lt_irrefl _ hx
  obtain ⟨hsc, vs⟩ := hw.vscript hi hr hpre hdex hdrow vs0.exit vs0.noFail hdecl halw
    (fun d hd => ⟨(vs0.ic d hd).1, hic d hd⟩) hcd
  have hcontent : contentOf w' t = contentOf w t := by rw [hf.content, vs0.content]
  have hv' : VerR w' R t := by unfold VerR at hv ⊢; rw [hf.failed, hf.checked, hf.changed]; exact hv
  have hrc' : RecCur w' t := ⟨by rw [hf.failed]; exact hrc.1, by rw [hf.changed]; exact hrc.2.1, hf.stamp⟩
  have hok := hw.recOk (hi.base.recOk t) hrne h0 (Or.inr ⟨hf.changed, hrc.2.1⟩)
    (by rw [hf.csum]; exact hi.base.noCsum t) (Or.inl (by rw [hf.failed]; exact hrc.1))
  /- the rows of `t` that are left lead where they led before, to files other than `t` -/
  have hrow : ∀ d ∈ w'.deps, d.target = t → d.source ≠ t ∧
      (d.modeM = true → Good w R d.source) ∧ (d.modeM = false → existsF w d.source = false) :=
    fun d hd hdt => ⟨hne _ (hdt ▸ hi.base.rowsLt d (hw.sub hd)), (hi.ver t hv).2.2 hg d (hw.sub hd) hdt⟩
  have hb' := Base_upd (X' := X) hi.base off hok (fun _ _ h => h) (fun d hd => hi.base.rowsLt d (hw.sub hd))
    (fun d hd hm => by rw [off.rules]; exact hi.base.cPlain d (hw.sub hd) hm)
    (hdet_quiet hcontent hf.changed (fun h => absurd hrc.2.2 h) (fun h => absurd hrc.1 h.1))
    (fun _ _ _ => vs.recTruth (by rw [hsc]; exact scriptAt_rich hi.base dof) hf.stamp (by
      rintro s ⟨d, hd, h1, h2, h3⟩ _ hss
      obtain ⟨e, hgd, _⟩ := hrow d hd h1
      rw [h2] at e
      rw [hf.recs s e] at hss; rw [hf.fs s e]
      exact fs_none_of_cur ((h2 ▸ hgd h3 : Good w R s).recCur hi).2.2 hss))
    (fun _ hs => Or.inl (fs_none_of_cur hf.stamp hs))
  have hver := Ver_upd_keep hi off (fun _ => ⟨hcontent, by rw [hw.genT, hg], Or.inl hv'⟩)
    (fun hup _ => ⟨hrc', hup t (Or.inl hv), fun _ d hd hdt => by
      obtain ⟨e, h1, h2⟩ := hrow d hd hdt
      exact ⟨fun hm => (off.good e R).2 (h1 hm), fun hm => by rw [existsF_congr (hf.fs _ e)]; exact h2 hm⟩⟩)
  exact ⟨⟨hb', hi.Rpos, hver⟩, hv',
    off.toBExt hlt (fun _ => ⟨hv', hcontent, by rw [hw.genT, hg]⟩) (fun _ h => by rw [hg] at h; cases h)⟩

/-! ### Forced rebuild of a verified generated target: `startSelf`. -/

/-- The preparation (`prepW`) of the forced rebuild of a verified target: the same .do file is chosen, the rows are the
same triples, nothing is exempt. -/
theorem idem_prep {rank R t w pre dof post} (hi : Inv rank R NoX w) (hv : VerR w R t)
    (hg : genT (w.recs t) = true) (hr : w.rules t = pre ++ dof :: post)
    (hpre : ∀ c ∈ pre, existsF w c = false ∧ HasRow w t c false) (hdex : existsF w dof = true)
    (hdrow : HasRow w t dof true) :
    (prepW w t).1 = some dof ∧
    Inv rank R NoX (prepW w t).2 ∧
    RowOp t w (prepW w t).2 ∧
    (∀ c ∈ pre, HasRowU (prepW w t).2 t c false) ∧
    HasRowU (prepW w t).2 t dof true ∧
    (∀ d ∈ (prepW w t).2.deps, d.target = t → d.deleteMe = false →
      DoRow w (some dof) d) ∧
    SameTriples w (prepW w t).2 := by
  have hst := SameTriples.zapDeps1 w t
  have hfe : firstEx w (w.rules t) = some dof := by
    rw [hr]; exact firstEx_split pre dof post (fun c hc => (hpre c hc).1) hdex
  obtain ⟨p1, p3, p4, p5⟩ := prep_decl t w
  rw [hfe] at p1 p4
  have hrules : (zapDeps1 w t).rules t = pre ++ dof :: post := hr
  obtain ⟨a2, a7⟩ := findDoFile_idem (rank := rank) (R := R) (X := NoX) (t := t) (dof := dof) (post := post) pre
    (zapDeps1 w t) (Inv_zapDeps1_triples hi t) (((RowOp.zapDeps1 w t).verR R t).2 hv) hg
    (fun c hc => ⟨(hpre c hc).1, (hst _ _ _).2 (hpre c hc).2⟩) hdex ((hst _ _ _).2 hdrow)
  rw [← hrules] at a2 a7
  exact ⟨p1, a2, p3, (p5 pre dof post hr (fun c hc => (hpre c hc).1) hdex).1,
    (p5 pre dof post hr (fun c hc => (hpre c hc).1) hdex).2, p4, hst.trans a7⟩

/-- `redo-always` in the forced rebuild of a verified target: the row is there already, `//ALWAYS` is verified. -/
theorem rsAlways_idem {rank R t w} {X : Nat → Prop} {cx : Ctx} (sc : Script) (hcx : cx.runid = R) (hi : Inv rank R X w)
    (hv : VerR w R t) (hg : genT (w.recs t) = true) (halw : sc.always = true → HasRow w t alwaysId true) :
    Inv rank R X (rsAlways cx t sc w) ∧ BExt rank R (rank t) (some t) w (rsAlways cx t sc w) ∧
    RowsDecl t (if sc.always then [alwaysId] else []) w (rsAlways cx t sc w) ∧
    (sc.always = true → HasRowU (rsAlways cx t sc w) t alwaysId true) ∧
    (∀ s m, HasRow w t s m → HasRow (rsAlways cx t sc w) t s m) ∧
    (NoFail R w → NoFail R (rsAlways cx t sc w)) := by
  rw [rsAlways_eq, hcx]
  cases ha : sc.always with
  | false =>
    simp only [Bool.false_eq_true, if_false]
    exact ⟨hi, BExt.refl _ _ _ _ _, RowsDecl.refl _ _ _, fun h => h.elim, fun _ _ h => h, fun h => h⟩
  | true =>
    simp only [if_true]
    have hrow := halw ha
    have hl : rank alwaysId < rank t := hrow.rank_lt hi.base
    have hro := RowOp.addDep w t alwaysId true
    obtain ⟨hi1, hst⟩ := Inv_readd hi hv hg hrow
    obtain ⟨a1, a2, _, a4⟩ := always_spec (b := rank t) (po := some t) hi1 hl
    refine ⟨a1, hro.toBExtP.trans a2, addDep_rowsDecl w t alwaysId, fun _ => addDep_hasRowU_new w t alwaysId true,
      fun s m h => (hst t s m).2 h,
      fun h => a4 (h.eqv hro.eqv : NoFail R { addDep w t alwaysId true with deps := w.deps })⟩

theorem readd_step {rank R t w s} {m : Bool} (hi : Inv rank R NoX w) (hv : VerR w R t)
    (hg : genT (w.recs t) = true) (hrow : HasRow w t s m) :
    IdemStep2 rank R t (if m then [s] else []) (if m then [] else [s]) w ((0 : Status), addDep w t s m) := by
  have hro := RowOp.addDep w t s m
  obtain ⟨hi1, hst⟩ := Inv_readd hi hv hg hrow
  refine ⟨rfl, hi1, hro.toBExtP, ?_, ?_, ?_, fun s' m' h => (hst t s' m').2 h,
    fun h => (h.eqv hro.eqv : NoFail R { addDep w t s m with deps := w.deps })⟩
  · cases m with
    | true => exact (addDep_rowsDecl w t s).to2
    | false => exact addDep_rowsDecl2c w t s
  · cases m with
    | true => intro d hd; simp only [if_true, List.mem_singleton] at hd; subst hd; exact addDep_hasRowU_new w t d true
    | false => intro d hd; simp at hd
  · cases m with
    | true => intro d hd; simp at hd
    | false =>
      intro d hd; simp only [Bool.false_eq_true, if_false, List.mem_singleton] at hd; subst hd
      exact addDep_hasRowU_new w t d false

theorem declareC_idem {rank R t} : ∀ (fs : List Nat) (w : World), Inv rank R NoX w → VerR w R t →
    genT (w.recs t) = true → (∀ d ∈ fs, HasRow w t d false) →
    IdemStep2 rank R t [] fs w ((0 : Status), declareC t fs w)
  | [], w, hi, _, _, _ => IdemStep2.refl hi
  | f :: fs, w, hi, hv, hg, hrows => by
    have h1 := readd_step (m := false) hi hv hg (hrows f (by simp))
    simp only [Bool.false_eq_true, if_false] at h1
    have hv1 := (h1.bext.ver t hv).1
    have hg1 : genT ((addDep w t f false).recs t) = true := by rw [(h1.bext.ver t hv).2.2]; exact hg
    have h2 := declareC_idem fs (addDep w t f false) h1.inv hv1 hg1
      (fun d hd => h1.keep d false (hrows d (List.mem_cons_of_mem _ hd)))
    have := h1.trans h2 hv hg
    have he : declareC t (f :: fs) w = declareC t fs (addDep w t f false) := rfl
    rw [he]
    simpa using this

theorem ifchange_step {rank R t n} {cx : Ctx} (d : Defects) (hcx : cx.runid = R) (hcrash : cx.crash = none)
    (hcyc : cx.cycles = []) (hfuel : rank t ≤ n + 1) (c : List Nat) (w : World) (hi : Inv rank R NoX w)
    (hv : VerR w R t) (hg : genT (w.recs t) = true)
    (hc : ∀ x ∈ c, (rank x < rank t ∧ x ≠ alwaysId) ∧ Good w R x ∧ HasRow w t x true) :
    IdemStep rank R t c w ((engine d (n + 1)).ifchangeCmd (childCx cx t) c w) := by
  have hcyc' : (childCx cx t).cycles = [t] := by show t :: cx.cycles = [t]; rw [hcyc]
  exact ifchange_idem (cx := childCx cx t) (fuel := n + 1) (engine d n) (engine_spec False rank R d n) d hcx rfl rfl
    hcrash rfl hcyc' hi hv hg hfuel c hc

/-- What is recorded about a conditional file of a verified target, in the present world. -/
def CondOk (w : World) (R t x : Nat) : Prop :=
  (Good w R x ∧ HasRow w t x true) ∨ (existsF w x = false ∧ HasRow w t x false)

theorem CondOk.exists_iff {rank R X w t x} (hi : Inv rank R X w) (hp : w.rules x = []) (h0 : x ≠ alwaysId)
    (h : CondOk w R t x) : (existsF w x = true → Good w R x ∧ HasRow w t x true) ∧
      (existsF w x = false → HasRow w t x false) := by
  rcases h with ⟨h1, h2⟩ | ⟨h1, h2⟩
  · have hex := static_exists hi.base h0 (h1.recCur hi) (hi.base.srcT x hp)
    exact ⟨fun _ => ⟨h1, h2⟩, fun h => by rw [hex] at h; cases h⟩
  · exact ⟨(fun h => by rw [h1] at h; cases h), fun _ => h2⟩

theorem conds_idem {rank R t n} {cx : Ctx} (d : Defects) (hcx : cx.runid = R) (hcrash : cx.crash = none)
    (hcyc : cx.cycles = []) (hfuel : rank t ≤ n + 1) :
    ∀ (fs : List Nat) (w : World), Inv rank R NoX w → VerR w R t → genT (w.recs t) = true →
      (∀ x ∈ fs, (rank x < rank t ∧ x ≠ alwaysId) ∧ w.rules x = [] ∧ CondOk w R t x) →
      IdemStep2 rank R t (fs.filter (existsF w)) (fs.filter (fun f => !existsF w f)) w
        (runScript.conds (engine d (n + 1)) t (childCx cx t) fs w)
  | [], w, hi, _, _, _ => by
    simp only [runScript.conds]
    exact IdemStep2.refl hi
  | f :: fs, w, hi, hv, hg, hfs => by
    obtain ⟨hrk, hpf, hco⟩ := hfs f (by simp)
    obtain ⟨hcoT, hcoF⟩ := hco.exists_iff hi hpf hrk.2
    rw [runScript.conds]
    cases hex : existsF w f with
    | false =>
      simp only [Bool.false_eq_true, if_false]
      have h1 := readd_step (m := false) hi hv hg (hcoF hex)
      simp only [Bool.false_eq_true, if_false] at h1
      have hro := RowOp.addDep w t f false
      have hv1 := (h1.bext.ver t hv).1
      have hg1 : genT ((addDep w t f false).recs t) = true := by rw [(h1.bext.ver t hv).2.2]; exact hg
      have h2 := conds_idem d hcx hcrash hcyc hfuel fs (addDep w t f false) h1.inv hv1 hg1 (fun x hx => by
        obtain ⟨a, b, c⟩ := hfs x (List.mem_cons_of_mem _ hx)
        refine ⟨a, by rw [hro.rules]; exact b, ?_⟩
        exact c.imp (fun h => ⟨h1.bext.good h.1, h1.keep _ _ h.2⟩)
          (fun h => ⟨by rw [hro.existsF]; exact h.1, h1.keep _ _ h.2⟩))
      obtain ⟨e1, e2⟩ := filter_congr_exists (w := w) (w' := addDep w t f false) fs (fun x _ => hro.existsF x)
      rw [e1, e2] at h2
      have := h1.trans h2 hv hg
      simpa [List.filter_cons, hex] using this
    | true =>
      simp only [if_true]
      obtain ⟨hgf, hrowf⟩ := hcoT hex
      have hs := (ifchange_step (cx := cx) d hcx hcrash hcyc hfuel [f] w hi hv hg
        (fun x hx => by simp only [List.mem_singleton] at hx; subst hx; exact ⟨hrk, hgf, hrowf⟩)).to2
      generalize (engine d (n + 1)).ifchangeCmd (childCx cx t) [f] w = res at hs ⊢
      obtain ⟨rv, w1⟩ := res
      have hrv : rv = 0 := hs.status
      subst hrv
      simp only
      have hv1 := (hs.bext.ver t hv).1
      have hg1 : genT (w1.recs t) = true := by rw [(hs.bext.ver t hv).2.2]; exact hg
      have hexs : ∀ x ∈ f :: fs, existsF w1 x = existsF w x :=
        fun x hx => existsF_congr (hs.bext.plain x (hfs x hx).2.1)
      have h2 := conds_idem d hcx hcrash hcyc hfuel fs w1 hs.inv hv1 hg1 (fun x hx => by
        obtain ⟨a, b, c⟩ := hfs x (List.mem_cons_of_mem _ hx)
        refine ⟨a, by rw [hs.bext.rules]; exact b, ?_⟩
        exact c.imp (fun h => ⟨hs.bext.good h.1, hs.keep _ _ h.2⟩)
          (fun h => ⟨by rw [hexs x (List.mem_cons_of_mem _ hx)]; exact h.1, hs.keep _ _ h.2⟩))
      obtain ⟨e1, e2⟩ := filter_congr_exists (w := w) (w' := w1) fs (fun x hx => hexs x (List.mem_cons_of_mem _ hx))
      rw [e1, e2] at h2
      have := hs.trans h2 hv hg
      simpa [List.filter_cons, hex] using this

/-- Recording the .do file as static and the `ran` event, for a verified target. -/
theorem idem_start {rank R t w2 dof} (hi2 : Inv rank R NoX w2) (hdm : dof ∈ w2.rules t) (hdex : existsF w2 dof = true) :
    IdemStep2 rank R t [] [] w2 ((0 : Status), startW w2 R t dof) := by
  obtain ⟨hi4, _, hb4, hd4, hn4⟩ := startW_spec hi2 hdm hdex
  refine ⟨rfl, hi4, hb4, ?_, (fun d hd => by simp at hd), (fun d hd => by simp at hd),
    fun s m h => by unfold HasRow at h ⊢; rw [hd4]; exact h, hn4⟩
  have := RowsDecl2.refl t [] [] w2
  unfold RowsDecl2 HasRowU at this ⊢
  rw [hd4]; exact this

/-- `redo-always` and `redo-ifcreate` in the forced rebuild of a verified target. -/
theorem idem_head {rank R t w4} {cx : Ctx} (sc : Script) (hcx : cx.runid = R) (hi4 : Inv rank R NoX w4)
    (hv4 : VerR w4 R t) (hg4 : genT (w4.recs t) = true)
    (halw : sc.always = true → HasRow w4 t alwaysId true) (hic : ∀ d ∈ sc.ifcreate, HasRow w4 t d false) :
    IdemStep2 rank R t (if sc.always then [alwaysId] else []) sc.ifcreate w4
      ((0 : Status), declareC t sc.ifcreate (rsAlways cx t sc w4)) := by
  obtain ⟨r1, r2, r3, r4, r5, r6⟩ := rsAlways_idem (cx := cx) sc hcx hi4 hv4 hg4 halw
  have hA : IdemStep2 rank R t (if sc.always then [alwaysId] else []) [] w4 ((0 : Status), rsAlways cx t sc w4) := by
    refine ⟨rfl, r1, r2, r3.to2, fun d hd => ?_, (fun d hd => by simp at hd), r5, r6⟩
    cases ha : sc.always with
    | false => rw [ha] at hd; simp at hd
    | true => rw [ha] at hd; simp only [if_true, List.mem_singleton] at hd; subst hd; exact r4 ha
  have hvA := (r2.ver t hv4).1
  have hgA : genT ((rsAlways cx t sc w4).recs t) = true := by rw [(r2.ver t hv4).2.2]; exact hg4
  have hI := declareC_idem sc.ifcreate (rsAlways cx t sc w4) r1 hvA hgA (fun d hd => r5 _ _ (hic d hd))
  have := hA.trans hI hv4 hg4
  simpa using this

/-- The conditional declarations and the `redo-ifchange` commands in the forced rebuild of a verified target. -/
theorem idem_tail {rank R t wI n} {cx : Ctx} {sc : Script} (d : Defects) (hcx : cx.runid = R) (hcrash : cx.crash = none)
    (hcyc : cx.cycles = []) (hfuel : rank t ≤ n + 1) (hstamp : sc.stamp = 0)
    (hiI : Inv rank R NoX wI) (hvI : VerR wI R t) (hgI : genT (wI.recs t) = true)
    (hcond : ∀ x ∈ sc.cond, (rank x < rank t ∧ x ≠ alwaysId) ∧ wI.rules x = [] ∧ CondOk wI R t x)
    (hdecl : ∀ x ∈ sc.ifchange.flatten, (rank x < rank t ∧ x ≠ alwaysId) ∧ Good wI R x ∧ HasRow wI t x true) :
    ∃ w5, IdemStep2 rank R t (sc.cond.filter (existsF wI) ++ sc.ifchange.flatten)
        (sc.cond.filter (fun f => !existsF wI f) ++ []) wI ((0 : Status), w5) ∧
      rsBody (engine d (n + 1)) cx t sc wI = scriptEnd sc ((0 : Status), w5) := by
  rw [rsBody_rich _ _ _ _ _ hstamp]
  have hc := conds_idem (cx := cx) d hcx hcrash hcyc hfuel sc.cond wI hiI hvI hgI hcond
  generalize runScript.conds (engine d (n + 1)) t (childCx cx t) sc.cond wI = rc at hc ⊢
  obtain ⟨rvc, wC⟩ := rc
  have hrvc : rvc = 0 := hc.status
  subst hrvc
  simp only [ne_eq, not_true_eq_false, if_false]
  have hvC := (hc.bext.ver t hvI).1
  have hgC : genT (wC.recs t) = true := by rw [(hc.bext.ver t hvI).2.2]; exact hgI
  have hcm := cmds_idem (cx := cx) hcrash
    (fun c w hi hv hg hcc => ifchange_step (cx := cx) d hcx hcrash hcyc hfuel c w hi hv hg hcc)
    sc.ifchange 0 wC hc.inv hvC hgC (fun c hcc x hx => by
      obtain ⟨h1, h2, h3⟩ := hdecl x (List.mem_flatten.2 ⟨c, hcc, hx⟩)
      exact ⟨h1, hc.bext.good h2, hc.keep _ _ h3⟩)
  generalize runScript.cmds (engine d (n + 1)) cx t (childCx cx t) sc.ifchange 0 wC = r at hcm ⊢
  obtain ⟨rv, w5⟩ := r
  have hrv : rv = 0 := hcm.status
  subst hrv
  exact ⟨w5, hc.trans hcm.to2 hvI hgI, rfl⟩

theorem declareC_fs (p : Nat) : ∀ (fs : List Nat) (w : World), (declareC p fs w).fs = w.fs
  | [], _ => rfl
  | f :: fs, w => by
    have he : declareC p (f :: fs) w = declareC p fs (addDep w p f false) := rfl
    rw [he, declareC_fs p fs]; exact (RowOp.addDep w p f false).fs

/-- The whole script in the forced rebuild of a verified target: every phase re-declares what is recorded. -/
theorem idem_run {rank R t w2 n pre dof post} {cx : Ctx} (d : Defects) (hcx : cx.runid = R) (hcrash : cx.crash = none)
    (hcyc : cx.cycles = []) (hi2 : Inv rank R NoX w2) (hv2 : VerR w2 R t) (hg2 : genT (w2.recs t) = true)
    (hfuel : rank t ≤ n + 1) (vs : VScript w2 t pre dof post) :
    ∃ w5 tm tc, IdemStep2 rank R t tm tc w2 ((0 : Status), w5) ∧
      runScript (engine d (n + 1)) d cx t (scriptAt w2 dof) (startW w2 R t dof) =
        scriptEnd (scriptAt w2 dof) ((0 : Status), w5) ∧
      (∀ x ∈ (scriptAt w2 dof).ifchange.flatten, x ∈ tm) ∧ ((scriptAt w2 dof).always = true → alwaysId ∈ tm) ∧
      (∀ x ∈ (scriptAt w2 dof).ifcreate, x ∈ tc) ∧
      (∀ x ∈ (scriptAt w2 dof).cond, x ∈ tm ∨ (existsF w2 x = false ∧ x ∈ tc)) := by
  have hdm : dof ∈ w2.rules t := by rw [vs.rules]; simp
  obtain ⟨_, hyg2, hyg3⟩ := scriptAt_hyg hi2.base hdm
  have hra := scriptAt_rich hi2.base dof
  have S0 := idem_start (R := R) hi2 hdm vs.dofEx
  have hv4 := (S0.bext.ver t hv2).1
  have hg4 : genT ((startW w2 R t dof).recs t) = true := by rw [(S0.bext.ver t hv2).2.2]; exact hg2
  have S1 := idem_head (cx := cx) (scriptAt w2 dof) hcx S0.inv hv4 hg4 (fun ha => S0.keep _ _ (vs.alw ha))
    (fun x hx => S0.keep _ _ (vs.ic x hx).2)
  have S01 := S0.trans S1 hv2 hg2
  have vic := vs.ic
  have vdecl := vs.decl
  have vcond := vs.cond
  generalize scriptAt w2 dof = sc at hyg2 hyg3 hra S01 vic vdecl vcond ⊢
  generalize startW w2 R t dof = w4 at S01 ⊢
  have hvI := (S01.bext.ver t hv2).1
  have hgI : genT ((declareC t sc.ifcreate (rsAlways cx t sc w4)).recs t) = true := by
    rw [(S01.bext.ver t hv2).2.2]; exact hg2
  have hexI : ∀ x, w2.rules x = [] → existsF (declareC t sc.ifcreate (rsAlways cx t sc w4)) x = existsF w2 x :=
    fun x hx => existsF_congr (S01.bext.plain x hx)
  have hic : sc.ifcreate.any (fun f => existsF (rsAlways cx t sc w4) f) = false := by
    rw [List.any_eq_false]
    intro x hx
    have h1 : existsF (rsAlways cx t sc w4) x = existsF (declareC t sc.ifcreate (rsAlways cx t sc w4)) x :=
      (existsF_congr (congrFun (declareC_fs t sc.ifcreate (rsAlways cx t sc w4)) x)).symm
    rw [h1, hexI x (hyg3 x (Or.inr hx)), (vic x hx).1]; simp
  rw [runScript_eq]
  simp only [hic, Bool.false_eq_true, if_false]
  obtain ⟨w5, S2, heq⟩ := idem_tail (cx := cx) d hcx hcrash hcyc hfuel hra.1 S01.inv hvI hgI
    (fun x hx => ⟨hyg2 x (Or.inr (Or.inl hx)), by rw [S01.bext.rules]; exact hyg3 x (Or.inl hx), by
      rcases vcond x hx with h | ⟨h1, h2⟩
      · exact Or.inl ⟨S01.bext.good (h.good hi2 hv2 hg2), S01.keep _ _ h⟩
      · exact Or.inr ⟨by rw [hexI x (hyg3 x (Or.inl hx))]; exact h1, S01.keep _ _ h2⟩⟩)
    (fun x hx => ⟨hyg2 x (Or.inl hx), S01.bext.good ((vdecl x hx).good hi2 hv2 hg2), S01.keep _ _ (vdecl x hx)⟩)
  refine ⟨w5, _, _, S01.trans S2 hv2 hg2, heq, fun x hx => ?_, fun ha => ?_, fun x hx => ?_, fun x hx => ?_⟩
  · simp [hx]
  · simp [ha]
  · simp [hx]
  · cases he : existsF (declareC t sc.ifcreate (rsAlways cx t sc w4)) x with
    | true => left; simp [hx, he]
    | false =>
      right
      exact ⟨by rw [← hexI x (hyg3 x (Or.inl hx))]; exact he, by simp [hx, he]⟩

/-! ### Forced rebuild of a verified generated target: assembling `startSelf`. -/

theorem verR_marked {rank R X w t} (hi : Inv rank R X w) (hv : VerR w R t) :
    (isCheckedR (w.recs t) R || isChangedR (w.recs t) R) = true := by
  rcases hv.2 with h | h
  · rw [(isCheckedR_iff hi.Rpos (hi.base.ckLe t)).2 h]; rfl
  · rw [(isChangedR_iff hi.Rpos (hi.base.chLe t)).2 h, Bool.or_true]

/-- The end of the forced rebuild of a verified target: the script succeeded on unchanged inputs, the record keeps
its marks and only its stamp moves. -/
theorem idem_record {rank t w w2 w5 b pre dof post tm tc} {cx : Ctx} (hlt : rank t < b) (po : Option Nat)
    (p2 : Inv rank cx.runid NoX w2) (p3 : RowOp t w w2) (p4 : ∀ c ∈ pre, HasRowU w2 t c false)
    (p5 : HasRowU w2 t dof true)
    (hv2 : VerR w2 cx.runid t) (hg2 : genT (w2.recs t) = true) (vs2 : VScript w2 t pre dof post)
    (S : IdemStep2 rank cx.runid t tm tc w2 ((0 : Status), w5))
    (m1 : ∀ x ∈ (scriptAt w2 dof).ifchange.flatten, x ∈ tm) (m2 : (scriptAt w2 dof).always = true → alwaysId ∈ tm)
    (m3 : ∀ x ∈ (scriptAt w2 dof).ifcreate, x ∈ tc)
    (m4 : ∀ x ∈ (scriptAt w2 dof).cond, x ∈ tm ∨ (existsF w2 x = false ∧ x ∈ tc)) :
    JobPost rank cx.runid NoX t b po w (ssRecord cx t (w.recs t) (scriptEnd (scriptAt w2 dof) ((0 : Status), w5))) := by
  have hdm2 : dof ∈ w2.rules t := by rw [vs2.rules]; simp
  have hra : (scriptAt w2 dof).Rich := scriptAt_rich p2.base dof
  obtain ⟨_, _, hyg3⟩ := scriptAt_hyg p2.base hdm2
  have hgoodc : ∀ x, Good w2 cx.runid x → contentOf w5 x = contentOf w2 x := by
    intro x hx
    rcases hx with h | ⟨_, h1, h2⟩
    · exact (S.bext.ver x h).2.1
    · exact contentOf_congr (S.bext.stat x h1 h2).2.2
  have hfn5 : failNowOf w5 (scriptAt w2 dof) = false := by
    rw [← vs2.noFail]
    exact failNowOf_congr (fun f hfo => hgoodc f ((vs2.decl f (hra.2.2 f hfo)).good p2 hv2 hg2))
  have hnc : ((0 : Nat) : Int) ≠ CRASHED := zero_ne_crashed
  unfold ssRecord scriptEnd
  simp only [ne_eq, not_true_eq_false, if_false, vs2.exit, hnc, hfn5, Bool.false_eq_true]
  rw [show ((0 : Nat) : Int) = 0 from rfl]
  have hv5 := (S.bext.ver t hv2).1
  have hg5 : genT (w5.recs t) = true := by rw [(S.bext.ver t hv2).2.2]; exact hg2
  have hcand : ∀ c ∈ w2.rules t, w5.fs c = w2.fs c := fun c hc => S.bext.plain c (p2.base.rulesOk.2 t c hc).1
  have hsc5 : scriptAt w5 dof = scriptAt w2 dof := scriptAt_congr (hcand dof hdm2) S.bext.progs
  obtain ⟨h0, hf⟩ := recordKeep_fields cx t (w.recs t) (outOf w5 (scriptAt w2 dof)) w5 (verR_marked S.inv hv5)
  rw [← hsc5] at hf
  obtain ⟨a1, a2, a3⟩ := recordIdem_spec (b := b) (po := po) (pre := pre) (dof := dof) (post := post) S.inv hv5 hg5
    (by rw [S.bext.rules]; exact vs2.rules)
    (fun c hc => ⟨by rw [existsF_congr (hcand c (by rw [vs2.rules]; simp [hc]))]; exact (vs2.pre c hc).1,
      S.carry hv2 hg2 (p4 c hc)⟩)
    (by rw [existsF_congr (hcand dof hdm2)]; exact vs2.dofEx)
    (S.carry hv2 hg2 p5)
    (by rw [hsc5]; exact fun x hx => S.rowsM x (m1 x hx))
    (by rw [hsc5]; exact fun ha => S.rowsM _ (m2 ha))
    (by rw [hsc5]; exact fun x hx => S.rowsC x (m3 x hx))
    (by
      rw [hsc5]; intro x hx
      rcases m4 x hx with h | ⟨h1, h2⟩
      · exact Or.inl (S.rowsM x h)
      · exact Or.inr ⟨by rw [existsF_congr (S.bext.plain x (hyg3 x (Or.inl hx)))]; exact h1, S.rowsC x h2⟩)
    hf hlt
  rw [hsc5] at a1 a2 a3
  refine ⟨a1, ((p3.toBExt hlt).trans (S.bext.lift hlt)).trans a3, fun _ => Or.inl a2, fun hn _ => ?_, ?_⟩
  · have hn5 : NoFail cx.runid w5 := S.noFail (hn.eqv p3.eqv : NoFail cx.runid { w2 with deps := w.deps })
    intro f
    by_cases e : f = t
    · subst e; rw [hsc5] at hf; rw [hf.failed]; exact hn5 f
    · rw [hsc5] at hf; rw [hf.recs f e]; exact hn5 f
  · rw [h0]; exact zero_ne_crashed

theorem startSelf_idem {rank R t w b n} {cx : Ctx} (d : Defects) (hcx : cx.runid = R) (hcrash : cx.crash = none)
    (hcyc : cx.cycles = []) (hi : Inv rank R NoX w) (hv : VerR w R t) (hg : genT (w.recs t) = true)
    (hfuel : rank t ≤ n + 1) (hlt : rank t < b) (po : Option Nat) :
    JobPost rank R NoX t b po w (startSelf (engine d (n + 1)) d cx t (w.recs t) w) := by
  obtain ⟨pre, dof, post, vs⟩ := verR_script hi hv hg
  obtain ⟨hgr, hor⟩ := genT_true.1 hg
  rw [startSelf_eq, ssGuard_eq_self cx t (w.recs t) w (Or.inr (Or.inl ⟨hor, (hi.ver t hv).1.2.2⟩))]
  simp only [hor, Bool.false_or, Bool.not_false, hgr, Bool.not_true, Bool.and_false, Bool.false_eq_true, if_false]
  subst hcx
  obtain ⟨p1, p2, p3, p4, p5, p6, p7⟩ := idem_prep hi hv hg vs.rules vs.pre vs.dofEx vs.dofRow
  rw [ssBuild_startW]
  generalize prepW w t = fr at p1 p2 p3 p4 p5 p6 p7 ⊢
  obtain ⟨o, w2⟩ := fr
  dsimp only at p1 p2 p3 p4 p5 p6 p7
  subst p1
  simp only
  have hv2 := (p3.verR cx.runid t).2 hv
  have hg2 : genT (w2.recs t) = true := by rw [p3.eqv.genT]; exact hg
  have vs2 : VScript w2 t pre dof post := vs.congr' p3.fs (fun x s m => p7 x s m) p3.rules p3.progs
  obtain ⟨w5, tm, tc, S, heq, m1, m2, m3, m4⟩ := idem_run (n := n) (cx := cx) d rfl hcrash hcyc p2 hv2 hg2 hfuel vs2
  have hsc : scriptAt (startW w2 cx.runid t dof) dof = scriptAt w2 dof := rfl
  rw [hsc, heq]
  exact idem_record hlt po p2 p3 p4 p5 hv2 hg2 vs2 S m1 m2 m3 m4

/-! ### The top-level forced command `redo ts`. -/

theorem buildJob_forced_spec {rank R t w b n fuel} {cx : Ctx} (d : Defects) (hcx : cx.runid = R)
    (hredo : cx.isRedo = true) (hcrash : cx.crash = none) (hcyc : cx.cycles = []) (hi : Inv rank R NoX w)
    (h0 : t ≠ alwaysId) (hfuel : rank t ≤ n + 1) (hlt : rank t < b) (po : Option Nat) :
    JobPostW rank R NoX t b po w
      ((buildJob (engine d (n + 1)) d cx fuel t w).1.st, (buildJob (engine d (n + 1)) d cx fuel t w).2) := by
  rw [buildJob_forced_eq _ _ _ _ _ _ hredo]
  simp only [JobResult.st]
  by_cases hvg : VerR w R t ∧ genT (w.recs t) = true
  · exact (startSelf_idem d hcx hcrash hcyc hi hvg.1 hvg.2 hfuel hlt po).weak
  · refine (startSelf_spec (engine_spec False rank R d (n + 1)) False.elim d hcx (KillMode.none hcrash) hi h0 (fun hv => ?_)
      (fun _ h => h.elim) hlt po (Or.inl rfl)).unkilled
    cases hg : genT (w.recs t) with
    | false => rfl
    | true => exact absurd ⟨hv, hg⟩ hvg

theorem runTargets_top {rank R b fuel} {E : Engine} {cx : Ctx} (d : Defects)
    (hjob : ∀ t w, Inv rank R NoX w → rank t < b → t ≠ alwaysId →
      JobPostW rank R NoX t b none w ((buildJob E d cx fuel t w).1.st, (buildJob E d cx fuel t w).2)) :
    ∀ (ts seen : List Nat) (errored : Bool) (w : World), Inv rank R NoX w → (∀ t ∈ ts, rank t < b ∧ t ≠ alwaysId) →
      (errored = false → NoFail R w ∧ ∀ s ∈ seen, Good w R s) →
      (Inv rank R NoX (runTargets E d cx fuel ts seen errored w).2 ∧
        (runTargets E d cx fuel ts seen errored w).2.runCounter = w.runCounter ∧
        (runTargets E d cx fuel ts seen errored w).2.rules = w.rules) ∧
      ((runTargets E d cx fuel ts seen errored w).1 = 0 → errored = false ∧
        NoFail R (runTargets E d cx fuel ts seen errored w).2 ∧
        (∀ t ∈ ts, Good (runTargets E d cx fuel ts seen errored w).2 R t) ∧
        ∀ s ∈ seen, Good (runTargets E d cx fuel ts seen errored w).2 R s) := by
  intro ts seen errored w hi hts hs
  obtain ⟨a1, a2, _, a4, a5⟩ := (runTargets_loop (E := E) (d := d) (cx := cx) (fuel := fuel) (I := Inv rank R NoX)
    (Rel := BExt rank R b none) (G := fun w s => Good w R s) (K := NoFail R)
    (Kd := fun _ _ => False) (A := fun t => rank t < b ∧ t ≠ alwaysId)
    (BExt.refl _ _ _ _) (fun _ _ _ => BExt.trans) (fun _ _ _ h => h.good)
    (fun w' t hi' => ⟨(WEqv.addKnown w' t).inv hi', (WEqv.addKnown w' t).toBExt, fun hk => hk.eqv (WEqv.addKnown w' t)⟩)
    (fun _ _ h => h.elim) (fun _ _ _ _ h => h)
    (fun t w' hi' ht => by
      obtain ⟨j1, j2, j3, j4, j5⟩ := hjob t w' hi' ht.1 ht.2
      exact Or.inr ⟨j1, j2, j5, fun hk hz => ⟨j3 hz (hk t), j4 hk hz⟩⟩)
    ts seen errored w hi hts).resolve_left id
  refine ⟨⟨a1, a2.rc, a2.rules⟩, fun h => ?_⟩
  obtain ⟨hn, hg⟩ := hs (a4 h)
  exact ⟨a4 h, (a5 hn hg h).1, (a5 hn hg h).2, fun s hs' => a2.good (hg s hs')⟩

end RedoModel.Deps.Rich
