import RedoModel.Lemmas.DepsSoundRForced
/-! C01 on the full engine model, rich histories. Between commands: the invariant `Btw`, what the user may do, histories, and the main theorems. -/
namespace RedoModel.Deps.Rich
open RedoModel.Generated

/-! ### Top-level commands: the between-commands invariant `Btw`, and what exit status 0 means. -/

/-- The invariant between commands: run ids in use are at most the run counter. -/
def Btw (rank : Nat → Nat) (w : World) : Prop := Base rank w.runCounter NoX w

theorem Inv_alloc {rank w} (h : Btw rank w) :
    Inv rank (w.runCounter + 1) NoX (allocRun w).2 ∧ NoFail (w.runCounter + 1) (allocRun w).2 := by
  have hb : Base rank w.runCounter NoX w := h
  have hck : ∀ f, (w.recs f).checked ≠ some (w.runCounter + 1) := fun f e => by
    have := hb.ckLe f _ e; omega
  have hch : ∀ f, (w.recs f).changed ≠ some (w.runCounter + 1) := fun f e => by
    have := hb.chLe f _ e; omega
  refine ⟨⟨{ hb with
    chLe := fun f ch e => Nat.le_succ_of_le (hb.chLe f ch e)
    ckLe := fun f ck e => Nat.le_succ_of_le (hb.ckLe f ck e)
    rec0 := ⟨hb.rec0.failed, hb.rec0.gen, fun e => absurd e (hck _), hb.rec0.stamp⟩
    ckFail := fun f e => absurd e (hck f)
    markFail := fun f e => absurd e (hch f)
    flLe := fun f k e => Nat.le_succ_of_le (hb.flLe f k e)
    recA := ?_ }, Nat.succ_pos _, ?_⟩, ?_⟩
  · intro t _ hrc hg
    exact hb.recA t (Or.inl id) hrc hg
  · intro f hv
    rcases hv.2 with e | e
    · exact absurd e (hck f)
    · exact absurd e (hch f)
  · intro f e
    have := hb.flLe f _ e; omega

/-- The common part of `redo ts` and `redo-ifchange ts` at top level: the run invariant holds at the end, and on status 0
the targets are good. -/
theorem top_runG {rank N w} {cx : Ctx} (d : Defects) (hN : ∀ f, rank f < N) (h : Btw rank w)
    (hcx : cx.runid = w.runCounter + 1) (hcrash : cx.crash = none) (hcyc : cx.cycles = []) (ts : List Nat)
    (hts0 : ∀ t ∈ ts, t ≠ alwaysId) :
    Inv rank (w.runCounter + 1) NoX (runTargets (engine d (2 * N + 4)) d cx (2 * N + 4) ts [] false (allocRun w).2).2 ∧
    (runTargets (engine d (2 * N + 4)) d cx (2 * N + 4) ts [] false (allocRun w).2).2.runCounter = w.runCounter + 1 ∧
    (runTargets (engine d (2 * N + 4)) d cx (2 * N + 4) ts [] false (allocRun w).2).2.rules = w.rules ∧
    ((runTargets (engine d (2 * N + 4)) d cx (2 * N + 4) ts [] false (allocRun w).2).1 = 0 →
      ∀ t ∈ ts, Good (runTargets (engine d (2 * N + 4)) d cx (2 * N + 4) ts [] false (allocRun w).2).2
        (w.runCounter + 1) t) := by
  obtain ⟨hi1, hnf1⟩ := Inv_alloc h
  have hjob : ∀ t w0, Inv rank (w.runCounter + 1) NoX w0 → rank t < N → t ≠ alwaysId →
      JobPostW rank (w.runCounter + 1) NoX t N none w0
        ((buildJob (engine d (2 * N + 4)) d cx (2 * N + 4) t w0).1.st,
          (buildJob (engine d (2 * N + 4)) d cx (2 * N + 4) t w0).2) := by
    intro t w0 hi0 hlt ht0
    cases hr : cx.isRedo with
    | false =>
      exact (buildJob_spec (engine_spec False rank _ d (2 * N + 4)) False.elim d hcx hr (KillMode.none hcrash) hi0 ht0
        (fun _ hx => hx.elim) hlt none).unkilled.weak
    | true =>
      have := hN t
      exact buildJob_forced_spec (n := 2 * N + 3) d hcx hr hcrash hcyc hi0 ht0 (by omega) hlt none
  obtain ⟨⟨a1, a2, a2'⟩, a3⟩ := runTargets_top d hjob ts [] false (allocRun w).2 hi1 (fun t ht => ⟨hN t, hts0 t ht⟩)
    (fun _ => ⟨hnf1, fun s hs => by simp at hs⟩)
  exact ⟨a1, a2, a2', fun hz t ht => (a3 hz).2.2.1 t ht⟩

theorem top_run {rank N w} {cx : Ctx} (d : Defects) (hN : ∀ f, rank f < N) (h : Btw rank w)
    (hcx : cx.runid = w.runCounter + 1) (hcrash : cx.crash = none) (hcyc : cx.cycles = []) (ts : List Nat)
    (hts0 : ∀ t ∈ ts, t ≠ alwaysId) :
    (Btw rank (runTargets (engine d (2 * N + 4)) d cx (2 * N + 4) ts [] false (allocRun w).2).2 ∧
      (runTargets (engine d (2 * N + 4)) d cx (2 * N + 4) ts [] false (allocRun w).2).2.rules = w.rules) ∧
    ((runTargets (engine d (2 * N + 4)) d cx (2 * N + 4) ts [] false (allocRun w).2).1 = 0 →
      ∀ t ∈ ts, UpToDateR (runTargets (engine d (2 * N + 4)) d cx (2 * N + 4) ts [] false (allocRun w).2).2 t) := by
  obtain ⟨a1, a2, a3, a4⟩ := top_runG d hN h hcx hcrash hcyc ts hts0
  refine ⟨⟨?_, a3⟩, fun hz t ht => (a4 hz t ht).upToDate a1⟩
  show Base rank _ NoX _
  rw [a2]; exact a1.base

/-! ### Every top-level command keeps `Btw`; `redo` / `redo-ifchange` with status 0 leave their targets up to date. -/

theorem Btw_alloc {rank w} (h : Btw rank w) : Btw rank (allocRun w).2 := (Inv_alloc h).1.base

theorem runCmd_btw {rank N w} (d : Defects) (hN : ∀ f, rank f < N) (h : Btw rank w) (c : Cmd)
    (hc0 : ∀ t ∈ c.names, t ≠ alwaysId) :
    Btw rank (runCmd d N c w).2 ∧ (runCmd d N c w).2.rules = w.rules := by
  cases c with
  | redo ts kg =>
    exact (top_run (cx := { runid := w.runCounter + 1, keepGoing := kg, isRedo := true }) d hN h rfl rfl rfl ts hc0).1
  | ifchange ts kg =>
    exact (top_run (cx := { runid := w.runCounter + 1, keepGoing := kg }) d hN h rfl rfl rfl ts hc0).1
  | targets => exact ⟨Btw_alloc h, rfl⟩
  | sources => exact ⟨Btw_alloc h, rfl⟩
  | ood =>
    -- what the walk of `redo-ood` wrote is rolled back
    rw [query_world d N w .ood (.inl rfl)]
    exact ⟨Btw_alloc h, rfl⟩

theorem runCmd_sound {rank N w} (d : Defects) (hN : ∀ f, rank f < N) (h : Btw rank w) (ts : List Nat) (kg forced : Bool)
    (hts0 : ∀ t ∈ ts, t ≠ alwaysId) :
    (runCmd d N (if forced then .redo ts kg else .ifchange ts kg) w).1.status = 0 →
    ∀ t ∈ ts, UpToDateR (runCmd d N (if forced then .redo ts kg else .ifchange ts kg) w).2 t := by
  cases forced with
  | true =>
    exact (top_run (cx := { runid := w.runCounter + 1, keepGoing := kg, isRedo := true }) d hN h rfl rfl rfl ts hts0).2
  | false =>
    exact (top_run (cx := { runid := w.runCounter + 1, keepGoing := kg }) d hN h rfl rfl rfl ts hts0).2

/-! ### What the user does between commands (edit, remove, chmod a file) keeps `Btw`. -/

/-- What a hand-made change of `f` must look like to the records: the recorded stamp no longer matches, or the
record is that of a failed absent source, or (third case) the user removes a file he had put at the name of a
target that redo recorded as "no output". -/
def UserDiff (f : Nat) (w w' : World) : Prop :=
  (w.recs f).stamp ≠ some (readStamp w' f) ∨ FailedAbsent w f ∨
  (genT (w.recs f) = true ∧ (w.recs f).stamp = some .missing ∧ w'.fs f = none)

theorem fsUpd_key {f w w'} (h : FsUpd f w w') (hdiff : w'.fs f ≠ w.fs f → UserDiff f w w') (d M : Nat) :
    (w'.fs d = w.fs d ∧ (DetectS w' M d ↔ DetectS w M d)) ∨ DetectS w' M d ∨
    (d = f ∧ genT (w.recs f) = true ∧ (w.recs f).stamp = some .missing ∧ w'.fs f = none) := by
  have hsame : w'.fs d = w.fs d → (w'.fs d = w.fs d ∧ (DetectS w' M d ↔ DetectS w M d)) := fun e =>
    ⟨e, by unfold DetectS FailedAbsent; rw [h.recs, readStamp_congr e]⟩
  by_cases e : d = f
  · subst e
    by_cases e2 : w'.fs d = w.fs d
    · exact Or.inl (hsame e2)
    · rcases hdiff e2 with h1 | h1 | h1
      · right; left; unfold DetectS FailedAbsent; rw [h.recs]; exact Or.inr (Or.inr (Or.inl h1))
      · right; left; unfold DetectS FailedAbsent; rw [h.recs]; exact Or.inr (Or.inr (Or.inr h1))
      · exact Or.inr (Or.inr ⟨rfl, h1⟩)
  · exact Or.inl (hsame (h.fs d e))

/-- A hand-made change of `f`, as every file looks to a parent afterwards. -/
theorem Hdet.of_key {f w w'} (h : FsUpd f w w') (hdiff : w'.fs f ≠ w.fs f → UserDiff f w w') (d M : Nat) :
    Hdet w w' d M := by
  have hr : w'.recs d = w.recs d := by rw [h.recs]
  refine ⟨?_, fun hg hs => Or.inr ⟨hr ▸ hg, hr ▸ hs, by rw [hr]⟩⟩
  rcases fsUpd_key h hdiff d M with ⟨e, hiff⟩ | hd | ⟨e, hg, hs, hn⟩
  · by_cases hd : DetectS w M d
    · exact Or.inl (hiff.2 hd)
    · exact Or.inr (Or.inl ⟨contentOf_congr e, hd⟩)
  · exact Or.inl hd
  · exact Or.inr (Or.inr ⟨e ▸ hn, hr, e ▸ hg, e ▸ hs⟩)

theorem RecTruth_user {rank R f w w' u} (hb : Base rank R X w) (h : FsUpd f w w')
    (hdiff : w'.fs f ≠ w.fs f → UserDiff f w w')
    (hu : (w.recs u).stamp = some .missing ∨ w'.fs u = w.fs u)
    (ht : RecTruth w u) : RecTruth w' u := by
  refine ht.mono (by rw [h.rules]) (fun s m hh => by unfold HasRow at hh ⊢; rw [h.deps]; exact hh) (by rw [h.recs])
    (contentV_congr (by rw [h.recs]) hu) (fun dof hd _ => ?_) (fun d _ => Hdet.of_key h hdiff d _)
  rcases fsUpd_key h hdiff dof (Mof (w.recs u)) with ⟨e, hiff⟩ | hd' | ⟨e, hg, _, _⟩
  · exact ⟨Or.inl ⟨existsF_congr e, scriptAt_congr e h.progs⟩, hiff.2⟩
  · exact ⟨Or.inr hd', fun _ => hd'⟩
  · -- a .do candidate is not redo's
    subst e; rw [hb.srcT dof (hb.rulesOk.2 u dof hd).1] at hg; cases hg

theorem Base_user {rank R f w w'} (hb : Base rank R NoX w) (h : FsUpd f w w') (hrk : RankedR rank w')
    (hf0 : f ≠ alwaysId)
    (hfsB : ∀ n, w'.fs f = some n → n.ms ≤ w'.clock)
    (hstB : ∀ ms rest, (w.recs f).stamp = some (.st ms rest) → ∀ n, w'.fs f = some n →
      ms < n.ms ∨ (ms = n.ms ∧ rest ≤ n.rest))
    (hdiff : w'.fs f ≠ w.fs f → UserDiff f w w') : Base rank R NoX w' := by
  have hr := h.recs
  refine ⟨by rw [h.rules]; exact hb.rulesOk, hrk, by rw [h.progs]; exact hb.richProgs, by rw [hr]; exact hb.chLe,
    by rw [hr]; exact hb.ckLe, by rw [hr]; exact hb.noCsum, by rw [hr]; exact hb.ovrSt,
    by rw [hr, h.rules]; exact hb.srcNotGen, by rw [h.fs _ (Ne.symm hf0)]; exact hb.fs0, by rw [hr]; exact hb.rec0,
    by rw [h.deps]; exact hb.rowsLt, by rw [h.deps, h.rules]; exact hb.cPlain, by rw [hr]; exact hb.stampCh,
    by rw [hr]; exact hb.staticEx, ?_, ?_, by rw [hr]; exact hb.ckFail, by rw [hr]; exact hb.markFail,
    by rw [hr]; exact hb.flLe, ?_⟩
  · intro x n hn
    by_cases e : x = f
    · subst e; exact hfsB n hn
    · rw [h.fs x e] at hn; exact Nat.le_trans (hb.fsB x n hn) h.clock
  · intro x ms rest hs
    rw [hr] at hs
    refine ⟨Nat.le_trans (hb.stB x ms rest hs).1 h.clock, fun n hn => ?_⟩
    by_cases e : x = f
    · subst e; exact hstB ms rest hs n hn
    · rw [h.fs x e] at hn; exact (hb.stB x ms rest hs).2 n hn
  · intro t hx hrc hg
    rw [hr] at hg
    have hx0 : ¬ NoX t ∨ VerR w R t := Or.inl (fun hh => hh)
    have hrc1 := hrc
    unfold RecCurV at hrc1; rw [hr] at hrc1
    have hsame : w'.fs t = w.fs t → RecTruth w' t := fun hfs =>
      RecTruth_user hb h hdiff (Or.inr hfs)
        (hb.recA t hx0 ⟨hrc1.1, hrc1.2.1, by rw [← readStamp_congr hfs]; exact hrc1.2.2⟩ hg)
    have hmiss : (w.recs t).stamp = some .missing → RecTruth w' t := fun hs =>
      RecTruth_user hb h hdiff (Or.inl hs) (hb.recA t hx0 ⟨hrc1.1, hrc1.2.1, Or.inr hs⟩ hg)
    by_cases e : t = f
    · subst e
      by_cases e2 : w'.fs t = w.fs t
      · exact hsame e2
      · rcases hdiff e2 with h1 | h1 | h1
        · exact hmiss (hrc1.2.2.resolve_left h1)
        · exact absurd hrc1.1 h1.1
        · exact hmiss h1.2.1
    · exact hsame (h.fs t e)

/-! ### The plain user operations keep `Btw`. -/

theorem Btw_write {rank w f v} (h : Btw rank w) (h0 : f ≠ alwaysId)
    (hrk : RankedR rank (writeW w f v)) : Btw rank (writeW w f v) := by
  have hb : Base rank w.runCounter NoX w := h
  have hup : FsUpd f w (writeW w f v) :=
    ⟨rfl, rfl, rfl, rfl, rfl, fun x hx => by simp [writeW, setFile, hx], Nat.le_succ _⟩
  have hfs : (writeW w f v).fs f = some { content := srcContent v, ms := w.clock + 1, rest := 0 } := by
    simp [writeW, setFile]
  have hck : (writeW w f v).clock = w.clock + 1 := rfl
  refine Base_user hb hup hrk h0 (fun n hn => ?_) (fun ms rest hs n hn => ?_)
    (fun _ => Or.inl ?_)
  · rw [hfs] at hn; cases hn; rw [hck]; exact Nat.le_refl _
  · rw [hfs] at hn; cases hn
    have := (hb.stB f ms rest hs).1
    exact Or.inl (by show ms < w.clock + 1; omega)
  · intro e
    have hrs : readStamp (writeW w f v) f = .st (w.clock + 1) 0 := by unfold readStamp; rw [hfs]
    rw [hrs] at e
    have := (hb.stB f _ _ e).1
    omega

theorem Btw_remove {rank w f} (h : Btw rank w) (h0 : f ≠ alwaysId) (hrk : RankedR rank (setFile w f none)) :
    Btw rank (setFile w f none) := by
  have hb : Base rank w.runCounter NoX w := h
  have hfs : (setFile w f none).fs f = none := by simp [setFile]
  refine Base_user hb (setFile_fsUpd w f none) hrk h0 (fun n hn => ?_) (fun ms rest _ n hn => ?_)
    (fun hd => ?_)
  · rw [hfs] at hn; cases hn
  · rw [hfs] at hn; cases hn
  · have hrs : readStamp (setFile w f none) f = .missing := readStamp_missing.2 hfs
    unfold UserDiff
    rw [hrs]
    rw [hfs] at hd
    cases hn : w.fs f with
    | none => exact absurd hn.symm hd
    | some n =>
      by_cases hst : (w.recs f).stamp = some .missing
      · right
        cases hg : genT (w.recs f) with
        | true => exact Or.inr ⟨rfl, hst, hfs⟩
        | false => exact Or.inl ⟨fun hf => hb.staticEx f h0 hf hg hst, hg, hst⟩
      · exact Or.inl hst

theorem Btw_chmod {rank w f} (h : Btw rank w) (h0 : f ≠ alwaysId)
    (hrk : RankedR rank (chmodW w f)) : Btw rank (chmodW w f) := by
  have hb : Base rank w.runCounter NoX w := h
  unfold chmodW at hrk ⊢
  cases hn : w.fs f with
  | none => exact h
  | some n =>
    rw [hn] at hrk
    simp only at hrk ⊢
    have hfs : (setFile w f (some { n with rest := n.rest + 1 })).fs f = some { n with rest := n.rest + 1 } := by
      simp [setFile]
    refine Base_user hb (setFile_fsUpd w f _) hrk h0 (fun n' hn' => ?_) (fun ms rest hs n' hn' => ?_)
      (fun _ => Or.inl ?_)
    · rw [hfs] at hn'; cases hn'; exact hb.fsB f n hn
    · rw [hfs] at hn'; cases hn'
      rcases (hb.stB f ms rest hs).2 n hn with h1 | ⟨h1, h2⟩
      · exact Or.inl h1
      · exact Or.inr ⟨h1, Nat.le_succ_of_le h2⟩
    · intro e
      have hrs : readStamp (setFile w f (some { n with rest := n.rest + 1 })) f = .st n.ms (n.rest + 1) := by
        unfold readStamp; rw [hfs]
      rw [hrs] at e
      rcases (hb.stB f _ _ e).2 n hn with h1 | ⟨_, h2⟩
      · exact Nat.lt_irrefl _ h1
      · omega

/-! ### `setProg` keeps `Btw` when it does not change the meaning of a .do file in place. -/

/-- Giving content `c` the meaning `s` does not change what any .do candidate in place means. -/
def SetProgOk (w : World) (c : Content) (s : Script) : Prop :=
  ∀ t, ∀ dof ∈ w.rules t, ∀ n, w.fs dof = some n → n.content = c → (w.progs c).getD {} = s

theorem Btw_setProg {rank w c s} (h : Btw rank w) (hs : s.Rich) (hok : SetProgOk w c s)
    (hrk : RankedR rank (setProgW w c s)) : Btw rank (setProgW w c s) := by
  have hb : Base rank w.runCounter NoX w := h
  refine { hb with ranked := hrk, richProgs := ?_, recA := ?_ }
  · intro c' sc hp
    show sc.Rich
    unfold setProgW at hp
    simp only at hp
    split at hp
    · cases hp; exact hs
    · exact hb.richProgs c' sc hp
  · intro t hx hrc hg
    exact RecTruth.mono (w := w) rfl (fun _ _ h => h) rfl rfl
      (fun dof hdm _ => ⟨Or.inl ⟨rfl, scriptAt_setProg hok hdm⟩, id⟩) (fun _ _ => Hdet.same (.refl _) rfl) (hb.recA t hx hrc hg)

/-! ### The invariant along a rich history. -/

theorem Btw_init {rank rules} (hr : RulesOk rules) (hrk : RankedR rank (initWorld rules)) : Btw rank (initWorld rules) := by
  have hrec : ∀ f, (initWorld rules).recs f = {} ∨ (initWorld rules).recs f = { row := 1 } := by
    intro f; unfold initWorld; simp only; split
    · exact Or.inr rfl
    · exact Or.inl rfl
  have hfs : ∀ f, (initWorld rules).fs f = none := fun _ => rfl
  refine Base.of_recOk hr hrk (fun c sc h => by cases h) (fun f => ?_) rfl (fun d hd => by cases hd)
    (fun d hd => by cases hd) (fun t _ hrc _ => ?_)
  · -- an empty record and no file: `simp` settles every clause but `rec0`
    rcases hrec f with e | e <;> constructor <;> simp [e, hfs, genT] <;> exact fun _ => ⟨rfl, rfl, nofun, Or.inl rfl⟩
  · have := hrc.2.1
    rcases hrec t with e | e <;> rw [e] at this <;> exact absurd rfl this

/-- World-dependent conditions on operations: a `setProg` does not redefine the meaning of a .do content in place
(see `SetProgOk`); the user does not write a file at the name of a redo-owned target whose script produced no output
file (its recorded stamp is "missing").  The write clause restricts the histories of `noStaleRich` only: the general
theorem `noStaleRichFree` asks for `OpOkW`, the `setProg` clause alone (`sq_not_opsOk` in `DepsSoundREx` is a history
that `OpsOk` excludes and `OpsOkW` admits). -/
def OpOk (w : World) : UserOp → Prop
  | .setProg c s => SetProgOk w c s
  | .write f _ => genT (w.recs f) = true → (w.recs f).stamp ≠ some .missing
  | _ => True

def OpsOk (n : Nat) : World → List UserOp → Prop
  | _, [] => True
  | w, op :: ops => OpOk w op ∧ OpsOk n (applyOp {} n op w).2 ops

/-- The condition on `setProg` alone. -/
def OpOkW (w : World) : UserOp → Prop
  | .setProg c s => SetProgOk w c s
  | _ => True

def OpsOkW (n : Nat) : World → List UserOp → Prop
  | _, [] => True
  | w, op :: ops => OpOkW w op ∧ OpsOkW n (applyOp {} n op w).2 ops

theorem OpOk.toW {w : World} {op : UserOp} (h : OpOk w op) : OpOkW w op := by
  cases op <;> first | exact h | trivial

theorem OpsOk.toW {n : Nat} : ∀ {w : World} {ops : List UserOp}, OpsOk n w ops → OpsOkW n w ops
  | _, [], _ => trivial
  | _, _ :: _, h => ⟨h.1.toW, OpsOk.toW h.2⟩

def noSetProg : List UserOp → Bool
  | [] => true
  | .setProg _ _ :: _ => false
  | _ :: ops => noSetProg ops

/-- The .do contents are given their meaning first, and never again. -/
def progsFirst : List UserOp → Bool
  | .setProg _ _ :: ops => progsFirst ops
  | ops => noSetProg ops

theorem OpsOkW.of_noSetProg (n : Nat) : ∀ (ops : List UserOp) (w : World), noSetProg ops = true → OpsOkW n w ops
  | [], _, _ => trivial
  | op :: ops, w, h => by
    cases op <;> first | cases h | exact ⟨trivial, OpsOkW.of_noSetProg n ops _ h⟩

/-- A history that gives the .do contents their meaning while no file exists yet, and never again, meets `OpsOkW`:
what the examples use. -/
theorem OpsOkW.of_progsFirst (n : Nat) : ∀ (ops : List UserOp) (w : World), (∀ f, w.fs f = none) →
    progsFirst ops = true → OpsOkW n w ops
  | [], _, _, _ => trivial
  | .setProg c s :: ops, w, hfs, h =>
    ⟨fun t dof _ nd hn => (by rw [hfs dof] at hn; cases hn), OpsOkW.of_progsFirst n ops _ hfs h⟩
  | .write _ _ :: ops, w, _, h => OpsOkW.of_noSetProg n _ w h
  | .remove _ :: ops, w, _, h => OpsOkW.of_noSetProg n _ w h
  | .chmod _ :: ops, w, _, h => OpsOkW.of_noSetProg n _ w h
  | .hide _ :: ops, w, _, h => OpsOkW.of_noSetProg n _ w h
  | .unhide _ :: ops, w, _, h => OpsOkW.of_noSetProg n _ w h
  | .cmd _ :: ops, w, _, h => OpsOkW.of_noSetProg n _ w h
  | .crashCmd _ _ _ :: ops, w, _, h => OpsOkW.of_noSetProg n _ w h

theorem applyOp_btw {rank n rules w} (hN : ∀ f, rank f < n) (h : Btw rank w) (hr : w.rules = rules) (op : UserOp)
    (hp : RichOp rules op) (hok : OpOkW w op) (hrk : RankedR rank (applyOp {} n op w).2) :
    Btw rank (applyOp {} n op w).2 ∧ (applyOp {} n op w).2.rules = rules := by
  cases op with
  | write f v =>
    rw [applyOp_write] at hrk ⊢
    exact ⟨Btw_write h hp hrk, hr⟩
  | remove f =>
    rw [applyOp_remove] at hrk ⊢
    exact ⟨Btw_remove h hp hrk, hr⟩
  | chmod f =>
    rw [applyOp_chmod] at hrk ⊢
    refine ⟨Btw_chmod h hp.2 hrk, ?_⟩
    unfold chmodW; split <;> exact hr
  | hide f => exact hp.elim
  | unhide f => exact hp.elim
  | setProg c s =>
    rw [applyOp_setProg] at hrk ⊢
    exact ⟨Btw_setProg h hp hok hrk, hr⟩
  | cmd c =>
    obtain ⟨a1, a2⟩ := runCmd_btw {} hN h c hp
    exact ⟨a1, a2.trans hr⟩
  | crashCmd ts t k => exact hp.elim

theorem history_btw {rank n rules} (hN : ∀ f, rank f < n) :
    ∀ (ops : List UserOp) (w : World), Btw rank w → w.rules = rules → (∀ op ∈ ops, RichOp rules op) →
      (∀ w' ∈ worldsOf n {} w ops, RankedR rank w') → OpsOkW n w ops →
      Btw rank (ops.foldl (fun w op => (applyOp {} n op w).2) w) ∧
      (ops.foldl (fun w op => (applyOp {} n op w).2) w).rules = rules
  | [], w, h, hr, _, _, _ => ⟨h, hr⟩
  | op :: ops, w, h, hr, hp, hrk, hok => by
    have hrk1 : RankedR rank (applyOp {} n op w).2 :=
      hrk _ (by simp only [worldsOf, List.mem_cons]; exact Or.inr (worldsOf_head n {} _ ops))
    obtain ⟨a1, a2⟩ := applyOp_btw hN h hr op (hp op (by simp)) hok.1 hrk1
    exact history_btw hN ops _ a1 a2 (fun op' h' => hp op' (List.mem_cons_of_mem _ h'))
      (fun w' hw' => hrk w' (by simp only [worldsOf, List.mem_cons]; exact Or.inr hw')) hok.2

theorem btw_of_history {rank n rules} (hr : RulesOk rules) (hN : ∀ f, rank f < n) (ops : List UserOp)
    (hp : ∀ op ∈ ops, RichOp rules op) (hrk : ∀ w ∈ worldsOf n {} (initWorld rules) ops, RankedR rank w)
    (hok : OpsOkW n (initWorld rules) ops) :
    Btw rank (ops.foldl (fun w op => (applyOp {} n op w).2) (initWorld rules)) :=
  (history_btw hN ops (initWorld rules) (Btw_init hr (hrk _ (worldsOf_head n {} _ ops))) rfl hp hrk hok).1

/-! ### **C01 for rich histories of the full model**: the main theorems. -/

/-- **Rich scripts and hand-written / hand-edited target files.**  Start from an empty project with any rule
table (`RulesOk`); after any history of `RichOp`s (the user may write any file but `//ALWAYS`, also at target names and
over generated targets; scripts are `Rich`; commands do not name `//ALWAYS`) during which the scripts in place respect
`RankedR` and all ids stay below `n`, with `OpsOkW` (no `setProg` redefines the meaning of a .do content in place):
whenever `redo-ifchange ts` / `redo ts` exits 0, every target named is up to date (`UpToDateR`: an overridden or
user-written file stands for itself). -/
theorem noStaleRichFree (n : Nat) (rules : Nat → List Nat) (rank : Nat → Nat) (ops : List UserOp) (ts : List Nat)
    (kg forced : Bool) (hr : RulesOk rules) (hp : ∀ op ∈ ops, RichOp rules op)
    (hrk : ∀ w ∈ worldsOf n {} (initWorld rules) ops, RankedR rank w) (hN : ∀ f, rank f < n)
    (hok : OpsOkW n (initWorld rules) ops) (hts0 : ∀ t ∈ ts, t ≠ alwaysId) :
    let w := ops.foldl (fun w op => (applyOp {} n op w).2) (initWorld rules)
    let r := runCmd {} n (if forced then .redo ts kg else .ifchange ts kg) w
    r.1.status = 0 → ∀ t ∈ ts, UpToDateR r.2 t := by
  intro w r
  exact runCmd_sound {} hN (btw_of_history hr hN ops hp hrk hok) ts kg forced hts0

/-- `noStaleRichFree` for the histories of `OpsOk` (a special case: `OpsOk.toW`); `ro_opsOk` in `DepsSoundREx` is one. -/
theorem noStaleRich (n : Nat) (rules : Nat → List Nat) (rank : Nat → Nat) (ops : List UserOp) (ts : List Nat)
    (kg forced : Bool) (hr : RulesOk rules) (hp : ∀ op ∈ ops, RichOp rules op)
    (hrk : ∀ w ∈ worldsOf n {} (initWorld rules) ops, RankedR rank w) (hN : ∀ f, rank f < n)
    (hok : OpsOk n (initWorld rules) ops) (hts0 : ∀ t ∈ ts, t ≠ alwaysId) :
    let w := ops.foldl (fun w op => (applyOp {} n op w).2) (initWorld rules)
    let r := runCmd {} n (if forced then .redo ts kg else .ifchange ts kg) w
    r.1.status = 0 → ∀ t ∈ ts, UpToDateR r.2 t :=
  noStaleRichFree n rules rank ops ts kg forced hr hp hrk hN hok.toW hts0

end RedoModel.Deps.Rich
