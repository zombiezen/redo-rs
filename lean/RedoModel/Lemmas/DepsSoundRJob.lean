import RedoModel.Lemmas.DepsSoundRScript
/-! C01 and C10 on the full engine model, rich histories. `ssBuild`, `startSelf`, `buildJob`, `runTargets`, `ifchangeWith`: the engine
meets its specification `ESpecG k`, killed (`k`, under `SK`) or not. -/
namespace RedoModel.Deps.Rich
open RedoModel.Generated

/-! The worlds of a job on `t`, in the order in which they arise, under the names the lemmas of this file and of
`DepsSoundRForced`, `DepsOk` give them:
* `w` — the job starts; `w1` — after the dirtiness check (`buildJob` only);
* `w2 = (prepW w t).2` — the old rows of `t` are marked for deletion, `findDoFile` has added the rows of the .do candidates;
* `w4 = startW w2 R t dof` — the .do file is recorded as the user's, `ran t` is logged: the script `sc` starts;
* `wA = rsAlways cx t sc w4` — after `redo-always`;
* `wI = declareC t sc.ifcreate wA` — after the `redo-ifcreate` declarations;
* `wC` — after the conditional declarations (`runScript.conds`);
* `w5` — after the `redo-ifchange` commands (`runScript.cmds`): the script ends, `recordNewState` writes the record of `t`. -/

/-! ### Pieces of `ssBuild`: the choice of the .do file, what a job guarantees, the case without a .do file. -/

/-- The exempt set while `t` is under construction. -/
def addX (X : Nat → Prop) (t : Nat) : Nat → Prop := fun x => X x ∨ x = t

theorem Base.release {rank R w t} {X : Nat → Prop} (hb : Base rank R (addX X t) w) (hk : KeepT w t) :
    Base rank R X w := by
  have hrec : ∀ u, (¬ X u ∨ VerR w R u) → RecCurV w u → genT (w.recs u) = true → RecTruth w u := by
    intro u hx hrc hg
    by_cases e : u = t
    · subst e; exact hk hrc hg
    · exact hb.recA u (hx.imp (fun hn hxu => hxu.elim hn e) id) hrc hg
  exact { hb with recA := hrec }

theorem Inv.release {rank R w t} {X : Nat → Prop} (hi : Inv rank R (addX X t) w) (hk : KeepT w t) :
    Inv rank R X w := ⟨hi.base.release hk, hi.Rpos, hi.ver⟩

/-- The rows of a target `t` that is not good may be rewritten: `t` is exempt, or the side conditions hold (then the clause
of the invariant for `t` survives, `KeepT_rowOp`).  The proofs split on `k` here, in `prep_open`, and in `conds_spec` (which
needs `t` exempt as soon as there is a conditional file to declare). -/
def RowsOpen (X : Nat → Prop) (w : World) (t : Nat) : Prop := X t ∨ SK w

theorem Inv_rowOp_open {rank R X t w w'} (hi : Inv rank R X w) (h : RowOp t w w') (ho : RowsOpen X w t)
    (hrows : ∀ s, HasRow w t s true → HasRow w' t s true) (hng : ¬ Good w R t)
    (hrowsLt : ∀ d ∈ w'.deps, rank d.source < rank d.target)
    (hcPlain : ∀ d ∈ w'.deps, d.modeM = false → w'.rules d.source = [] ∧ d.source ≠ alwaysId) : Inv rank R X w' := by
  by_cases hx : X t
  · exact Inv_rowOp hi h hx hng hrowsLt hcPlain
  · have hS := ho.resolve_left hx
    exact (Inv_rowOp (X := addX X t) (hi.weaken (fun _ => Or.inl)) h (Or.inr rfl) hng hrowsLt hcPlain).release
      (KeepT_rowOp hS.single hS.rowsM h hrows (hi.base.keepT hx))

theorem Inv_addDep_open {rank R X t w s} (hi : Inv rank R X w) (ho : RowsOpen X w t) (hng : ¬ Good w R t)
    (hlt : rank s < rank t) : Inv rank R X (addDep w t s true) := by
  have hro := RowOp.addDep w t s true
  refine Inv_rowOp_open hi hro ho (addDep_true_rows w t s) hng (fun d hd => ?_) (fun d hd hm => ?_)
  · rcases addDep_mem hd with rfl | ⟨h, _⟩
    · exact hlt
    · exact hi.base.rowsLt d h
  · rw [hro.rules]
    rcases addDep_mem hd with rfl | ⟨h, _⟩
    · cases hm
    · exact hi.base.cPlain d h hm

theorem RowsOpen.tr {X w w' t} (h : RowsOpen X w t) (ht : RowsTr w w') : RowsOpen X w' t := h.imp id (fun hS => hS.tr ht)

/-- With `k` the target under construction was never exempt. -/
theorem Killed.drop {k rank R X t w res} (h : Killed k rank R (addXk k X t) w res) : Killed k rank R X w res := by
  obtain ⟨hk, a, b, c⟩ := h
  exact ⟨hk, a, b.weaken (fun x hx => hx.elim id (fun h => absurd hk h.2)), c⟩

theorem prep_decl (t : Nat) (w : World) :
    (prepW w t).1 = firstEx w (w.rules t) ∧
    RowOp t w (prepW w t).2 ∧
    (∀ d ∈ (prepW w t).2.deps, d.target = t → d.deleteMe = false →
      DoRow w (firstEx w (w.rules t)) d) ∧
    (∀ pre dof post, w.rules t = pre ++ dof :: post → (∀ c ∈ pre, existsF w c = false) → existsF w dof = true →
      (∀ c ∈ pre, HasRowU (prepW w t).2 t c false) ∧
      HasRowU (prepW w t).2 t dof true) := by
  obtain ⟨h1, h2, h3, h4⟩ := Deps.ssb_prep_rows t w
  rw [firstEx_eq]
  exact ⟨h1, h2.toRich, h3, h4⟩

theorem ssb_prep {rank R t w} {X : Nat → Prop} (hi : Inv rank R X w) (hng : ¬ Good w R t) :
    (prepW w t).1 = firstEx w (w.rules t) ∧
    Inv rank R (addX X t) (prepW w t).2 ∧
    RowOp t w (prepW w t).2 ∧
    (∀ d ∈ (prepW w t).2.deps, d.target = t → d.deleteMe = false →
      DoRow w (firstEx w (w.rules t)) d) ∧
    (∀ pre dof post, w.rules t = pre ++ dof :: post → (∀ c ∈ pre, existsF w c = false) → existsF w dof = true →
      (∀ c ∈ pre, HasRowU (prepW w t).2 t c false) ∧
      HasRowU (prepW w t).2 t dof true) := by
  have hXt : addX X t t := Or.inr rfl
  obtain ⟨p1, p3, p4, p5⟩ := prep_decl t w
  refine ⟨p1, ?_, p3, p4, p5⟩
  exact findDoFile_inv hXt _ _ (Inv_zapDeps1 (hi.weaken (fun x hx => Or.inl hx)) hXt hng)
    (fun h => hng (((RowOp.zapDeps1 w t).good R t).1 h))
    (fun c hc => ⟨hi.base.ranked.1 t c hc, (hi.base.rulesOk.2 t c hc).1, (hi.base.rulesOk.2 t c hc).2.1⟩)

/-- What a job on `t` guarantees. -/
abbrev JobPost (rank : Nat → Nat) (R : Nat) (X : Nat → Prop) (t b : Nat) (po : Option Nat) (w : World)
    (res : Status × World) : Prop :=
  Post rank R X b po (fun w' => Good w' R t) w res

/-- The same, except that a target which had already failed in this run need not become good. -/
abbrev JobPostW (rank : Nat → Nat) (R : Nat) (X : Nat → Prop) (t b : Nat) (po : Option Nat) (w : World)
    (res : Status × World) : Prop :=
  Post rank R X b po (fun w' => (w.recs t).failed ≠ some R → Good w' R t) w res

theorem Post.weak {rank R X t b po w res} (h : JobPost rank R X t b po w res) : JobPostW rank R X t b po w res :=
  h.mono (fun _ hg _ => hg)

theorem ssb_none {rank R t w w2 b po} {X : Nat → Prop} {sf : Rec} (hsf : StaleOk w t sf) (h0 : t ≠ alwaysId)
    (hng : ¬ Good w R t)
    (hi2 : Inv rank R (addX X t) w2) (hro : RowOp t w w2) (hlt : rank t < b) :
    JobPost rank R X t b po w
      (if existsF w2 t then (0, setRec w2 t (setStatic w2 t sf R))
       else (1, setRec w2 t (setFailed w2 t sf R))) := by
  have hng2 : ¬ Good w2 R t := fun h => hng ((hro.good R t).1 h)
  have hsf2 := hsf.sameT (hro.sameT t)
  have hfl := hsf2.agreeV
  have hb0 : BExt rank R b po w w2 := hro.toBExt hlt
  split
  · rename_i hex
    obtain ⟨a1, a2, a3⟩ := userFile_spec (b := b) (po := po) (X' := X) hi2 hng2 addX_drop
      (OffT.setRec w2 t (setStatic w2 t sf R)) rfl
      (fun _ h => h) hex hlt (by simp) (by simp) (by simp) (by simp) (by simp) (by simp [hfl.checked])
      (by rw [setRec_recs_self, setStatic_changed, hfl.stamp, hfl.changed]) (by simp)
    refine ⟨a1, hb0.trans a3, fun _ => a2, fun hnf _ => ?_, zero_ne_crashed⟩
    exact (hnf.eqv hro.eqv : NoFail R { w2 with deps := w.deps }).setRec (by simp)
  · rename_i hex
    have hex' : existsF w2 t = false := by simpa using hex
    obtain ⟨a1, a2, _⟩ := setFailed_spec (b := b) (po := po) (X' := X) hi2 h0 hng2 addX_drop (OffT.setRec w2 t _) rfl
      (fun _ h => h) (by simpa using hsf2.setFailed R) (fun _ => hex') hlt
    exact StepPost.fail a1 (hb0.trans a2) one_ne_zero_status one_ne_crashed

/-! ### `ssBuild` when a .do file is found: the state after the script has run. -/

theorem scriptAt_ranked {rank R X w t dof} (hb : Base rank R X w) (hd : dof ∈ w.rules t) :
    ((scriptAt w dof).always = true → rank alwaysId < rank t) ∧
    ∀ c ∈ (scriptAt w dof).ifchange, ∀ d ∈ c, rank d < rank t ∧ d ≠ alwaysId :=
  ⟨(scriptAt_hyg hb hd).1,
    fun c hc d hd' => (scriptAt_hyg hb hd).2.1 d (Or.inl (List.mem_flatten.2 ⟨c, hc, hd'⟩))⟩

theorem addDep_rowsDecl (w : World) (p t : Nat) : RowsDecl p [t] w (addDep w p t true) :=
  (declare_rows p [t] w).2.1

theorem rsAlways_eq (cx : Ctx) (t : Nat) (sc : Script) (w : World) :
    rsAlways cx t sc w = if sc.always then
      setRec (addDep w t alwaysId true) alwaysId (alwRec ((addDep w t alwaysId true).recs alwaysId) cx.runid)
    else w := rfl

theorem rsAlways_spec {rank R X t w} {cx : Ctx} (sc : Script) (hcx : cx.runid = R) (hi : Inv rank R X w)
    (ho : RowsOpen X w t) (hng : ¬ Good w R t) (hlt : sc.always = true → rank alwaysId < rank t) :
    Inv rank R X (rsAlways cx t sc w) ∧ BExt rank R (rank t) (some t) w (rsAlways cx t sc w) ∧
    RowsDecl t (if sc.always then [alwaysId] else []) w (rsAlways cx t sc w) ∧
    (sc.always = true → Good (rsAlways cx t sc w) R alwaysId ∧ HasRowU (rsAlways cx t sc w) t alwaysId true) ∧
    (NoFail R w → NoFail R (rsAlways cx t sc w)) := by
  rw [rsAlways_eq, hcx]
  cases ha : sc.always with
  | false =>
    simp only [Bool.false_eq_true, if_false]
    exact ⟨hi, BExt.refl _ _ _ _ _, RowsDecl.refl _ _ _, fun h => h.elim, fun h => h⟩
  | true =>
    simp only [if_true]
    have hl := hlt ha
    have hro := RowOp.addDep w t alwaysId true
    obtain ⟨a1, a2, a3, a4⟩ := always_spec (b := rank t) (po := some t) (Inv_addDep_open hi ho hng hl) hl
    exact ⟨a1, hro.toBExtP.trans a2, addDep_rowsDecl w t alwaysId, fun _ => ⟨Or.inl a3, addDep_hasRowU_new w t alwaysId true⟩,
      fun h => a4 (h.eqv hro.eqv : NoFail R { addDep w t alwaysId true with deps := w.deps })⟩

/-- What is known at the end of a successful run of the script `sc` of `t` (started in `w2`, ended in `w5`). -/
structure RanOk (rank : Nat → Nat) (R t dof : Nat) (sc : Script) (w2 w5 : World) : Prop where
  dofGood : Good w5 R dof
  script : scriptAt w5 dof = sc
  exit : sc.exit = 0
  noFail : failNowOf w5 sc = false
  decl : ∀ d ∈ sc.ifchange.flatten, Good w5 R d ∧ HasRowU w5 t d true
  alw : sc.always = true → HasRowU w5 t alwaysId true
  ic : ∀ d ∈ sc.ifcreate, existsF w5 d = false ∧ HasRowU w5 t d false
  cond : ∀ d ∈ sc.cond, (Good w5 R d ∧ HasRowU w5 t d true) ∨ (existsF w5 d = false ∧ HasRowU w5 t d false)
  newRows : ∀ d ∈ w5.deps, d.target = t → d ∈ w2.deps ∨
    (d.deleteMe = false ∧ (d.modeM = true → Good w5 R d.source) ∧ (d.modeM = false → existsF w5 d.source = false))
  keepC : ∀ s, HasRowU w2 t s false → existsF w2 s = false → w2.rules s = [] → s ≠ alwaysId → HasRowU w5 t s false
  keepM : ∀ s, HasRowU w2 t s true → existsF w2 s = true → HasRowU w5 t s true

theorem absent_not_good {rank R X w d} (hi : Inv rank R X w) (hp : w.rules d = []) (h0 : d ≠ alwaysId)
    (hex : existsF w d = false) : ¬ Good w R d := by
  intro hg
  have := static_exists hi.base h0 (hg.recCur hi) (hi.base.srcT d hp)
  rw [hex] at this; cases this

theorem RanOk.mk' {rank R X t dof sc w2 w5} {tm tc : List Nat} (hi5 : Inv rank R X w5)
    (hrules : w5.rules = w2.rules) (hpl : ∀ x, w2.rules x = [] → w5.fs x = w2.fs x)
    (D : RowsDecl2 t tm tc w2 w5)
    (htm : ∀ s ∈ tm, Good w5 R s) (htc : ∀ s ∈ tc, existsF w2 s = false ∧ w2.rules s = [])
    (dofGood : Good w5 R dof) (script : scriptAt w5 dof = sc) (exit : sc.exit = 0) (noFail : failNowOf w5 sc = false)
    (decl : ∀ d ∈ sc.ifchange.flatten, Good w5 R d ∧ HasRowU w5 t d true)
    (alw : sc.always = true → HasRowU w5 t alwaysId true)
    (ic : ∀ d ∈ sc.ifcreate, existsF w5 d = false ∧ HasRowU w5 t d false)
    (cond : ∀ d ∈ sc.cond, (Good w5 R d ∧ HasRowU w5 t d true) ∨ (existsF w5 d = false ∧ HasRowU w5 t d false)) :
    RanOk rank R t dof sc w2 w5 := by
  have hex : ∀ x, w2.rules x = [] → existsF w5 x = existsF w2 x := fun x hx => existsF_congr (hpl x hx)
  refine ⟨dofGood, script, exit, noFail, decl, alw, ic, cond, fun d hd hdt => ?_, fun s hr hab hp h0 => ?_,
    fun s hr hexs => ?_⟩
  · rcases D.1 d hd hdt with h | ⟨a, b, c⟩ | ⟨a, b, c⟩
    · exact Or.inl h
    · exact Or.inr ⟨c, fun _ => htm _ b, fun hm => by rw [a] at hm; cases hm⟩
    · exact Or.inr ⟨c, (fun hm => by rw [a] at hm; cases hm), fun _ => by rw [hex _ (htc _ b).2]; exact (htc _ b).1⟩
  · refine D.2 s false hr (fun hin => ?_) (fun _ => rfl)
    exact absurd (htm s hin) (absent_not_good hi5 (by rw [hrules]; exact hp) h0 (by rw [hex s hp]; exact hab))
  · refine D.2 s true hr (fun _ => rfl) (fun hin => ?_)
    have := (htc s hin).1; rw [hexs] at this; cases this

/-- What a script declares with `m` rows: `//ALWAYS` if it says `redo-always`, and its `redo-ifchange` arguments. -/
def declOf (sc : Script) : List Nat := (if sc.always then [alwaysId] else []) ++ sc.ifchange.flatten

/-- The end of `ssBuild` after the script returned `r`. -/
def ssRecord (cx : Ctx) (t : Nat) (sf : Rec) (r : Status × Option Content × World) : Status × World :=
  if r.1 = CRASHED then (CRASHED, r.2.2) else recordNewState cx t sf r.1 r.2.1 r.2.2

/-- `ssBuild` by the answer of `findDoFile`, with the world in which the script starts (`startW`) and the end of the job
(`ssRecord`) named. -/
theorem ssBuild_startW (E : Engine) (d : Defects) (cx : Ctx) (t : Nat) (sf : Rec) (w : World) :
    ssBuild E d cx t sf w =
      match prepW w t with
      | (none, w2) =>
        if existsF w2 t then (0, setRec w2 t (setStatic w2 t sf cx.runid)) else (1, setRec w2 t (setFailed w2 t sf cx.runid))
      | (some dof, w2) =>
        ssRecord cx t sf (runScript E d cx t (scriptAt (startW w2 cx.runid t dof) dof) (startW w2 cx.runid t dof)) := rfl

/-- Rows of `t` survive the conditional declarations and the `redo-ifchange` commands of a successful script. -/
theorem tail_keep {rank R X t w5} {sc : Script} {wI wC : World}
    (cp : CondsPost rank R X t sc.cond wI ((0 : Status), wC)) (hbC5 : BExt rank R (rank t) (some t) wC w5)
    (hdecl : RowsDecl t sc.ifchange.flatten wC w5) (hgood : ∀ d ∈ sc.ifchange.flatten, Good w5 R d)
    (hi5 : Inv rank R X w5) :
    (∀ s, HasRowU wI t s false → existsF wI s = false → wI.rules s = [] → s ≠ alwaysId → HasRowU w5 t s false) ∧
    (∀ s, HasRowU wI t s true → (s ∈ sc.cond → existsF wI s = true) → HasRowU w5 t s true) := by
  have hr5 : w5.rules = wI.rules := hbC5.rules.trans cp.bext.rules
  have hfs5 : ∀ x, wI.rules x = [] → w5.fs x = wI.fs x := fun x hx =>
    (hbC5.plain x (by rw [cp.bext.rules]; exact hx)).trans (cp.bext.plain x hx)
  constructor
  · intro s hr hab hp h0
    have h1 := cp.decl.2 s false hr (fun hin => by
      have := (List.mem_filter.1 hin).2; rw [hab] at this; cases this) (fun _ => rfl)
    refine hdecl.2 s false h1 (fun hin => ?_)
    exact absurd (hgood s hin) (absent_not_good hi5 (by rw [hr5]; exact hp) h0
      (by rw [existsF_congr (hfs5 s hp)]; exact hab))
  · intro s hr hc
    have h1 := cp.decl.2 s true hr (fun _ => rfl) (fun hin => by
      have h2 := List.mem_filter.1 hin
      have := hc h2.1
      rw [this] at h2; simp at h2)
    exact hdecl.2 s true h1 (fun _ => rfl)

/-- From the start of the script to the end of its `redo-always` / `redo-ifcreate` declarations. -/
structure HeadPhase (rank : Nat → Nat) (R t : Nat) (sc : Script) (w2 wI : World) : Prop where
  bext : BExt rank R (rank t) (some t) w2 wI
  decl : RowsDecl2 t (if sc.always then [alwaysId] else []) sc.ifcreate w2 wI
  alw : sc.always = true → Good wI R alwaysId ∧ HasRowU wI t alwaysId true
  ic : ∀ d ∈ sc.ifcreate, existsF w2 d = false ∧ HasRowU wI t d false

/-- The head of the script put together: `startW` (from `w2` to `w4`), `redo-always` (to `wA`), the `redo-ifcreate`
declarations, of files that do not exist (to `wI`). -/
theorem HeadPhase.mk' {rank R t sc w2 w4 wA wI}
    (hb4 : BExt rank R (rank t) (some t) w2 w4) (hdeps : w4.deps = w2.deps)
    (hbA : BExt rank R (rank t) (some t) w4 wA) (hdeclA : RowsDecl t (if sc.always then [alwaysId] else []) w4 wA)
    (halw : sc.always = true → Good wA R alwaysId ∧ HasRowU wA t alwaysId true)
    (hic : sc.ifcreate.any (fun f => existsF wA f) = false)
    (hroI : RowOp t wA wI) (hdeclI : RowsDecl2 t [] sc.ifcreate wA wI) (hrowsI : ∀ d ∈ sc.ifcreate, HasRowU wI t d false)
    (hyg : ∀ d ∈ sc.ifcreate, w2.rules d = [] ∧ d ≠ alwaysId) : HeadPhase rank R t sc w2 wI := by
  have hbA : BExt rank R (rank t) (some t) w2 wA := hb4.trans hbA
  refine ⟨hbA.trans hroI.toBExtP, ?_, fun ha => ⟨(hroI.good R _).2 (halw ha).1, ?_⟩, fun d hd => ⟨?_, hrowsI d hd⟩⟩
  · have h1 : RowsDecl2 t (if sc.always then [alwaysId] else []) [] w2 wA := by
      have := hdeclA.to2
      unfold RowsDecl2 HasRowU at this ⊢
      rw [hdeps] at this; exact this
    have := h1.trans hdeclI
    simpa using this
  · exact hdeclI.2 alwaysId true (halw ha).2 (fun h => by cases h) (fun hin => absurd rfl (hyg _ hin).2)
  · have h1 : existsF wA d = false := by
      have := List.any_eq_false.1 hic d hd
      simpa using this
    rw [← existsF_congr (hbA.plain d (hyg d hd).1)]; exact h1

theorem RanOk.asm {rank R X t dof sc w2 wI wC w5} (hp : HeadPhase rank R t sc w2 wI)
    (cp : CondsPost rank R X t sc.cond wI ((0 : Status), wC)) (hi5 : Inv rank R X w5)
    (hbC5 : BExt rank R (rank t) (some t) wC w5) (hdecl : RowsDecl t sc.ifchange.flatten wC w5)
    (hok : ∀ d ∈ sc.ifchange.flatten, Good w5 R d ∧ HasRowU w5 t d true)
    (hyg : ∀ d, (d ∈ sc.cond ∨ d ∈ sc.ifcreate) → w2.rules d = [] ∧ d ≠ alwaysId)
    (hgI : Good wI R dof) (hscI : scriptAt wI dof = sc) (hdP : w2.rules dof = [])
    (hexit : sc.exit = 0) (hfn : failNowOf w5 sc = false) : RanOk rank R t dof sc w2 w5 := by
  have hbI5 : BExt rank R (rank t) (some t) wI w5 := cp.bext.trans hbC5
  have hb5 : BExt rank R (rank t) (some t) w2 w5 := hp.bext.trans hbI5
  have hrI : wI.rules = w2.rules := hp.bext.rules
  have hexI : ∀ x, w2.rules x = [] → existsF wI x = existsF w2 x := fun x hx => existsF_congr (hp.bext.plain x hx)
  have hex5 : ∀ x, w2.rules x = [] → existsF w5 x = existsF w2 x := fun x hx => existsF_congr (hb5.plain x hx)
  obtain ⟨kC, kM⟩ := tail_keep cp hbC5 hdecl (fun d hd => (hok d hd).1) hi5
  have hD := (hp.decl.trans cp.decl).trans hdecl.to2
  have hcond : ∀ d ∈ sc.cond, (Good w5 R d ∧ HasRowU w5 t d true) ∨ (existsF w5 d = false ∧ HasRowU w5 t d false) := by
    intro d hd
    have hpd := (hyg d (Or.inl hd)).1
    cases he : existsF wI d with
    | true =>
      obtain ⟨g, r⟩ := cp.okM rfl d hd he
      exact Or.inl ⟨hbC5.good g, hdecl.2 d true r (fun _ => rfl)⟩
    | false =>
      have h5 : existsF w5 d = false := by rw [hex5 d hpd, ← hexI d hpd]; exact he
      refine Or.inr ⟨h5, hdecl.2 d false (cp.okC rfl d hd he) (fun hin => ?_)⟩
      exact absurd (hok d hin).1 (absent_not_good hi5 (by rw [hb5.rules]; exact hpd) (hyg d (Or.inl hd)).2 h5)
  refine RanOk.mk' hi5 hb5.rules hb5.plain hD ?_ ?_ (hbI5.good hgI) ?_ hexit hfn hok ?_ ?_ hcond
  · intro s hs
    rcases List.mem_append.1 hs with hs | hs
    · rcases List.mem_append.1 hs with hs | hs
      · cases ha : sc.always with
        | false => rw [ha] at hs; simp at hs
        | true =>
          rw [ha] at hs; simp only [if_true, List.mem_singleton] at hs; subst hs
          exact hbI5.good (hp.alw ha).1
      · have h2 := List.mem_filter.1 hs
        exact hbC5.good (cp.okM rfl s h2.1 h2.2).1
    · exact (hok s hs).1
  · intro s hs
    rcases List.mem_append.1 hs with hs | hs
    · rcases List.mem_append.1 hs with hs | hs
      · exact ⟨(hp.ic s hs).1, (hyg s (Or.inr hs)).1⟩
      · have h2 := List.mem_filter.1 hs
        have hpd := (hyg s (Or.inl h2.1)).1
        exact ⟨by rw [← hexI s hpd]; simpa using h2.2, hpd⟩
    · cases hs
  · rw [← hscI]
    exact scriptAt_congr (hbI5.plain dof (by rw [hrI]; exact hdP)) hbI5.progs
  · intro ha
    exact kM alwaysId (hp.alw ha).2 (fun hin => absurd rfl (hyg _ (Or.inl hin)).2)
  · intro d hd
    have hpd := (hyg d (Or.inr hd)).1
    exact ⟨by rw [hex5 d hpd]; exact (hp.ic d hd).1,
      kC d (hp.ic d hd).2 (by rw [hexI d hpd]; exact (hp.ic d hd).1) (by rw [hrI]; exact hpd) (hyg d (Or.inr hd)).2⟩

/-- What a run of the script `sc` of `t` (chosen .do file `dof`) guarantees, started in `w2`. -/
structure RunPost (rank : Nat → Nat) (R : Nat) (X : Nat → Prop) (t dof : Nat) (sc : Script) (w2 : World)
    (res : Status × Option Content × World) : Prop where
  inv : Inv rank R (addX X t) res.2.2
  bext : BExt rank R (rank t) (some t) w2 res.2.2
  notCrashed : res.1 ≠ CRASHED
  noFail : NoFail R w2 → res.1 = 0 → NoFail R res.2.2
  ok : res.1 = 0 → res.2.1 = outOf res.2.2 sc ∧ RanOk rank R t dof sc w2 res.2.2

theorem RunPost.fail {rank R X t dof sc w2 w'} (hi : Inv rank R (addX X t) w')
    (hb : BExt rank R (rank t) (some t) w2 w') (rv : Status) (h0 : rv ≠ 0) (hc : rv ≠ CRASHED) (out : Option Content) :
    RunPost rank R X t dof sc w2 (rv, out, w') :=
  ⟨hi, hb, hc, fun _ h => absurd h h0, fun h => absurd h h0⟩

/-- The end of the script, after the `redo-ifchange` commands returned `(rv, w5)`. -/
theorem RunPost.finish {rank R X t dof sc w2 wI wC w5} {rv : Status} (hp : HeadPhase rank R t sc w2 wI)
    (cp : CondsPost rank R (addX X t) t sc.cond wI ((0 : Status), wC)) (a1 : Inv rank R (addX X t) w5)
    (a2 : BExt rank R (rank t) (some t) wC w5) (a3 : RowsDecl t sc.ifchange.flatten wC w5)
    (a4 : rv = 0 → ∀ d ∈ sc.ifchange.flatten, Good w5 R d ∧ HasRowU w5 t d true)
    (a5 : NoFail R w2 → rv = 0 → NoFail R w5) (a6 : rv ≠ CRASHED)
    (hyg : ∀ d, (d ∈ sc.cond ∨ d ∈ sc.ifcreate) → w2.rules d = [] ∧ d ≠ alwaysId)
    (hgI : Good wI R dof) (hscI : scriptAt wI dof = sc) (hdP : w2.rules dof = []) :
    RunPost rank R X t dof sc w2 (scriptEnd sc (rv, w5)) := by
  have hb5 : BExt rank R (rank t) (some t) w2 w5 := hp.bext.trans (cp.bext.trans a2)
  unfold scriptEnd
  by_cases hrv : rv = 0
  · subst hrv
    simp only [ne_eq, not_true_eq_false, if_false]
    cases hfn : failNowOf w5 sc with
    | true => simp only [if_true]; exact RunPost.fail a1 hb5 1 one_ne_zero_status one_ne_crashed none
    | false =>
      simp only [Bool.false_eq_true, if_false]
      have hexc : ((sc.exit : Nat) : Int) ≠ CRASHED := by
        have : (0 : Int) ≤ (sc.exit : Int) := Int.natCast_nonneg _
        intro h; rw [h] at this; exact absurd this (by decide)
      refine ⟨a1, hb5, hexc, fun h _ => a5 h rfl, fun hz => ⟨rfl, ?_⟩⟩
      exact RanOk.asm hp cp a1 a2 a3 (a4 rfl) hyg hgI hscI hdP (Int.natCast_eq_zero.1 hz) hfn
  · simp only [ne_eq, hrv, not_false_eq_true, if_true]
    exact RunPost.fail a1 hb5 rv hrv a6 none

theorem CondsPost.weakenX {rank R t fs w res} {X X' : Nat → Prop} (h : CondsPost rank R X t fs w res)
    (hx : ∀ x, X x → X' x) : CondsPost rank R X' t fs w res :=
  ⟨h.inv.weaken hx, h.bext, h.decl, h.okM, h.okC, h.noFail, h.notCrashed⟩

/-- The script from `wI` on (conditional declarations, `redo-ifchange` commands, the end): killed, or `RunPost`. -/
theorem ssb_run_tail {k rank R E t dof w2 wI} {cx : Ctx} {X : Nat → Prop} {sc : Script} (hE : ESpecG k rank R E)
    (hT : k → ETr E) (hcx : cx.runid = R) (hm : KillMode k cx.crash wI) (hnw : k → sc.cond = [])
    (hXa' : ∀ x, addXk k X t x → rank t ≤ rank x)
    (hp : HeadPhase rank R t sc w2 wI) (c1 : Inv rank R (addXk k X t) wI) (hngI : ¬ Good wI R t)
    (hgI : Good wI R dof) (hscI : scriptAt wI dof = sc) (hra : sc.Rich) (hdP : w2.rules dof = [])
    (hnI : NoFail R w2 → NoFail R wI)
    (hrk2 : ∀ d, (d ∈ sc.ifchange.flatten ∨ d ∈ sc.cond ∨ d ∈ sc.ifcreate) → rank d < rank t ∧ d ≠ alwaysId)
    (hrk3 : ∀ d, (d ∈ sc.cond ∨ d ∈ sc.ifcreate) → w2.rules d = []) :
    Killed k rank R (addXk k X t) w2 ((rsBody E cx t sc wI).1, (rsBody E cx t sc wI).2.2) ∨
    RunPost rank R X t dof sc w2 (rsBody E cx t sc wI) := by
  have hXt := addXk_open k X t
  rw [rsBody_rich _ _ _ _ _ hra.1]
  have hcp := conds_spec (cx' := childCx cx t) hE hT hcx rfl rfl rfl rfl hXa' sc.cond wI hXt hnw hm c1 hngI
    (fun x hx => ⟨hrk2 x (Or.inr (Or.inl hx)), (by rw [hp.bext.rules]; exact hrk3 x (Or.inl hx))⟩)
  have hmC : KillMode k cx.crash (runScript.conds E t (childCx cx t) sc.cond wI).2 := by
    refine hm.tr (fun hk => ?_)
    rw [hnw hk]; exact RowsTr.refl _
  generalize runScript.conds E t (childCx cx t) sc.cond wI = rc at hcp hmC ⊢
  obtain ⟨rvc, wC⟩ := rc
  have hne : CRASHED ≠ (0 : Status) := fun h => zero_ne_crashed h.symm
  rcases hcp with ⟨k0, k1, k2, k3, k4⟩ | cp
  · left
    dsimp only at k1 k2 k3 k4
    subst k1
    simp only [ne_eq, hne, not_false_eq_true, if_true]
    exact ⟨k0, rfl, k2, k3.trans hp.bext.rc, k4.trans hp.bext.rules⟩
  by_cases hrvc : rvc = 0
  · subst hrvc
    simp only [ne_eq, not_true_eq_false, if_false]
    have hngC : ¬ Good wC R t := fun h => hngI (((cp.bext.sameT (Nat.le_refl _)).good R).1 h)
    have hbC := hp.bext.trans cp.bext
    rcases cmds_spec (cx := cx) (cx' := childCx cx t) hE hT hcx rfl rfl rfl rfl hXt hXa' sc.ifchange 0 wC hmC cp.inv hngC
      (fun c hc x hx => hrk2 x (Or.inl (List.mem_flatten.2 ⟨c, hc, hx⟩))) with hk | a
    · left
      generalize runScript.cmds E cx t (childCx cx t) sc.ifchange 0 wC = r at hk ⊢
      obtain ⟨rv, w5⟩ := r
      obtain ⟨k0, k1, k2, k3, k4⟩ := hk
      dsimp only at k1 k2 k3 k4
      subst k1
      simp only [scriptEnd, ne_eq, hne, not_false_eq_true, if_true]
      exact ⟨k0, rfl, k2, k3.trans hbC.rc, k4.trans hbC.rules⟩
    · right
      generalize runScript.cmds E cx t (childCx cx t) sc.ifchange 0 wC = r at a ⊢
      obtain ⟨rv, w5⟩ := r
      exact RunPost.finish hp (cp.weakenX addXk_sub) (a.post.inv.weaken addXk_sub) a.post.frame a.decl a.post.ok
        (fun h hz => a.post.keep (cp.noFail (hnI h) rfl) hz) a.post.notCrashed
        (fun x hx => ⟨hrk3 x hx, (hrk2 x (Or.inr hx)).2⟩) hgI hscI hdP
  · simp only [ne_eq, hrvc, not_false_eq_true, if_true]
    exact Or.inr (RunPost.fail (cp.inv.weaken addXk_sub) (hp.bext.trans cp.bext) rvc hrvc cp.notCrashed none)

/-- The world in which the script starts: the .do file is recorded as the user's (it is good now), nothing else
that the invariant looks at has changed. -/
theorem startW_spec {rank R t dof w2} {X : Nat → Prop} (hi2 : Inv rank R X w2) (hdm : dof ∈ w2.rules t)
    (hdex : existsF w2 dof = true) :
    Inv rank R X (startW w2 R t dof) ∧ Good (startW w2 R t dof) R dof ∧
    BExt rank R (rank t) (some t) w2 (startW w2 R t dof) ∧ (startW w2 R t dof).deps = w2.deps ∧
    (NoFail R w2 → NoFail R (startW w2 R t dof)) := by
  have hdP : w2.rules dof = [] := (hi2.base.rulesOk.2 t dof hdm).1
  obtain ⟨hi3, hg3, hb3, hn3⟩ := setStatic_spec (b := rank t) (po := some t) hi2 hdex
    (hi2.base.srcNotGen dof hdP) (hi2.base.ranked.1 t dof hdm)
  have e4 := WEqv.ev (setRec w2 dof (setStatic w2 dof (w2.recs dof) R)) (.ran t)
  exact ⟨e4.inv hi3, (e4.good R dof).2 hg3, hb3.trans e4.toBExt, rfl, fun h => (hn3 h).eqv e4⟩

/-- The whole run of the script chosen for `t`, from `w2`: killed, or `RunPost`. -/
theorem ssb_run {k rank R E t dof w2} {cx : Ctx} {X : Nat → Prop} (hE : ESpecG k rank R E) (hT : k → ETr E)
    (d : Defects) (hcx : cx.runid = R) (hm : KillMode k cx.crash w2) (hi2 : Inv rank R (addXk k X t) w2)
    (hng2 : ¬ Good w2 R t) (hXa : ∀ x, X x → rank t < rank x) (hdm : dof ∈ w2.rules t) (hdex : existsF w2 dof = true) :
    Killed k rank R X w2 ((runScript E d cx t (scriptAt (startW w2 R t dof) dof) (startW w2 R t dof)).1,
      (runScript E d cx t (scriptAt (startW w2 R t dof) dof) (startW w2 R t dof)).2.2) ∨
    RunPost rank R X t dof (scriptAt (startW w2 R t dof) dof) w2
      (runScript E d cx t (scriptAt (startW w2 R t dof) dof) (startW w2 R t dof)) := by
  have hXa' : ∀ x, addXk k X t x → rank t ≤ rank x :=
    fun x hx => hx.elim (fun h => Nat.le_of_lt (hXa x h)) (fun h => by rw [h.1]; exact Nat.le_refl _)
  have hdP : w2.rules dof = [] := (hi2.base.rulesOk.2 t dof hdm).1
  obtain ⟨hi4, hg4, hb4, hdeps, hn4⟩ := startW_spec hi2 hdm hdex
  have hm4 : KillMode k cx.crash (startW w2 R t dof) := hm.tr (fun _ => (RowsTr.setRec _ _ _).trans (RowsTr.ev _ _))
  generalize startW w2 R t dof = w4 at hi4 hg4 hb4 hdeps hn4 hm4 ⊢
  have hng4 : ¬ Good w4 R t := fun h => hng2 (((hb4.sameT (Nat.le_refl _)).good R).1 h)
  have hra := scriptAt_rich hi4.base dof
  obtain ⟨hrk1, hrk2, hrk3⟩ := scriptAt_hyg hi4.base (t := t) (dof := dof) (by rw [hb4.rules]; exact hdm)
  have hnw : k → (scriptAt w4 dof).ifcreate = [] ∧ (scriptAt w4 dof).cond = [] :=
    fun hk => scriptAt_noWatch (hm4.side hk).noWatch dof
  rw [hb4.rules] at hrk3
  generalize hsc : scriptAt w4 dof = sc at hra hrk1 hrk2 hrk3 hnw ⊢
  rw [runScript_eq]
  have ho4 : RowsOpen (addXk k X t) w4 t := (addXk_open k X t).imp id hm4.side
  obtain ⟨b1, b2, b3, b4, b5⟩ := rsAlways_spec (cx := cx) sc hcx hi4 ho4 hng4 hrk1
  have hmA : KillMode k cx.crash (rsAlways cx t sc w4) := hm4.tr (fun _ => rsAlways_tr cx t sc w4)
  have hngA : ¬ Good (rsAlways cx t sc w4) R t := fun h => hng4 (((b2.sameT (Nat.le_refl _)).good R).1 h)
  have hbA : BExt rank R (rank t) (some t) w2 (rsAlways cx t sc w4) := hb4.trans b2
  cases hic : sc.ifcreate.any (fun f => existsF (rsAlways cx t sc w4) f) with
  | true =>
    simp only [if_true]
    exact Or.inr (RunPost.fail (b1.weaken addXk_sub) hbA 1 one_ne_zero_status one_ne_crashed none)
  | false =>
    simp only [Bool.false_eq_true, if_false]
    obtain ⟨c1, c2, c3, c4⟩ := declareC_spec (rank := rank) (R := R) sc.ifcreate (rsAlways cx t sc w4)
      ((addXk_open k X t).imp id (fun hk => (hnw hk).1)) b1 hngA
      (fun x hx => ⟨hrk2 x (Or.inr (Or.inr hx)), (by rw [hbA.rules]; exact hrk3 x (Or.inr hx))⟩)
    have hp : HeadPhase rank R t sc w2 (declareC t sc.ifcreate (rsAlways cx t sc w4)) :=
      HeadPhase.mk' hb4 hdeps b2 b3 b4 hic c2 c3 c4
        (fun x hx => ⟨hrk3 x (Or.inr hx), (hrk2 x (Or.inr (Or.inr hx))).2⟩)
    have hmI : KillMode k cx.crash (declareC t sc.ifcreate (rsAlways cx t sc w4)) := by
      refine hmA.tr (fun hk => ?_)
      rw [(hnw hk).1]; exact RowsTr.refl _
    exact (ssb_run_tail hE hT hcx hmI (fun hk => (hnw hk).2) hXa' hp c1 (fun h => hngA ((c2.good R t).1 h))
      ((c2.good R dof).2 (b2.good hg4))
      ((scriptAt_congr ((congrFun c2.fs dof).trans (b2.plain dof (by rw [hb4.rules]; exact hdP)))
        (c2.progs.trans b2.progs)).trans hsc)
      hra hdP (fun h => ((b5 (hn4 h)).eqv c2.eqv :
        NoFail R { declareC t sc.ifcreate (rsAlways cx t sc w4) with deps := (rsAlways cx t sc w4).deps })) hrk2 hrk3).imp
      Killed.drop id

/-! ### `ssBuild` when a .do file is found: recording the failure or the success. -/

theorem zapDeps2_off (w : World) (t : Nat) (r : Rec) : OffT t w (setRec (zapDeps2 w t) t r) :=
  (Deps.zapDeps2_off w t r).toRich

theorem ssb_fail {rank R t w w2 w5 b dof} {X : Nat → Prop} {cx : Ctx} {sf : Rec} (hsf : StaleOk w t sf)
    (hcx : cx.runid = R) (hng : ¬ Good w R t)
    (hro : RowOp t w w2) (hi5 : Inv rank R (addX X t) w5) (hb5 : BExt rank R (rank t) (some t) w2 w5)
    (hdm : dof ∈ w.rules t) (hlt : rank t < b) (po : Option Nat) (rv : Status) (out : Option Content)
    (hrv : rv ≠ 0) (hnc : rv ≠ CRASHED) :
    JobPost rank R X t b po w (recordNewState cx t sf rv out w5) := by
  rw [recordFail_eq _ _ _ _ _ _ hrv, hcx]
  have hst : SameT t w w5 := (hro.sameT t).trans (hb5.sameT (Nat.le_refl _))
  have hng5 : ¬ Good w5 R t := fun h => hng ((hst.good R).1 h)
  have hr5 : w5.rules t ≠ [] := by
    rw [hb5.rules, hro.rules]; intro h; rw [h] at hdm; simp at hdm
  have h0 : t ≠ alwaysId := fun e => hr5 (e ▸ hi5.base.rulesOk.1)
  obtain ⟨a1, a2, _⟩ := setFailed_spec (b := b) (po := po) (X' := X) hi5 h0 hng5 addX_drop
    (zapDeps2_off w5 t _) rfl (zapDeps2_sub w5 t _)
    (by simpa using (hsf.sameT hst).setFailed R) (fun h => absurd h hr5) hlt
  have hb05 : BExt rank R b po w w5 := (hro.toBExt hlt).trans (hb5.lift hlt)
  exact StepPost.fail a1 (hb05.trans a2) hrv hnc

theorem notMarked {rank R X w t} (hi : Inv rank R X w) (hng : ¬ Good w R t) (hnf : (w.recs t).failed ≠ some R) :
    isCheckedR (w.recs t) R = false ∧ isChangedR (w.recs t) R = false := by
  have hb := hi.base
  refine ⟨Bool.eq_false_iff.2 (fun h => ?_), Bool.eq_false_iff.2 (fun h => ?_)⟩
  · have hc := (isCheckedR_iff hi.Rpos (hb.ckLe t)).1 h
    exact hng (Or.inl ⟨hb.ckFail t hc, Or.inl hc⟩)
  · have hc := (isChangedR_iff hi.Rpos (hb.chLe t)).1 h
    rcases hb.markFail t hc with h | h
    · exact hng (Or.inl ⟨h, Or.inr hc⟩)
    · exact hnf h

theorem ssb_built {rank R t w w2 w5 dof sc pre post} {X : Nat → Prop} (hi : Inv rank R X w) (hng : ¬ Good w R t)
    (hro : RowOp t w w2) (hr : w.rules t = pre ++ dof :: post) (hpre : ∀ c ∈ pre, existsF w c = false)
    (hdex : existsF w dof = true)
    (hshape : ∀ d ∈ w2.deps, d.target = t → d.deleteMe = false → DoRow w (some dof) d)
    (hrows : (∀ c ∈ pre, HasRowU w2 t c false) ∧ HasRowU w2 t dof true)
    (hi5 : Inv rank R (addX X t) w5) (hb5 : BExt rank R (rank t) (some t) w2 w5)
    (ran : RanOk rank R t dof sc w2 w5) : Built rank R t pre dof post sc w5 := by
  have hst : SameT t w w5 := (hro.sameT t).trans (hb5.sameT (Nat.le_refl _))
  have hrules : w5.rules = w.rules := hb5.rules.trans hro.rules
  have hplain : ∀ x, w.rules x = [] → w5.fs x = w.fs x := fun x hx =>
    (hb5.plain x (by rw [hro.rules]; exact hx)).trans (congrFun hro.fs x)
  have hcand : ∀ c ∈ w.rules t, w5.fs c = w.fs c := fun c hc => hplain c (hi.base.rulesOk.2 t c hc).1
  refine ⟨fun h => hng ((hst.good R).1 h), by rw [hrules]; exact hr, ?_, ?_, ?_, ran.dofGood, ran.script, ran.exit,
    ran.noFail, ran.decl, ran.alw, ran.ic, ran.cond, ?_⟩
  · intro c hc
    have hcm : c ∈ w.rules t := by rw [hr]; simp [hc]
    have hc0 : c ≠ alwaysId := (hi.base.rulesOk.2 t c hcm).2.1
    have habs : existsF w5 c = false := by rw [existsF_congr (hcand c hcm)]; exact hpre c hc
    exact ⟨habs, ran.keepC c (hrows.1 c hc) (by rw [hro.existsF]; exact hpre c hc)
      (by rw [hro.rules]; exact (hi.base.rulesOk.2 t c hcm).1) hc0⟩
  · rw [existsF_congr (hcand dof (by rw [hr]; simp))]; exact hdex
  · exact ran.keepM dof hrows.2 (by rw [hro.existsF]; exact hdex)
  · intro d hd hdt hdm
    rcases ran.newRows d hd hdt with h | ⟨_, h2, h3⟩
    · obtain ⟨_, s1, s2⟩ := hshape d h hdt hdm
      refine ⟨fun hm => ?_, fun hm => ?_⟩
      · have hsP : w.rules d.source = [] := by rw [← hrules]; exact (hi5.base.cPlain d hd hm).1
        rw [existsF_congr (hplain _ hsP)]; exact s1 hm
      · rw [← Option.some.inj (s2 hm)]; exact ran.dofGood
    · exact ⟨h3, h2⟩

/-! ### `ssBuild` and `startSelf` for a target that is not good. -/

theorem ssb_ok {rank R t w w2 w5 b dof sc pre post} {X : Nat → Prop} {cx : Ctx} (sf : Rec) (hcx : cx.runid = R)
    (hro : RowOp t w w2)
    (built : Built rank R t pre dof post sc w5) (hi5 : Inv rank R (addX X t) w5)
    (hb5 : BExt rank R (rank t) (some t) w2 w5) (hlt : rank t < b) (po : Option Nat)
    (hnf5 : NoFail R w → NoFail R w5) :
    JobPostW rank R X t b po w (recordNewState cx t sf 0 (outOf w5 sc) w5) := by
  have hst : SameT t w w5 := (hro.sameT t).trans (hb5.sameT (Nat.le_refl _))
  have hb05 : BExt rank R b po w w5 := (hro.toBExt hlt).trans (hb5.lift hlt)
  cases hm : (isCheckedR (w5.recs t) cx.runid || isChangedR (w5.recs t) cx.runid) with
  | false =>
    simp only [Bool.or_eq_false_iff] at hm
    obtain ⟨h0, hf⟩ := recordOk_fields cx t sf (outOf w5 sc) w5 hm.1 hm.2
    rw [hcx] at hf
    obtain ⟨a1, a2, a3, a4⟩ := recordOk_spec (b := b) (po := po) (X' := X) hi5 addX_drop built hf hlt
    refine ⟨a1, hb05.trans a3, fun _ _ => Or.inl a2, fun h _ => a4 (hnf5 h), ?_⟩
    rw [h0]; exact zero_ne_crashed
  | true =>
    obtain ⟨h0, hf⟩ := recordKeep_fields cx t sf (outOf w5 sc) w5 hm
    rw [hcx] at hm
    have hb := hi5.base
    have hnck : isCheckedR (w5.recs t) R = false := Bool.eq_false_iff.2 (fun hx => by
      have hc := (isCheckedR_iff hi5.Rpos (hb.ckLe t)).1 hx
      exact built.notGood (Or.inl ⟨hb.ckFail t hc, Or.inl hc⟩))
    rw [hnck, Bool.false_or] at hm
    have hchg : (w5.recs t).changed = some R := (isChangedR_iff hi5.Rpos (hb.chLe t)).1 hm
    have hfl : (w5.recs t).failed = some R := by
      rcases hb.markFail t hchg with h | h
      · exact absurd (Or.inl ⟨h, Or.inr hchg⟩) built.notGood
      · exact h
    obtain ⟨a1, a2, a3⟩ := recordKeep_spec (b := b) (po := po) (X' := X) hi5 built.notGood addX_drop hfl hchg
      (built.ne hi5).1 hf hlt
    have hfl0 : (w.recs t).failed = some R := by rw [← hst.flds.failed]; exact hfl
    refine ⟨a1, hb05.trans a2, fun _ h => absurd hfl0 h, fun h _ => absurd hfl0 (h t), ?_⟩
    rw [h0]; exact zero_ne_crashed

/-- After the preparation of the build of `t` that found a .do file: with `k`, `t` is released again at once
(with one .do candidate `findDoFile` only re-added its `m` row, and the old record keeps its promise). -/
theorem prep_open {k rank R X t w dof} {c : Option (Nat × Nat)} (hm : KillMode k c w) (hi : Inv rank R X w)
    (p2 : Inv rank R (addX X t) (prepW w t).2) (h : (prepW w t).1 = some dof) :
    Inv rank R (addXk k X t) (prepW w t).2 := by
  by_cases hk : k
  · by_cases hx : X t
    · exact p2.weaken (fun x h => h.elim Or.inl (fun e => Or.inl (e ▸ hx)))
    · have hS := hm.side hk
      have hk1 : SK (zapDeps1 w t) := hS.tr (RowsTr.zapDeps1 w t)
      refine (p2.release ?_).weaken (fun _ => Or.inl)
      rw [show (prepW w t).2 = _ from findDoFile_single (hk1.single t) h]
      exact KeepT_addDep hk1 (KeepT_zapDeps1 hS (hi.base.keepT hx))
  · exact p2.weaken (fun x h => h.imp id (fun e => ⟨e, hk⟩))

theorem ssBuild_spec {k rank R E t w b} {cx : Ctx} {X : Nat → Prop} (hE : ESpecG k rank R E) (hT : k → ETr E)
    (d : Defects) (hcx : cx.runid = R) (hm : KillMode k cx.crash w) (hi : Inv rank R X w) (h0 : t ≠ alwaysId)
    (hng : ¬ Good w R t) (hXa : ∀ x, X x → rank t < rank x) (hlt : rank t < b) (po : Option Nat) {sf : Rec}
    (hsf : StaleOk w t sf) :
    Out k rank R X b po (fun w' => (w.recs t).failed ≠ some R → Good w' R t) w (ssBuild E d cx t sf w) := by
  subst hcx
  obtain ⟨p1, p2, p3, p4, p5⟩ := ssb_prep hi hng
  have po2 := fun dof => prep_open (k := k) (t := t) (dof := dof) hm hi p2
  have pm : KillMode k cx.crash (prepW w t).2 :=
    hm.tr (fun _ => (RowsTr.zapDeps1 w t).trans (RowsTr.findDoFile t ((zapDeps1 w t).rules t) (zapDeps1 w t) (fun _ h => h)))
  rw [ssBuild_startW]
  generalize prepW w t = fr at p1 p2 p3 p4 p5 po2 pm ⊢
  obtain ⟨o, w2⟩ := fr
  dsimp only at p1 p2 p3 p4 p5 po2 pm
  cases o with
  | none =>
    simp only
    exact Or.inr (ssb_none hsf h0 hng p2 p3 hlt).weak
  | some dof =>
    simp only
    have hdm : dof ∈ w.rules t := (firstEx_mem _ _ p1.symm).1
    have run := ssb_run (E := E) (cx := cx) hE hT d rfl pm (po2 dof rfl) (fun h => hng ((p3.good _ t).1 h)) hXa
      (dof := dof) (by rw [p3.rules]; exact hdm)
      (by rw [p3.existsF]; exact (firstEx_mem _ _ p1.symm).2)
    generalize scriptAt (startW w2 cx.runid t dof) dof = sc at run ⊢
    generalize runScript E d cx t sc (startW w2 cx.runid t dof) = res at run ⊢
    unfold ssRecord
    obtain ⟨rv, out, w5⟩ := res
    rcases run with ⟨k0, k1, k2, k3, k4⟩ | ⟨r1, r2, r3, r4, r5⟩
    · left
      dsimp only at k1 k2 k3 k4 ⊢
      subst k1
      simp only [if_true]
      exact ⟨k0, rfl, k2, k3.trans p3.eqv.rc, k4.trans p3.rules⟩
    right
    dsimp only at r1 r2 r3 r4 r5 ⊢
    simp only [r3, if_false]
    by_cases hrv : rv = 0
    · subst hrv
      obtain ⟨hout, ran⟩ := r5 rfl
      obtain ⟨pre, post, hr, hpre, hdex⟩ := firstEx_some_split _ _ p1.symm
      have built := ssb_built hi hng p3 hr hpre hdex (by rw [p1]; exact p4) (p5 pre dof post hr hpre hdex) r1 r2 ran
      rw [hout]
      exact ssb_ok sf rfl p3 built r1 r2 hlt po
        (fun h => r4 ((h.eqv p3.eqv : NoFail cx.runid { w2 with deps := w.deps })) rfl)
    · exact (ssb_fail hsf rfl hng p3 r1 r2 hdm hlt po _ _ hrv r3).weak

theorem WEqv.override_world (w : World) (t : Nat) (r : Rec) (e : Ev) :
    WEqv (setRec w t r) (setRec (setRec (Deps.ev w e) t r) t r) := by
  refine .of_flds rfl rfl rfl rfl rfl rfl (fun x => ?_)
  by_cases h : x = t <;> simp [setRec, Deps.ev, h, Flds.refl]

/-- The guard of `start_self` fires: the existing file of a generated target was edited (or is a known override). -/
theorem startSelf_override {rank R t w b} {X : Nat → Prop} (po : Option Nat) (e : Ev) (hi : Inv rank R X w)
    (hex : existsF w t = true) (hgen : (w.recs t).isGenerated = true)
    (hgg : Good w R t → genT (w.recs t) = false) (hlt : rank t < b) :
    JobPostW rank R X t b po w
      ((0 : Status), setRec (setRec (ev w e) t (setOverride w t (w.recs t) R)) t (setOverride w t (w.recs t) R)) := by
  have hgg' : Good w R t → (w.recs t).isOverride = true := by
    intro hg
    rcases genT_false.1 (hgg hg) with h | h
    · rw [hgen] at h; cases h
    · exact h
  obtain ⟨a1, a2, a3, a4⟩ := setOverride_spec (b := b) (po := po) hi hex hgen hgg' hlt
  have ew := WEqv.override_world w t (setOverride w t (w.recs t) R) e
  exact ⟨ew.inv a1, a3.trans ew.toBExt, fun _ _ => (ew.good R t).2 a2, fun h _ => (a4 h).eqv ew, zero_ne_crashed⟩

theorem startSelf_spec_cur {k rank R E t w b} {cx : Ctx} {X : Nat → Prop} (hE : ESpecG k rank R E) (hT : k → ETr E)
    (d : Defects) (hcx : cx.runid = R) (hm : KillMode k cx.crash w) (hi : Inv rank R X w) (h0 : t ≠ alwaysId)
    (hgg : Good w R t → genT (w.recs t) = false) (hngB : existsF w t = false → ¬ Good w R t)
    (hXa : ∀ x, X x → rank t < rank x) (hlt : rank t < b) (po : Option Nat) :
    Out k rank R X b po (fun w' => (w.recs t).failed ≠ some R → Good w' R t) w (startSelf E d cx t (w.recs t) w) := by
  rw [startSelf_eq]
  fun_cases ssGuard cx t (w.recs t) w with
  | case1 hc wE sfE =>
    -- the guard fires: the file of a generated target was edited, or is a known override
    dsimp only [sfE, wE]
    simp only [Bool.and_eq_true] at hc
    have hex : existsF w t = true := existsF_of_readStamp_ne hc.1.2
    have hex' : existsF (setRec (ev w (.warnOverride t)) t (setOverride (ev w (.warnOverride t)) t (w.recs t) cx.runid)) t
        = true := hex
    simp only [hex', setOverride_ovr, Bool.true_or, Bool.and_self, if_true, Bool.not_true, Bool.false_eq_true, if_false]
    subst hcx
    exact Or.inr (startSelf_override po _ hi hex hc.1.1 hgg hlt)
  | case2 hc =>
    dsimp only
    split
    · -- the file is the user's and was so before
      rename_i hs
      simp only [Bool.and_eq_true, Bool.or_eq_true, Bool.not_eq_true'] at hs
      obtain ⟨hex, hs2⟩ := hs
      have hovr : (w.recs t).isOverride = false := by
        cases ho : (w.recs t).isOverride with
        | false => rfl
        | true =>
          exfalso; apply hc
          rw [(hi.base.ovrSt t ho).1, ho, bne_iff_ne.2 (readStamp_ne_missing hex)]; rfl
      have hgen : (w.recs t).isGenerated = false := hs2.resolve_left (by rw [hovr]; simp)
      simp only [hovr, Bool.not_false, if_true]
      subst hcx
      obtain ⟨a1, a2, a3, a4⟩ := setStatic_spec (b := b) (po := po) hi hex hgen hlt
      exact Or.inr ⟨a1, a3, fun _ _ => a2, fun h _ => a4 h, zero_ne_crashed⟩
    · rename_i hs
      refine ssBuild_spec hE hT d hcx hm hi h0 (fun hg => hs ?_) hXa hlt po (StaleCopy.ok (Or.inl rfl))
      have hex : existsF w t = true := by
        cases he : existsF w t with
        | true => rfl
        | false => exact absurd hg (hngB he)
      simp only [Bool.and_eq_true, Bool.or_eq_true, Bool.not_eq_true']
      exact ⟨hex, (genT_false.1 (hgg hg)).symm⟩

theorem startSelf_spec {k rank R E t w b} {cx : Ctx} {X : Nat → Prop} (hE : ESpecG k rank R E) (hT : k → ETr E)
    (d : Defects) (hcx : cx.runid = R) (hm : KillMode k cx.crash w) (hi : Inv rank R X w)
    (h0 : t ≠ alwaysId) (hV : VerR w R t → genT (w.recs t) = false)
    (hXa : ∀ x, X x → rank t < rank x) (hlt : rank t < b) (po : Option Nat) {sf : Rec}
    (hsf : StaleCopy w t sf) :
    Out k rank R X b po (fun w' => (w.recs t).failed ≠ some R → Good w' R t) w (startSelf E d cx t sf w) := by
  have hgg : Good w R t → genT (w.recs t) = false := fun h => h.elim hV (fun h => h.2.2)
  have hngB : existsF w t = false → ¬ Good w R t := fun hne hg => by
    have := static_exists hi.base h0 (hg.recCur hi) (hgg hg); rw [hne] at this; cases this
  rcases hsf with rfl | ⟨hav, hfs, hst⟩
  · exact startSelf_spec_cur hE hT d hcx hm hi h0 hgg hngB hXa hlt po
  · rw [startSelf_eq, ssGuard_missing _ _ _ _ hfs]
    have hex : existsF w t = false := existsF_eq_false.2 hfs
    simp only [hex, Bool.false_and, Bool.false_eq_true, if_false]
    exact ssBuild_spec hE hT d hcx hm hi h0 (hngB hex) hXa hlt po (StaleCopy.ok (Or.inr ⟨hav, hfs, hst⟩))

/-! ### `shouldBuild` / `buildJob` for `redo-ifchange` (not forced). -/

theorem buildJob_spec {k rank R E t w b fuel} {cx : Ctx} {X : Nat → Prop} (hE : ESpecG k rank R E) (hT : k → ETr E)
    (d : Defects) (hcx : cx.runid = R) (hredo : cx.isRedo = false) (hm : KillMode k cx.crash w) (hi : Inv rank R X w)
    (h0 : t ≠ alwaysId) (hXa : ∀ x, X x → rank t < rank x) (hlt : rank t < b) (po : Option Nat) :
    Out k rank R X b po (fun w' => Good w' R t) w ((buildJob E d cx fuel t w).1.st, (buildJob E d cx fuel t w).2) := by
  obtain ⟨c1, c2, c3, c4, c5, c6⟩ := exit_codes
  unfold buildJob shouldBuild
  simp only [hredo, Bool.false_eq_true, if_false]
  cases hfr : isFailedR (getRec w cx.runid t) cx.runid with
  | true =>
    simp only [if_true]
    split <;> exact Or.inr (Post.nonzero hi c1 c2)
  | false =>
    simp only [Bool.false_eq_true, if_false]
    have hsp := isDirty_spec (rank := rank) (R := R) (X := X) fuel t cx.runid [] w [] none (hcx ▸ hi)
      (fun s e => by cases e) hXa (fun e => absurd e h0)
    have hgc := fun hg => good_clean (rank := rank) (R := R) (X := X) fuel t [] w [] none (hcx ▸ hi) hg
      (fun s e => by cases e) hXa
    subst hcx
    have hm1 : KillMode k cx.crash (isDirty false cx.runid fuel w [] t cx.runid [] none).2.1 :=
      hm.tr (fun _ => RowsTr.sameButRecs (isDirty_frame false cx.runid fuel w [] t cx.runid [] none))
    generalize isDirty false cx.runid fuel w [] t cx.runid [] none = res at hsp hgc hm1
    obtain ⟨dr, w1, c⟩ := res
    obtain ⟨hi1, hdx, hnn, hcl, hown⟩ := hsp
    dsimp only at hi1 hdx hnn hcl hown hgc hm1 ⊢
    have hnf0 : (w.recs t).failed ≠ some cx.runid := by
      rw [← getRec_failed_eq w cx.runid t]; exact isFailedR_false hi.Rpos hfr
    cases dr with
    | need ts => exact absurd rfl (hnn ts)
    | cyclic =>
      exact Or.inr (StepPost.fail hi1 (hdx.toBExt.mono (Nat.succ_le_of_lt hlt)) c3 c4)
    | clean =>
      obtain ⟨hck, hv, _⟩ := hcl rfl
      exact Or.inr ⟨hi1, hdx.toBExt.mono (Nat.succ_le_of_lt hlt), fun _ => Or.inl hv,
        fun h _ => hdx.noFail hi.Rpos h, zero_ne_crashed⟩
    | dirty =>
      dsimp only
      obtain ⟨hsf, hV⟩ := (hown (by intro h; cases h)).stale hdx
        (fun hv => by rcases hgc (Or.inl hv) with h1 | ⟨h1, _⟩ <;> cases h1)
      have hnf1 : (w1.recs t).failed ≠ some cx.runid := hdx.notFailed hi.Rpos hnf0
      exact ((startSelf_spec (b := b) (po := po) hE hT d rfl hm1 hi1 h0 hV hXa hlt (sf := w.recs t) hsf).mono
        (fun _ hg => hg hnf1)).pre (hdx.toBExt.mono (Nat.succ_le_of_lt hlt)) (hdx.noFail hi.Rpos)

/-! ### `runTargets` and `ifchangeWith` for `redo-ifchange`; the engine satisfies `ESpecG`. -/

theorem runTargets_spec {k rank R E b fuel} {cx : Ctx} {X : Nat → Prop} (hE : ESpecG k rank R E) (hT : k → ETr E)
    (d : Defects) (hcx : cx.runid = R) (hredo : cx.isRedo = false) (hXb : ∀ x, X x → b ≤ rank x) (po : Option Nat)
    (ts seen : List Nat) (errored : Bool) (w : World) (hm : KillMode k cx.crash w) (hi : Inv rank R X w)
    (hts : ∀ t ∈ ts, rank t < b ∧ t ≠ alwaysId) (hseen : errored = false → ∀ s ∈ seen, Good w R s) :
    Out k rank R X b po (fun w' => ∀ t ∈ ts, Good w' R t) w (runTargets E d cx fuel ts seen errored w) := by
  refine (runTargets_loop (E := E) (d := d) (cx := cx) (fuel := fuel) (I := fun w => KillMode k cx.crash w ∧ Inv rank R X w)
    (Rel := BExt rank R b po) (G := fun w s => Good w R s) (K := fun w' => NoFail R w → NoFail R w')
    (Kd := Killed k rank R X) (A := fun t => rank t < b ∧ t ≠ alwaysId)
    (BExt.refl _ _ _ _) (fun _ _ _ => BExt.trans) (fun _ _ _ h => h.good)
    (fun w' t hi' => ⟨⟨hi'.1.tr (fun _ => RowsTr.addKnown w' t), (WEqv.addKnown w' t).inv hi'.2⟩,
      (WEqv.addKnown w' t).toBExt, fun hk hn => (hk hn).eqv (WEqv.addKnown w' t)⟩)
    (fun _ _ h => h.2.1) (fun _ _ _ hr hk => hk.from hr.rc hr.rules)
    (fun t w' hi' ht =>
      (buildJob_spec (fuel := fuel) hE hT d hcx hredo hi'.1 hi'.2 ht.2 (fun x hx => Nat.lt_of_lt_of_le ht.1 (hXb x hx)) ht.1
        po).imp id (fun j => ⟨⟨hi'.1.tr (fun hk => buildJob_tr E (hT hk) d cx fuel t w'), j.inv⟩, j.frame, j.notCrashed,
          fun hk hz => ⟨j.ok hz, fun hn => j.keep (hk hn) hz⟩⟩))
    ts seen errored w ⟨hm, hi⟩ hts).imp id (fun ⟨a1, a2, a3, a4, a5⟩ => ?_)
  exact ⟨a1.2, a2, fun h => (a5 id (hseen (a4 h)) h).2, fun hn h => (a5 id (hseen (a4 h)) h).1 hn, a3⟩

theorem declare_spec {rank R X p} (b : Nat) (hb : b ≤ rank p) :
    ∀ (ts : List Nat) (w : World), Inv rank R X w → RowsOpen X w p → ¬ Good w R p → (∀ t ∈ ts, rank t < b) →
      Inv rank R X (declare p ts w) ∧ RowOp p w (declare p ts w) ∧ RowsDecl p ts w (declare p ts w) ∧
      ∀ d ∈ ts, HasRowU (declare p ts w) p d true
  | [], w, hi, _, _, _ => ⟨hi, (declare_rows p [] w).1.toRich, (declare_rows p [] w).2⟩
  | t :: ts, w, hi, ho, hng, hts => by
    have hi1 := Inv_addDep_open hi ho hng (Nat.lt_of_lt_of_le (hts t (by simp)) hb)
    have hng1 : ¬ Good (addDep w p t true) R p := fun h => hng (((RowOp.addDep w p t true).good R p).1 h)
    exact ⟨(declare_spec b hb ts (addDep w p t true) hi1 (ho.tr (RowsTr.addDepM w p t)) hng1
        (fun t' h => hts t' (List.mem_cons_of_mem _ h))).1,
      (declare_rows p (t :: ts) w).1.toRich, (declare_rows p (t :: ts) w).2⟩

/-! ### `ifchangeWith` satisfies the command specification when the nested engine does; hence `engine d n` does, for every `d`. -/

theorem rowsDecl_of_same {p : Nat} {ts : List Nat} {w w' : World}
    (h : ∀ d : Dep, d.target = p → (d ∈ w'.deps ↔ d ∈ w.deps)) : RowsDecl p ts w w' := Deps.rowsDecl_of_same h

theorem rowsDecl_eqv {p : Nat} {ts : List Nat} {w w' : World} (h : w'.deps = w.deps) : RowsDecl p ts w w' :=
  Deps.rowsDecl_eqv h

theorem ifchangeWith_spec {k rank R E} (hE : ESpecG k rank R E) (hT : k → ETr E) (d : Defects) (fuel : Nat) :
    ESpecG k rank R { ifchangeCmd := fun cx ts w => ifchangeWith E d fuel cx ts w } := by
  intro X cx ts w b h1 h2 h3 hm hi hts hXb hpar
  obtain ⟨c1, c2, c3, c4, c5, c6⟩ := exit_codes
  show Killed k rank R X w (ifchangeWith E d fuel cx ts w) ∨ NestedOk rank R X b cx.parent ts w (ifchangeWith E d fuel cx ts w)
  unfold ifchangeWith
  cases hp : cx.parent with
  | none =>
    simp only [Bool.false_eq_true, if_false]
    exact (runTargets_spec (fuel := fuel) hE hT d h1 h2 hXb none ts [] false w hm hi hts
      (fun _ s hs => by simp at hs)).imp id (fun h => ⟨h, fun p hp' => by cases hp'⟩)
  | some p =>
    obtain ⟨hbp, hXp, hngp⟩ := hpar p hp
    simp only [h3, Bool.not_false, Bool.true_and]
    by_cases hc : ts.contains p = true
    · simp only [hc, if_true]
      exact Or.inr ⟨Post.nonzero hi c3 c4, fun p' hp' => ⟨RowsDecl.refl _ _ _, fun h => absurd h c3⟩⟩
    simp only [hc, Bool.false_eq_true, if_false]
    have e1 := WEqv.addKnown w p
    have hi1 := e1.inv hi
    have hng1 : ¬ Good (addKnown w p) R p := fun h => hngp ((e1.good R p).1 h)
    have hm1 : KillMode k cx.crash (addKnown w p) := hm.tr (fun _ => RowsTr.addKnown w p)
    obtain ⟨d1, d2, d3, d4⟩ := declare_spec (rank := rank) (R := R) b hbp ts (addKnown w p) hi1 (hXp.imp id hm1.side) hng1
      (fun t ht => (hts t ht).1)
    have hm2 : KillMode k cx.crash (declare p ts (addKnown w p)) := hm1.tr (fun _ => RowsTr.declare p ts _)
    rcases runTargets_spec (fuel := fuel) (b := b) hE hT d h1 h2 hXb none ts [] false
      (declare p ts (addKnown w p)) hm2 d1 hts (fun _ s hs => by simp at hs) with hk | a
    · exact Or.inl (hk.from (d2.eqv.rc.trans e1.rc) (d2.rules.trans e1.rules))
    right
    have hsame : ∀ dd : Dep, dd.target = p →
        (dd ∈ (runTargets E d cx fuel ts [] false (declare p ts (addKnown w p))).2.deps ↔
          dd ∈ (declare p ts (addKnown w p)).deps) :=
      fun dd hdd => a.frame.rowsAbove dd (by rw [hdd]; exact hbp) (by simp)
    have hrd : RowsDecl p ts w (runTargets E d cx fuel ts [] false (declare p ts (addKnown w p))).2 := by
      have r1 : RowsDecl p [] w (addKnown w p) := rowsDecl_eqv e1.deps
      have r3 : RowsDecl p [] (declare p ts (addKnown w p))
          (runTargets E d cx fuel ts [] false (declare p ts (addKnown w p))).2 := rowsDecl_of_same hsame
      exact ((r1.trans d3).trans r3).mono (fun x hx => by simpa using hx)
    refine ⟨a.pre (fun h => (e1.toBExt.trans d2.toBExtP).trans h.weakenPo)
      (fun hn f => by rw [d2.eqv.failed]; exact (hn.eqv e1) f), fun p' hp' => ?_⟩
    cases hp'
    refine ⟨hrd, fun _ dd hdd => ?_⟩
    obtain ⟨r, hr, q1, q2, q3, q4⟩ := d4 dd hdd
    exact ⟨r, (hsame r q1).2 hr, q1, q2, q3, q4⟩

theorem engine_spec (k : Prop) (rank : Nat → Nat) (R : Nat) (d : Defects) : ∀ n, ESpecG k rank R (engine d n)
  | 0 => by
    intro X cx ts w b _ _ _ _ hi _ _ _
    obtain ⟨_, _, _, _, c5, c6⟩ := exit_codes
    exact Or.inr ⟨Post.nonzero hi c5 c6, fun p _ => ⟨RowsDecl.refl _ _ _, fun h => absurd h c5⟩⟩
  | n + 1 => ifchangeWith_spec (engine_spec k rank R d n) (fun _ => engine_tr d n) d (n + 1)

end RedoModel.Deps.Rich
