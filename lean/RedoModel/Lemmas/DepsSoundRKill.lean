import RedoModel.Lemmas.DepsSoundRHistory
import RedoModel.Lemmas.DepsSoundRKillCond
/-! C10, rich histories with killed builds: a killed `redo-ifchange` keeps the between-commands invariant (the rich
induction `engine_spec` of DepsSoundRJob read with `k = True`), histories (operations `RichOpK`, `DepsSoundRSpec`), and the
recovery theorems.  The unrestricted statement and its counterexample are in `DepsSoundRKillEx`. -/
namespace RedoModel.Deps.Rich
open RedoModel.Generated

/-- The part of the frame `RowsTr` (`DepsSoundRKillCond`) that `SK` needs: rules and scripts stay, and the side condition on
rows is kept.  (`Rich.Tr` of `DepsOk.lean` is another relation; the two files cannot be imported together.) -/
structure Tr (w w' : World) : Prop where
  rules : w'.rules = w.rules
  progs : w'.progs = w.progs
  rowsM : NoWatchP w → RowsM w → RowsM w'

theorem RowsTr.toTr {w w' : World} (h : RowsTr w w') : Tr w w' := ⟨h.rules, h.progs, h.rowsM⟩

theorem Tr.refl (w : World) : Tr w w := (RowsTr.refl w).toTr

theorem Tr.declare (p : Nat) : ∀ (ts : List Nat) (w : World), Tr w (ts.foldl (fun w t => addDep w p t true) w) :=
  fun ts w => (RowsTr.declare p ts w).toTr

theorem Tr.findDoFile (t : Nat) : ∀ (cs : List Nat) (w : World), (∀ c ∈ cs, c ∈ w.rules t) →
    Tr w (findDoFile t cs w).2 := fun cs w h => (RowsTr.findDoFile t cs w h).toTr

theorem Tr.recordNewState (cx : Ctx) (t : Nat) (sf : Rec) (rv : Status) (out : Option Content) (w : World) :
    Tr w (recordNewState cx t sf rv out w).2 := (RowsTr.recordNewState cx t sf rv out w).toTr

/-- **A killed run keeps the between-commands invariant** (side conditions `SK`): whatever the targets, the script
and the step at which the whole process tree dies. -/
theorem crashCmd_btw {rank N w} (d : Defects) (hN : ∀ f, rank f < N) (hS : SK w) (h : Btw rank w)
    (ts : List Nat) (t k : Nat) (hts0 : ∀ x ∈ ts, x ≠ alwaysId) :
    Btw rank (applyOp d N (.crashCmd ts t k) w).2 ∧ (applyOp d N (.crashCmd ts t k) w).2.rules = w.rules := by
  rw [applyOp_crashCmd]
  obtain ⟨hi1, _⟩ := Inv_alloc h
  rcases runTargets_spec (k := True) (fuel := 2 * N + 4) (b := N) (cx := { runid := w.runCounter + 1, crash := some (t, k) })
    (engine_spec True rank (w.runCounter + 1) d (2 * N + 4)) (fun _ => engine_tr d _) d rfl rfl (fun _ hx => hx.elim)
    none ts [] false (allocRun w).2 ⟨fun h => absurd trivial h, fun _ => hS.tr (allocRun_tr w)⟩ hi1
    (fun x hx => ⟨hN x, hts0 x hx⟩) (fun _ s hs => by simp at hs) with
    ⟨_, _, hb, hrc, hru⟩ | hp
  · refine ⟨?_, hru⟩
    show Base rank _ NoX _
    rw [hrc]; exact hb
  · refine ⟨?_, hp.frame.rules⟩
    show Base rank _ NoX _
    rw [hp.frame.rc]; exact hp.inv.base

theorem applyOp_btwK {rank n rules w} (hN : ∀ f, rank f < n) (hS : SK w) (h : Btw rank w)
    (hr : w.rules = rules) (op : UserOp) (hp : RichOpK rules op) (hok : OpOkW w op)
    (hrk : RankedR rank (applyOp {} n op w).2) :
    Btw rank (applyOp {} n op w).2 ∧ (applyOp {} n op w).2.rules = rules := by
  cases op with
  | crashCmd ts t k =>
    obtain ⟨a1, a2⟩ := crashCmd_btw {} hN hS h ts t k hp
    exact ⟨a1, a2.trans hr⟩
  | _ => exact applyOp_btw hN h hr _ hp hok hrk

theorem history_btwK {rank n rules} (hN : ∀ f, rank f < n) :
    ∀ (ops : List UserOp) (w : World), SK w → Btw rank w → w.rules = rules → (∀ op ∈ ops, RichOpK rules op) →
      (∀ op ∈ ops, NoWatchOp op) →
      (∀ w' ∈ worldsOf n {} w ops, RankedR rank w') → OpsOkW n w ops →
      SK (ops.foldl (fun w op => (applyOp {} n op w).2) w) ∧
      Btw rank (ops.foldl (fun w op => (applyOp {} n op w).2) w) ∧
      (ops.foldl (fun w op => (applyOp {} n op w).2) w).rules = rules
  | [], w, hS, h, hr, _, _, _, _ => ⟨hS, h, hr⟩
  | op :: ops, w, hS, h, hr, hp, hnw, hrk, hok => by
    have hrk1 : RankedR rank (applyOp {} n op w).2 :=
      hrk _ (by simp only [worldsOf, List.mem_cons]; exact Or.inr (worldsOf_head n {} _ ops))
    obtain ⟨a1, a2⟩ := applyOp_btwK hN hS h hr op (hp op (by simp)) hok.1 hrk1
    exact history_btwK hN ops _ (applyOp_sk {} n op w (hnw op (by simp)) hS) a1 a2
      (fun op' h' => hp op' (List.mem_cons_of_mem _ h')) (fun op' h' => hnw op' (List.mem_cons_of_mem _ h'))
      (fun w' hw' => hrk w' (by simp only [worldsOf, List.mem_cons]; exact Or.inr hw')) hok.2

/-- **No stale target after rich histories with killed builds** (partial: the hypothesis that no script uses
`redo-ifcreate` or conditional declarations — `NoWatchOp` — is added; the conditional declarations are forced out by
the counterexample history `kcOps` of DepsSoundRKillEx, `C10.recovers_rich_is_false`).  After ANY rich history (`redo-always`, content-dependent failure,
hand-written files at target names) interleaved with ANY number of killed `redo-ifchange` runs (killed in any
script, at any step), whenever a later `redo-ifchange ts` / `redo ts` exits 0, every `t ∈ ts` is up to date. -/
theorem recoversRichK_partial (n : Nat) (rules : Nat → List Nat) (rank : Nat → Nat) (ops : List UserOp) (ts : List Nat)
    (kg forced : Bool) (hr : RulesOk rules) (hS : SingleDo rules) (hp : ∀ op ∈ ops, RichOpK rules op)
    (hnw : ∀ op ∈ ops, NoWatchOp op)
    (hrk : ∀ w ∈ worldsOf n {} (initWorld rules) ops, RankedR rank w) (hN : ∀ f, rank f < n)
    (hok : OpsOkW n (initWorld rules) ops) (hts0 : ∀ t ∈ ts, t ≠ alwaysId) :
    let w := ops.foldl (fun w op => (applyOp {} n op w).2) (initWorld rules)
    let r := runCmd {} n (if forced then .redo ts kg else .ifchange ts kg) w
    r.1.status = 0 → ∀ t ∈ ts, UpToDateR r.2 t := by
  intro w r
  have h0 : Btw rank (initWorld rules) := Btw_init hr (hrk _ (worldsOf_head n {} _ ops))
  obtain ⟨_, hb, _⟩ := history_btwK hN ops (initWorld rules) (SK_init hS) h0 rfl hp hnw hrk hok
  exact runCmd_sound {} hN hb ts kg forced hts0

/-- **Recovery is sound.**  In any state satisfying the invariant and the side conditions, kill a `redo-ifchange ts`
anywhere; then the invariant and the side conditions hold again at once, they hold after the next
`redo-ifchange ts'` / `redo ts'`, and if that command exits 0 its targets are up to date. -/
theorem recovery_is_sound_rich {rank N w} (hN : ∀ f, rank f < N) (hS : SK w) (h : Btw rank w)
    (ts : List Nat) (t k : Nat) (hts0 : ∀ x ∈ ts, x ≠ alwaysId) (ts' : List Nat) (kg forced : Bool)
    (hts0' : ∀ x ∈ ts', x ≠ alwaysId) :
    let w1 := (applyOp {} N (.crashCmd ts t k) w).2
    let r := runCmd {} N (if forced then .redo ts' kg else .ifchange ts' kg) w1
    Btw rank w1 ∧ SK w1 ∧ Btw rank r.2 ∧ SK r.2 ∧ (r.1.status = 0 → ∀ x ∈ ts', UpToDateR r.2 x) := by
  intro w1 r
  obtain ⟨hb1, _⟩ := crashCmd_btw {} hN hS h ts t k hts0
  have hS1 : SK w1 := hS.tr (crashCmd_tr {} N ts t k w)
  refine ⟨hb1, hS1, (runCmd_btw {} hN hb1 _ ?_).1, hS1.tr (runCmd_tr {} N _ w1), runCmd_sound {} hN hb1 ts' kg forced hts0'⟩
  cases forced <;> exact hts0'

end RedoModel.Deps.Rich
