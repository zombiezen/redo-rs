import RedoModel.Lemmas.DepsSoundRRows
import RedoModel.Lemmas.DepsEngineFrame
/-! C10, rich histories: the side conditions `SK` under which a killed build is harmless, the frame `RowsTr` that every
step of the engine respects and that keeps them, and the clause of the invariant for one file (`KeepT`) surviving the
row operations of that file's own unfinished build. -/
namespace RedoModel.Deps.Rich
open RedoModel.Generated

/-! ### The side conditions on scripts and rows, and the frame `RowsTr`.

`NoWatchP`: no script in `progs` uses `redo-ifcreate` or conditional declarations (the hypothesis forced by the
counterexample of `DepsSoundRKillEx`).  `RowsM`: the only `c` rows are those `findDoFile` writes for an absent .do
candidate of the target, and a key (target, source) never carries both modes.  Under both (and `SingleDo`) every
row a build adds *before* it is killed is an `m` row that replaces no `c` row, so the old record of the target keeps
its promise. -/

def NoWatchP (w : World) : Prop := ∀ c sc, w.progs c = some sc → sc.ifcreate = [] ∧ sc.cond = []

def RowsM (w : World) : Prop := ∀ x s, HasRow w x s false → s ∈ w.rules x ∧ ¬ HasRow w x s true

theorem scriptAt_noWatch {w : World} (h : NoWatchP w) (dof : Nat) :
    (scriptAt w dof).ifcreate = [] ∧ (scriptAt w dof).cond = [] := by
  unfold scriptAt
  cases w.fs dof with
  | none => exact ⟨rfl, rfl⟩
  | some n =>
    simp only
    cases hp : w.progs n.content with
    | none => exact ⟨rfl, rfl⟩
    | some sc => exact h _ _ hp

theorem RowsM.sub {w w' : World} (hr : w'.rules = w.rules) (hs : ∀ x s m, HasRow w' x s m → HasRow w x s m)
    (h : RowsM w) : RowsM w' := by
  intro x s hc
  obtain ⟨a, b⟩ := h x s (hs x s false hc)
  exact ⟨by rw [hr]; exact a, fun hm => b (hs x s true hm)⟩

theorem hasRow_addDep {w : World} {t s : Nat} {m : Bool} {x y : Nat} {m' : Bool} :
    HasRow (addDep w t s m) x y m' ↔ (x = t ∧ y = s ∧ m' = m) ∨ (HasRow w x y m' ∧ ¬ (x = t ∧ y = s)) := by
  constructor
  · rintro ⟨d, hd, h1, h2, h3⟩
    rcases addDep_mem hd with rfl | ⟨h, hne⟩
    · exact Or.inl ⟨h1.symm, h2.symm, h3.symm⟩
    · exact Or.inr ⟨⟨d, h, h1, h2, h3⟩, by rw [← h1, ← h2]; exact hne⟩
  · rintro (⟨rfl, rfl, rfl⟩ | ⟨h, hne⟩)
    · exact addDep_hasRow_new w x y m'
    · exact addDep_hasRow_keep h hne

theorem RowsM.addDepM {w : World} (t s : Nat) (h : RowsM w) : RowsM (addDep w t s true) := by
  intro x y hc
  rw [(RowOp.addDep w t s _).rules]
  rcases hasRow_addDep.1 hc with ⟨_, _, e⟩ | ⟨hc0, hne⟩
  · cases e
  · obtain ⟨a, b⟩ := h x y hc0
    refine ⟨a, fun hm => ?_⟩
    rcases hasRow_addDep.1 hm with ⟨e1, e2, _⟩ | ⟨hm0, _⟩
    · exact hne ⟨e1, e2⟩
    · exact b hm0

theorem RowsM.addDepC {w : World} (t s : Nat) (hs : s ∈ w.rules t) (h : RowsM w) : RowsM (addDep w t s false) := by
  intro x y hc
  rw [(RowOp.addDep w t s _).rules]
  rcases hasRow_addDep.1 hc with ⟨rfl, rfl, _⟩ | ⟨hc0, hne⟩
  · refine ⟨hs, fun hm => ?_⟩
    rcases hasRow_addDep.1 hm with ⟨_, _, e⟩ | ⟨_, hne⟩
    · cases e
    · exact hne ⟨rfl, rfl⟩
  · obtain ⟨a, b⟩ := h x y hc0
    refine ⟨a, fun hm => ?_⟩
    rcases hasRow_addDep.1 hm with ⟨_, _, e⟩ | ⟨hm0, _⟩
    · cases e
    · exact b hm0

/-- The frame: rules and scripts stay, and the side condition on rows is kept. -/
structure RowsTr (w w' : World) : Prop where
  rules : w'.rules = w.rules
  progs : w'.progs = w.progs
  rowsM : NoWatchP w → RowsM w → RowsM w'

theorem RowsTr.refl (w : World) : RowsTr w w := ⟨rfl, rfl, fun _ h => h⟩

theorem NoWatchP.congr {w w' : World} (hp : w'.progs = w.progs) (h : NoWatchP w) : NoWatchP w' := by
  intro c sc hc; rw [hp] at hc; exact h c sc hc

theorem RowsTr.trans {a b c : World} (h1 : RowsTr a b) (h2 : RowsTr b c) : RowsTr a c :=
  ⟨h2.rules.trans h1.rules, h2.progs.trans h1.progs,
   fun hn hm => h2.rowsM (hn.congr h1.progs) (h1.rowsM hn hm)⟩

theorem RowsTr.noWatch {w w' : World} (h : RowsTr w w') (hn : NoWatchP w) : NoWatchP w' := hn.congr h.progs

theorem RowsTr.of_deps {w w' : World} (hr : w'.rules = w.rules) (hp : w'.progs = w.progs) (hd : w'.deps = w.deps) :
    RowsTr w w' :=
  ⟨hr, hp, fun _ h => h.sub hr (fun x s m hh => by unfold HasRow at hh ⊢; rw [hd] at hh; exact hh)⟩

/-- A step that cannot happen when no script watches. -/
theorem RowsTr.absurdM {w w' : World} (hr : w'.rules = w.rules) (hp : w'.progs = w.progs) (h : ¬ NoWatchP w) : RowsTr w w' :=
  ⟨hr, hp, fun hn => absurd hn h⟩

theorem RowsTr.setRec (w : World) (f : Nat) (r : Rec) : RowsTr w (setRec w f r) := RowsTr.of_deps rfl rfl rfl
theorem RowsTr.ev (w : World) (e : Ev) : RowsTr w (ev w e) := RowsTr.of_deps rfl rfl rfl
theorem RowsTr.setFile (w : World) (f : Nat) (n : Option FNode) : RowsTr w (setFile w f n) := RowsTr.of_deps rfl rfl rfl

theorem RowsTr.addKnown (w : World) (f : Nat) : RowsTr w (addKnown w f) :=
  RowsTr.of_deps (WEqv.addKnown w f).rules (WEqv.addKnown w f).progs (WEqv.addKnown w f).deps

theorem RowsTr.sameButRecs {w w' : World} (h : SameButRecs w w') : RowsTr w w' :=
  RowsTr.of_deps h.2.2.2.2.2.2 h.2.2.2.2.2.1 h.2.1

theorem RowsTr.addDepM (w : World) (t s : Nat) : RowsTr w (addDep w t s true) :=
  ⟨(RowOp.addDep _ _ _ _).rules, (RowOp.addDep _ _ _ _).progs, fun _ h => h.addDepM t s⟩

theorem RowsTr.addDepC (w : World) (t s : Nat) (hs : s ∈ w.rules t) : RowsTr w (addDep w t s false) :=
  ⟨(RowOp.addDep _ _ _ _).rules, (RowOp.addDep _ _ _ _).progs, fun _ h => h.addDepC t s hs⟩

theorem RowsTr.zapDeps1 (w : World) (t : Nat) : RowsTr w (zapDeps1 w t) :=
  ⟨rfl, rfl, fun _ h => RowsM.sub (w := w) (w' := Deps.zapDeps1 w t) rfl (fun x s m hh => (Deps.SameTriples.zapDeps1 w t x s m).1 hh) h⟩

theorem RowsTr.zapDeps2 (w : World) (t : Nat) : RowsTr w (zapDeps2 w t) := by
  refine ⟨rfl, rfl, fun _ h => RowsM.sub (w := w) (w' := Deps.zapDeps2 w t) rfl (fun x s m hh => ?_) h⟩
  obtain ⟨d, hd, h1, h2, h3⟩ := hh
  unfold Deps.zapDeps2 at hd
  exact ⟨d, (List.mem_filter.1 hd).1, h1, h2, h3⟩

theorem RowsTr.declare (p : Nat) (ts : List Nat) (w : World) : RowsTr w (ts.foldl (fun w t => addDep w p t true) w) :=
  foldl_rel RowsTr.refl RowsTr.trans _ ts (fun w t _ => RowsTr.addDepM w p t) w

theorem RowsTr.findDoFile (t : Nat) (cs : List Nat) (w : World) : (∀ c ∈ cs, c ∈ w.rules t) →
    RowsTr w (Deps.findDoFile t cs w).2 := by
  fun_induction Deps.findDoFile t cs w with
  | case1 w => exact fun _ => RowsTr.refl w
  | case2 c cs w _ => exact fun _ => RowsTr.addDepM w t c
  | case3 c cs w _ ih =>
    intro h
    have h1 := RowsTr.addDepC w t c (h c (by simp))
    exact h1.trans (ih (fun c' hc' => by rw [h1.rules]; exact h c' (List.mem_cons_of_mem _ hc')))

theorem RowsTr.recordNewState (cx : Ctx) (t : Nat) (sf : Rec) (rv : Status) (out : Option Content) (w : World) :
    RowsTr w (Deps.recordNewState cx t sf rv out w).2 :=
  recordNewState_rel (Rel := RowsTr) (cx := cx) (sf := sf) (rv := rv) RowsTr.trans
    (by cases out <;> exact RowsTr.of_deps rfl rfl rfl : RowsTr w (rnsOut t out w))
    ((RowsTr.zapDeps2 _ t).trans (RowsTr.setRec _ t _)) ((RowsTr.zapDeps2 w t).trans (RowsTr.setRec _ t _))

/-! ### Every step of the engine, killed or not, forced or not, respects the frame `RowsTr` (rules and scripts stay; when no
script watches, `c` rows stay confined to absent .do candidates). -/

theorem shouldBuild_tr (cx : Ctx) (fuel t : Nat) (w : World) : RowsTr w (shouldBuild cx fuel t w).2 :=
  RowsTr.sameButRecs (shouldBuild_rel SameButRecs.dirtyRel cx fuel t w)

def NoWatchS (w : World) (sc : Script) : Prop := NoWatchP w → sc.ifcreate = [] ∧ sc.cond = []

theorem tr_frame : EngineFrame (fun _ => True) (fun _ => True) (fun _ => True) NoWatchS (fun _ => True) RowsTr where
  refl := RowsTr.refl
  trans := RowsTr.trans
  keepP := fun _ _ => trivial
  keepA := fun h ha hn => ha (hn.congr h.progs.symm)
  child := fun _ _ => trivial
  oob1 := fun _ _ _ => trivial
  oob2 := fun _ => trivial
  parent := fun _ _ => trivial
  script := fun _ dof _ hn => scriptAt_noWatch hn dof
  addKnown := RowsTr.addKnown
  ownRec := fun w _ _ => RowsTr.setRec w _ _
  dofRec := fun w dof _ _ => RowsTr.setRec w dof _
  alwaysRec := fun w _ _ _ => RowsTr.setRec w _ _
  evWarn := fun w _ => RowsTr.ev w _
  evRan := fun w _ => RowsTr.ev w _
  zapDeps1 := fun w _ => RowsTr.zapDeps1 w _
  findDo := fun w _ _ => RowsTr.findDoFile _ _ w (fun _ h => h)
  addDepM := fun w s _ => RowsTr.addDepM w _ s
  -- a script that writes a `c` row watches
  addDepC := fun w f _ _ ha hf => RowsTr.absurdM ((RowOp.addDep _ _ _ _).rules) ((RowOp.addDep _ _ _ _).progs) (fun hn => by
    obtain ⟨h1, h2⟩ := ha hn
    rw [h1, h2] at hf
    rcases hf with hf | hf <;> cases hf)
  record := fun rv out _ w _ _ _ _ _ _ h _ _ => h.trans (RowsTr.recordNewState _ _ _ rv out w)
  dirty := fun fuel t w _ _ => shouldBuild_tr _ fuel t w
  other := fun _ _ _ _ _ _ _ _ h => absurd trivial h

def ETr (E : Engine) : Prop := ∀ cx ts w, RowsTr w (E.ifchangeCmd cx ts w).2

theorem ETr.frame {E : Engine} (hE : ETr E) : EFrame (fun _ => True) (fun _ => True) RowsTr E :=
  fun cx ts w _ _ => hE cx ts w

theorem rsAlways_tr (cx : Ctx) (t : Nat) (sc : Script) (w : World) : RowsTr w (rsAlways cx t sc w) :=
  tr_frame.rsAlways (cx := cx) trivial trivial sc w trivial

theorem buildJob_tr (E : Engine) (hE : ETr E) (d : Defects) (cx : Ctx) (fuel t : Nat) (w : World) :
    RowsTr w (buildJob E d cx fuel t w).2 :=
  tr_frame.buildJob hE.frame d trivial fuel t w trivial

theorem runTargets_tr (E : Engine) (hE : ETr E) (d : Defects) (cx : Ctx) (fuel : Nat) (ts seen : List Nat)
    (errored : Bool) (w : World) : RowsTr w (runTargets E d cx fuel ts seen errored w).2 :=
  tr_frame.runTargets hE.frame d trivial fuel ts seen errored w trivial

theorem engine_tr (d : Defects) (n : Nat) : ETr (engine d n) :=
  fun cx ts w => tr_frame.engine d n cx ts w trivial trivial

/-! ### Top-level commands and user operations respect the frame `RowsTr`; the side conditions (`SK`) along a history. -/

theorem allocRun_tr (w : World) : RowsTr w (allocRun w).2 := RowsTr.of_deps rfl rfl rfl

theorem crashCmd_tr (d : Defects) (n : Nat) (ts : List Nat) (t k : Nat) (w : World) :
    RowsTr w (applyOp d n (.crashCmd ts t k) w).2 := by
  rw [applyOp_crashCmd]
  exact (allocRun_tr w).trans (runTargets_tr _ (engine_tr d _) d _ _ ts [] false _)

theorem runCmd_tr (d : Defects) (n : Nat) (c : Cmd) (w : World) : RowsTr w (runCmd d n c w).2 := by
  cases c with
  | redo ts kg =>
    exact (allocRun_tr w).trans (runTargets_tr _ (engine_tr d _) d
      { runid := w.runCounter + 1, keepGoing := kg, isRedo := true } _ ts [] false _)
  | ifchange ts kg =>
    exact (allocRun_tr w).trans (runTargets_tr _ (engine_tr d _) d
      { runid := w.runCounter + 1, keepGoing := kg } _ ts [] false _)
  | targets => exact allocRun_tr w
  | sources => exact allocRun_tr w
  | ood =>
    rw [query_world d n w .ood (.inl rfl)]
    exact allocRun_tr w

/-- The side conditions under which a killed build is harmless: one .do candidate per target, no script that
watches (`redo-ifcreate`, conditional declarations), rows as `RowsM` says. -/
structure SK (w : World) : Prop where
  single : SingleDo w.rules
  noWatch : NoWatchP w
  rowsM : RowsM w

theorem SK.tr {w w' : World} (h : SK w) (t : RowsTr w w') : SK w' :=
  ⟨by rw [t.rules]; exact h.single, t.noWatch h.noWatch, t.rowsM h.noWatch h.rowsM⟩

theorem SK_init {rules : Nat → List Nat} (hS : SingleDo rules) : SK (initWorld rules) :=
  ⟨hS, (fun c sc h => by cases h), (fun x s h => by obtain ⟨d, hd, _⟩ := h; cases hd)⟩

/-- What the side conditions ask of an operation: a new script does not watch. -/
def NoWatchOp : UserOp → Prop
  | .setProg _ s => s.ifcreate = [] ∧ s.cond = []
  | _ => True

theorem applyOp_sk (d : Defects) (n : Nat) (op : UserOp) (w : World) (hop : NoWatchOp op) (h : SK w) :
    SK (applyOp d n op w).2 := by
  cases op with
  | write f v => exact h.tr (RowsTr.of_deps rfl rfl rfl)
  | remove f => exact h.tr (RowsTr.of_deps rfl rfl rfl)
  | chmod f =>
    show SK (match w.fs f with
      | some n => setFile w f (some { n with rest := n.rest + 1 })
      | none => w)
    cases w.fs f with
    | none => exact h
    | some n => exact h.tr (RowsTr.of_deps rfl rfl rfl)
  | hide f =>
    show SK (match w.fs f with
      | some n => { setFile w f none with stash := fun x => if x = f then some n else w.stash x }
      | none => w)
    cases w.fs f with
    | none => exact h
    | some n => exact h.tr (RowsTr.of_deps rfl rfl rfl)
  | unhide f =>
    show SK (match w.stash f with
      | some n => { setFile w f (some n) with stash := fun x => if x = f then none else w.stash x }
      | none => w)
    cases w.stash f with
    | none => exact h
    | some n => exact h.tr (RowsTr.of_deps rfl rfl rfl)
  | setProg c s =>
    refine ⟨h.single, ?_, h.rowsM⟩
    intro c' sc hc
    have hc' : (if c' = c then some s else w.progs c') = some sc := hc
    split at hc'
    · cases hc'; exact hop
    · exact h.noWatch c' sc hc'
  | cmd c => exact h.tr (runCmd_tr d n c w)
  | crashCmd ts t k => exact h.tr (crashCmd_tr d n ts t k w)

/-! ### The clause of the invariant for one file (`KeepT`): the promise of its old record (`RecTruth`) survives the row
operations of its own unfinished build — under the side conditions `SK` every such operation adds an `m` row and the
target has no `c` row to lose.  (`Inv.release` in DepsSoundRJob puts a target with `KeepT` back among the non-exempt.) -/

/-- The clause `Base.recA` for one file. -/
def KeepT (w : World) (t : Nat) : Prop := RecCurV w t → genT (w.recs t) = true → RecTruth w t

theorem Base.keepT {rank R w t} {X : Nat → Prop} (hb : Base rank R X w) (hx : ¬ X t) : KeepT w t :=
  fun hrc hg => hb.recA t (Or.inl hx) hrc hg

/-- A target whose record keeps its promise has, under `SingleDo` and `RowsM`, no `c` row at all. -/
theorem noC_of_truth {w : World} {t : Nat} (hS : SingleDo w.rules) (hM : RowsM w) (ht : RecTruth w t) :
    ∀ s, ¬ HasRow w t s false := by
  obtain ⟨pre, dof, post, sc, hr, _, hdof, _⟩ := ht
  obtain ⟨hpre0, hpost0⟩ := single_split (t := t) hS hr
  subst hpre0 hpost0
  intro s hc
  obtain ⟨hm, hno⟩ := hM t s hc
  rw [hr] at hm
  simp only [List.nil_append, List.mem_singleton] at hm
  subst hm
  exact hno hdof

/-- A row operation on `t` that keeps every `m` row of `t` keeps the promise of `t`'s record. -/
theorem RecTruth_rowOp {w w' : World} {t : Nat} (hS : SingleDo w.rules) (hM : RowsM w) (hro : RowOp t w w')
    (hrows : ∀ s, HasRow w t s true → HasRow w' t s true) (ht : RecTruth w t) : RecTruth w' t := by
  have noC := noC_of_truth hS hM ht
  have e := hro.eqv
  have h1 : RecTruth { w' with deps := w.deps } t := e.recTruth ht
  obtain ⟨pre, dof, post, sc, hr, hpre, hdof, hdecl, hic, hcd, halw, hexit, hsc, hodd, cs, hcont, hlen, hz⟩ := h1
  have back : ∀ s, HasRow { w' with deps := w.deps } t s true → HasRow w' t s true := fun s h => hrows s h
  have noC' : ∀ s, HasRow { w' with deps := w.deps } t s false → False := fun s h => noC s h
  exact ⟨pre, dof, post, sc, hr, fun c hc => (noC' c (hpre c hc)).elim, back _ hdof, fun d hd => back _ (hdecl d hd),
    fun d hd => (noC' d (hic d hd)).elim,
    fun d hd => (hcd d hd).elim (fun h => Or.inl (back _ h)) (fun h => (noC' _ h).elim),
    fun ha => back _ (halw ha), hexit, hsc, fun f hf => ⟨back _ (hodd f hf).1, (hodd f hf).2⟩, cs, hcont, hlen,
    fun p hp => (hz p hp).elim (fun h => Or.inl ⟨back _ h.1, h.2⟩) (fun h => (noC' _ h.1).elim)⟩

theorem KeepT_rowOp {w w' : World} {t : Nat} (hS : SingleDo w.rules) (hM : RowsM w) (hro : RowOp t w w')
    (hrows : ∀ s, HasRow w t s true → HasRow w' t s true) (hk : KeepT w t) : KeepT w' t := by
  intro hrc hg
  have e := hro.eqv
  have hg0 : genT (w.recs t) = true := by rw [← e.genT t]; exact hg
  exact RecTruth_rowOp hS hM hro hrows (hk ((e.recCurV t).1 hrc) hg0)

theorem addDep_true_rows (w : World) (t s : Nat) :
    ∀ x, HasRow w t x true → HasRow (addDep w t s true) t x true := by
  intro x h
  by_cases e : x = s
  · subst e; exact addDep_hasRow_new w t x true
  · exact addDep_hasRow_keep h (fun ⟨_, h2⟩ => e h2)

theorem KeepT_addDep {w : World} {t s : Nat} (hk : SK w) (h : KeepT w t) : KeepT (addDep w t s true) t :=
  KeepT_rowOp hk.single hk.rowsM (RowOp.addDep w t s true) (addDep_true_rows w t s) h

theorem KeepT_zapDeps1 {w : World} {t : Nat} (hk : SK w) (h : KeepT w t) : KeepT (zapDeps1 w t) t :=
  KeepT_rowOp hk.single hk.rowsM (RowOp.zapDeps1 w t) (fun s h => (Deps.SameTriples.zapDeps1 w t t s true).2 h) h

end RedoModel.Deps.Rich
