import RedoModel.Lemmas.DepsSoundREx
import RedoModel.Lemmas.DepsSoundKill
import RedoModel.Lemmas.DepsEval
import RedoModel.Lemmas.DepsSoundRKill
import RedoModel.Lemmas.DepsCmdFrameR
import RedoModel.Lemmas.DepsSoundKillEx
/-!
C10 for rich histories, the concrete side.  The statements that are false, each with its counterexample history
(`RecoversRichK`, `RecoversWatchK` and `KillKeepsBtw` with `kcOps`; `RecoversRichK_noSingle` with `kxOps`); the
histories on which every hypothesis of `recoversRichK_partial` holds (`kaOps`, `kbOps`); one evaluated recovery after a
plain `redo-ifcreate` (`icOps`); and the classes `AlwaysOpK`, `WatchOpK` in which `Props/C10b.lean` is stated.
-/

/-!
C10 for rich histories: definitions, and the COUNTEREXAMPLE to the unrestricted statement.

A target whose script declares a file *conditionally* (`if [ -e f ]; then redo-ifchange f; else redo-ifcreate f; fi`)
was built while `f` existed (row `(t, f, m)`); the user removes `f`; the rebuild of `t` is killed after the
conditional declaration ran: `redo-ifcreate f` has replaced the row `(t, f, m)` by `(t, f, c)` (insert-or-replace on
the key (target, source)), the record and the file of `t` are untouched.  The next `redo-ifchange t` sees: the .do
file current, `f` absent under a `c` row: clean.  Nothing is rebuilt, exit status 0, and `t` keeps the content
computed from the removed file.
-/
namespace RedoModel.Deps.Rich
open RedoModel.Generated

/-- The statement asked for: `noStaleRichFree` with `RichOpK` and `SingleDo`. -/
def RecoversRichK : Prop :=
  ∀ (n : Nat) (rules : Nat → List Nat) (rank : Nat → Nat) (ops : List UserOp) (ts : List Nat) (kg forced : Bool),
    RulesOk rules → SingleDo rules → (∀ op ∈ ops, RichOpK rules op) →
    (∀ w ∈ worldsOf n {} (initWorld rules) ops, RankedR rank w) → (∀ f, rank f < n) →
    OpsOkW n (initWorld rules) ops → (∀ t ∈ ts, t ≠ alwaysId) →
    let w := ops.foldl (fun w op => (applyOp {} n op w).2) (initWorld rules)
    let r := runCmd {} n (if forced then .redo ts kg else .ifchange ts kg) w
    r.1.status = 0 → ∀ t ∈ ts, UpToDateR r.2 t

/-- The script of target 2 (.do file 1): `if [ -e 5 ]; then redo-ifchange 5; else redo-ifcreate 5; fi; cat 5`. -/
def kcS : Script := { cond := [5], reads := [5], tag := 1 }

/-- Give the .do content [17] its meaning, write the source 5 and the .do file 1, build 2, remove 5, rebuild 2 and
kill the process tree at step 0 of the script of 2 (after its conditional declaration, before anything else). -/
def kcOps : List UserOp :=
  [.setProg [17] kcS, .write 5 0, .write 1 7, .cmd (.ifchange [2] false), .remove 5, .crashCmd [2] 2 0]

def kcW : World := kcOps.foldl (fun w op => (applyOp {} 2 op w).2) (initWorld cxRules)
def kcRes : Result × World := runCmd {} 2 (.ifchange [2] false) kcW

/-- The run is killed; the recovery run exits 0 and runs nothing (the trace holds the first build and the killed
one); 2 still holds the output computed from the removed file 5 (`[4, 0, 3, 1]` = tag 1 applied to content `[3]`). -/
theorem kc_eval : kcRes.1.status = 0 ∧ kcRes.2.trace = [.ran 2, .ran 2] ∧
    (applyOp {} 2 (.crashCmd [2] 2 0)
      ((kcOps.take 5).foldl (fun w op => (applyOp {} 2 op w).2) (initWorld cxRules))).1.map (·.status) = some CRASHED ∧
    contentOf kcRes.2 2 = some [4, 0, 3, 1] ∧ existsF kcRes.2 1 = true ∧ contentOf kcRes.2 5 = none ∧
    (kcRes.2.recs 2).isGenerated = true ∧ (kcRes.2.recs 2).isOverride = false ∧
    scriptAt kcRes.2 1 = kcS ∧ kcRes.2.rules 2 = [1] := by
  unfold kcRes kcW
  eval_model

theorem kc_notUpToDate : ¬ UpToDateR kcRes.2 2 := by
  obtain ⟨_, _, _, h2, hex1, h5, hg, ho, hsc, hr⟩ := kc_eval
  intro h
  have hc := h.content_of_owned (genT_true.2 ⟨hg, ho⟩) (dof := 1) (by rw [hr]; simp [firstEx, hex1])
  rw [h2, hsc] at hc
  simp [outOf, kcS, h5, outContent] at hc

/-! The counterexample history `kcOps` satisfies every hypothesis of the statement `RecoversRichK`, hypothesis by
hypothesis (the refutation itself is `C10.recovers_rich_is_false`). -/

instance (op : UserOp) : Decidable (NoWatchOp op) := by
  cases op <;> simp only [NoWatchOp] <;> infer_instance

theorem kc_single : SingleDo cxRules := by
  intro t; unfold cxRules; split <;> simp

instance (rules : Nat → List Nat) (op : UserOp) : Decidable (RichOpK rules op) := by
  cases op <;> simp only [RichOpK] <;> infer_instance

theorem kc_ops : ∀ op ∈ kcOps, RichOpK cxRules op := by decide +kernel

theorem kc_ranked : ∀ w ∈ worldsOf 2 {} (initWorld cxRules) kcOps, RankedR cxRank w :=
  rankedR_history 2 {} cx_rulesOk cx_support (by decide +kernel) (by decide +kernel)

theorem kc_opsOk : OpsOkW 2 (initWorld cxRules) kcOps :=
  OpsOkW.of_progsFirst _ _ _ (fun _ => rfl) rfl

/-!
Non-vacuity of `recoversRichK_partial`: a two-level project with a `redo-always` script whose failure depends on what
it reads (3 <- 2;  2 <- //ALWAYS, 5), built, a source edited, the rebuild killed inside the script of the outer
target 3 after its `redo-ifchange 2` returned (the inner target 2 has been rebuilt and recorded; the output of 3 has
not been written), then recovered.
-/

/-- target 2 (.do file 1): `redo-always; redo-ifchange 5; fail if 5 holds an odd version; cat 5` -/
def kaS2 : Script := { always := true, ifchange := [[5]], reads := [5], failIfOdd := some 5, tag := 1 }
/-- target 3 (.do file 4): `redo-ifchange 2; cat 2` -/
def kaS3 : Script := { ifchange := [[2]], reads := [2], tag := 2 }

/-- set-up (scripts, .do files 1 and 4, source 5) -/
def kaOps0 : List UserOp :=
  [.setProg [17] kaS2, .setProg [19] kaS3, .write 1 7, .write 4 8, .write 5 0]
/-- build, edit source 5, rebuild killed at step 1 of the script of 3 -/
def kaOps : List UserOp :=
  kaOps0 ++ [.cmd (.ifchange [3] false), .write 5 2, .crashCmd [3] 3 1]

theorem ka_single : SingleDo r3Rules := by
  intro t; unfold r3Rules; split
  · simp
  · split <;> simp

/-- rules as given, the two scripts only, and the .do files 1 and 4 hold (if anything) their own script. -/
def KaShape (w : World) : Prop :=
  w.rules = r3Rules ∧ (∀ c sc, w.progs c = some sc → (c = [17] ∧ sc = kaS2) ∨ (c = [19] ∧ sc = kaS3)) ∧
  (∀ n, w.fs 1 = some n → n.content = [17]) ∧ (∀ n, w.fs 4 = some n → n.content = [19])

theorem KaShape.ranked {w : World} (h : KaShape w) : RankedR r3Rank w := by
  obtain ⟨hr, hp, h1, h4⟩ := h
  refine ⟨fun t c hc => ?_, fun t dof hd n sc hn hsc => ?_⟩
  · rw [hr] at hc; unfold r3Rules at hc
    split at hc
    · simp at hc; subst hc; subst_vars; simp [r3Rank]
    · split at hc
      · simp at hc; subst hc; subst_vars; simp [r3Rank]
      · simp at hc
  · rw [hr] at hd; unfold r3Rules at hd
    split at hd
    · simp only [List.mem_singleton] at hd; subst hd; subst_vars
      have hc := h1 n hn
      rw [hc] at hsc
      rcases hp _ _ hsc with ⟨_, rfl⟩ | ⟨hc', _⟩
      · refine ⟨fun _ => by simp [r3Rank, alwaysId], fun d hdm => ?_, fun d hdm => by simp [kaS2] at hdm⟩
        have : d = 5 := by simpa [kaS2] using hdm
        subst this; simp [r3Rank, alwaysId]
      · simp at hc'
    · split at hd
      · simp only [List.mem_singleton] at hd; subst hd; subst_vars
        have hc := h4 n hn
        rw [hc] at hsc
        rcases hp _ _ hsc with ⟨hc', _⟩ | ⟨_, rfl⟩
        · simp at hc'
        · refine ⟨fun ha => by simp [kaS3] at ha, fun d hdm => ?_, fun d hdm => by simp [kaS3] at hdm⟩
          have : d = 2 := by simpa [kaS3] using hdm
          subst this; simp [r3Rank, alwaysId]
      · simp at hd

theorem ka_ranked : ∀ w ∈ worldsOf 3 {} (initWorld r3Rules) kaOps, RankedR r3Rank w :=
  rankedR_history 3 {} r3_rulesOk r3_support (by decide +kernel) (by decide +kernel)

theorem ka_richK : ∀ op ∈ kaOps, RichOpK r3Rules op := by decide +kernel

theorem ka_noWatch : ∀ op ∈ kaOps, NoWatchOp op := by decide +kernel

theorem ka_opsOk : OpsOkW 3 (initWorld r3Rules) kaOps :=
  OpsOkW.of_progsFirst _ _ _ (fun _ => rfl) rfl

/-- **Non-vacuity of `recoversRichK_partial`**: every hypothesis holds for the history `kaOps` (which ends with a
kill in the middle of a two-level rebuild whose inner script says `redo-always`). -/
example : let w := kaOps.foldl (fun w op => (applyOp {} 3 op w).2) (initWorld r3Rules)
    let r := runCmd {} 3 (.ifchange [3] false) w
    r.1.status = 0 → ∀ t ∈ [3], UpToDateR r.2 t :=
  recoversRichK_partial 3 r3Rules r3Rank kaOps [3] false false r3_rulesOk ka_single ka_richK ka_noWatch ka_ranked
    r3_rankLt ka_opsOk (by simp [alwaysId])

/-- Status of the killed run, its trace; status of the recovery run, its trace, and what it leaves in 2 and 3. -/
def kaSummary : Option Status × List Ev × Status × List Ev × Option Content × Option Content :=
  let w8 := (kaOps0 ++ [UserOp.cmd (.ifchange [3] false), UserOp.write 5 2]).foldl (fun w op => (applyOp {} 3 op w).2)
    (initWorld r3Rules)
  let k := applyOp {} 3 (.crashCmd [3] 3 1) w8
  let r := runCmd {} 3 (.ifchange [3] false) k.2
  (k.1.map (·.status), k.2.trace, r.1.status, r.2.trace, contentOf r.2 2, contentOf r.2 3)

/-! The non-vacuity example `kaOps`, evaluated: the run is really killed, the recovery exits 0 and rebuilds
both levels (`C10.recovers_rich_example` is the conclusion of the theorem on this history). -/

/-- The run is really killed (status `CRASHED`) after the script of 3 started and the `redo-always` target 2 was
rebuilt inside it; the recovery exits 0, runs 3 and (because of `redo-always`) 2 again, and leaves 2 built from the
edited source 5 and 3 built from the new 2. -/
theorem ka_eval : kaSummary = (some CRASHED, [.ran 2, .ran 3, .ran 2, .ran 3], 0,
    [.ran 2, .ran 3, .ran 2, .ran 3, .ran 2, .ran 3], some [4, 0, 7, 1], some [6, 0, 4, 0, 7, 1, 1]) := by
  unfold kaSummary
  eval_model

/-- The state before the kill. -/
def kaW8 : World := (kaOps.take 7).foldl (fun w op => (applyOp {} 3 op w).2) (initWorld r3Rules)

theorem ka_btw8 : SK kaW8 ∧ Btw r3Rank kaW8 ∧ kaW8.rules = r3Rules :=
  history_btwK r3_rankLt (kaOps.take 7) _ (SK_init ka_single)
    (Btw_init r3_rulesOk (ka_ranked _ (worldsOf_head 3 {} _ kaOps))) rfl
    (fun op h => ka_richK op (List.mem_of_mem_take h)) (fun op h => ka_noWatch op (List.mem_of_mem_take h))
    (fun w h => ka_ranked w (worldsOf_take 3 {} 7 kaOps _ w h))
    (OpsOkW.of_progsFirst _ _ _ (fun _ => rfl) rfl)

/-- Non-vacuity of `recovery_is_sound_rich` (the state before the kill of the history above). -/
example := recovery_is_sound_rich r3_rankLt ka_btw8.1 ka_btw8.2.1 [3] 3 1
  (by intro t ht; simp only [List.mem_singleton] at ht; subst ht; simp [alwaysId]) [3] false false
  (by intro t ht; simp only [List.mem_singleton] at ht; subst ht; simp [alwaysId])

/-!
The hypotheses of `recoversRichK_partial` cannot be dropped:
* without `SingleDo` the statement is false also for the rich notion of up-to-date (`kxOps` of `DepsSoundKillEx`: the
  known finding `killed-build-forgets-old-dofile`);
* without `NoWatchOp` the invariant itself does not survive a kill (`kcOps` above).
-/

/-- `recoversRichK_partial` without `SingleDo`. -/
def RecoversRichK_noSingle : Prop :=
  ∀ (n : Nat) (rules : Nat → List Nat) (rank : Nat → Nat) (ops : List UserOp) (ts : List Nat) (kg forced : Bool),
    RulesOk rules → (∀ op ∈ ops, RichOpK rules op) → (∀ op ∈ ops, NoWatchOp op) →
    (∀ w ∈ worldsOf n {} (initWorld rules) ops, RankedR rank w) → (∀ f, rank f < n) →
    OpsOkW n (initWorld rules) ops → (∀ t ∈ ts, t ≠ alwaysId) →
    let w := ops.foldl (fun w op => (applyOp {} n op w).2) (initWorld rules)
    let r := runCmd {} n (if forced then .redo ts kg else .ifchange ts kg) w
    r.1.status = 0 → ∀ t ∈ ts, UpToDateR r.2 t

/-- What the recovery command of `kxOps` returns and leaves (`kx_eval` of `DepsSoundKillEx`, in the terms of `UpToDateR`). -/
theorem kx_evalR : kxRes.1.status = 0 ∧ contentOf kxRes.2 5 = some [4] ∧ existsF kxRes.2 3 = true ∧
    existsF kxRes.2 1 = false ∧ (kxRes.2.recs 5).isGenerated = true ∧ (kxRes.2.recs 5).isOverride = false ∧
    scriptAt kxRes.2 3 = { tag := 2 } ∧ kxRes.2.rules 5 = [1, 3] := by
  unfold kxRes kxW
  eval_model

theorem kx_notUpToDateR : ¬ UpToDateR kxRes.2 5 := by
  obtain ⟨_, h5, hex3, hex1, hg, ho, hsc, hr⟩ := kx_evalR
  intro h
  have hc := h.content_of_owned (genT_true.2 ⟨hg, ho⟩) (dof := 3) (by rw [hr]; simp [firstEx, hex1, hex3])
  rw [h5, hsc] at hc
  simp [outOf, outContent] at hc

theorem kx_rankedR : ∀ w ∈ worldsOf 2 {} (initWorld kxRules) kxOps, RankedR kxRank w :=
  rankedR_history 2 {} kx_rulesOk kx_support (by decide +kernel) (by decide +kernel)

theorem kx_richK : ∀ op ∈ kxOps, RichOpK kxRules op := by decide +kernel

theorem kx_noWatch : ∀ op ∈ kxOps, NoWatchOp op := by decide +kernel

theorem kx_opsOkW : OpsOkW 2 (initWorld kxRules) kxOps :=
  OpsOkW.of_progsFirst _ _ _ (fun _ => rfl) rfl

/-- `kill_keeps_invariant` for rich worlds under `SingleDo` alone. -/
def KillKeepsBtw : Prop :=
  ∀ (rank : Nat → Nat) (N : Nat) (w : World) (ts : List Nat) (t k : Nat), (∀ f, rank f < N) → SingleDo w.rules →
    Btw rank w → (∀ x ∈ ts, x ≠ alwaysId) → Btw rank (applyOp {} N (.crashCmd ts t k) w).2

/-!
Evidence (one instance, evaluated in `C10.ifcreate_kill_instance_recovers`, not a theorem about all histories) that a
kill after a plain `redo-ifcreate` declaration IS recovered from, although it replaces an `m` row by a `c` row exactly
like the conditional declaration of `kcOps`: here the declaration changed because the .do file changed, and the killed
build has already re-stamped the .do file, so the target stays dirty.  (`redo-ifcreate` is outside `recoversRichK_partial` because the
invariant of the soundness proof, not the recovery, breaks.)
-/

/-- old script of target 2: `redo-ifchange 5; cat 5` -/
def icOld : Script := { ifchange := [[5]], reads := [5], tag := 1 }
/-- new script of target 2: `redo-ifcreate 5` -/
def icNew : Script := { ifcreate := [5], tag := 2 }

/-- Build 2 by the old script; edit the .do file 1 (new script), remove 5; rebuild killed at step 0 of the script of 2
(after `redo-ifcreate 5` replaced the row `(2, 5, m)` by `(2, 5, c)`). -/
def icOps : List UserOp :=
  [.setProg [17] icOld, .setProg [19] icNew, .write 5 0, .write 1 7, .cmd (.ifchange [2] false),
   .write 1 8, .remove 5, .crashCmd [2] 2 0]

/-- Status of the killed run; status and trace of the recovery run; what it leaves in 2. -/
def icSummary :=
  let w7 := (icOps.take 7).foldl (fun w op => (applyOp {} 2 op w).2) (initWorld cxRules)
  let k := applyOp {} 2 (.crashCmd [2] 2 0) w7
  let r := runCmd {} 2 (.ifchange [2] false) k.2
  (k.1.map (·.status), r.1.status, r.2.trace, contentOf r.2 2)

end RedoModel.Deps.Rich

/-! The three classes of rich histories (`AlwaysOp` ⊂ `WatchOp` ⊂ `RichOp`, `DepsSoundRSpec`) with killed runs added:
definitions (statement vocabulary of `Props/C10b.lean`) and what its theorems need.  Over `AlwaysOp` recovery holds in full
under `SingleDo` (`C10.recovers_always`); over `WatchOp` it is already false (`C10.recovers_watch_is_false`: the
counterexample `kcOps` writes plain files only). -/
namespace RedoModel.Deps
open RedoModel.Generated

/-- `AlwaysOp` (scripts with `redo-always` and content-dependent failure; plain user writes) plus killed runs. -/
def AlwaysOpK (rules : Nat → List Nat) : UserOp → Prop
  | .crashCmd ts _ _ => ∀ t ∈ ts, t ≠ alwaysId
  | op => AlwaysOp rules op

/-- `WatchOp` (also `redo-ifcreate`, conditional declarations; plain user writes) plus killed runs. -/
def WatchOpK (rules : Nat → List Nat) : UserOp → Prop
  | .crashCmd ts _ _ => ∀ t ∈ ts, t ≠ alwaysId
  | op => WatchOp rules op

theorem AlwaysOpK.toRichK {rules : Nat → List Nat} : ∀ {op : UserOp}, AlwaysOpK rules op → RichOpK rules op := by
  intro op h
  cases op with
  | crashCmd => exact h
  | _ =>
    simp only [AlwaysOpK] at h
    exact (AlwaysOp.toWatch h).toRich

theorem WatchOpK.toRichK {rules : Nat → List Nat} : ∀ {op : UserOp}, WatchOpK rules op → RichOpK rules op := by
  intro op h
  cases op with
  | crashCmd => exact h
  | _ =>
    simp only [WatchOpK] at h
    exact WatchOp.toRich h

end RedoModel.Deps

namespace RedoModel.Deps.Rich
open RedoModel.Generated

theorem alwaysOpK_noWatch {rules : Nat → List Nat} : ∀ {op : UserOp}, AlwaysOpK rules op → NoWatchOp op := by
  intro op h
  cases op with
  | setProg _ s => exact (show s.RichA from h).2
  | _ => trivial

/-- The statement over `WatchOp` histories. -/
def RecoversWatchK : Prop :=
  ∀ (n : Nat) (rules : Nat → List Nat) (rank : Nat → Nat) (ops : List UserOp) (ts : List Nat) (kg forced : Bool),
    RulesOk rules → SingleDo rules → (∀ op ∈ ops, WatchOpK rules op) →
    (∀ w ∈ worldsOf n {} (initWorld rules) ops, RankedR rank w) → (∀ f, rank f < n) →
    OpsOkW n (initWorld rules) ops → (∀ t ∈ ts, t ≠ alwaysId) →
    let w := ops.foldl (fun w op => (applyOp {} n op w).2) (initWorld rules)
    let r := runCmd {} n (if forced then .redo ts kg else .ifchange ts kg) w
    r.1.status = 0 → ∀ t ∈ ts, UpToDateR r.2 t

instance (rules : Nat → List Nat) (op : UserOp) : Decidable (WatchOpK rules op) := by
  cases op <;> simp only [WatchOpK] <;> infer_instance

theorem kc_opsW : ∀ op ∈ kcOps, WatchOpK cxRules op := by decide +kernel

/-! Non-vacuity over `RichOp` histories: the history `kaOps` continued by a hand edit of the generated target 2
(an override) and a second killed run: every hypothesis of `recoversRichK_partial` still holds. -/

/-- … then the user overwrites the generated file 2 by hand, and a second `redo-ifchange 3` is killed at step 0. -/
def kbOps : List UserOp := kaOps ++ [.write 2 9, .crashCmd [3] 3 0]

theorem kb_ranked : ∀ w ∈ worldsOf 3 {} (initWorld r3Rules) kbOps, RankedR r3Rank w :=
  rankedR_history 3 {} r3_rulesOk r3_support (by decide +kernel) (by decide +kernel)

theorem kb_richK : ∀ op ∈ kbOps, RichOpK r3Rules op := by decide +kernel

theorem kb_noWatch : ∀ op ∈ kbOps, NoWatchOp op := by decide +kernel

theorem kb_opsOk : OpsOkW 3 (initWorld r3Rules) kbOps :=
  OpsOkW.of_progsFirst _ _ _ (fun _ => rfl) rfl

/-- **Non-vacuity with a hand edit of a generated target and two kills**: every hypothesis of
`recoversRichK_partial` holds for `kbOps`. -/
example : let w := kbOps.foldl (fun w op => (applyOp {} 3 op w).2) (initWorld r3Rules)
    let r := runCmd {} 3 (.ifchange [3] false) w
    r.1.status = 0 → ∀ t ∈ [3], UpToDateR r.2 t :=
  recoversRichK_partial 3 r3Rules r3Rank kbOps [3] false false r3_rulesOk ka_single kb_richK kb_noWatch kb_ranked
    r3_rankLt kb_opsOk (by simp [alwaysId])

end RedoModel.Deps.Rich
