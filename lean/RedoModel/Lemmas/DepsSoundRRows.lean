import RedoModel.Lemmas.DepsSoundRDirty
/-! C01 on the full engine model, rich histories. The frames of the row operations of a target under construction (`RowOp`,
over `WEqv` of `DepsSoundRUpdate`) and of a build (`BExt`, with the conversions from `DExt`, `WEqv`, `RowOp`, `OffT`); the
job's stale copy of a record (`StaleCopy`, `StaleOk`). -/
namespace RedoModel.Deps.Rich

/-! ### Operations on the rows of a target under construction (`zapDeps1`, `addDep`): frame `RowOp`. -/

/-- `w'` is `w` up to `row`/`nextRow`/`trace` and the rows whose target is `t`. -/
structure RowOp (t : Nat) (w w' : World) : Prop where
  eqv : WEqv w { w' with deps := w.deps }
  rows : ∀ d : Dep, d.target ≠ t → (d ∈ w'.deps ↔ d ∈ w.deps)

theorem RowOp.toPlain {t w w'} (h : RowOp t w w') : Deps.RowOp t w w' := ⟨h.eqv.toPlain, h.rows⟩

theorem _root_.RedoModel.Deps.RowOp.toRich {t w w'} (h : Deps.RowOp t w w') : RowOp t w w' := ⟨h.eqv.toRich, h.rows⟩

theorem RowOp.refl (t : Nat) (w : World) : RowOp t w w := ⟨WEqv.refl w, fun _ _ => Iff.rfl⟩

theorem RowOp.of_eqv {t : Nat} {w w' : World} (h : WEqv w w') : RowOp t w w' :=
  ⟨{ h with deps := rfl }, fun _ _ => by rw [h.deps]⟩

theorem RowOp.trans {t : Nat} {a b c : World} (h1 : RowOp t a b) (h2 : RowOp t b c) : RowOp t a c :=
  (h1.toPlain.trans h2.toPlain).toRich

theorem RowOp.fs {t w w'} (h : RowOp t w w') : w'.fs = w.fs := h.eqv.fs
theorem RowOp.rules {t w w'} (h : RowOp t w w') : w'.rules = w.rules := h.eqv.rules
theorem RowOp.progs {t w w'} (h : RowOp t w w') : w'.progs = w.progs := h.eqv.progs
theorem RowOp.clock {t w w'} (h : RowOp t w w') : w'.clock = w.clock := h.eqv.clock

theorem RowOp.verR {t w w'} (h : RowOp t w w') (R f) : VerR w' R f ↔ VerR w R f := h.eqv.verR R f
theorem RowOp.recCur {t w w'} (h : RowOp t w w') (f) : RecCur w' f ↔ RecCur w f := h.eqv.recCur f
theorem RowOp.good {t w w'} (h : RowOp t w w') (R f) : Good w' R f ↔ Good w R f := h.eqv.good R f
theorem RowOp.existsF {t w w'} (h : RowOp t w w') (f) : existsF w' f = existsF w f := h.eqv.existsF f
theorem RowOp.contentOf {t w w'} (h : RowOp t w w') (f) : contentOf w' f = contentOf w f := h.eqv.contentOf f
theorem RowOp.readStamp {t w w'} (h : RowOp t w w') (f) : readStamp w' f = readStamp w f := h.eqv.readStamp f
theorem RowOp.scriptAt {t w w'} (h : RowOp t w w') (f) : scriptAt w' f = scriptAt w f := h.eqv.scriptAt f

theorem RowOp.hasRow {t w w'} (h : RowOp t w w') {x s m} (hx : x ≠ t) : HasRow w' x s m ↔ HasRow w x s m :=
  h.toPlain.hasRow hx

/-- What `setStatic` / `setFailed` read of a record: a stale copy that agrees on these behaves like the record. -/
structure AgreeV (a b : Rec) : Prop where
  checked : a.checked = b.checked
  changed : a.changed = b.changed
  stamp : a.stamp = b.stamp
  csum : a.csum = b.csum

theorem Flds.agreeV {a b : Rec} (h : Flds a b) : AgreeV a b := ⟨h.checked, h.changed, h.stamp, h.csum⟩

/-- The job's copy of the record of `t`, loaded before the dirtiness check: the record itself, or (when the check
found the file of a generated target gone and reset the record) a copy that differs in the ownership flags only.
This is what `startSelf` is handed. -/
def StaleCopy (w : World) (t : Nat) (sf : Rec) : Prop :=
  sf = w.recs t ∨ (AgreeV sf (w.recs t) ∧ w.fs t = none ∧ sf.stamp ≠ some .missing)

/-- `StaleCopy` up to the fields the invariant reads (`Flds`): this form survives the row operations of the build
(`StaleOk.sameT`), and is what `ssBuild` and its parts ask for. -/
def StaleOk (w : World) (t : Nat) (sf : Rec) : Prop :=
  Flds sf (w.recs t) ∨ (AgreeV sf (w.recs t) ∧ w.fs t = none ∧ sf.stamp ≠ some .missing)

theorem StaleCopy.ok {w t sf} (h : StaleCopy w t sf) : StaleOk w t sf :=
  h.imp (fun (e : sf = w.recs t) => e ▸ Flds.refl _) id

/-- After a dirtiness check that left the record of `t` to its job (`OwnRel`): the job's copy is a stale copy of the
record now in place, and `t`, which was not verified, still is not a verified redo-owned target. -/
theorem OwnRel.stale {rank R b w w1 t} (ho : OwnRel w w1 t) (hdx : DExt rank R b w w1) (hnv : ¬ VerR w R t) :
    StaleCopy w1 t (w.recs t) ∧ (VerR w1 R t → genT (w1.recs t) = false) := by
  rcases ho with h | ⟨h, hf, hs⟩
  · exact ⟨Or.inl h.symm, fun hv => absurd (by unfold VerR at hv ⊢; rw [h] at hv; exact hv) hnv⟩
  · exact ⟨Or.inr ⟨by rw [h]; exact ⟨rfl, rfl, rfl, rfl⟩, by rw [congrFun hdx.same.1 t]; exact hf, hs⟩,
      fun _ => by rw [h]; rfl⟩

theorem StaleOk.agreeV {w t sf} (h : StaleOk w t sf) : AgreeV sf (w.recs t) := h.elim Flds.agreeV (fun h => h.1)

theorem StaleOk.ovr {w t sf} (h : StaleOk w t sf) :
    sf.isOverride = (w.recs t).isOverride ∨ (w.fs t = none ∧ sf.stamp ≠ some .missing) :=
  h.elim (fun h => Or.inl h.ovr) (fun h => Or.inr h.2)

theorem AgreeV.trans_flds {a b c : Rec} (h1 : AgreeV a b) (h2 : Flds b c) : AgreeV a c :=
  ⟨h1.checked.trans h2.checked, h1.changed.trans h2.changed, h1.stamp.trans h2.stamp, h1.csum.trans h2.csum⟩

theorem Inv_rowOp {rank R X t w w'} (hi : Inv rank R X w) (h : RowOp t w w') (hX : X t) (hng : ¬ Good w R t)
    (hrowsLt : ∀ d ∈ w'.deps, rank d.source < rank d.target)
    (hcPlain : ∀ d ∈ w'.deps, d.modeM = false → w'.rules d.source = [] ∧ d.source ≠ alwaysId) : Inv rank R X w' := by
  have hi1 : Inv rank R X { w' with deps := w.deps } := h.eqv.inv hi
  have hng1 : ¬ Good { w' with deps := w.deps } R t := fun hg => hng ((h.eqv.good R t).1 hg)
  have hnv1 : ¬ VerR { w' with deps := w.deps } R t := fun hv => hng1 (Or.inl hv)
  have off : OffT t { w' with deps := w.deps } w' :=
    ⟨rfl, rfl, fun _ _ => rfl, fun _ => rfl, fun _ _ => rfl, fun d hd => h.rows d hd, Nat.le_refl _, rfl⟩
  refine ⟨Base_upd hi1.base off ((hi1.base.recOk t).congr (Flds.refl _) rfl rfl (Nat.le_refl _)) (fun _ _ hx => hx) hrowsLt hcPlain
    (hdet_quiet rfl rfl (fun hs => hs) (fun hs => hs)) ?_
    (fun hg hs => Or.inr ⟨⟨hg, hs, rfl⟩, fun hx _ => hx.elim (fun hx => absurd hX hx) (fun hv => absurd hv hnv1)⟩),
    hi.Rpos, Ver_upd hi1 off hng1 (fun hv => absurd hv hnv1)⟩
  rintro (hx | hv)
  · exact absurd hX hx
  · exact absurd hv hnv1

theorem RowOp.zapDeps1 (w : World) (t : Nat) : RowOp t w (zapDeps1 w t) := (Deps.RowOp.zapDeps1 w t).toRich

theorem Inv_zapDeps1 {rank R X t w} (hi : Inv rank R X w) (hX : X t) (hng : ¬ Good w R t) :
    Inv rank R X (zapDeps1 w t) :=
  Inv_rowOp hi (RowOp.zapDeps1 w t) hX hng
    (zapDeps1_rows (P := fun d => rank d.source < rank d.target) (fun _ h => h) hi.base.rowsLt)
    (zapDeps1_rows (P := fun d => d.modeM = false → w.rules d.source = [] ∧ d.source ≠ alwaysId) (fun _ h => h) hi.base.cPlain)

theorem RowOp.addDep (w : World) (t s : Nat) (m : Bool) : RowOp t w (addDep w t s m) := (Deps.RowOp.addDep w t s m).toRich

/-- A row declared during the current build of `t` (not marked for deletion). -/
def HasRowU (w : World) (t s : Nat) (m : Bool) : Prop :=
  ∃ d ∈ w.deps, d.target = t ∧ d.source = s ∧ d.modeM = m ∧ d.deleteMe = false

theorem HasRowU.hasRow {w t s m} (h : HasRowU w t s m) : HasRow w t s m := Deps.HasRowU.hasRow h

theorem addDep_hasRowU_new (w : World) (t s : Nat) (m : Bool) : HasRowU (addDep w t s m) t s m :=
  Deps.addDep_hasRowU_new w t s m

theorem addDep_hasRow_new (w : World) (t s : Nat) (m : Bool) : HasRow (addDep w t s m) t s m :=
  Deps.addDep_hasRow_new w t s m

theorem addDep_hasRow_keep {w : World} {t s : Nat} {m : Bool} {x s' : Nat} {m' : Bool} (h : HasRow w x s' m')
    (hne : ¬ (x = t ∧ s' = s)) : HasRow (addDep w t s m) x s' m' := Deps.addDep_hasRow_keep h hne

theorem Inv_addDep {rank R X t w s m} (hi : Inv rank R X w) (hX : X t) (hng : ¬ Good w R t)
    (hlt : rank s < rank t) (hpl : m = false → w.rules s = [] ∧ s ≠ alwaysId) : Inv rank R X (addDep w t s m) := by
  have hro := RowOp.addDep w t s m
  refine Inv_rowOp hi hro hX hng (fun d hd => ?_) (fun d hd hm => ?_)
  · rcases addDep_mem hd with rfl | ⟨h, _⟩
    · exact hlt
    · exact hi.base.rowsLt d h
  · rw [hro.rules]
    rcases addDep_mem hd with rfl | ⟨h, _⟩
    · exact hpl hm
    · exact hi.base.cPlain d h hm

/-! ### Frame of building files of rank `< b` (`BExt`), conversions from the smaller frames; `SameT`: the record and
the file of one target stay put. -/

/-- Frame of a command that builds files of rank `< b` on behalf of `po` (whose rows it may extend). -/
structure BExt (rank : Nat → Nat) (R b : Nat) (po : Option Nat) (w w' : World) : Prop where
  rules : w'.rules = w.rules
  progs : w'.progs = w.progs
  plain : ∀ x, w.rules x = [] → w'.fs x = w.fs x
  above : ∀ x, b ≤ rank x → w'.fs x = w.fs x ∧
    (w'.recs x).isGenerated = (w.recs x).isGenerated ∧ (w'.recs x).isOverride = (w.recs x).isOverride ∧
    (w'.recs x).checked = (w.recs x).checked ∧ (w'.recs x).changed = (w.recs x).changed ∧
    (w'.recs x).failed = (w.recs x).failed ∧ (w'.recs x).stamp = (w.recs x).stamp ∧
    (w'.recs x).csum = (w.recs x).csum
  rowsAbove : ∀ d : Dep, b ≤ rank d.target → po ≠ some d.target → (d ∈ w'.deps ↔ d ∈ w.deps)
  ver : ∀ x, VerR w R x → VerR w' R x ∧ contentOf w' x = contentOf w x ∧
    genT (w'.recs x) = genT (w.recs x)
  stat : ∀ x, RecCur w x → genT (w.recs x) = false →
    RecCur w' x ∧ genT (w'.recs x) = false ∧ w'.fs x = w.fs x
  clock : w.clock ≤ w'.clock
  rc : w'.runCounter = w.runCounter

theorem BExt.refl (rank R b po w) : BExt rank R b po w w :=
  ⟨rfl, rfl, fun _ _ => rfl, fun _ _ => ⟨rfl, rfl, rfl, rfl, rfl, rfl, rfl, rfl⟩, fun _ _ _ => Iff.rfl,
   fun _ h => ⟨h, rfl, rfl⟩, fun _ h1 h2 => ⟨h1, h2, rfl⟩, Nat.le_refl _, rfl⟩

theorem BExt.trans {rank R b po w w' w''} (h1 : BExt rank R b po w w') (h2 : BExt rank R b po w' w'') :
    BExt rank R b po w w'' := by
  refine ⟨h2.rules.trans h1.rules, h2.progs.trans h1.progs,
    fun x hx => (h2.plain x (by rw [h1.rules]; exact hx)).trans (h1.plain x hx), fun x hx => ?_,
    fun d hd hp => (h2.rowsAbove d hd hp).trans (h1.rowsAbove d hd hp), fun x hv => ?_, fun x hc hg => ?_,
    Nat.le_trans h1.clock h2.clock, h2.rc.trans h1.rc⟩
  · obtain ⟨a1, a2, a3, a4, a5, a6, a7, a8⟩ := h1.above x hx
    obtain ⟨b1, b2, b3, b4, b5, b6, b7, b8⟩ := h2.above x hx
    exact ⟨b1.trans a1, b2.trans a2, b3.trans a3, b4.trans a4, b5.trans a5, b6.trans a6, b7.trans a7, b8.trans a8⟩
  · obtain ⟨a1, a2, a3⟩ := h1.ver x hv
    obtain ⟨b1, b2, b3⟩ := h2.ver x a1
    exact ⟨b1, b2.trans a2, b3.trans a3⟩
  · obtain ⟨a1, a2, a3⟩ := h1.stat x hc hg
    obtain ⟨b1, b2, b3⟩ := h2.stat x a1 a2
    exact ⟨b1, b2, b3.trans a3⟩

theorem BExt.mono {rank R b b' po w w'} (h : BExt rank R b po w w') (hb : b ≤ b') : BExt rank R b' po w w' :=
  ⟨h.rules, h.progs, h.plain, fun x hx => h.above x (Nat.le_trans hb hx),
   fun d hd hp => h.rowsAbove d (Nat.le_trans hb hd) hp, h.ver, h.stat, h.clock, h.rc⟩

theorem BExt.good {rank R b po w w'} (h : BExt rank R b po w w') {x} (hg : Good w R x) : Good w' R x := by
  rcases hg with hv | ⟨h0, hc, hg⟩
  · exact Or.inl (h.ver x hv).1
  · exact Or.inr ⟨h0, (h.stat x hc hg).1, (h.stat x hc hg).2.1⟩

theorem DExt.toBExt {rank R b po w w'} (h : DExt rank R b w w') : BExt rank R b po w w' := by
  obtain ⟨hfs, hdeps, hrc, hclock, _, hprogs, hrules⟩ := h.same
  refine ⟨hrules, hprogs, fun x _ => congrFun hfs x, fun x hx => ?_, fun d _ _ => by rw [hdeps],
    fun x hv => ⟨(h.ver x hv).1, contentOf_congr (congrFun hfs x), (h.ver x hv).2⟩,
    fun x hc hg => ⟨(h.stat x hc hg).1, (h.stat x hc hg).2, congrFun hfs x⟩, Nat.le_of_eq hclock.symm, hrc⟩
  · rw [h.above x hx]; exact ⟨congrFun hfs x, rfl, rfl, rfl, rfl, rfl, rfl, rfl⟩

theorem BExt.of_eqv {rank R b po w w'} (e : WEqv w { w' with deps := w.deps })
    (hrows : ∀ d : Dep, b ≤ rank d.target → po ≠ some d.target → (d ∈ w'.deps ↔ d ∈ w.deps)) :
    BExt rank R b po w w' :=
  ⟨e.rules, e.progs, fun x _ => congrFun e.fs x,
    fun x _ => ⟨congrFun e.fs x, e.gen x, e.ovr x, e.checked x, e.changed x, e.failed x, e.stamp x, e.csum x⟩,
    hrows, fun x hv => ⟨(e.verR R x).2 hv, e.contentOf x, e.genT x⟩,
    fun x hc hg => ⟨(e.recCur x).2 hc, by rw [e.genT]; exact hg, congrFun e.fs x⟩, Nat.le_of_eq e.clock.symm, e.rc⟩

theorem WEqv.toBExt {rank R b po w w'} (h : WEqv w w') : BExt rank R b po w w' :=
  BExt.of_eqv { h with deps := rfl } (fun _ _ _ => by rw [h.deps])

theorem RowOp.toBExtP {rank R b p w w'} (h : RowOp p w w') : BExt rank R b (some p) w w' :=
  BExt.of_eqv h.eqv (fun d _ hp => h.rows d (fun e => hp (by rw [e])))

theorem RowOp.toBExt {rank R b po t w w'} (h : RowOp t w w') (hlt : rank t < b) : BExt rank R b po w w' :=
  BExt.of_eqv h.eqv (fun d hd _ => h.rows d (fun e => by rw [e] at hd; omega))

/-- The record (up to `row`) and the file of `t` are the same in both worlds. -/
structure SameT (t : Nat) (w w' : World) : Prop where
  flds : Flds (w'.recs t) (w.recs t)
  fs : w'.fs t = w.fs t

theorem SameT.toPlain {t w w'} (h : SameT t w w') : Deps.SameT t w w' := ⟨h.flds.toPlain, h.fs⟩

theorem _root_.RedoModel.Deps.SameT.toRich {t w w'} (h : Deps.SameT t w w') : SameT t w w' := ⟨h.flds.toRich, h.fs⟩

theorem SameT.refl (t : Nat) (w : World) : SameT t w w := ⟨Flds.refl _, rfl⟩
theorem SameT.trans {t a b c} (h1 : SameT t a b) (h2 : SameT t b c) : SameT t a c := (h1.toPlain.trans h2.toPlain).toRich

theorem WEqv.sameT {w w'} (h : WEqv w w') (t : Nat) : SameT t w w' := ⟨h.flds t, congrFun h.fs t⟩

theorem RowOp.sameT {t' w w'} (h : RowOp t' w w') (t : Nat) : SameT t w w' := (h.toPlain.sameT t).toRich

theorem BExt.sameT {rank R b po w w'} (h : BExt rank R b po w w') {t : Nat} (ht : b ≤ rank t) : SameT t w w' := by
  obtain ⟨a1, a2, a3, a4, a5, a6, a7, a8⟩ := h.above t ht
  exact ⟨⟨a2, a3, a4, a5, a6, a7, a8⟩, a1⟩

theorem SameT.good {t w w'} (h : SameT t w w') (R : Nat) : Good w' R t ↔ Good w R t := by
  obtain ⟨⟨a2, a3, a4, a5, a6, a7, _⟩, a1⟩ := h
  unfold Good VerR RecCur
  rw [genT_congr a2 a3, a4, a5, a6, a7, readStamp_congr a1]

theorem BExt.good_above {rank R b po w w'} (h : BExt rank R b po w w') {t} (ht : b ≤ rank t) :
    Good w' R t ↔ Good w R t := (h.sameT ht).good R

theorem StaleOk.sameT {w w' t sf} (h : StaleOk w t sf) (hs : SameT t w w') : StaleOk w' t sf :=
  h.imp (fun f => f.trans hs.flds.symm) (fun ⟨a, b, c⟩ => ⟨a.trans_flds hs.flds.symm, by rw [hs.fs]; exact b, c⟩)

theorem SameT.existsF {t w w'} (h : SameT t w w') : existsF w' t = existsF w t := existsF_congr h.fs

/-- A step that touches no parent's rows is a step on behalf of any parent. -/
theorem BExt.weakenPo {rank R b po w w'} (h : BExt rank R b none w w') : BExt rank R b po w w' :=
  ⟨h.rules, h.progs, h.plain, h.above, fun d hd _ => h.rowsAbove d hd (by simp), h.ver, h.stat, h.clock, h.rc⟩

/-- The frame of the commands run on behalf of `t` is a frame of a job on `t`. -/
theorem BExt.lift {rank R t b po w w'} (h : BExt rank R (rank t) (some t) w w') (hlt : rank t < b) :
    BExt rank R b po w w' :=
  ⟨h.rules, h.progs, h.plain, fun x hx => h.above x (Nat.le_trans (Nat.le_of_lt hlt) hx),
   fun d hd _ => h.rowsAbove d (Nat.le_trans (Nat.le_of_lt hlt) hd) (fun e => by cases e; omega),
   h.ver, h.stat, h.clock, h.rc⟩

theorem OffT.toBExt {rank R t w w' b po} (h : OffT t w w') (hlt : rank t < b)
    (hver : VerR w R t → VerR w' R t ∧ contentOf w' t = contentOf w t ∧
      genT (w'.recs t) = genT (w.recs t))
    (hstat : RecCur w t → genT (w.recs t) = false →
      RecCur w' t ∧ genT (w'.recs t) = false ∧ w'.fs t = w.fs t) : BExt rank R b po w w' := by
  refine ⟨h.rules, h.progs, fun x hx => h.fsPlain hx, fun x hx => ?_, fun d hd _ => ?_, fun x hv => ?_,
    fun x hc hg => ?_, h.clock, h.rc⟩
  · have e : x ≠ t := fun e => by subst e; omega
    rw [h.recs x e]; exact ⟨h.fs x e, rfl, rfl, rfl, rfl, rfl, rfl, rfl⟩
  · exact h.rows d (fun e => by rw [e] at hd; omega)
  · by_cases e : x = t
    · subst e; exact hver hv
    · exact ⟨(h.verR e R).2 hv, contentOf_congr (h.fs x e), by rw [h.recs x e]⟩
  · by_cases e : x = t
    · subst e; exact hstat hc hg
    · exact ⟨(h.recCur e).2 hc, by rw [h.recs x e]; exact hg, h.fs x e⟩

end RedoModel.Deps.Rich
