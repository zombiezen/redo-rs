import RedoModel.Lemmas.DepsSoundSpec
import RedoModel.Lemmas.Deps
import RedoModel.Lemmas.DepsOwnedEngine
/-!
C01 at greater generality: statement-level definitions for *rich* scripts (`redo-always`, `redo-ifcreate`,
conditional declarations, content-dependent failure) and rich user operations (hand-written files at target names; with
killed runs: `RichOpK`), the rich notion of up-to-date (`Rich.UpToDateR`, `Rich.RankedR`), and, under a header of its own,
the run invariant `Rich.Inv` of the soundness proof.
-/
namespace RedoModel.Deps

/-- A rich script: any number of redo-ifchange commands, optionally redo-always, redo-ifcreate declarations and
conditional declarations; it reads only what it declared (its ifchange lists and its conditional files);
no redo-stamp; it may fail (`exit`, or `failIfOdd` on a declared file). -/
def Script.Rich (sc : Script) : Prop :=
  sc.stamp = 0 ∧ (∀ f ∈ sc.reads, f ∈ sc.ifchange.flatten ∨ f ∈ sc.cond) ∧
  (∀ f, sc.failIfOdd = some f → f ∈ sc.ifchange.flatten)

def Script.RichA (sc : Script) : Prop := sc.Rich ∧ sc.ifcreate = [] ∧ sc.cond = []

/-- The content-dependent failure test of `runScript` (`failIfOdd`), on the content of the file. -/
def oddC : Option Content → Bool
  | some [x] => x ≥ 3 && x % 2 == 1 && ((x - 3) / 2) % 2 == 1
  | _ => false

def Cmd.names : Cmd → List Nat
  | .redo ts _ => ts
  | .ifchange ts _ => ts
  | _ => []

/-- The plain user operations, with `RichA` scripts; commands do not name the `//ALWAYS` pseudo file. -/
def AlwaysOp (rules : Nat → List Nat) : UserOp → Prop
  | .write f _ => rules f = [] ∧ f ≠ alwaysId
  | .remove f => f ≠ alwaysId
  | .chmod f => rules f = [] ∧ f ≠ alwaysId
  | .hide _ => False
  | .unhide _ => False
  | .setProg _ s => s.RichA
  | .cmd c => ∀ t ∈ c.names, t ≠ alwaysId
  | .crashCmd _ _ _ => False

/-- As `AlwaysOp`, with any rich script (`redo-ifcreate`, conditional declarations). -/
def WatchOp (rules : Nat → List Nat) : UserOp → Prop
  | .write f _ => rules f = [] ∧ f ≠ alwaysId
  | .remove f => f ≠ alwaysId
  | .chmod f => rules f = [] ∧ f ≠ alwaysId
  | .hide _ => False
  | .unhide _ => False
  | .setProg _ s => s.Rich
  | .cmd c => ∀ t ∈ c.names, t ≠ alwaysId
  | .crashCmd _ _ _ => False

/-- As `WatchOp`, and the user may write ANY file but the `//ALWAYS` pseudo file: hand-written
files at target names, hand edits of generated targets (then the file is the user's: override semantics). -/
def RichOp (_rules : Nat → List Nat) : UserOp → Prop
  | .write f _ => f ≠ alwaysId
  | .remove f => f ≠ alwaysId
  | .chmod f => _rules f = [] ∧ f ≠ alwaysId
  | .hide _ => False
  | .unhide _ => False
  | .setProg _ s => s.Rich
  | .cmd c => ∀ t ∈ c.names, t ≠ alwaysId
  | .crashCmd _ _ _ => False

theorem WatchOp.toRich {rules : Nat → List Nat} : ∀ {op : UserOp}, WatchOp rules op → RichOp rules op
  | .write _ _, h => h.2
  | .remove _, h => h
  | .chmod _, h => h
  | .hide _, h => h
  | .unhide _, h => h
  | .setProg _ _, h => h
  | .cmd _, h => h
  | .crashCmd _ _ _, h => h

theorem AlwaysOp.toWatch {rules : Nat → List Nat} : ∀ {op : UserOp}, AlwaysOp rules op → WatchOp rules op
  | .write _ _, h => h
  | .remove _, h => h
  | .chmod _, h => h
  | .hide _, h => h
  | .unhide _, h => h
  | .setProg _ _, h => h.1
  | .cmd _, h => h
  | .crashCmd _ _ _, h => h

/-- `RichOp` plus killed `redo-ifchange` runs (not naming the `//ALWAYS` pseudo file). -/
def RichOpK (rules : Nat → List Nat) : UserOp → Prop
  | .crashCmd ts _ _ => ∀ t ∈ ts, t ≠ alwaysId
  | op => RichOp rules op

theorem RichOp.toK {rules : Nat → List Nat} : ∀ {op : UserOp}, RichOp rules op → RichOpK rules op := by
  intro op h
  cases op with
  | crashCmd => exact h.elim
  | _ => exact h

end RedoModel.Deps

namespace RedoModel.Deps.Rich

def contentOf (w : World) (f : Nat) : Option Content := (w.fs f).map (·.content)

def failNowOf (w : World) (sc : Script) : Bool :=
  match sc.failIfOdd with
  | none => false
  | some f => oddC (contentOf w f)

/-- The script a .do file stands for, as `startSelf` computes it. -/
def scriptAt (w : World) (dof : Nat) : Script :=
  match w.fs dof with
  | some n => (w.progs n.content).getD {}
  | none => {}

/-- First existing candidate (what `findDoFile` chooses). -/
def firstEx (w : World) : List Nat → Option Nat
  | [] => none
  | c :: cs => if existsF w c then some c else firstEx w cs

def outOf (w : World) (sc : Script) : Option Content :=
  if sc.outMode = 2 then none else some (outContent sc.tag (sc.reads.map (contentOf w)))

/-- "Has the content a from-scratch build would produce", for rich scripts.  A file without an existing .do
candidate, a file redo does not own (hand-written) and an overridden file stand for themselves.  A target is up to
date when its chosen script, run now on up-to-date inputs, would succeed and produce exactly this content:
every declared dependency is up to date, every conditional file that exists is up to date, no `redo-ifcreate`
object exists (else the script fails), the script does not fail (`exit`, `failIfOdd`). -/
inductive UpToDateR (w : World) : Nat → Prop
  | source {f} : (∀ c ∈ w.rules f, existsF w c = false) → UpToDateR w f
  | user {f} : (w.recs f).isGenerated = false → existsF w f = true → UpToDateR w f
  | override {f} : (w.recs f).isOverride = true → existsF w f = true → UpToDateR w f
  | target {t dof} : firstEx w (w.rules t) = some dof →
      (∀ d ∈ (scriptAt w dof).ifchange.flatten, UpToDateR w d) →
      (∀ d ∈ (scriptAt w dof).cond, existsF w d = true → UpToDateR w d) →
      (∀ d ∈ (scriptAt w dof).ifcreate, existsF w d = false) →
      (scriptAt w dof).exit = 0 → failNowOf w (scriptAt w dof) = false →
      contentOf w t = outOf w (scriptAt w dof) → UpToDateR w t

/-- Everything a script names ranks below the target and is not the `//ALWAYS` pseudo file; the pseudo file
ranks below every target whose script says `redo-always`. -/
def RankedR (rank : Nat → Nat) (w : World) : Prop :=
  (∀ t, ∀ c ∈ w.rules t, rank c < rank t) ∧
  ∀ t, ∀ dof ∈ w.rules t, ∀ n sc, w.fs dof = some n → w.progs n.content = some sc →
    (sc.always = true → rank alwaysId < rank t) ∧
    (∀ d, (d ∈ sc.ifchange.flatten ∨ d ∈ sc.cond ∨ d ∈ sc.ifcreate) → rank d < rank t ∧ d ≠ alwaysId) ∧
    ∀ d, (d ∈ sc.cond ∨ d ∈ sc.ifcreate) → w.rules d = []

/-!
C01 on the full model for rich histories, definitions: what a record stands for (`genT`, `contentV`, `RecCurV`), when a
change is detected, and the run invariant `Inv`.

Several definitions of the namespace `Rich` repeat those of `RedoModel.Deps` word for word (`contentOf`, `scriptAt`,
`firstEx`, `outOf`, `RecCur`, `DetectM`, `Mof`, `VerR`, `HasRow`, `NoFail`; in later modules `CkExt`, `FuelOk`, `HasRowU`,
`RowsDecl`, `addX`, `SameTriples`, `SetProgOk`, `NoX`): the rich proofs apply the plain lemmas about them as they stand
(`Deps.VerR_ext`, `Deps.FuelOk.child`, `addX_drop`, `scriptAt_setProg`, …), by unfolding (`firstEx_eq` for the recursive
one).  The copied structures convert field by field (`toPlain`/`toRich`: `OffT`, `Flds`, `WEqv`, `RowOp`, `SameT`, `OkFields`,
`KeepFields`).  Different in content from their plain namesakes: `FailedAbsent`, `DetectS`, `RecTruth`, `Base`, `Good`, `Ver`,
the frames `DExt`, `BExt`, and `Built`.
-/

/-- The file is redo's: generated and not overridden by the user (what `depsOf` tests). -/
def genT (r : Rec) : Bool := r.isGenerated && !r.isOverride

theorem genT_true {r : Rec} : genT r = true ↔ r.isGenerated = true ∧ r.isOverride = false := by
  unfold genT; cases r.isGenerated <;> cases r.isOverride <;> simp

theorem genT_false {r : Rec} : genT r = false ↔ r.isGenerated = false ∨ r.isOverride = true := by
  unfold genT; cases r.isGenerated <;> cases r.isOverride <;> simp

theorem genT_of_gen_false {r : Rec} (h : r.isGenerated = false) : genT r = false := genT_false.2 (Or.inl h)

theorem genT_congr {a b : Rec} (h1 : a.isGenerated = b.isGenerated) (h2 : a.isOverride = b.isOverride) :
    genT a = genT b := by unfold genT; rw [h1, h2]

def RecCur (w : World) (f : Nat) : Prop :=
  (w.recs f).failed = none ∧ (w.recs f).changed ≠ none ∧ (w.recs f).stamp = some (readStamp w f)

/-- A change of the `m` dependency `d` is visible to a parent whose max(changed, checked) is `M`. -/
def DetectM (w : World) (M : Nat) (d : Nat) : Prop :=
  (w.recs d).failed ≠ none ∨ (w.recs d).changed = none ∨
  (∃ ch, (w.recs d).changed = some ch ∧ ch > M) ∨ (w.recs d).stamp ≠ some (readStamp w d)

def FailedAbsent (w : World) (d : Nat) : Prop :=
  (w.recs d).failed ≠ none ∧ genT (w.recs d) = false ∧ (w.recs d).stamp = some .missing

/-- `DetectM` without the `failed` flag (a failure counts through `FailedAbsent` only): the truth clause uses this one. -/
def DetectS (w : World) (M : Nat) (d : Nat) : Prop :=
  (w.recs d).changed = none ∨
  (∃ ch, (w.recs d).changed = some ch ∧ ch > M) ∨ (w.recs d).stamp ≠ some (readStamp w d) ∨ FailedAbsent w d

/-- The part of `DetectS` that looks at the `changed` mark alone. -/
def DetectC (w : World) (M : Nat) (d : Nat) : Prop :=
  (w.recs d).changed = none ∨ (∃ ch, (w.recs d).changed = some ch ∧ ch > M)

/-- The content a record stands for: a record that says "no file" stands for "no content", whatever the user
has put at that name since. -/
def contentV (w : World) (t : Nat) : Option Content :=
  if (w.recs t).stamp = some .missing then none else contentOf w t

/-- Current, or recorded as absent (the user may have put a file at the name of a target without output). -/
def RecCurV (w : World) (f : Nat) : Prop :=
  (w.recs f).failed = none ∧ (w.recs f).changed ≠ none ∧
  ((w.recs f).stamp = some (readStamp w f) ∨ (w.recs f).stamp = some .missing)

def Mof (r : Rec) : Nat := max (r.changed.getD 0) (r.checked.getD 0)

def VerR (w : World) (R : Nat) (f : Nat) : Prop :=
  (w.recs f).failed = none ∧ ((w.recs f).checked = some R ∨ (w.recs f).changed = some R)

def HasRow (w : World) (t s : Nat) (m : Bool) : Prop :=
  ∃ d ∈ w.deps, d.target = t ∧ d.source = s ∧ d.modeM = m

def rowsOf (w : World) (t : Nat) : List Dep := w.deps.filter (fun d => d.target = t)

/-- What the record of a current generated target `t` promises. -/
def RecTruth (w : World) (t : Nat) : Prop :=
  ∃ (pre : List Nat) (dof : Nat) (post : List Nat) (sc : Script),
    w.rules t = pre ++ dof :: post ∧
    (∀ c ∈ pre, HasRow w t c false) ∧ HasRow w t dof true ∧ (∀ d ∈ sc.ifchange.flatten, HasRow w t d true) ∧
    (∀ d ∈ sc.ifcreate, HasRow w t d false) ∧ (∀ d ∈ sc.cond, HasRow w t d true ∨ HasRow w t d false) ∧
    (sc.always = true → HasRow w t alwaysId true) ∧
    sc.exit = 0 ∧
    ((existsF w dof = true ∧ scriptAt w dof = sc) ∨ DetectS w (Mof (w.recs t)) dof) ∧
    (∀ f, sc.failIfOdd = some f → HasRow w t f true ∧ (oddC (contentOf w f) = false ∨ DetectS w (Mof (w.recs t)) f)) ∧
    ∃ cs : List (Option Content),
      contentV w t = (if sc.outMode = 2 then none else some (outContent sc.tag cs)) ∧
      cs.length = sc.reads.length ∧
      ∀ p ∈ List.zip sc.reads cs,
        (HasRow w t p.1 true ∧ (p.2 ≠ contentOf w p.1 → DetectS w (Mof (w.recs t)) p.1) ∧
          (genT (w.recs p.1) = true → (w.recs p.1).stamp = some .missing → p.2 ≠ none →
            DetectC w (Mof (w.recs t)) p.1)) ∨
        (HasRow w t p.1 false ∧ p.2 = none)

/-- The record of the `//ALWAYS` pseudo file: never failed, never a target; a `checked` mark of this run is only
written together with `changed` of this run. -/
structure Rec0 (R : Nat) (r : Rec) : Prop where
  failed : r.failed = none
  gen : r.isGenerated = false
  ck : r.checked = some R → r.changed = some R
  stamp : r.stamp = none ∨ r.stamp = some .missing

/-- The part of the invariant that also holds between commands (`R` bounds the run ids in use). -/
structure Base (rank : Nat → Nat) (R : Nat) (X : Nat → Prop) (w : World) : Prop where
  rulesOk : RulesOk w.rules
  ranked : RankedR rank w
  richProgs : ∀ c sc, w.progs c = some sc → sc.Rich
  chLe : ∀ f ch, (w.recs f).changed = some ch → ch ≤ R
  ckLe : ∀ f ck, (w.recs f).checked = some ck → ck ≤ R
  noCsum : ∀ f, (w.recs f).csum = none
  ovrSt : ∀ f, (w.recs f).isOverride = true →
    (w.recs f).isGenerated = true ∧ ∃ ms rest, (w.recs f).stamp = some (.st ms rest)
  srcNotGen : ∀ f, w.rules f = [] → (w.recs f).isGenerated = false
  fs0 : w.fs alwaysId = none
  rec0 : Rec0 R (w.recs alwaysId)
  rowsLt : ∀ d ∈ w.deps, rank d.source < rank d.target
  cPlain : ∀ d ∈ w.deps, d.modeM = false → w.rules d.source = [] ∧ d.source ≠ alwaysId
  stampCh : ∀ f, (w.recs f).stamp ≠ none → (w.recs f).changed ≠ none
  staticEx : ∀ f, f ≠ alwaysId → (w.recs f).failed = none → genT (w.recs f) = false → (w.recs f).stamp ≠ some .missing
  fsB : ∀ f n, w.fs f = some n → n.ms ≤ w.clock
  stB : ∀ f ms rest, (w.recs f).stamp = some (.st ms rest) →
      ms ≤ w.clock ∧ ∀ n, w.fs f = some n → ms < n.ms ∨ (ms = n.ms ∧ rest ≤ n.rest)
  ckFail : ∀ f, (w.recs f).checked = some R → (w.recs f).failed = none
  markFail : ∀ f, (w.recs f).changed = some R → (w.recs f).failed = none ∨ (w.recs f).failed = some R
  flLe : ∀ f k, (w.recs f).failed = some k → k ≤ R
  recA : ∀ t, (¬ X t ∨ VerR w R t) → RecCurV w t → genT (w.recs t) = true → RecTruth w t

theorem RecCur.toV {w : World} {f : Nat} (h : RecCur w f) : RecCurV w f := ⟨h.1, h.2.1, Or.inl h.2.2⟩

theorem contentV_cur {w : World} {f : Nat} (h : (w.recs f).stamp = some (readStamp w f)) :
    contentV w f = contentOf w f := by
  unfold contentV
  split
  · rename_i hs
    rw [hs] at h
    have : readStamp w f = .missing := (Option.some.inj h).symm
    unfold readStamp at this
    unfold contentOf
    cases hfs : w.fs f with
    | none => rfl
    | some n => rw [hfs] at this; cases this
  · rfl

theorem contentV_congr {w w' : World} {f : Nat} (hr : (w'.recs f).stamp = (w.recs f).stamp)
    (hf : (w.recs f).stamp = some .missing ∨ w'.fs f = w.fs f) : contentV w' f = contentV w f := by
  unfold contentV; rw [hr]
  rcases hf with h | h
  · rw [if_pos h, if_pos h]
  · unfold contentOf; rw [h]

theorem Base.ovr0 {rank R X w} (hb : Base rank R X w) : (w.recs alwaysId).isOverride = false := by
  cases ho : (w.recs alwaysId).isOverride with
  | false => rfl
  | true => have := (hb.ovrSt alwaysId ho).1; rw [hb.rec0.gen] at this; cases this

theorem Base.srcT {rank R X w} (hb : Base rank R X w) (f : Nat) (h : w.rules f = []) : genT (w.recs f) = false :=
  genT_of_gen_false (hb.srcNotGen f h)

/-- Verified in run `R`, or a current record of a file redo does not own (nothing to rebuild). -/
def Good (w : World) (R : Nat) (f : Nat) : Prop :=
  VerR w R f ∨ (f ≠ alwaysId ∧ RecCur w f ∧ genT (w.recs f) = false)

/-- What "verified in run `R`" guarantees. -/
def Ver (R : Nat) (w : World) : Prop :=
  ∀ f, VerR w R f → RecCur w f ∧ UpToDateR w f ∧
    (genT (w.recs f) = true → ∀ d ∈ w.deps, d.target = f →
      (d.modeM = true → Good w R d.source) ∧ (d.modeM = false → existsF w d.source = false))

structure Inv (rank : Nat → Nat) (R : Nat) (X : Nat → Prop) (w : World) : Prop where
  base : Base rank R X w
  Rpos : 0 < R
  ver : Ver R w

def NoFail (R : Nat) (w : World) : Prop := ∀ f, (w.recs f).failed ≠ some R

end RedoModel.Deps.Rich
