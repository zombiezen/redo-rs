import RedoModel.Lemmas.DepsSoundFrames
import RedoModel.Lemmas.DepsSoundRSpec
import RedoModel.Lemmas.ListZip
/-! C01 on the full engine model, rich histories. Basic facts about the functions of `fs`, and what the invariant says about a verified file: its script, its cone. -/
namespace RedoModel.Deps.Rich

/-! ### Basic facts: functions of `fs` only, `getRec`, `findDoFile` vs `firstEx`, the `CkExt` frame. -/

theorem getRec_ne (w : World) (R : Nat) {f : Nat} (h : f ≠ alwaysId) : getRec w R f = w.recs f :=
  getRec_of_ne h

theorem contentOf_congr {w w' : World} {f : Nat} (h : w'.fs f = w.fs f) : contentOf w' f = contentOf w f :=
  Deps.contentOf_congr h

theorem failNowOf_congr {w w' : World} {sc : Script}
    (h : ∀ f, sc.failIfOdd = some f → contentOf w' f = contentOf w f) : failNowOf w' sc = failNowOf w sc := by
  unfold failNowOf
  cases hf : sc.failIfOdd with
  | none => rfl
  | some f => simp only; rw [h f hf]

theorem outOf_congr {w w' : World} {sc : Script} (h : ∀ d ∈ sc.reads, contentOf w' d = contentOf w d) :
    outOf w' sc = outOf w sc := by
  unfold outOf; rw [List.map_congr_left h]

theorem scriptAt_congr {w w' : World} {f : Nat} (h : w'.fs f = w.fs f) (hp : w'.progs = w.progs) :
    scriptAt w' f = scriptAt w f := Deps.scriptAt_congr h hp

/-- `firstEx` is the function of that name in `DepsSound1`, so what `DepsSoundFrames` proves of that one holds of this one
(`scriptAt`, `contentOf`, `outOf` agree with theirs by `rfl`). -/
theorem firstEx_eq : @firstEx = @Deps.firstEx := by
  funext w cs
  induction cs with
  | nil => rfl
  | cons c cs ih => simp only [firstEx, Deps.firstEx, ih]

theorem firstEx_congr {w w' : World} (cs : List Nat) (h : ∀ c ∈ cs, w'.fs c = w.fs c) : firstEx w' cs = firstEx w cs := by
  rw [firstEx_eq]; exact Deps.firstEx_congr cs h

theorem firstEx_split {w : World} (pre : List Nat) (dof : Nat) (post : List Nat)
    (hpre : ∀ c ∈ pre, existsF w c = false) (hd : existsF w dof = true) :
    firstEx w (pre ++ dof :: post) = some dof := by
  rw [firstEx_eq]; exact Deps.firstEx_split pre dof post hpre hd

theorem firstEx_none {w : World} : ∀ (cs : List Nat), firstEx w cs = none → ∀ c ∈ cs, existsF w c = false :=
  fun cs h => Deps.firstEx_none cs (firstEx_eq ▸ h)

theorem firstEx_some_split {w : World} (cs : List Nat) (dof : Nat) (h : firstEx w cs = some dof) :
    ∃ pre post, cs = pre ++ dof :: post ∧ (∀ c ∈ pre, existsF w c = false) ∧ existsF w dof = true :=
  Deps.firstEx_some_split cs dof (firstEx_eq ▸ h)

theorem firstEx_mem {w : World} (cs : List Nat) (dof : Nat) (h : firstEx w cs = some dof) :
    dof ∈ cs ∧ existsF w dof = true := Deps.firstEx_mem cs dof (firstEx_eq ▸ h)

/-- `w'` differs from `w` only by `checked := some R` on files of rank `< b` (and the ghost trace). -/
def CkExt (rank : Nat → Nat) (R b : Nat) (w w' : World) : Prop :=
  SameButRecs w w' ∧ ∀ x, w'.recs x = w.recs x ∨ (rank x < b ∧ w'.recs x = { w.recs x with checked := some R })

theorem CkExt.refl (rank R b w) : CkExt rank R b w w := Deps.CkExt.refl rank R b w

theorem CkExt.mono {rank R b b' w w'} (h : CkExt rank R b w w') (hb : b ≤ b') : CkExt rank R b' w w' := Deps.CkExt.mono h hb

theorem CkExt.trans {rank R b w w' w''} (h1 : CkExt rank R b w w') (h2 : CkExt rank R b w' w'') :
    CkExt rank R b w w'' := Deps.CkExt.trans h1 h2

theorem CkExt.fs {rank R b w w'} (h : CkExt rank R b w w') : w'.fs = w.fs := Deps.CkExt.fs h

theorem CkExt.deps {rank R b w w'} (h : CkExt rank R b w w') : w'.deps = w.deps := Deps.CkExt.deps h

theorem CkExt.readStamp {rank R b w w'} (h : CkExt rank R b w w') (f) : readStamp w' f = readStamp w f :=
  Deps.CkExt.readStamp h f

theorem CkExt.existsF {rank R b w w'} (h : CkExt rank R b w w') (f) : existsF w' f = existsF w f := Deps.CkExt.existsF h f

theorem CkExt.contentOf {rank R b w w'} (h : CkExt rank R b w w') (f) : contentOf w' f = contentOf w f :=
  Deps.CkExt.contentOf h f

theorem CkExt.fields {rank R b w w'} (h : CkExt rank R b w w') (x) :
    (w'.recs x).failed = (w.recs x).failed ∧ (w'.recs x).changed = (w.recs x).changed ∧
    (w'.recs x).stamp = (w.recs x).stamp ∧ (w'.recs x).isGenerated = (w.recs x).isGenerated ∧
    (w'.recs x).isOverride = (w.recs x).isOverride ∧ (w'.recs x).csum = (w.recs x).csum ∧
    ((w'.recs x).checked = (w.recs x).checked ∨ (w'.recs x).checked = some R) := Deps.CkExt.fields h x

theorem CkExt.genT {rank R b w w'} (h : CkExt rank R b w w') (x) : genT (w'.recs x) = genT (w.recs x) :=
  genT_congr (h.fields x).2.2.2.1 (h.fields x).2.2.2.2.1

theorem CkExt.above {rank R b w w'} (h : CkExt rank R b w w') {x} (hx : b ≤ rank x) : w'.recs x = w.recs x :=
  Deps.CkExt.above h hx

theorem DetectS_ext {rank R b w w'} (h : CkExt rank R b w w') (M d) : DetectS w' M d ↔ DetectS w M d := by
  obtain ⟨f1, f2, f3, _⟩ := h.fields d
  unfold DetectS FailedAbsent; rw [f1, f2, f3, h.genT, h.readStamp]

theorem Good_ext {rank R b w w'} (h : CkExt rank R b w w') {f} (hv : Good w R f) : Good w' R f := by
  rcases hv with hv | ⟨h0, hc, hg⟩
  · exact Or.inl (VerR_ext h hv)
  · exact Or.inr ⟨h0, (RecCur_ext h f).2 hc, by rw [h.genT]; exact hg⟩

theorem HasRow_ext {rank R b w w'} (h : CkExt rank R b w w') (t s m) : HasRow w' t s m ↔ HasRow w t s m :=
  Deps.HasRow_ext h t s m

/-! ### Consequences of the invariant for verified files: their script, their cone. -/

theorem Base.Mof_le {rank R w} (hb : Base rank R X w) (u : Nat) : Mof (w.recs u) ≤ R := by
  unfold Mof
  have h1 : (w.recs u).changed.getD 0 ≤ R := by
    cases h : (w.recs u).changed with
    | none => simp
    | some c => simpa using hb.chLe u c h
  have h2 : (w.recs u).checked.getD 0 ≤ R := by
    cases h : (w.recs u).checked with
    | none => simp
    | some c => simpa using hb.ckLe u c h
  exact Nat.max_le.2 ⟨h1, h2⟩

theorem VerR.Mof_eq {rank R w f} (hb : Base rank R X w) (hv : VerR w R f) : Mof (w.recs f) = R := by
  have hle := hb.Mof_le f
  unfold Mof at hle ⊢
  rcases hv.2 with h | h
  · rw [h] at hle ⊢; simp only [Option.getD_some] at hle ⊢; omega
  · rw [h] at hle ⊢; simp only [Option.getD_some] at hle ⊢; omega

theorem RecCur.notDetectS {rank R w d} (hb : Base rank R X w) (hc : RecCur w d) : ¬ DetectS w R d := by
  rintro (h | ⟨ch, h1, h2⟩ | h | h)
  · exact hc.2.1 h
  · have := hb.chLe d ch h1; omega
  · exact h hc.2.2
  · exact h.1 hc.1

theorem Good.recCur {rank R w d} (hi : Inv rank R X w) (hg : Good w R d) : RecCur w d := by
  rcases hg with hv | ⟨_, hc, _⟩
  · exact (hi.ver d hv).1
  · exact hc

theorem Good.notDetectM {rank R w d} (hi : Inv rank R X w) (hg : Good w R d) : ¬ DetectM w R d := by
  have hc := hg.recCur hi
  rintro (h | h | h | h)
  · exact h hc.1
  · exact hc.notDetectS hi.base (Or.inl h)
  · exact hc.notDetectS hi.base (Or.inr (Or.inl h))
  · exact hc.notDetectS hi.base (Or.inr (Or.inr (Or.inl h)))

theorem static_exists {rank R w d} (hb : Base rank R X w) (h0 : d ≠ alwaysId) (hc : RecCur w d)
    (hg : genT (w.recs d) = false) : existsF w d = true := by
  have h1 := hb.staticEx d h0 hc.1 hg
  rw [hc.2.2] at h1
  cases hx : existsF w d with
  | true => rfl
  | false =>
    exfalso; apply h1
    rw [readStamp_missing.2 (existsF_eq_false.1 hx)]

theorem HasRow.good {rank R w x s} (hi : Inv rank R X w) (hv : VerR w R x) (hg : genT (w.recs x) = true)
    (h : HasRow w x s true) : Good w R s := by
  obtain ⟨d, hd, h1, h2, h3⟩ := h
  have := ((hi.ver x hv).2.2 hg d hd h1).1 h3
  rwa [h2] at this

theorem HasRow.absent {rank R w x s} (hi : Inv rank R X w) (hv : VerR w R x) (hg : genT (w.recs x) = true)
    (h : HasRow w x s false) : existsF w s = false := by
  obtain ⟨d, hd, h1, h2, h3⟩ := h
  have := ((hi.ver x hv).2.2 hg d hd h1).2 h3
  rwa [h2] at this

theorem scriptAt_rich {rank R X w} (hb : Base rank R X w) (dof : Nat) : (scriptAt w dof).Rich := by
  unfold scriptAt
  cases w.fs dof with
  | none => exact ⟨rfl, by simp, by simp⟩
  | some n =>
    simp only
    cases h : w.progs n.content with
    | none => exact ⟨rfl, by simp, by simp⟩
    | some sc => exact hb.richProgs _ sc h

/-- What is known about a current generated target `x` none of whose rows is dirty: its script is the one in
place, ran to completion on the present contents, and every declaration is recorded. -/
structure VScript (w : World) (x : Nat) (pre : List Nat) (dof : Nat) (post : List Nat) : Prop where
  rules : w.rules x = pre ++ dof :: post
  pre : ∀ c ∈ pre, existsF w c = false ∧ HasRow w x c false
  dofEx : existsF w dof = true
  dofRow : HasRow w x dof true
  first : firstEx w (w.rules x) = some dof
  decl : ∀ d ∈ (scriptAt w dof).ifchange.flatten, HasRow w x d true
  exit : (scriptAt w dof).exit = 0
  noFail : failNowOf w (scriptAt w dof) = false
  content : contentOf w x = outOf w (scriptAt w dof)
  alw : (scriptAt w dof).always = true → HasRow w x alwaysId true
  ic : ∀ d ∈ (scriptAt w dof).ifcreate, existsF w d = false ∧ HasRow w x d false
  cond : ∀ d ∈ (scriptAt w dof).cond, HasRow w x d true ∨ (existsF w d = false ∧ HasRow w x d false)

/-- The common core of `verR_script` and `RecTruth_clean`. -/
theorem recTruth_script {w : World} {x : Nat} (ht : RecTruth w x) (hcur : (w.recs x).stamp = some (readStamp w x))
    (hnd : ∀ s, HasRow w x s true → ¬ DetectS w (Mof (w.recs x)) s)
    (habs : ∀ s, HasRow w x s false → existsF w s = false) : ∃ pre dof post, VScript w x pre dof post := by
  obtain ⟨pre, dof, post, sc, hr, hpre, hdof, hdecl, hic, hcd, halw, hexit, hsc, hodd, cs, hcont, hlen, hz⟩ := ht
  obtain ⟨hex, hsceq⟩ : existsF w dof = true ∧ scriptAt w dof = sc := by
    rcases hsc with h | h
    · exact h
    · exact absurd h (hnd dof hdof)
  have hall : ∀ p ∈ List.zip sc.reads cs, p.2 = contentOf w p.1 := by
    intro p hp
    rcases hz p hp with ⟨h1, h2⟩ | ⟨h1, h2⟩
    · by_cases he : p.2 = contentOf w p.1
      · exact he
      · exact absurd (h2.1 he) (hnd p.1 h1)
    · rw [h2]; unfold contentOf; rw [existsF_eq_false.1 (habs p.1 h1)]; rfl
  have hcs := List.eq_map_of_forall_mem_zip (contentOf w) sc.reads cs hlen hall
  refine ⟨pre, dof, post, hr, fun c hc => ⟨habs c (hpre c hc), hpre c hc⟩, hex, hdof, ?_, ?_, ?_, ?_, ?_, ?_, ?_, ?_⟩
  · rw [hr]; exact firstEx_split pre dof post (fun c hc => habs c (hpre c hc)) hex
  · rw [hsceq]; exact hdecl
  · rw [hsceq]; exact hexit
  · rw [hsceq]; unfold failNowOf
    cases hf : sc.failIfOdd with
    | none => rfl
    | some f =>
      simp only
      rcases (hodd f hf).2 with h | h
      · exact h
      · exact absurd h (hnd f (hodd f hf).1)
  · rw [hsceq, ← contentV_cur hcur, hcont, hcs]; rfl
  · rw [hsceq]; exact halw
  · rw [hsceq]; exact fun d hd => ⟨habs d (hic d hd), hic d hd⟩
  · rw [hsceq]; exact fun d hd => (hcd d hd).imp id (fun h => ⟨habs d h, h⟩)

/-- The script of a verified generated target is the one in place, and its content is what that script produces
from the current contents. -/
theorem verR_script {rank R w x} (hi : Inv rank R X w) (hv : VerR w R x) (hg : genT (w.recs x) = true) :
    ∃ pre dof post, VScript w x pre dof post := by
  have hrc := (hi.ver x hv).1
  have hM := hv.Mof_eq hi.base
  refine recTruth_script (hi.base.recA x (Or.inr hv) hrc.toV hg) hrc.2.2 (fun s hs => ?_) (fun s hs => hs.absent hi hv hg)
  rw [hM]
  exact ((hs.good hi hv hg).recCur hi).notDetectS hi.base

theorem firstEx_of_contentOf {w w' : World} (cs : List Nat) (h : ∀ c ∈ cs, contentOf w' c = contentOf w c) :
    firstEx w' cs = firstEx w cs := by
  rw [firstEx_eq]; exact Deps.firstEx_of_contentOf cs h

theorem HasRow.rank_lt {rank R w t s m} (hb : Base rank R X w) (h : HasRow w t s m) : rank s < rank t := by
  obtain ⟨d, hd, h1, h2, _⟩ := h
  have := hb.rowsLt d hd
  rwa [h1, h2] at this

theorem UpToDateR.ofPlain {w : World} {x : Nat} (h : w.rules x = []) : UpToDateR w x :=
  UpToDateR.source (by rw [h]; intro c hc; cases hc)

theorem UpToDateR.ofStat {w : World} {x : Nat} (hg : genT (w.recs x) = false) (hex : existsF w x = true) :
    UpToDateR w x := by
  rcases genT_false.1 hg with h | h
  · exact UpToDateR.user h hex
  · exact UpToDateR.override h hex

theorem UpToDateR.content_of_owned {w : World} {t dof : Nat} (h : UpToDateR w t) (hg : genT (w.recs t) = true)
    (hf : firstEx w (w.rules t) = some dof) : contentOf w t = outOf w (scriptAt w dof) := by
  obtain ⟨hgen, hovr⟩ := genT_true.1 hg
  cases h with
  | source hs =>
    have := firstEx_mem _ _ hf
    rw [hs dof this.1] at this; cases this.2
  | user hg' _ => rw [hgen] at hg'; cases hg'
  | override ho' _ => rw [hovr] at ho'; cases ho'
  | target hf' _ _ _ _ _ hc => rw [hf] at hf'; cases hf'; exact hc

theorem scriptAt_hyg {rank R X w t dof} (hb : Base rank R X w) (hd : dof ∈ w.rules t) :
    ((scriptAt w dof).always = true → rank alwaysId < rank t) ∧
    (∀ d, (d ∈ (scriptAt w dof).ifchange.flatten ∨ d ∈ (scriptAt w dof).cond ∨ d ∈ (scriptAt w dof).ifcreate) →
      rank d < rank t ∧ d ≠ alwaysId) ∧
    (∀ d, (d ∈ (scriptAt w dof).cond ∨ d ∈ (scriptAt w dof).ifcreate) → w.rules d = []) := by
  unfold scriptAt
  cases hn : w.fs dof with
  | none => exact ⟨fun h => by simp at h, fun d h => by simp at h, fun d h => by simp at h⟩
  | some n =>
    simp only
    cases h : w.progs n.content with
    | none => exact ⟨fun h => by simp at h, fun d h => by simp at h, fun d h => by simp at h⟩
    | some sc => exact hb.ranked.2 t dof hd n sc hn h

/-- Good files are up to date, also in any world where good files and plain files kept their contents. -/
theorem good_upToDate {rank R w w'} (hi : Inv rank R X w) (hr : w'.rules = w.rules) (hp : w'.progs = w.progs)
    (hpl : ∀ x, w.rules x = [] → contentOf w' x = contentOf w x)
    (hfro : ∀ x, Good w R x → contentOf w' x = contentOf w x ∧ genT (w'.recs x) = genT (w.recs x)) :
    ∀ n x, rank x < n → Good w R x → UpToDateR w' x
  | 0, _, h, _ => by omega
  | n + 1, x, hx, hg => by
    have hrc := hg.recCur hi
    cases hgen : genT (w.recs x) with
    | false =>
      by_cases h0 : x = alwaysId
      · subst h0
        exact UpToDateR.ofPlain (by rw [hr]; exact hi.base.rulesOk.1)
      · have hex : existsF w' x = true := by
          rw [existsF_of_contentOf (hfro x hg).1]; exact static_exists hi.base h0 hrc hgen
        exact UpToDateR.ofStat (by rw [(hfro x hg).2]; exact hgen) hex
    | true =>
      have hv : VerR w R x := by
        rcases hg with h | ⟨_, _, h⟩
        · exact h
        · rw [hgen] at h; cases h
      obtain ⟨pre, dof, post, vs⟩ := verR_script hi hv hgen
      have hra := scriptAt_rich hi.base dof
      have hdm : dof ∈ w.rules x := by rw [vs.rules]; simp
      obtain ⟨_, _, hyg⟩ := scriptAt_hyg hi.base hdm
      have hgd : ∀ d ∈ (scriptAt w dof).ifchange.flatten, Good w R d := fun d hd => (vs.decl d hd).good hi hv hgen
      have hcd : ∀ d, d ∈ (scriptAt w dof).ifchange.flatten ∨ d ∈ (scriptAt w dof).cond →
          contentOf w' d = contentOf w d := by
        rintro d (hd | hd)
        · exact (hfro d (hgd d hd)).1
        · exact hpl d (hyg d (Or.inl hd))
      have hplain : ∀ c ∈ w.rules x, contentOf w' c = contentOf w c :=
        fun c hc => hpl c (hi.base.rulesOk.2 x c hc).1
      have hsc : scriptAt w' dof = scriptAt w dof :=
        scriptAt_of_contentOf (hplain dof hdm) hp
      refine UpToDateR.target (dof := dof) ?_ ?_ ?_ ?_ ?_ ?_ ?_
      · rw [hr, firstEx_of_contentOf _ hplain]; exact vs.first
      · rw [hsc]; intro d hd
        have := (vs.decl d hd).rank_lt hi.base
        exact good_upToDate hi hr hp hpl hfro n d (by omega) (hgd d hd)
      · rw [hsc]; exact fun d hd _ => UpToDateR.ofPlain (by rw [hr]; exact hyg d (Or.inl hd))
      · rw [hsc]; intro d hd
        rw [existsF_of_contentOf (hpl d (hyg d (Or.inr hd)))]; exact (vs.ic d hd).1
      · rw [hsc]; exact vs.exit
      · rw [hsc, ← vs.noFail]; exact failNowOf_congr (fun f hf => hcd f (Or.inl (hra.2.2 f hf)))
      · rw [hsc, (hfro x hg).1, vs.content]; exact (outOf_congr (fun d hd => hcd d (hra.2.1 d hd))).symm

theorem Good.upToDate {rank R X w t} (hi : Inv rank R X w) (hg : Good w R t) : UpToDateR w t :=
  good_upToDate (w' := w) hi rfl rfl (fun _ _ => rfl) (fun _ _ => ⟨rfl, rfl⟩) (rank t + 1) t (Nat.lt_succ_self _) hg

theorem VScript.congr' {w w' : World} {x pre dof post} (hfs : w'.fs = w.fs)
    (e2 : ∀ t s m, HasRow w' t s m ↔ HasRow w t s m)
    (hrules : w'.rules = w.rules) (hprogs : w'.progs = w.progs) (vs : VScript w x pre dof post) :
    VScript w' x pre dof post := by
  have e1 : ∀ f, existsF w' f = existsF w f := fun f => existsF_congr (congrFun hfs f)
  have e3 : ∀ cs, firstEx w' cs = firstEx w cs := fun cs => firstEx_congr cs (fun c _ => congrFun hfs c)
  have e4 : ∀ f, scriptAt w' f = scriptAt w f := fun f => scriptAt_congr (congrFun hfs f) hprogs
  have e5 : contentOf w' = contentOf w := funext (fun f => contentOf_congr (congrFun hfs f))
  have e6 : ∀ sc, outOf w' sc = outOf w sc := fun sc => outOf_congr (fun d _ => congrFun e5 d)
  have e7 : ∀ sc, failNowOf w' sc = failNowOf w sc := fun sc => failNowOf_congr (fun f _ => congrFun e5 f)
  refine ⟨by rw [hrules]; exact vs.rules, fun c hc => by rw [e1, e2]; exact vs.pre c hc, by rw [e1]; exact vs.dofEx,
    (e2 _ _ _).2 vs.dofRow, by rw [hrules, e3]; exact vs.first, ?_, by rw [e4]; exact vs.exit,
    by rw [e4, e7]; exact vs.noFail, by rw [e4, e5, e6]; exact vs.content, ?_, ?_, ?_⟩
  · rw [e4]; exact fun d hd => (e2 _ _ _).2 (vs.decl d hd)
  · rw [e4]; exact fun ha => (e2 _ _ _).2 (vs.alw ha)
  · rw [e4]; exact fun d hd => by rw [e1, e2]; exact vs.ic d hd
  · rw [e4]; exact fun d hd => by rw [e1, e2, e2]; exact vs.cond d hd

theorem VScript.congr {w w' : World} {x pre dof post} (hfs : w'.fs = w.fs) (hdeps : w'.deps = w.deps)
    (hrules : w'.rules = w.rules) (hprogs : w'.progs = w.progs) (vs : VScript w x pre dof post) :
    VScript w' x pre dof post :=
  vs.congr' hfs (fun t s m => by unfold HasRow; rw [hdeps]) hrules hprogs

theorem VScript.recTruth {w : World} {x pre dof post} (hra : (scriptAt w dof).Rich) (vs : VScript w x pre dof post)
    (hcur : (w.recs x).stamp = some (readStamp w x))
    (hmem : ∀ d, HasRow w x d true → genT (w.recs d) = true → (w.recs d).stamp = some .missing → w.fs d = none) :
    RecTruth w x := by
  have hm : ∀ p : Nat × Option Content, p.2 = contentOf w p.1 → HasRow w x p.1 true →
      genT (w.recs p.1) = true → (w.recs p.1).stamp = some .missing → p.2 ≠ none →
        DetectC w (Mof (w.recs x)) p.1 := by
    intro p hp2 hrow hg hs hne
    exfalso; apply hne
    rw [hp2]; unfold contentOf; rw [hmem p.1 hrow hg hs]; rfl
  refine ⟨pre, dof, post, scriptAt w dof, vs.rules, fun c hc => (vs.pre c hc).2, vs.dofRow, vs.decl,
    fun d hd => (vs.ic d hd).2, fun d hd => (vs.cond d hd).imp id (fun h => h.2), vs.alw, vs.exit,
    Or.inl ⟨vs.dofEx, rfl⟩, ?_, (scriptAt w dof).reads.map (contentOf w),
    by rw [contentV_cur hcur]; exact vs.content, by simp, ?_⟩
  · intro f hf
    refine ⟨vs.decl f (hra.2.2 f hf), Or.inl ?_⟩
    have := vs.noFail; unfold failNowOf at this; rw [hf] at this; exact this
  · intro p hp
    have hp2 := List.snd_eq_of_mem_zip_map (contentOf w) _ p hp
    rcases hra.2.1 p.1 (List.of_mem_zip hp).1 with h | h
    · exact Or.inl ⟨vs.decl p.1 h, fun hne => absurd hp2 hne, hm p hp2 (vs.decl p.1 h)⟩
    · rcases vs.cond p.1 h with h1 | ⟨h1, h2⟩
      · exact Or.inl ⟨h1, fun hne => absurd hp2 hne, hm p hp2 h1⟩
      · refine Or.inr ⟨h2, ?_⟩
        rw [hp2]; unfold contentOf; rw [existsF_eq_false.1 h1]; rfl

theorem VScript.upToDate {rank R X w x pre dof post} (hb : Base rank R X w) (vs : VScript w x pre dof post)
    (hup : ∀ d ∈ (scriptAt w dof).ifchange.flatten, UpToDateR w d) : UpToDateR w x := by
  have hdm : dof ∈ w.rules x := by rw [vs.rules]; simp
  obtain ⟨_, _, hyg⟩ := scriptAt_hyg hb hdm
  exact UpToDateR.target vs.first hup (fun d hd _ => UpToDateR.ofPlain (hyg d (Or.inl hd)))
    (fun d hd => (vs.ic d hd).1) vs.exit vs.noFail vs.content

end RedoModel.Deps.Rich
