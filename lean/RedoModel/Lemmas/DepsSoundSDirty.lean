import RedoModel.Lemmas.DepsSoundSUpdate
import RedoModel.Lemmas.DepsMemo
/-! C01 on the full engine model, with and without `redo-stamp`: the one induction, over `InvN nc`. The dirtiness check: its frame, the stale copies it works with, the specification of `goDeps` and `isDirty`; good files are found clean. -/
namespace RedoModel.Deps.S

/-- The copy `r` of the record of `f` that the check works on agrees with the database except perhaps for an
older `checked` (and the synthetic `changed` of `//ALWAYS`). -/
structure Snap (w : World) (R f : Nat) (r : Rec) : Prop where
  failed : r.failed = (w.recs f).failed
  stamp : r.stamp = (w.recs f).stamp
  gen : r.isGenerated = (w.recs f).isGenerated
  ovr : r.isOverride = (w.recs f).isOverride
  csum : r.csum = (w.recs f).csum
  row : r.row = (w.recs f).row
  changed : f ≠ alwaysId → r.changed = (w.recs f).changed
  checked : r.checked = (w.recs f).checked ∨ (w.recs f).checked = some R
  ckLe : ∀ c, r.checked = some c → c ≤ R

theorem Snap.toPlain {w R f r} (h : Snap w R f r) : Deps.Snap w R f r :=
  ⟨h.failed, h.stamp, h.gen, h.ovr, h.csum, h.row, h.changed, h.checked, h.ckLe⟩

/-- The copy `r` of the record of `f` was taken before an earlier check in the same loop found the file of `f` gone
and wrote that into the database. -/
structure Van (w : World) (R f : Nat) (r : Rec) : Prop where
  failed : r.failed = none
  fs : w.fs f = none
  stamp : ∃ old, r.stamp = some old ∧ old ≠ .missing
  gen : r.isGenerated = true
  nck : isCheckedR r R = false
  recEq : w.recs f = { r with isGenerated := false, isOverride := false, failed := some 0 }

def Snap2 (w : World) (R f : Nat) (r : Rec) : Prop := Snap w R f r ∨ Van w R f r

/-- Frame of the dirtiness check of a file of rank `< b`, whatever its verdict.  `Deps.DExt` with one clause more (`snap`): the
copies of records the check works with stay what they were. -/
structure DExt (rank : Nat → Nat) (R b : Nat) (w w' : World) : Prop where
  same : SameButRecs w w'
  above : ∀ x, b ≤ rank x → w'.recs x = w.recs x
  ver : ∀ x, VerR w R x → VerR w' R x ∧ (w'.recs x).isGenerated = (w.recs x).isGenerated
  stat : ∀ x, RecCur w x → (w.recs x).isGenerated = false → RecCur w' x ∧ (w'.recs x).isGenerated = false
  fail : ∀ x, (w'.recs x).failed = (w.recs x).failed ∨ (w'.recs x).failed = some 0
  snap : ∀ g r, Snap2 w R g r → Snap2 w' R g r

theorem DExt.refl (rank R b w) : DExt rank R b w w :=
  ⟨SameButRecs.refl w, fun _ _ => rfl, fun _ h => ⟨h, rfl⟩, fun _ h1 h2 => ⟨h1, h2⟩, fun _ => Or.inl rfl, fun _ _ h => h⟩

theorem DExt.trans {rank R b w w' w''} (h1 : DExt rank R b w w') (h2 : DExt rank R b w' w'') : DExt rank R b w w'' :=
  ⟨h1.same.trans h2.same, fun x hx => (h2.above x hx).trans (h1.above x hx),
   fun x hv => ⟨(h2.ver x (h1.ver x hv).1).1, (h2.ver x (h1.ver x hv).1).2.trans (h1.ver x hv).2⟩,
   fun x hc hg => h2.stat x (h1.stat x hc hg).1 (h1.stat x hc hg).2,
   fun x => by
    rcases h2.fail x with e2 | e2
    · rcases h1.fail x with e1 | e1
      · exact Or.inl (e2.trans e1)
      · exact Or.inr (e2.trans e1)
    · exact Or.inr e2,
   fun g r h => h2.snap g r (h1.snap g r h)⟩

theorem DExt.mono {rank R b b' w w'} (h : DExt rank R b w w') (hb : b ≤ b') : DExt rank R b' w w' :=
  ⟨h.same, fun x hx => h.above x (Nat.le_trans hb hx), h.ver, h.stat, h.fail, h.snap⟩

theorem Snap.getRec {rank R w} (hb : BaseN nc rank R X w) (f : Nat) : Snap w R f (getRec w R f) := by
  unfold Deps.getRec
  split
  · exact ⟨rfl, rfl, rfl, rfl, rfl, rfl, fun h => absurd ‹_› h, Or.inl rfl, hb.ckLe f⟩
  · exact ⟨rfl, rfl, rfl, rfl, rfl, rfl, fun _ => rfl, Or.inl rfl, hb.ckLe f⟩

theorem Snap.ext {rank R b w w' f r} (hs : Snap w R f r) (h : CkExt rank R b w w') : Snap w' R f r := by
  obtain ⟨f1, f2, f3, f4, f5, f6, f7⟩ := h.fields f
  refine ⟨by rw [f1]; exact hs.failed, by rw [f3]; exact hs.stamp, by rw [f4]; exact hs.gen,
    by rw [f5]; exact hs.ovr, by rw [f6]; exact hs.csum, ?_, fun h0 => by rw [f2]; exact hs.changed h0, ?_, ?_⟩
  · rcases h.2 f with e | ⟨_, e, _⟩ <;> rw [e] <;> exact hs.row
  · rcases f7 with e | e
    · rw [e]; exact hs.checked
    · exact Or.inr e
  · exact hs.ckLe

theorem Van.ext {rank R b w w' f r} (hs : Van w R f r) (h : CkExt rank R b w w') : Van w' R f r := by
  refine ⟨hs.failed, by rw [h.fs]; exact hs.fs, hs.stamp, hs.gen, hs.nck, ?_⟩
  rcases h.2 f with e | ⟨_, _, e⟩
  · rw [e]; exact hs.recEq
  · rw [hs.recEq] at e; cases e

theorem Snap2.ext {rank R b w w' f r} (hs : Snap2 w R f r) (h : CkExt rank R b w w') : Snap2 w' R f r :=
  hs.imp (fun x => x.ext h) (fun x => x.ext h)

theorem CkExt.toDExt {rank R b w w'} (h : CkExt rank R b w w') : DExt rank R b w w' :=
  ⟨h.1, fun _ hx => h.above hx, fun x hv => ⟨VerR_ext h hv, (h.fields x).2.2.2.1⟩,
   fun x hc hg => ⟨(RecCur_ext h x).2 hc, by rw [(h.fields x).2.2.2.1]; exact hg⟩,
   fun x => Or.inl (h.fields x).1, fun _ _ hs => hs.ext h⟩

/-- What a non-clean verdict may have done to the record of the file itself. -/
def OwnRel (w w' : World) (f : Nat) : Prop :=
  w'.recs f = w.recs f ∨
  (w'.recs f = { w.recs f with isGenerated := false, isOverride := false, failed := some 0 } ∧ w.fs f = none)

/-- What a `need` verdict for `f` lists: `f` itself, or files below it. -/
def NeedOk (rank : Nat → Nat) (f b : Nat) (ts : List Nat) : Prop :=
  ts = [f] ∨ (ts ≠ [] ∧ ∀ x ∈ ts, rank x < b)

/-- What the check of `f` guarantees, over `Inv`; with checksums the verdict may be `need` (`Deps.ChkPost` excludes it).
This is the vocabulary of the statement `isDirty_spec`; the induction carries `ChkPostN`. -/
def ChkPost (rank : Nat → Nat) (X : Nat → Prop) (R mx f : Nat) (w : World) (res : DR × World × List Nat) : Prop :=
  Inv rank R X res.2.1 ∧ DExt rank R (rank f + 1) w res.2.1 ∧ (∀ ts, res.1 = .need ts → NeedOk rank f (rank f) ts) ∧
  (res.1 = .clean → CkExt rank R (rank f + 1) w res.2.1 ∧ VerR res.2.1 R f ∧ ¬ DetectM w mx f) ∧
  (res.1 ≠ .clean → OwnRel w res.2.1 f)

/-- `ChkPost` over `InvN nc`: what the induction carries (`isDirty_specN`). -/
def ChkPostN (nc : Bool) (rank : Nat → Nat) (X : Nat → Prop) (R mx f : Nat) (w : World) (res : DR × World × List Nat) : Prop :=
  InvN nc rank R X res.2.1 ∧ DExt rank R (rank f + 1) w res.2.1 ∧ (∀ ts, res.1 = .need ts → NeedOk rank f (rank f) ts) ∧
  (res.1 = .clean → CkExt rank R (rank f + 1) w res.2.1 ∧ VerR res.2.1 R f ∧ ¬ DetectM w mx f) ∧
  (res.1 ≠ .clean → OwnRel w res.2.1 f)

/-- The check on a copy taken before the file was found gone: nothing happens. -/
def VanPost (f : Nat) (w : World) (res : DR × World × List Nat) : Prop :=
  res.2.1 = w ∧ (res.1 = .cyclic ∨ res.1 = .dirty ∨ res.1 = .need [f])

def ChkSpec (nc : Bool) (rank : Nat → Nat) (X : Nat → Prop) (R mx : Nat) (chk : World → List Nat → Nat → Rec → DR × World × List Nat) : Prop :=
  ∀ w cache s snap, InvN nc rank R X w → (∀ x, X x → rank s < rank x) →
    (Snap w R s snap → ChkPostN nc rank X R mx s w (chk w cache s snap)) ∧
    (Van w R s snap → VanPost s w (chk w cache s snap))

/-- Outcome of the loop over recorded rows. -/
def GoPost (nc : Bool) (rank : Nat → Nat) (X : Nat → Prop) (R mx b f : Nat) (ds : List (Dep × Rec)) (must : List Nat) (w : World)
    (res : Option DR × World × List Nat) : Prop :=
  InvN nc rank R X res.2.1 ∧ DExt rank R b w res.2.1 ∧ res.1 ≠ some .clean ∧
  (∀ ts, res.1 = some (.need ts) → NeedOk rank f b ts) ∧
  (res.1 = none → must = [] ∧ CkExt rank R b w res.2.1 ∧ ∀ p ∈ ds,
      (p.1.modeM = true → VerR res.2.1 R p.1.source ∧ ¬ DetectM res.2.1 mx p.1.source) ∧
      (p.1.modeM = false → existsF res.2.1 p.1.source = false))

theorem GoPost.step {rank R mx b f d snap ds must w w1 res} (h1 : CkExt rank R b w w1)
    (hd : (d.modeM = true → VerR w1 R d.source ∧ ¬ DetectM w1 mx d.source) ∧
      (d.modeM = false → existsF w1 d.source = false))
    (h : GoPost nc rank X R mx b f ds must w1 res) : GoPost nc rank X R mx b f ((d, snap) :: ds) must w res := by
  obtain ⟨hi, hdx, hnc, hnd, hr⟩ := h
  refine ⟨hi, h1.toDExt.trans hdx, hnc, hnd, fun hn => ?_⟩
  obtain ⟨hm, hck, hall⟩ := hr hn
  refine ⟨hm, h1.trans hck, ?_⟩
  intro p hp
  rcases List.mem_cons.1 hp with rfl | hp
  · exact ⟨fun hm => ⟨VerR_ext hck (hd.1 hm).1, fun hdt => (hd.1 hm).2 ((DetectM_ext hck _ _).1 hdt)⟩,
      fun hm => by rw [hck.existsF]; exact hd.2 hm⟩
  · exact hall p hp

/-- A step of the loop that was not clean, but does not stop it either. -/
theorem GoPost.skip {rank R mx b f p ds must must' w w1 res} (h1 : DExt rank R b w w1) (hne : must' ≠ [])
    (h : GoPost nc rank X R mx b f ds must' w1 res) : GoPost nc rank X R mx b f (p :: ds) must w res := by
  obtain ⟨hi, hdx, hnc, hnd, hr⟩ := h
  exact ⟨hi, h1.trans hdx, hnc, hnd, fun hn => absurd (hr hn).1 hne⟩

theorem GoPost.stop {rank R mx b f ds must w w1 c} {dr : DR} (hi : InvN nc rank R X w1) (h1 : DExt rank R b w w1)
    (hc : dr ≠ .clean) (hn : ∀ ts, dr = .need ts → NeedOk rank f b ts) :
    GoPost nc rank X R mx b f ds must w (some dr, w1, c) :=
  ⟨hi, h1, fun e => hc (Option.some.inj e), fun ts e => hn ts (Option.some.inj e), fun e => by cases e⟩

theorem NeedOk.mono {rank s b ts} (h : NeedOk rank s (rank s) ts) (hs : rank s < b) (hne : ts ≠ []) :
    ∀ x ∈ ts, rank x < b := by
  intro x hx
  rcases h with rfl | ⟨_, h⟩
  · simp only [List.mem_singleton] at hx; subst hx; exact hs
  · exact Nat.lt_trans (h x hx) hs

theorem NeedOk.ne_nil {rank f b ts} (h : NeedOk rank f b ts) : ts ≠ [] := by
  rcases h with rfl | ⟨h, _⟩
  · simp
  · exact h

theorem goDeps_spec {rank R mx} (chk : World → List Nat → Nat → Rec → DR × World × List Nat)
    (hchk : ChkSpec nc rank X R mx chk) (hasCsum : Bool) (f b : Nat) (hXb : ∀ x, X x → b ≤ rank x) :
    ∀ (ds : List (Dep × Rec)) (w : World) (cache must : List Nat), InvN nc rank R X w →
      (∀ p ∈ ds, Snap2 w R p.1.source p.2 ∧ rank p.1.source < b) → (∀ x ∈ must, rank x < b) →
      GoPost nc rank X R mx b f ds must w (goDeps chk hasCsum f ds w cache must)
  | [], w, cache, must, hi, _, hmu => by
    rw [goDeps]
    cases must with
    | nil =>
      simp only [List.isEmpty_nil, if_true]
      exact ⟨hi, DExt.refl _ _ _ _, (fun e => by cases e), (fun ts e => by cases e),
        fun _ => ⟨rfl, CkExt.refl _ _ _ _, fun p hp => by simp at hp⟩⟩
    | cons a l =>
      simp only [List.isEmpty_cons, Bool.false_eq_true, if_false]
      exact GoPost.stop hi (DExt.refl _ _ _ _) (fun e => by cases e)
        (fun ts e => by cases e; exact Or.inr ⟨by simp, hmu⟩)
  | (d, snap) :: ds, w, cache, must, hi, hds, hmu => by
    obtain ⟨hsn, hrk⟩ := hds (d, snap) (by simp)
    have hrest : ∀ w1, DExt rank R b w w1 → ∀ p ∈ ds, Snap2 w1 R p.1.source p.2 ∧ rank p.1.source < b :=
      fun w1 h1 p hp => ⟨h1.snap _ _ (hds p (List.mem_cons_of_mem _ hp)).1, (hds p (List.mem_cons_of_mem _ hp)).2⟩
    have hdirty : ∀ w1 c1, InvN nc rank R X w1 → DExt rank R b w w1 →
        GoPost nc rank X R mx b f ((d, snap) :: ds) must w (some (if hasCsum = true then DR.need [f] else DR.dirty), w1, c1) := by
      intro w1 c1 hi1 hd1
      refine GoPost.stop hi1 hd1 (by split <;> intro e <;> cases e) (fun ts e => ?_)
      split at e
      · cases e; exact Or.inl rfl
      · cases e
    apply goDeps_cons_cases chk hasCsum f d snap ds w cache must
    · exact fun _ _ => hdirty w cache hi (DExt.refl _ _ _ _)
    · intro hm' hex
      refine GoPost.step (CkExt.refl _ _ _ _) ⟨fun h => ?_, fun _ => hex⟩
        (goDeps_spec chk hchk hasCsum f b hXb ds w cache must hi (hrest w (DExt.refl _ _ _ _)) hmu)
      rw [hm'] at h; cases h
    · intro hm sub w1 c1 hres
      obtain ⟨hA, hB⟩ := hchk w cache d.source snap hi (fun x hx => Nat.lt_of_lt_of_le hrk (hXb x hx))
      rcases hsn with hsn | hsn
      · obtain ⟨hi1, hdx, hnn, hcl, _⟩ := hres ▸ hA hsn
        have hdx' : DExt rank R b w w1 := hdx.mono hrk
        cases sub with
        | cyclic => exact GoPost.stop hi1 hdx' (fun e => by cases e) (fun ts e => by cases e)
        | dirty => exact hdirty w1 c1 hi1 hdx'
        | need ts =>
          have hok : NeedOk rank d.source (rank d.source) ts := hnn ts rfl
          exact GoPost.skip hdx' (by simp [hok.ne_nil])
            (goDeps_spec chk hchk hasCsum f b hXb ds w1 c1 (must ++ ts) hi1 (hrest w1 hdx') (fun x hx => by
              rcases List.mem_append.1 hx with hx | hx
              · exact hmu x hx
              · exact hok.mono hrk hok.ne_nil x hx))
        | clean =>
          obtain ⟨hck, hv, hnd⟩ := hcl rfl
          have hck' : CkExt rank R b w w1 := hck.mono hrk
          refine GoPost.step hck' ⟨fun _ => ⟨hv, fun h => hnd ((DetectM_ext hck _ _).1 h)⟩, fun h => ?_⟩
            (goDeps_spec chk hchk hasCsum f b hXb ds w1 c1 must hi1 (hrest w1 hdx') hmu)
          rw [hm] at h; cases h
      · -- the copy was taken before the file was found gone: the check changes nothing
        obtain ⟨hw, hv⟩ := hres ▸ hB hsn
        dsimp only at hw hv
        subst hw
        rcases hv with rfl | rfl | rfl
        · exact GoPost.stop hi (DExt.refl _ _ _ _) (fun e => by cases e) (fun ts e => by cases e)
        · exact hdirty _ c1 hi (DExt.refl _ _ _ _)
        · exact GoPost.skip (DExt.refl _ _ _ _) (by simp)
            (goDeps_spec chk hchk hasCsum f b hXb ds _ c1 (must ++ [d.source]) hi (hrest _ (DExt.refl _ _ _ _))
              (fun x hx => by
                rcases List.mem_append.1 hx with hx | hx
                · exact hmu x hx
                · simp only [List.mem_singleton] at hx; subst hx; exact hrk))

theorem ne_always_of_stamp {rank R w f} (hb : BaseN nc rank R X w) (hf : (w.recs f).failed = none)
    (hs : (w.recs f).stamp ≠ none) : f ≠ alwaysId := by
  intro e; subst e
  rcases hb.rec0 with h | ⟨h, _⟩
  · exact h hf
  · exact hs h

theorem Snap.eq_of_checked {w R f r} (hs : Snap w R f r) (h0 : f ≠ alwaysId) (hc : r.checked = (w.recs f).checked) :
    r = w.recs f := hs.toPlain.eq_of_checked h0 hc

theorem Snap.withChecked {w R f r} (hs : Snap w R f r) (h0 : f ≠ alwaysId) (x : Option Nat) :
    { r with checked := x } = { w.recs f with checked := x } := hs.toPlain.withChecked h0 x

/-! ### The cases of `isDirty`, then its specification. -/

theorem chk_checked {rank R w f r mx ch} (hi : InvN nc rank R X w) (hs : Snap w R f r) (hf : r.failed = none)
    (hch : r.changed = some ch) (hle : ¬ ch > mx) (hck : isCheckedR r R = true) :
    VerR w R f ∧ ¬ DetectM w mx f := by
  have hfail : (w.recs f).failed = none := by rw [← hs.failed]; exact hf
  have hcR : (w.recs f).checked = some R := by
    rcases hs.checked with h | h
    · rw [← h]; exact (isCheckedR_iff hi.Rpos hs.ckLe).1 hck
    · exact h
  have hv : VerR w R f := ⟨hfail, Or.inl hcR⟩
  have hrc := (hi.ver f hv).1
  have h0 := ne_always_of_stamp hi.base hfail (by rw [hrc.2.2]; simp)
  refine ⟨hv, ?_⟩
  rintro (h | h | ⟨c, h1, h2⟩ | h)
  · exact h hfail
  · exact hrc.2.1 h
  · rw [← hs.changed h0, hch] at h1; cases h1; exact hle h2
  · exact h hrc.2.2

theorem Snap.congr {w w' : World} {R f : Nat} {r : Rec} (h : w'.recs f = w.recs f) (hs : Snap w R f r) : Snap w' R f r := by
  obtain ⟨a1, a2, a3, a4, a5, a6, a7, a8, a9⟩ := hs
  exact ⟨by rw [h]; exact a1, by rw [h]; exact a2, by rw [h]; exact a3, by rw [h]; exact a4, by rw [h]; exact a5,
    by rw [h]; exact a6, fun h0 => by rw [h]; exact a7 h0, by rw [h]; exact a8, a9⟩

theorem DExt_vanished {rank R w f} (hi : InvN nc rank R X w) (hf : (w.recs f).failed = none)
    (hs : (w.recs f).stamp ≠ some (readStamp w f)) (hso : (w.recs f).stamp ≠ none) (hm : readStamp w f = .missing)
    (hgen : (w.recs f).isGenerated = true) :
    DExt rank R (rank f + 1) w (setRec w f { w.recs f with isGenerated := false, isOverride := false, failed := some 0 }) := by
  have hne : ∀ x, RecCur w x → x ≠ f := fun x hx e => hs (e ▸ hx.2.2)
  refine ⟨SameButRecs.setRec w f _, fun x hx => ?_, fun x hv => ?_, fun x hc hg => ?_, fun x => ?_, fun g r h2 => ?_⟩
  · have : x ≠ f := fun e => by subst e; omega
    exact setRec_recs_other _ _ _ this
  · have e := hne x (hi.ver x hv).1
    unfold VerR; rw [setRec_recs_other _ _ _ e]; exact ⟨hv, rfl⟩
  · have e := hne x hc
    unfold RecCur; rw [setRec_recs_other _ _ _ e]; exact ⟨hc, hg⟩
  · by_cases e : x = f
    · subst e; right; simp
    · left; rw [setRec_recs_other _ _ _ e]
  · by_cases e : g = f
    · subst e
      rcases h2 with h2 | h2
      · right
        have h0 := ne_always_of_stamp hi.base hf hso
        have hnR : (w.recs g).checked ≠ some R := fun h => hs (hi.ver g ⟨hf, Or.inl h⟩).1.2.2
        have hck : r.checked = (w.recs g).checked := h2.checked.resolve_right hnR
        have hr := h2.eq_of_checked h0 hck
        subst hr
        obtain ⟨old, ho⟩ := Option.ne_none_iff_exists'.1 hso
        refine ⟨hf, readStamp_missing.1 hm, ⟨old, ho, fun e => hs (by rw [ho, hm, e])⟩, hgen,
          isCheckedR_false_of (hi.base.ckLe g) hnR, by simp⟩
      · have := h2.recEq; rw [this] at hf; cases hf
    · rcases h2 with h2 | h2
      · exact Or.inl (h2.congr (setRec_recs_other _ _ _ e))
      · exact Or.inr ⟨h2.failed, h2.fs, h2.stamp, h2.gen, h2.nck, by rw [setRec_recs_other _ _ _ e]; exact h2.recEq⟩

theorem chk_vanished {rank R w f r old} (hi : InvN nc rank R X w) (hs : Snap w R f r) (hf : r.failed = none)
    (hst : r.stamp = some old) (hne : old ≠ readStamp w f) :
    InvN nc rank R X (if readStamp w f = .missing ∧ r.isGenerated = true then
        setRec w f { r with isGenerated := false, isOverride := false, failed := some 0 } else w) ∧
    DExt rank R (rank f + 1) w (if readStamp w f = .missing ∧ r.isGenerated = true then
        setRec w f { r with isGenerated := false, isOverride := false, failed := some 0 } else w) ∧
    OwnRel w (if readStamp w f = .missing ∧ r.isGenerated = true then
        setRec w f { r with isGenerated := false, isOverride := false, failed := some 0 } else w) f := by
  split
  · have hfail : (w.recs f).failed = none := by rw [← hs.failed]; exact hf
    have hstamp : (w.recs f).stamp ≠ some (readStamp w f) := by
      rw [← hs.stamp, hst]; intro h; exact hne (Option.some.inj h)
    have h0 := ne_always_of_stamp hi.base hfail (by rw [← hs.stamp, hst]; simp)
    have hck : r.checked = (w.recs f).checked := by
      rcases hs.checked with h | h
      · exact h
      · exact absurd (hi.ver f ⟨hfail, Or.inl h⟩).1.2.2 hstamp
    have hr := hs.eq_of_checked h0 hck
    subst hr
    rename_i hcond
    exact ⟨Inv_vanished hi hfail hstamp, DExt_vanished hi hfail hstamp (by rw [← hs.stamp, hst]; simp) hcond.1 (by rw [← hs.gen]; exact hcond.2),
      Or.inr ⟨by simp, readStamp_missing.1 hcond.1⟩⟩
  · exact ⟨hi, DExt.refl _ _ _ _, Or.inl rfl⟩

theorem CkExt.setChecked (rank : Nat → Nat) (R : Nat) (w : World) (f : Nat) (hf : (w.recs f).failed = none) :
    CkExt rank R (rank f + 1) w (setRec w f { w.recs f with checked := some R }) := by
  refine ⟨SameButRecs.setRec w f _, fun x => ?_⟩
  by_cases e : x = f
  · subst e; exact Or.inr ⟨Nat.lt_succ_self _, by simp, hf⟩
  · exact Or.inl (setRec_recs_other _ _ _ e)

theorem chk_mark {rank R w w' f r mx ch old} (hi : InvN nc rank R X w) (hi' : InvN nc rank R X w') (hx : ¬ X f)
    (hs : Snap w R f r)
    (hck : CkExt rank R (rank f) w w') (hf : r.failed = none) (hch : r.changed = some ch) (hle : ¬ ch > mx)
    (hst : r.stamp = some old) (heq : old = readStamp w f)
    (hall : ∀ p ∈ depsWithRecs w R r f,
      (p.1.modeM = true → VerR w' R p.1.source ∧ ¬ DetectM w' (max ch (r.checked.getD 0)) p.1.source) ∧
      (p.1.modeM = false → existsF w' p.1.source = false)) :
    InvN nc rank R X (setRec w' f { r with checked := some R }) ∧
    CkExt rank R (rank f + 1) w (setRec w' f { r with checked := some R }) ∧
    VerR (setRec w' f { r with checked := some R }) R f ∧ ¬ DetectM w mx f := by
  have hfail : (w.recs f).failed = none := by rw [← hs.failed]; exact hf
  have hstamp : (w.recs f).stamp = some (readStamp w f) := by rw [← hs.stamp, hst, heq]
  have h0 := ne_always_of_stamp hi.base hfail (by rw [hstamp]; simp)
  have hchg : (w.recs f).changed = some ch := by rw [← hs.changed h0]; exact hch
  have hsame : w'.recs f = w.recs f := hck.above (Nat.le_refl _)
  have hs' : Snap w' R f r := hs.ext hck
  rw [hs'.withChecked h0]
  have hrc : RecCur w' f := by
    refine ⟨by rw [hsame]; exact hfail, by rw [hsame, hchg]; simp, ?_⟩
    rw [hsame, hck.readStamp]; exact hstamp
  have hmx : max ch (r.checked.getD 0) ≤ Mof (w'.recs f) := by
    unfold Mof; rw [hsame, hchg]
    simp only [Option.getD_some]
    rcases hs.checked with h | h
    · rw [h]; exact Nat.le_refl _
    · rw [h]; simp only [Option.getD_some]
      have h1 : ch ≤ R := hi.base.chLe f ch hchg
      have h2 : r.checked.getD 0 ≤ R := by
        cases hc : r.checked with
        | none => simp
        | some c => simpa using hs.ckLe c hc
      omega
  have hrows : RowsClean w' R (max ch (r.checked.getD 0)) f := by
    intro hg d hd hdt
    rw [hsame] at hg
    have hm : d ∈ depsOf w r f :=
      mem_depsOf.2 ⟨⟨by rw [hs.ovr]; exact hi.base.noOvr f, by rw [hs.gen]; exact hg⟩, by rw [← hck.deps]; exact hd, hdt⟩
    exact hall (d, getRec w R d.source) (List.mem_map.2 ⟨d, hm, rfl⟩)
  refine ⟨Inv_setChecked hi' hx hrc hmx hrows, (hck.mono (Nat.le_succ _)).trans (CkExt.setChecked rank R w' f (by rw [hsame]; exact hfail)), ?_, ?_⟩
  · unfold VerR; simp only [setRec_recs_self]; exact ⟨by rw [hsame]; exact hfail, Or.inl trivial⟩
  · rintro (h | h | ⟨c, h1, h2⟩ | h)
    · exact h hfail
    · rw [hchg] at h; cases h
    · rw [hchg] at h1; cases h1; exact hle h2
    · exact h hstamp

theorem ChkPostN.notClean {rank R mx f w dr w' c} (hi : InvN nc rank R X w') (hd : DExt rank R (rank f + 1) w w')
    (h1 : dr ≠ .clean) (hn : ∀ ts, dr = .need ts → NeedOk rank f (rank f) ts) (ho : OwnRel w w' f) :
    ChkPostN nc rank X R mx f w (dr, w', c) :=
  ⟨hi, hd, hn, fun e => absurd e h1, fun _ => ho⟩

theorem isDirty_van {R w f r} (hv : Van w R f r) (fuel mx : Nat) (seen cache : List Nat) :
    VanPost f w (isDirty false R fuel w cache f mx seen (some r)) := by
  obtain ⟨hf, hfs, ⟨old, hst, hold⟩, hg, hnck, hrec⟩ := hv
  have hm : readStamp w f = .missing := readStamp_missing.2 hfs
  cases fuel with
  | zero => exact ⟨rfl, Or.inl rfl⟩
  | succ fuel =>
  rw [isDirty_succ]
  refine isDirtyStep_cases (P := VanPost f w) (r := r) rfl (fun _ => ⟨rfl, Or.inl rfl⟩)
    (fun _ _ => ⟨rfl, Or.inr (Or.inl rfl)⟩) ?_ ?_ ?_ ?_
  · intro _ _ _ _ _ hck
    rw [cond_false, hnck] at hck; cases hck
  · -- the stamp in the copy is not "missing": the write is the one already in the database
    intro _ _ _ _ _ _ _ _ _
    refine ⟨?_, ?_⟩
    · show (if readStamp w f = .missing ∧ r.isGenerated = true then _ else w) = w
      rw [if_pos ⟨hm, hg⟩, ← hrec, setRec_self]
    · dsimp only
      split
      · exact Or.inr (Or.inr rfl)
      · exact Or.inr (Or.inl rfl)
  · intro _ _ _ _ _ _ _ _ hst'
    rw [hst, hm] at hst'; exact absurd (Option.some.inj hst') hold
  · intro _ _ _ _ _ _ _ hst'
    rw [hst, hm] at hst'; exact absurd (Option.some.inj hst') hold

theorem isDirty_specN {rank R} : ∀ (fuel f mx : Nat) (seen : List Nat) (w : World) (cache : List Nat) (pre : Option Rec),
    InvN nc rank R X w → (∀ s, pre = some s → Snap w R f s) → (∀ x, X x → rank f < rank x) →
    ChkPostN nc rank X R mx f w (isDirty false R fuel w cache f mx seen pre)
  | 0, f, mx, seen, w, cache, pre, hi, _, _ => by
    simp only [isDirty]
    exact ChkPostN.notClean hi (DExt.refl _ _ _ _) (by intro e; cases e) (fun ts e => by cases e) (Or.inl rfl)
  | fuel + 1, f, mx, seen, w, cache, pre, hi, hpre, hXa => by
    have hs : Snap w R f (pre.getD (getRec w R f)) := by
      cases pre with
      | none => exact Snap.getRec hi.base f
      | some s => exact hpre s rfl
    have hnot : ∀ {dr : DR}, dr ≠ .clean → (∀ ts, dr ≠ .need ts) → ChkPostN nc rank X R mx f w (dr, w, cache) :=
      fun h1 h2 => ChkPostN.notClean hi (DExt.refl _ _ _ _) h1 (fun ts e => absurd e (h2 ts)) (Or.inl rfl)
    rw [isDirty_succ]
    generalize hpr : pre.getD (getRec w R f) = r at hs
    have hov : r.isOverride = false := by rw [hs.ovr]; exact hi.base.noOvr f
    have hg := fun ch => goDeps_spec (rank := rank) (R := R) (mx := max ch (r.checked.getD 0))
      (fun w cache s snap => isDirty false R fuel w cache s (max ch (r.checked.getD 0)) (f :: seen) (some snap))
      (fun w1 c1 s snap hi1 hx1 => ⟨fun hs1 => isDirty_specN fuel s _ _ w1 c1 (some snap) hi1
        (fun s' e => by cases e; exact hs1) hx1, fun hv1 => isDirty_van hv1 _ _ _ _⟩)
      r.csum.isSome f (rank f) (fun x hx => Nat.le_of_lt (hXa x hx)) (depsWithRecs w R r f) w cache [] hi (by
        intro p hp
        obtain ⟨d, hd, rfl⟩ := List.mem_map.1 hp
        obtain ⟨_, hd1, hd2⟩ := mem_depsOf.1 hd
        exact ⟨Or.inl (Snap.getRec hi.base _), hd2 ▸ hi.base.rowsLt d hd1⟩) (by simp)
    refine isDirtyStep_cases (P := ChkPostN nc rank X R mx f w) hpr.symm
      (fun _ => hnot (by intro e; cases e) (fun ts e => by cases e))
      (fun _ _ => hnot (by intro e; cases e) (fun ts e => by cases e)) ?_ ?_ ?_ ?_
    · intro ch _ hf hch hle hck
      obtain ⟨hv, hnd⟩ := chk_checked hi hs hf hch (Nat.not_lt.2 hle) hck
      exact ⟨hi, DExt.refl _ _ _ _, (fun ts e => by cases e), (fun _ => ⟨CkExt.refl _ _ _ _, hv, hnd⟩), fun h => absurd rfl h⟩
    · intro _ old _ hf _ _ _ hst hne
      obtain ⟨h1, h2, h3⟩ := chk_vanished hi hs hf hst hne
      refine ChkPostN.notClean h1 h2 (by split <;> intro e <;> cases e) (fun ts e => ?_) h3
      split at e
      · cases e; exact Or.inl rfl
      · cases e
    · intro ch dr g _ _ _ _ _ _ hg' hdr
      obtain ⟨hi', hdx, hnc, hnn, _⟩ := hg' ▸ hg ch
      exact ChkPostN.notClean hi' (hdx.mono (Nat.le_succ _)) (fun e => hnc (by rw [hdr, e])) (fun ts e => hnn ts (by rw [hdr, e]))
        (Or.inl (hdx.above f (Nat.le_refl _)))
    · intro ch g _ hf hch hle _ hst hg' hnone
      obtain ⟨hi', _, _, _, hr⟩ := hg' ▸ hg ch
      obtain ⟨_, hckx, hall⟩ := hr hnone
      dsimp only [cond_false]
      rw [if_neg (by rw [hov]; simp)]
      obtain ⟨h1, h2, h3, h4⟩ := chk_mark hi hi' (fun h => Nat.lt_irrefl _ (hXa f h)) hs hckx hf hch (Nat.not_lt.2 hle)
        hst rfl hall
      exact ⟨h1, h2.toDExt, (fun ts e => by cases e), (fun _ => ⟨h2, h3, h4⟩), fun h => absurd rfl h⟩

/-! ### Good files are found clean, or the check runs out of fuel. -/

theorem Good.goodRec {rank R w f} (hi : InvN nc rank R X w) (hg : Good w R f) : GoodRec R (getRec w R f) := by
  have hrc := hg.recCur hi
  have h0 := ne_always_of_stamp hi.base hrc.1 (by rw [hrc.2.2]; simp)
  rw [getRec_of_ne h0]
  rcases hg with ⟨_, h | h⟩ | ⟨_, h⟩
  · exact Or.inl h
  · exact Or.inr (Or.inl h)
  · exact Or.inr (Or.inr h)

theorem good_clean {rank R} : ∀ (fuel f : Nat) (seen : List Nat) (w : World) (cache : List Nat) (pre : Option Rec),
    InvN nc rank R X w → Good w R f → (∀ s, pre = some s → Snap w R f s ∧ GoodRec R s) →
    (∀ x, X x → rank f < rank x) →
    (isDirty false R fuel w cache f R seen pre).1 = .clean ∨
    ((isDirty false R fuel w cache f R seen pre).1 = .cyclic ∧ ¬ FuelOk rank fuel seen f)
  | 0, f, seen, w, cache, pre, _, _, _, _ => Or.inr ⟨rfl, fun h => by have := h.1; omega⟩
  | fuel + 1, f, seen, w, cache, pre, hi, hg, hpre, hXa => by
    have hs : Snap w R f (pre.getD (getRec w R f)) ∧ GoodRec R (pre.getD (getRec w R f)) := by
      cases pre with
      | none => exact ⟨Snap.getRec hi.base f, hg.goodRec hi⟩
      | some s => exact hpre s rfl
    by_cases hseen : f ∈ seen
    · rw [isDirty_seen _ _ _ _ _ _ _ _ _ hseen]
      exact Or.inr ⟨rfl, fun h => by have := h.2 f hseen; omega⟩
    generalize hpr : pre.getD (getRec w R f) = r at hs
    obtain ⟨hs, hgr⟩ := hs
    have hrc := hg.recCur hi
    have h0 := ne_always_of_stamp hi.base hrc.1 (by rw [hrc.2.2]; simp)
    have hfl : r.failed = none := by rw [hs.failed]; exact hrc.1
    have hst : r.stamp = some (readStamp w f) := by rw [hs.stamp]; exact hrc.2.2
    have hchg : r.changed = (w.recs f).changed := hs.changed h0
    obtain ⟨ch, hch⟩ : ∃ ch, r.changed = some ch := by
      cases hc : (w.recs f).changed with
      | none => exact absurd hc hrc.2.1
      | some c => exact ⟨c, hchg.trans hc⟩
    have hle : ch ≤ R := hi.base.chLe f ch (hchg.symm.trans hch)
    -- a good file has a current record: its check is the memoised answer, or the walk over its rows
    rw [isDirty_of_current hpr.symm hseen hfl hch hle hst, cond_false]
    cases hnck : isCheckedR r R
    · rw [cond_false]
      cases hgen : r.isGenerated with
      | false =>
        -- a file redo does not own has no rows: the walk finds nothing
        have hnil : depsWithRecs w R r f = [] := by unfold depsWithRecs depsOf; simp [hgen]
        rw [hnil, goDeps]
        exact Or.inl rfl
      | true =>
      have hmx : max ch (r.checked.getD 0) = R := by
        have hckle : r.checked.getD 0 ≤ R := by
          cases hc : r.checked with
          | none => simp
          | some c => simpa using hs.ckLe c hc
        rcases hgr with h | h | h
        · rw [(isCheckedR_iff hi.Rpos hs.ckLe).2 h] at hnck; cases hnck
        · rw [hch] at h; simp only [Option.some.injEq] at h; omega
        · rw [hgen] at h; cases h
      rw [hmx]
      have hgen' : (w.recs f).isGenerated = true := by rw [← hs.gen]; exact hgen
      have hv : VerR w R f := by
        rcases hg with h | ⟨_, h⟩
        · exact h
        · rw [hgen'] at h; cases h
      -- every recorded row is passed over: the source of an `m` row is good, the object of a `c` row does not exist
      obtain ⟨hgo, -⟩ := goDeps_passed (hasCsum := r.csum.isSome) (f := f)
        (chk := fun w cache s snap => isDirty false R fuel w cache s R (f :: seen) (some snap))
        (I := InvN nc rank R X)
        (B := fun w1 p => p.1 ∈ w.deps ∧ p.1.target = f ∧ Snap w1 R p.1.source p.2 ∧
          (p.1.modeM = true → Good w1 R p.1.source ∧ GoodRec R p.2) ∧ (p.1.modeM = false → existsF w1 p.1.source = false))
        (G := fun s => ¬ FuelOk rank fuel (f :: seen) s)
        (fun p w1 c1 hi1 hb hm => by
          obtain ⟨hd1, hd2, hsn, hgood, _⟩ := hb
          have hxa : ∀ x, X x → rank p.1.source < rank x := fun x hx =>
            Nat.lt_trans (hd2 ▸ hi.base.rowsLt p.1 hd1) (hXa x hx)
          obtain ⟨hi2, _, _, hcl, _⟩ := isDirty_specN fuel p.1.source R (f :: seen) w1 c1 (some p.2) hi1
            (fun s' e => by cases e; exact hsn) hxa
          refine ⟨(good_clean fuel p.1.source (f :: seen) w1 c1 (some p.2) hi1 (hgood hm).1
            (fun s' e => by cases e; exact ⟨hsn, (hgood hm).2⟩) hxa).imp_left fun hc => ⟨hc, fun q hq => ?_⟩, hi2⟩
          -- the check that answers `clean` only marks records checked
          obtain ⟨hck, _, _⟩ := hcl hc
          exact ⟨hq.1, hq.2.1, hq.2.2.1.ext hck, fun h => ⟨Good_ext hck (hq.2.2.2.1 h).1, (hq.2.2.2.1 h).2⟩,
            fun h => by rw [hck.existsF]; exact hq.2.2.2.2 h⟩)
        (fun p w1 _ hb hm => hb.2.2.2.2 hm) (depsWithRecs w R r f) w cache hi (fun p hp => by
          obtain ⟨d, hd, rfl⟩ := List.mem_map.1 hp
          obtain ⟨_, hd1, hd2⟩ := mem_depsOf.1 hd
          have hcl := (hi.ver f hv).2.2 hgen' d hd1 hd2
          exact ⟨hd1, hd2, Snap.getRec hi.base _, fun hm => ⟨hcl.1 hm, (hcl.1 hm).goodRec hi⟩, hcl.2⟩)
      rcases hgo with h | ⟨h, p, hp, hpm, hpf⟩
      · exact Or.inl (closeWalk_fst_of_none h)
      · -- the walk gave up at a row of `f`: then the fuel did not suffice for `f` either
        rw [closeWalk_of_some h]
        refine Or.inr ⟨rfl, fun hfo => hpf (Deps.FuelOk.child hfo ?_)⟩
        obtain ⟨d, hd, rfl⟩ := List.mem_map.1 hp
        obtain ⟨_, hd1, hd2⟩ := mem_depsOf.1 hd
        exact hd2 ▸ hi.base.rowsLt d hd1
    · exact Or.inl rfl

theorem ChkPostN.toChkPost {nc rank X R mx f w res} (h : ChkPostN nc rank X R mx f w res) : ChkPost rank X R mx f w res :=
  ⟨h.1.toInv, h.2⟩

theorem isDirty_spec {rank R} : ∀ (fuel f mx : Nat) (seen : List Nat) (w : World) (cache : List Nat) (pre : Option Rec),
    Inv rank R X w → (∀ s, pre = some s → Snap w R f s) → (∀ x, X x → rank f < rank x) →
    ChkPost rank X R mx f w (isDirty false R fuel w cache f mx seen pre) :=
  fun fuel f mx seen w cache pre hi hpre hXa => (isDirty_specN fuel f mx seen w cache pre hi.toInvN hpre hXa).toChkPost

end RedoModel.Deps.S
