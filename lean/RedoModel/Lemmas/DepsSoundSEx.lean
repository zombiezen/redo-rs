import RedoModel.Lemmas.DepsSoundSHistory
import RedoModel.Lemmas.DepsCmdFrame
import RedoModel.Lemmas.DepsEval
/-! Non-vacuity of `noStaleStamp_partial`, on three histories over one project: a source `s` (5), a checksummed target
`mid` (3, built by 1 = `mid.do`, reads `s`, pipes its output to `redo-stamp`), a plain target `top` (4, built by
2 = `top.do`, reads `mid`). -/
namespace RedoModel.Deps.S
open RedoModel.Generated

def sRules : Nat → List Nat := fun t => if t = 3 then [1] else if t = 4 then [2] else []
def sRank : Nat → Nat := fun f => if f = 3 then 1 else if f = 4 then 2 else 0
def midS : Script := { ifchange := [[5]], reads := [5], tag := 1, stamp := 1 }
def topS : Script := { ifchange := [[3]], reads := [3], tag := 2 }

/-- Give the two .do contents their meaning, write the source and the .do files, build `top`. -/
def sOps0 : List UserOp :=
  [.setProg (srcContent 7) midS, .setProg (srcContent 8) topS, .write 5 0, .write 1 7, .write 2 8,
   .cmd (.ifchange [4] false)]

def sW (ops : List UserOp) : World := ops.foldl (fun w op => (applyOp {} 3 op w).2) (initWorld sRules)

instance (rules : Nat → List Nat) (op : UserOp) : Decidable (PlainOpS rules op) := by
  cases op <;> simp only [PlainOpS, Script.PlainS] <;> infer_instance

theorem s_support : ∀ t, t ∉ [3, 4] → sRules t = [] := by
  intro t ht
  simp only [List.mem_cons, List.not_mem_nil, or_false, not_or] at ht
  simp [sRules, ht]

theorem s_rulesOk : RulesOk sRules := .of_support s_support (by decide +kernel)

theorem s_rankLt : ∀ f, sRank f < 3 := by intro f; unfold sRank; split <;> (try split) <;> omega

/-! Non-vacuity of `noStaleStamp_partial`, first history: after `top` was built, the user removes the file of the
checksummed `mid`; `redo-ifchange top` rebuilds `mid` out of band, its checksum is unchanged, `top` is *not* rebuilt,
the command exits 0 — and `top` is up to date. -/

def sOpsA : List UserOp := sOps0 ++ [.remove 3]
def sResA : Result × World := runCmd {} 3 (.ifchange [4] false) (sW sOpsA)

theorem sA_eval : sResA.1.status = 0 ∧ sResA.2.trace = [.ran 3, .ran 3, .ran 4] := by
  unfold sResA sW
  eval_model

theorem sA_status : sResA.1.status = 0 := sA_eval.1

/-- Only `mid` (3) ran in the last command: before it the trace was `[ran 3, ran 4]` (the first build). -/
theorem sA_trace : sResA.2.trace = [.ran 3, .ran 3, .ran 4] := sA_eval.2

theorem sA_hyps : (∀ op ∈ sOpsA, PlainOpS sRules op) ∧
    (∀ w ∈ worldsOf 3 {} (initWorld sRules) sOpsA, Ranked sRank w) ∧
    OpsOk 3 (initWorld sRules) sOpsA ∧ RedoKOk 3 (initWorld sRules) sOpsA :=
  ⟨by decide +kernel,
    ranked_history 3 {} s_rulesOk s_support (by decide +kernel) (by decide +kernel),
    ⟨fun _ _ _ _ hn => (nomatch hn), fun _ _ _ _ hn => (nomatch hn), trivial, trivial, trivial, trivial, trivial, trivial⟩,
    redoKOk_of_none 3 _ _ (by simp [sOpsA, sOps0])⟩

/-- Non-vacuity of `noStaleStamp_partial` (out-of-band rebuild with unchanged checksum: the dependent is not rebuilt). -/
example : UpToDateD sResA.2 4 :=
  noStaleStamp_partial 3 sRules sRank sOpsA [4] false false s_rulesOk sA_hyps.1 sA_hyps.2.1 s_rankLt sA_hyps.2.2.1
    sA_hyps.2.2.2 sA_status 4 (by simp)

/-! Non-vacuity of `noStaleStamp_partial`, two more histories: the source is edited (the checksum of `mid` changes, so
`top` is rebuilt in the same command); `mid` is rebuilt by force with the same content (nothing runs afterwards). -/

def sOpsB : List UserOp := sOps0 ++ [.write 5 1]
def sResB : Result × World := runCmd {} 3 (.ifchange [4] false) (sW sOpsB)

theorem sB_eval : sResB.1.status = 0 ∧ sResB.2.trace = [.ran 4, .ran 3, .ran 3, .ran 4] := by
  unfold sResB sW
  eval_model

theorem sB_status : sResB.1.status = 0 := sB_eval.1

/-- `mid` (3), then `top` (4) ran in the last command. -/
theorem sB_trace : sResB.2.trace = [.ran 4, .ran 3, .ran 3, .ran 4] := sB_eval.2

theorem sB_hyps : (∀ op ∈ sOpsB, PlainOpS sRules op) ∧
    (∀ w ∈ worldsOf 3 {} (initWorld sRules) sOpsB, Ranked sRank w) ∧
    OpsOk 3 (initWorld sRules) sOpsB ∧ RedoKOk 3 (initWorld sRules) sOpsB :=
  ⟨by decide +kernel,
    ranked_history 3 {} s_rulesOk s_support (by decide +kernel) (by decide +kernel),
    ⟨fun _ _ _ _ hn => (nomatch hn), fun _ _ _ _ hn => (nomatch hn), trivial, trivial, trivial, trivial, trivial, trivial⟩,
    redoKOk_of_none 3 _ _ (by simp [sOpsB, sOps0])⟩

/-- Non-vacuity (changed checksum: the dependent is rebuilt in the same command). -/
example : UpToDateD sResB.2 4 :=
  noStaleStamp_partial 3 sRules sRank sOpsB [4] false false s_rulesOk sB_hyps.1 sB_hyps.2.1 s_rankLt sB_hyps.2.2.1
    sB_hyps.2.2.2 sB_status 4 (by simp)

def sOpsC : List UserOp := sOps0 ++ [.cmd (.redo [3] false)]
def sResC : Result × World := runCmd {} 3 (.ifchange [4] false) (sW sOpsC)

theorem sC_eval : sResC.1.status = 0 ∧ sResC.2.trace = [.ran 3, .ran 3, .ran 4] ∧
    (sW sOpsC).trace = [.ran 3, .ran 3, .ran 4] := by
  unfold sResC sW
  eval_model

theorem sC_status : sResC.1.status = 0 := sC_eval.1

/-- Nothing ran in the last command (the forced `redo mid` before it is the second `ran 3`). -/
theorem sC_trace : sResC.2.trace = [.ran 3, .ran 3, .ran 4] ∧ (sW sOpsC).trace = [.ran 3, .ran 3, .ran 4] := sC_eval.2

theorem sC_hyps : (∀ op ∈ sOpsC, PlainOpS sRules op) ∧
    (∀ w ∈ worldsOf 3 {} (initWorld sRules) sOpsC, Ranked sRank w) ∧
    OpsOk 3 (initWorld sRules) sOpsC ∧ RedoKOk 3 (initWorld sRules) sOpsC :=
  ⟨by decide +kernel,
    ranked_history 3 {} s_rulesOk s_support (by decide +kernel) (by decide +kernel),
    ⟨fun _ _ _ _ hn => (nomatch hn), fun _ _ _ _ hn => (nomatch hn), trivial, trivial, trivial, trivial, trivial, trivial⟩,
    redoKOk_of_none 3 _ _ (by simp [sOpsC, sOps0])⟩

/-- Non-vacuity (forced rebuild of the checksummed target with unchanged content: the dependent stays clean). -/
example : UpToDateD sResC.2 4 :=
  noStaleStamp_partial 3 sRules sRank sOpsC [4] false false s_rulesOk sC_hyps.1 sC_hyps.2.1 s_rankLt sC_hyps.2.2.1
    sC_hyps.2.2.2 sC_status 4 (by simp)

end RedoModel.Deps.S
