import RedoModel.Lemmas.DepsSoundSJob
/-! C01 on the full engine model, with and without `redo-stamp`: the one induction, over `InvN nc`.  The command `redo ts`.  Its job
on a target that is not verified is `startSelf_spec`; on a verified generated target it is the forced rebuild, which changes
nothing the invariant looks at: every declaration re-adds a row that is there, every nested command finds its targets good,
the script reproduces the content.  Names: `_good` is for a job on a good target (it does nothing), `idem`/`Idem` for the
forced rebuild of a verified target and its pieces, `forced` for a job of `redo`, which is the one or the other. -/
namespace RedoModel.Deps.S
open RedoModel.Generated

/-! ### The invariant looks at the dependency table only through (target, source, mode) triples. -/

theorem RecTruth_triples {w : World} {ds : List Dep} (ht : SameTriples w { w with deps := ds }) {t : Nat}
    (h : RecTruth w t) : RecTruth { w with deps := ds } t :=
  RecTruth.mono (w := w) rfl (fun _ _ => (ht _ _ _).2) rfl rfl (fun _ _ _ => ⟨Or.inl ⟨rfl, rfl⟩, id⟩)
    (fun _ _ => Hdet.same (.refl _) rfl) h

theorem Inv_triples {rank R X w} {ds : List Dep} (hi : InvN nc rank R X w) (ht : SameTriples w { w with deps := ds }) :
    InvN nc rank R X { w with deps := ds } := by
  have hb := hi.base
  have hback : ∀ d ∈ ds, ∃ d0 ∈ w.deps, d0.target = d.target ∧ d0.source = d.source ∧ d0.modeM = d.modeM := by
    intro d hd
    exact (ht _ _ _).1 (mem_hasRow (w := { w with deps := ds }) hd)
  refine ⟨{ hb with rowsLt := ?_, cPlain := ?_, recA := ?_, nostamp := fun hc => (hb.nostamp hc).of_eq (fun _ => rfl) rfl },
    hi.Rpos, ?_⟩
  · intro d hd
    obtain ⟨d0, h0, e1, e2, _⟩ := hback d hd
    rw [← e1, ← e2]; exact hb.rowsLt d0 h0
  · intro d hd hm
    obtain ⟨d0, h0, _, e2, e3⟩ := hback d hd
    have := hb.cPlain d0 h0 (by rw [e3]; exact hm)
    rw [e2] at this; exact this
  · intro t hx hrc hg
    exact RecTruth_triples ht (hb.recA t hx hrc hg)
  · intro f hv
    obtain ⟨h1, _, h3⟩ := hi.ver f hv
    refine ⟨h1, ?_, ?_⟩
    · exact good_upToDate (w' := { w with deps := ds }) hi rfl rfl (fun _ _ => rfl) (fun _ _ => ⟨rfl, rfl⟩)
        (rank f + 1) f (Nat.lt_succ_self _) (Or.inl hv)
    · intro hg d hd hdt
      obtain ⟨d0, h0, e1, e2, e3⟩ := hback d hd
      have := h3 hg d0 h0 (by rw [e1]; exact hdt)
      rw [e2, e3] at this
      exact this

theorem verR_modeUniq {rank R X w t s} (hi : InvN nc rank R X w) (hv : VerR w R t) (hg : (w.recs t).isGenerated = true)
    (h1 : HasRow w t s true) (h2 : HasRow w t s false) : False := by
  have hgood := h1.good hi hv hg
  have habs := h2.absent hi.toInv hv hg
  obtain ⟨d, hd, _, e2, e3⟩ := h2
  have hpl : w.rules s = [] := e2 ▸ hi.base.cPlain d hd e3
  have := static_exists hi.base (hgood.recCur hi) (hi.base.srcNotGen s hpl)
  rw [habs] at this; cases this

theorem Inv_zapDeps1_triples {rank R X w} (hi : InvN nc rank R X w) (t : Nat) : InvN nc rank R X (zapDeps1 w t) :=
  Inv_triples hi (SameTriples.zapDeps1 w t)

theorem Inv_readd {rank R X w t s m} (hi : InvN nc rank R X w) (hv : VerR w R t)
    (hg : (w.recs t).isGenerated = true) (hrow : HasRow w t s m) :
    InvN nc rank R X (addDep w t s m) ∧ SameTriples w (addDep w t s m) := by
  have e := WEqv.addKnown w s
  have hi1 := e.inv hi
  have hst := Deps.SameTriples.readd (verR_modeUniq hi hv hg) hrow
  refine ⟨?_, hst⟩
  have : addDep w t s m = { addKnown w s with deps := (addDep w t s m).deps } := rfl
  rw [this]
  exact Inv_triples hi1 (fun x s' m' => (hst x s' m').trans (e.hasRow x s' m').symm)

/-! ### Re-declaring what is recorded (`findDoFile`, `declare`); a job and a loop on good targets do nothing. -/

theorem findDoFile_idem {rank R X t dof post} :
    ∀ (pre : List Nat) (w : World), InvN nc rank R X w → VerR w R t → (w.recs t).isGenerated = true →
      (∀ c ∈ pre, existsF w c = false ∧ HasRow w t c false) → existsF w dof = true → HasRow w t dof true →
      InvN nc rank R X (findDoFile t (pre ++ dof :: post) w).2 ∧ SameTriples w (findDoFile t (pre ++ dof :: post) w).2
  | [], w, hi, hv, hg, _, hdex, hdrow => by
    simp only [List.nil_append, findDoFile, hdex, if_true]
    exact Inv_readd hi hv hg hdrow
  | c :: pre, w, hi, hv, hg, hpre, hdex, hdrow => by
    obtain ⟨hcabs, hcrow⟩ := hpre c (by simp)
    simp only [List.cons_append, findDoFile, hcabs, Bool.false_eq_true, if_false]
    have hro := RowOp.addDep w t c false
    obtain ⟨hi1, hst⟩ := Inv_readd hi hv hg hcrow
    obtain ⟨a1, a2⟩ := findDoFile_idem pre (addDep w t c false) hi1 ((hro.verR R t).2 hv)
      (by rw [hro.eqv.gen]; exact hg)
      (fun c' hc' => ⟨by rw [hro.existsF]; exact (hpre c' (List.mem_cons_of_mem _ hc')).1,
        (hst _ _ _).2 (hpre c' (List.mem_cons_of_mem _ hc')).2⟩)
      (by rw [hro.existsF]; exact hdex) ((hst _ _ _).2 hdrow)
    exact ⟨a1, hst.trans a2⟩

theorem declare_idem {rank R X p} :
    ∀ (ts : List Nat) (w : World), InvN nc rank R X w → VerR w R p → (w.recs p).isGenerated = true →
      (∀ d ∈ ts, HasRow w p d true) → InvN nc rank R X (declare p ts w) ∧ SameTriples w (declare p ts w)
  | [], w, hi, _, _, _ => ⟨hi, SameTriples.refl w⟩
  | t :: ts, w, hi, hv, hg, hrows => by
    have hro := RowOp.addDep w p t true
    obtain ⟨hi1, hst⟩ := Inv_readd hi hv hg (hrows t (by simp))
    obtain ⟨a1, a2⟩ := declare_idem ts (addDep w p t true) hi1 ((hro.verR R p).2 hv)
      (by rw [hro.eqv.gen]; exact hg) (fun d hd => (hst _ _ _).2 (hrows d (List.mem_cons_of_mem _ hd)))
    exact ⟨a1, hst.trans a2⟩

theorem buildJob_good {rank R X t w fuel} {cx : Ctx} (E : Engine) (d : Defects) (hcx : cx.runid = R)
    (hredo : cx.isRedo = false) (hi : InvN nc rank R X w) (hg : Good w R t) (hXa : ∀ x, X x → rank t < rank x)
    (hfuel : rank t < fuel) : (buildJob E d cx fuel t w).1 = .done 0 := by
  subst hcx
  have hrc := hg.recCur hi
  have hfr : isFailedR (getRec w cx.runid t) cx.runid = false := by
    unfold isFailedR; rw [getRec_failed_eq, hrc.1]
  have hgc := good_clean (rank := rank) (R := cx.runid) (X := X) fuel t [] w [] none hi hg (fun s e => by cases e) hXa
  unfold buildJob shouldBuild
  simp only [hredo, Bool.false_eq_true, if_false, hfr]
  generalize isDirty false cx.runid fuel w [] t cx.runid [] none = res at hgc
  obtain ⟨dr, w1, c⟩ := res
  rcases hgc with h | ⟨_, h⟩
  · dsimp only at h; subst h; rfl
  · exact absurd ⟨hfuel, fun x hx => by simp at hx⟩ h

theorem runTargets_good {rank R E b fuel} {cx : Ctx} {X : Nat → Prop} (hE : ESpecG False nc rank R E) (d : Defects)
    (hd : nc = false → d.oobRecordsDepsOnCaller = false ∧ d.oobRebuildsDepsNotTarget = false)
    (hcx : cx.runid = R) (hredo : cx.isRedo = false) (hcrash : cx.crash = none)
    (hXb : ∀ x, X x → b ≤ rank x) (hfuel : b ≤ fuel) (ts seen : List Nat) (w : World) (hi : InvN nc rank R X w)
    (hts : ∀ t ∈ ts, rank t < b ∧ Good w R t ∧ t ∉ cx.cycles) :
    (runTargets E d cx fuel ts seen false w).1 = 0 :=
  (runTargets_zero (S := InvN nc rank R X) (B := fun w t => rank t < b ∧ Good w R t ∧ t ∉ cx.cycles)
    (fun t w hi _ => ⟨(WEqv.addKnown w t).inv hi, fun t' h => ⟨h.1, ((WEqv.addKnown w t).good R t').2 h.2.1, h.2.2⟩⟩)
    (fun t w _ h => by simp [h.2.2])
    (fun t w hi h =>
      have hXa : ∀ x, X x → rank t < rank x := fun x hx => Nat.lt_of_lt_of_le h.1 (hXb x hx)
      have hj := (buildJob_spec (fuel := fuel) (b := b) hE d hd hcx hredo (KillMode.none hcrash) hi hXa h.1 none).unkilled
      ⟨buildJob_good (fuel := fuel) E d hcx hredo hi h.2.1 hXa (Nat.lt_of_lt_of_le h.1 hfuel), hj.inv,
        fun t' h' => ⟨h'.1, hj.frame.good h'.2.1, h'.2.2⟩⟩)
    ts seen w hi hts).1

/-! ### The commands of the script of a verified target (`IdemStep`). -/

/-- No file is exempt (top level). -/
def NoX : Nat → Prop := fun _ => False

/-- What a nested command of the script of a verified target `t` does. -/
structure IdemStep (rank : Nat → Nat) (R t : Nat) (c : List Nat) (w : World) (res : Status × World) : Prop where
  status : res.1 = 0
  inv : Inv rank R NoX res.2
  bext : BExt rank R (rank t) (some t) w res.2
  decl : RowsDecl t c w res.2
  rows : ∀ d ∈ c, HasRowU res.2 t d true
  keep : ∀ s m, HasRow w t s m → HasRow res.2 t s m
  noFail : NoFail R w → NoFail R res.2

/-- `IdemStep` over `InvN nc`: what the induction carries (`ifchange_idem`, `cmds_idem`, `idem_script`); `IdemStep` is the
vocabulary of the statements over `Inv`. -/
structure IdemStepN (nc : Bool) (rank : Nat → Nat) (R t : Nat) (c : List Nat) (w : World) (res : Status × World) : Prop
    extends IdemStep rank R t c w res where
  nostamp : nc = true → NoStamp res.2

theorem IdemStepN.invN {nc rank R t c w res} (h : IdemStepN nc rank R t c w res) : InvN nc rank R NoX res.2 :=
  ⟨⟨h.inv.base, h.nostamp⟩, h.inv.Rpos, h.inv.ver⟩

theorem IdemStepN.of {nc rank R t c w res} (status : res.1 = 0) (inv : InvN nc rank R NoX res.2)
    (bext : BExt rank R (rank t) (some t) w res.2) (decl : RowsDecl t c w res.2) (rows : ∀ d ∈ c, HasRowU res.2 t d true)
    (keep : ∀ s m, HasRow w t s m → HasRow res.2 t s m) (noFail : NoFail R w → NoFail R res.2) :
    IdemStepN nc rank R t c w res :=
  ⟨⟨status, inv.toInv, bext, decl, rows, keep, noFail⟩, inv.base.nostamp⟩

theorem ifchange_idem {rank R t w fuel} {cx : Ctx} (E : Engine) (hE : ESpecG False nc rank R E) (d : Defects)
    (hd : nc = false → d.oobRecordsDepsOnCaller = false ∧ d.oobRebuildsDepsNotTarget = false)
    (hcx : cx.runid = R) (hredo : cx.isRedo = false)
    (hunl : cx.unlocked = false) (hcrash : cx.crash = none) (hpar : cx.parent = some t) (hcyc : cx.cycles = [t])
    (hi : InvN nc rank R NoX w) (hv : VerR w R t) (hg : (w.recs t).isGenerated = true) (hfuel : rank t ≤ fuel)
    (c : List Nat) (hc : ∀ x ∈ c, rank x < rank t ∧ Good w R x ∧ HasRow w t x true) :
    IdemStepN nc rank R t c w (ifchangeWith E d fuel cx c w) := by
  rw [ifchangeWith_declare E d fuel w hpar hunl (fun h => Nat.lt_irrefl _ (hc t h).1)]
  have e1 := WEqv.addKnown w t
  have hi1 := e1.inv hi
  obtain ⟨d1, d5⟩ := declare_idem (rank := rank) (R := R) (X := NoX) (p := t) c (addKnown w t) hi1
    ((e1.verR R t).2 hv) (by rw [e1.gen]; exact hg) (fun x hx => (e1.hasRow _ _ _).2 (hc x hx).2.2)
  have d2 := (declare_rows t c (addKnown w t)).1
  have hXb : ∀ x, NoX x → rank t ≤ rank x := fun _ h => h.elim
  obtain ⟨a1, a2, a3, a4, a5⟩ := (runTargets_spec (fuel := fuel) hE d hd hcx hredo hXb none c [] false
    (declare t c (addKnown w t)) (KillMode.none hcrash) d1 (fun x hx => (hc x hx).1) (fun _ s hs => by simp at hs)).unkilled
  have hst := runTargets_good (fuel := fuel) hE d hd hcx hredo hcrash hXb hfuel c [] (declare t c (addKnown w t)) d1
    (fun x hx => ⟨(hc x hx).1, (d2.good R x).2 ((e1.good R x).2 (hc x hx).2.1), by
      rw [hcyc]; simp only [List.mem_singleton]; intro e; have := (hc x hx).1; rw [e] at this; omega⟩)
  obtain ⟨q1, q2, q3, q4, q5⟩ := declare_then (Nat.le_refl (rank t)) a2.toPlain
  exact .of hst a1 q1.toS q2 q3 (fun s m hr => q4 s m ((d5 t s m).2 ((e1.hasRow t s m).2 hr))) (fun hn => a4 (q5 hn) hst)

theorem cmds_idem {rank R t} {Eo : Engine} {cx cx' : Ctx} (hcrash : cx.crash = none)
    (hstep : ∀ (c : List Nat) (w : World), InvN nc rank R NoX w → VerR w R t → (w.recs t).isGenerated = true →
      (∀ x ∈ c, rank x < rank t ∧ Good w R x ∧ HasRow w t x true) →
      IdemStepN nc rank R t c w (Eo.ifchangeCmd cx' c w))
    (cs : List (List Nat)) (k : Nat) (w : World) (hi : InvN nc rank R NoX w) (hv : VerR w R t)
    (hg : (w.recs t).isGenerated = true) (hcs : ∀ c ∈ cs, ∀ x ∈ c, rank x < rank t ∧ Good w R x ∧ HasRow w t x true) :
    IdemStepN nc rank R t cs.flatten w (runScript.cmds Eo cx t cx' cs k w) := by
  fun_induction runScript.cmds Eo cx t cx' cs k w with
  | case1 k w =>
    simp only [hcrash, reduceCtorEq, if_false]
    exact .of rfl hi (BExt.refl _ _ _ _ _) (RowsDecl.refl _ _ _) (fun d hd => by simp at hd) (fun _ _ h => h) (fun h => h)
  | case2 c cs k w hk => rw [hcrash] at hk; cases hk
  | case3 c cs k w _ w1 hc ih =>
    have hs := hstep c w hi hv hg (hcs c List.mem_cons_self)
    rw [hc] at hs
    have s2 := hs.invN
    obtain ⟨⟨-, -, s3, s4, s5, s6, s7⟩, -⟩ := hs
    dsimp only at s2 s3 s4 s5 s6 s7
    obtain ⟨⟨a1, a2, a3, a4, a5, a6, a7⟩, a8⟩ := ih s2 (s3.ver t hv).1 (by rw [(s3.ver t hv).2.2]; exact hg)
      (fun c' hc' x hx => ⟨(hcs c' (List.mem_cons_of_mem _ hc') x hx).1,
        s3.good (hcs c' (List.mem_cons_of_mem _ hc') x hx).2.1,
        s6 _ _ (hcs c' (List.mem_cons_of_mem _ hc') x hx).2.2⟩)
    refine ⟨⟨a1, a2, s3.trans a3, by rw [List.flatten_cons]; exact RowsDecl.trans s4 a4, fun x hx => ?_,
      fun s m h => a6 s m (s6 s m h), fun h => a7 (s7 h)⟩, a8⟩
    rw [List.flatten_cons, List.mem_append] at hx
    rcases hx with hx | hx
    · exact a4.2 x true (s5 x hx) (fun _ => rfl)
    · exact a5 x hx
  | case4 c cs k w _ rv w1 hrv hc =>
    -- a nested command of a verified target's script exits 0
    have := (hstep c w hi hv hg (hcs c List.mem_cons_self)).status
    rw [hc] at this
    exact absurd this hrv

/-! ### The record at the end of the forced rebuild (`IdemFields`). -/

/-- What recording the forced rebuild of a verified target does to its record: the marks may move to `R`. -/
structure IdemFields (R t : Nat) (out : Option Content) (w w' : World) : Prop where
  rules : w'.rules = w.rules
  progs : w'.progs = w.progs
  fs : ∀ x, x ≠ t → w'.fs x = w.fs x
  content : contentOf w' t = out
  recs : ∀ x, x ≠ t → w'.recs x = w.recs x
  deps : w'.deps = w.deps.filter (fun d => !(d.target = t && d.deleteMe))
  clock : w.clock ≤ w'.clock
  rc : w'.runCounter = w.runCounter
  fsB : ∀ n, w'.fs t = some n → n.ms ≤ w'.clock
  gen : (w'.recs t).isGenerated = true
  ovr : (w'.recs t).isOverride = false
  checked : (w'.recs t).checked = (w.recs t).checked ∨ (w'.recs t).checked = some R
  changed : (w'.recs t).changed = (w.recs t).changed ∨ (w'.recs t).changed = some R
  failed : (w'.recs t).failed = none
  stamp : (w'.recs t).stamp = some (readStamp w' t)
  csum : (∀ x, (w'.recs t).csum = some x → out = some x) ∨ (w'.recs t).csum = (w.recs t).csum

theorem IdemFields.hasRow {R t out w w' s m} (hf : IdemFields R t out w w') (h : HasRowU w t s m) : HasRow w' t s m :=
  Deps.HasRowU.zapped h hf.deps

theorem KeepFields.toIdem {R t out w w'} (hf : KeepFields t out w w') (h : (w.recs t).failed = none) :
    IdemFields R t out w w' :=
  ⟨hf.rules, hf.progs, hf.fs, hf.content, hf.recs, hf.deps, hf.clock, hf.rc, hf.fsB, hf.gen, hf.ovr, Or.inl hf.checked,
   Or.inl hf.changed, hf.failed.trans h, hf.stamp, Or.inr hf.csum⟩

theorem OkFields.toIdem {R t out w w'} (hf : OkFields R t out w w') : IdemFields R t out w w' :=
  ⟨hf.rules, hf.progs, hf.fs, hf.content, hf.recs, hf.deps, hf.clock, hf.rc, hf.fsB, hf.gen, hf.ovr, Or.inl hf.checked,
   Or.inr hf.changed, hf.failed, hf.stamp, Or.inl hf.csum⟩

theorem SameFields.toIdem {R t x w w'} (hf : SameFields R t x w w') : IdemFields R t (some x) w w' :=
  ⟨hf.rules, hf.progs, hf.fs, hf.content, hf.recs, hf.deps, hf.clock, hf.rc, hf.fsB, hf.gen, hf.ovr, Or.inr hf.checked,
   Or.inl hf.changed, hf.failed, hf.stamp, Or.inl (fun y hy => by rw [hf.csum] at hy; exact hy)⟩

theorem recordIdem_spec {rank R X t w w' b po pre dof post} (hi : InvN nc rank R X w) (hv : VerR w R t)
    (hg : (w.recs t).isGenerated = true) (hr : w.rules t = pre ++ dof :: post)
    (hpre : ∀ c ∈ pre, existsF w c = false ∧ HasRowU w t c false) (hdex : existsF w dof = true)
    (hdrow : HasRowU w t dof true) (hreads : ∀ d ∈ (scriptAt w dof).reads, HasRowU w t d true)
    (hf : IdemFields R t (outOf w (scriptAt w dof)) w w') (hcs0 : nc = true → (w'.recs t).csum = none) (hlt : rank t < b) :
    InvN nc rank R X w' ∧ VerR w' R t ∧ BExt rank R b po w w' := by
  obtain ⟨pre', dof', post', vs⟩ := verR_script hi hv hg
  obtain ⟨e1, e2, e3⟩ := split_unique pre pre' dof dof' post post' (hr.symm.trans vs.rules)
    (fun c hc => (hpre c hc).1) hdex (fun c hc => (vs.pre c hc).1) vs.dofEx
  subst e1 e2 e3
  have hrne : w.rules t ≠ [] := by rw [hr]; simp
  have h0 : t ≠ alwaysId := fun e => hrne (e ▸ hi.base.rulesOk.1)
  have hrc := (hi.ver t hv).1
  have off : OffT t w w' := (Deps.OffT.of_zapped hf.rules hf.progs hf.fs hf.recs hf.deps hf.clock hf.rc hrne).toS
  have hsub : ∀ d ∈ w'.deps, d ∈ w.deps := fun d hd => by
    rw [hf.deps, List.mem_filter] at hd; exact hd.1
  have hne : ∀ x, rank x < rank t → x ≠ t := fun x hx e => by rw [e] at hx; exact Nat.lt_irrefl _ hx
  have hrdne : ∀ d ∈ (scriptAt w dof).reads, d ≠ t := fun d hd => hne d ((vs.reads d hd).rank_lt hi.base)
  have hcontent : contentOf w' t = contentOf w t := by rw [hf.content, vs.content]
  have hv' : VerR w' R t := by
    refine ⟨hf.failed, ?_⟩
    rcases hv.2 with h | h
    · rcases hf.checked with e | e
      · exact Or.inl (e.trans h)
      · exact Or.inl e
    · rcases hf.changed with e | e
      · exact Or.inr (e.trans h)
      · exact Or.inr e
  have hcn : (w'.recs t).changed ≠ none := by
    rcases hf.changed with e | e
    · rw [e]; exact hrc.2.1
    · rw [e]; simp
  have hrc' : RecCur w' t := ⟨hf.failed, hcn, hf.stamp⟩
  have o := hi.base.recOk t
  have hcs : ∀ x, (w'.recs t).csum = some x → contentOf w' t = some x := by
    intro x hx
    rcases hf.csum with h | h
    · rw [hf.content]; exact h x hx
    · rw [hcontent]; exact hi.base.csumCur hrc (by rw [← h]; exact hx)
  have hok : RecOk R t w' := by
    refine recOk_success hf.rules hrne h0 hf.fsB hf.gen hf.ovr hf.failed hf.stamp ?_ ?_ hcn hcs
    · intro ch h
      rcases hf.changed with e | e
      · rw [e] at h; exact o.chLe ch h
      · rw [e] at h; cases h; exact Nat.le_refl _
    · intro ck h
      rcases hf.checked with e | e
      · rw [e] at h; exact o.ckLe ck h
      · rw [e] at h; cases h; exact Nat.le_refl _
  have hdofP : w.rules dof = [] := (hi.base.rulesOk.2 t dof (by rw [hr]; simp)).1
  have hfsd := off.fsPlain hdofP
  have hcontd : ∀ d ∈ (scriptAt w dof).reads, contentOf w' d = contentOf w d :=
    fun d hd => contentOf_congr (hf.fs d (hrdne d hd))
  have hmap : (scriptAt w dof).reads.map (contentOf w') = (scriptAt w dof).reads.map (contentOf w) :=
    List.map_congr_left hcontd
  have hb' := Base_upd (X' := X) hi.base off hok (fun _ _ h => h) (fun d hd => hi.base.rowsLt d (hsub d hd))
    (fun d hd hm => by rw [off.rules]; exact hi.base.cPlain d (hsub d hd) hm)
    (hdet_idem hi.base hcontent hrc hf.changed hcs)
    (fun _ _ _ => ⟨pre, dof, post, scriptAt w dof, by rw [hf.rules]; exact hr,
      fun c hc => hf.hasRow (hpre c hc).2, hf.hasRow hdrow, fun d hd => hf.hasRow (hreads d hd), vs.exit,
      Or.inl ⟨by rw [existsF_congr hfsd]; exact hdex, scriptAt_congr hfsd hf.progs⟩,
      (scriptAt w dof).reads.map (contentOf w'), by rw [hf.content, hmap]; rfl, by simp,
      fun p hp => by
        have hp2 := List.snd_eq_of_mem_zip_map (contentOf w') _ p hp
        have hm := (List.of_mem_zip hp).1
        refine ⟨fun hne' => absurd hp2 hne', fun x hx => Or.inl ?_⟩
        rw [hf.recs p.1 (hrdne _ hm)] at hx
        rw [hp2, hcontd p.1 hm]
        exact hi.base.csumCur (((vs.reads p.1 hm).good hi hv hg).recCur hi) hx⟩) hcs0
  have hver := Ver_upd_quiet hi off hcontent (by rw [hf.gen, hg]) (fun _ => Or.inl hv')
    (fun _ => hv) (fun _ => ⟨hrc', fun _ d hd hdt => by
      have hd0 := hsub d hd
      obtain ⟨h1, h2⟩ := (hi.ver t hv).2.2 hg d hd0 hdt
      have hlt' : rank d.source < rank t := hdt ▸ hi.base.rowsLt d hd0
      exact ⟨fun hm => (off.good (hne _ hlt') R).2 (h1 hm), fun hm => by
        rw [existsF_congr (hf.fs _ (hne _ hlt'))]; exact h2 hm⟩⟩)
  exact ⟨⟨hb', hi.Rpos, hver⟩, hv',
    off.toBExt hlt (fun _ => ⟨hv', hcontent, by rw [hf.gen, hg]⟩) (fun _ h => by rw [hg] at h; cases h)⟩

/-! ### The forced rebuild up to the end of the script. -/

theorem idem_prep {rank R t w pre dof post} (hi : InvN nc rank R NoX w) (hv : VerR w R t)
    (hg : (w.recs t).isGenerated = true) (hr : w.rules t = pre ++ dof :: post)
    (hpre : ∀ c ∈ pre, existsF w c = false ∧ HasRow w t c false) (hdex : existsF w dof = true)
    (hdrow : HasRow w t dof true) :
    (prepW w t).1 = some dof ∧
    InvN nc rank R NoX (prepW w t).2 ∧
    RowOp t w (prepW w t).2 ∧
    (∀ c ∈ pre, HasRowU (prepW w t).2 t c false) ∧
    HasRowU (prepW w t).2 t dof true ∧
    (∀ d ∈ (prepW w t).2.deps, d.target = t → d.deleteMe = false →
      DoRow w (some dof) d) ∧
    SameTriples w (prepW w t).2 := by
  have hro := RowOp.zapDeps1 w t
  have hst := SameTriples.zapDeps1 w t
  have hp : prepW w t = findDoFile t (pre ++ dof :: post) (zapDeps1 w t) := by
    unfold prepW; rw [show (zapDeps1 w t).rules t = pre ++ dof :: post from hr]
  obtain ⟨a1, a3, a6, a45⟩ := ssb_prep_rows t w
  obtain ⟨a4, a5⟩ := a45 pre dof post hr (fun c hc => (hpre c hc).1) hdex
  rw [hr, firstEx_split pre dof post (fun c hc => (hpre c hc).1) hdex] at a1 a6
  rw [hp]
  obtain ⟨a2, a7⟩ := findDoFile_idem (rank := rank) (R := R) (X := NoX) (t := t) (dof := dof)
    (post := post) pre (zapDeps1 w t) (Inv_zapDeps1_triples hi t) ((hro.verR R t).2 hv) hg
    (fun c hc => ⟨(hpre c hc).1, (hst _ _ _).2 (hpre c hc).2⟩) hdex ((hst _ _ _).2 hdrow)
  rw [hp] at a1 a3 a4 a5 a6
  exact ⟨a1, a2, a3.toS, a4, a5, a6, hst.trans a7⟩

theorem idem_script {rank R t w2 dof n} {cx : Ctx} (d : Defects)
    (hd : nc = false → d.oobRecordsDepsOnCaller = false ∧ d.oobRebuildsDepsNotTarget = false) (hcx : cx.runid = R) (hcrash : cx.crash = none)
    (hcyc : cx.cycles = []) (hi2 : InvN nc rank R NoX w2) (hv2 : VerR w2 R t) (hg2 : (w2.recs t).isGenerated = true)
    (hdm : dof ∈ w2.rules t) (hdex : existsF w2 dof = true) (hfuel : rank t ≤ n + 1)
    (hreads : ∀ x ∈ (scriptAt w2 dof).ifchange.flatten, rank x < rank t ∧ Good w2 R x ∧ HasRow w2 t x true) :
    scriptAt (startW w2 R t dof) dof = scriptAt w2 dof ∧
    IdemStepN nc rank R t (scriptAt w2 dof).ifchange.flatten w2
      (runScript.cmds (engine d (n + 1)) cx t (childCx cx t) (scriptAt w2 dof).ifchange 0 (startW w2 R t dof)) := by
  obtain ⟨hi4, _, hb4, hd4, hn4⟩ := startW_spec hi2 hdm hdex
  have hsc : scriptAt (startW w2 R t dof) dof = scriptAt w2 dof := rfl
  generalize startW w2 R t dof = w4 at hi4 hb4 hd4 hn4 hsc ⊢
  have hv4 := (hb4.ver t hv2).1
  have hg4 : (w4.recs t).isGenerated = true := by rw [(hb4.ver t hv2).2.2]; exact hg2
  have hrow4 : ∀ s m, HasRow w2 t s m → HasRow w4 t s m := by
    intro s m h; unfold HasRow at h ⊢; rw [hd4]; exact h
  have hstep : ∀ (c : List Nat) (w : World), InvN nc rank R NoX w → VerR w R t → (w.recs t).isGenerated = true →
      (∀ x ∈ c, rank x < rank t ∧ Good w R x ∧ HasRow w t x true) →
      IdemStepN nc rank R t c w ((engine d (n + 1)).ifchangeCmd (childCx cx t) c w) := by
    intro c w hi hv hg hc
    have hcyc' : (childCx cx t).cycles = [t] := by show t :: cx.cycles = [t]; rw [hcyc]
    exact ifchange_idem (cx := childCx cx t) (fuel := n + 1) (engine d n) (engine_spec False rank R d hd n) d hd hcx rfl rfl
      hcrash rfl hcyc' hi hv hg hfuel c hc
  have hcm := cmds_idem (cx := cx) hcrash hstep (scriptAt w2 dof).ifchange 0 w4 hi4 hv4 hg4
    (fun c hc x hx => by
      obtain ⟨h1, h2, h3⟩ := hreads x (List.mem_flatten.2 ⟨c, hc, hx⟩)
      exact ⟨h1, hb4.good h2, hrow4 _ _ h3⟩)
  refine ⟨hsc, .of hcm.status hcm.invN (hb4.trans hcm.bext) ?_ hcm.rows (fun s m h => hcm.keep s m (hrow4 s m h))
    (fun h => hcm.noFail (hn4 h))⟩
  have := hcm.decl
  unfold RowsDecl HasRowU at this ⊢
  rw [hd4] at this
  exact this

/-! ### `startSelf` on a verified generated target. -/

theorem verR_marked {rank R X w t} (hi : InvN nc rank R X w) (hv : VerR w R t) :
    (isCheckedR (w.recs t) R || isChangedR (w.recs t) R) = true := by
  rcases hv.2 with h | h
  · rw [(isCheckedR_iff hi.Rpos (hi.base.ckLe t)).2 h]; rfl
  · rw [(isChangedR_iff hi.Rpos (hi.base.chLe t)).2 h]; simp

theorem recordIdem_fields (cx : Ctx) (t : Nat) (sf : Rec) (sc : Script) (w5 : World) (hpl : sc.PlainS)
    (hR : 0 < cx.runid) (hm : (isCheckedR (w5.recs t) cx.runid || isChangedR (w5.recs t) cx.runid) = true)
    (hfail : (w5.recs t).failed = none) :
    (recordNewState cx t sf 0 (outOf w5 sc) (stampW cx t sc w5)).1 = 0 ∧
    IdemFields cx.runid t (outOf w5 sc) w5 (recordNewState cx t sf 0 (outOf w5 sc) (stampW cx t sc w5)).2 := by
  rcases hpl.2.2.2.1 with hs | hs
  · rw [stampW_zero hs]
    obtain ⟨h0, hf⟩ := recordKeep_fields cx t sf (outOf w5 sc) w5 hm
    exact ⟨h0, hf.toIdem hfail⟩
  · have hom : sc.outMode ≠ 2 := hpl.2.2.2.2.2.2 hs
    have hout : outOf w5 sc = some (outContent sc.tag (sc.reads.map (contentOf w5))) := by
      unfold outOf; simp [hom]
    rw [hout]
    obtain ⟨h0, hf⟩ := recordStamp_fields cx t sf sc w5 hs hR _ rfl
    refine ⟨h0, ?_⟩
    rcases hf with ⟨_, hf⟩ | ⟨_, hf⟩
    · exact hf.toIdem
    · exact hf.toIdem

theorem startSelf_idem {rank R t w b n} {cx : Ctx} (d : Defects)
    (hd : nc = false → d.oobRecordsDepsOnCaller = false ∧ d.oobRebuildsDepsNotTarget = false) (hcx : cx.runid = R) (hcrash : cx.crash = none)
    (hcyc : cx.cycles = []) (hi : InvN nc rank R NoX w) (hv : VerR w R t) (hg : (w.recs t).isGenerated = true)
    (hfuel : rank t ≤ n + 1) (hlt : rank t < b) (po : Option Nat) :
    (startSelf (engine d (n + 1)) d cx t (w.recs t) w).1 = 0 ∧
    JobPost nc rank R NoX t b po w (startSelf (engine d (n + 1)) d cx t (w.recs t) w) := by
  obtain ⟨pre, dof, post, vs⟩ := verR_script hi hv hg
  rw [startSelf_eq, ssGuard_noop hi.base]
  simp only [hi.base.noOvr t, Bool.false_or, Bool.not_false, hg, Bool.not_true, Bool.and_false, Bool.false_eq_true, if_false]
  subst hcx
  obtain ⟨p1, p2, p3, p4, p5, p6, p7⟩ := idem_prep hi hv hg vs.rules vs.pre vs.dofEx vs.dofRow
  generalize hfd : prepW w t = fr at p1 p2 p3 p4 p5 p6 p7
  obtain ⟨o, w2⟩ := fr
  dsimp only at p1 p2 p3 p4 p5 p6 p7
  subst p1
  rw [ssBuild_some hfd]
  have hrules2 : w2.rules = w.rules := p3.rules
  have hdm2 : dof ∈ w2.rules t := by rw [hrules2, vs.rules]; simp
  have hv2 := (p3.verR cx.runid t).2 hv
  have hg2 : (w2.recs t).isGenerated = true := by rw [p3.eqv.gen]; exact hg
  have hsc2 : scriptAt w2 dof = scriptAt w dof := p3.scriptAt dof
  have hplainN := scriptAt_plain hi.base dof
  have hplain : (scriptAt w dof).PlainS := hplainN.1
  have hreads : (scriptAt w dof).reads = (scriptAt w dof).ifchange.flatten := hplain.2.2.2.2.2.1
  obtain ⟨q1, q2⟩ := idem_script (n := n) (cx := cx) d hd rfl hcrash hcyc p2 hv2 hg2 hdm2
    (by rw [p3.existsF]; exact vs.dofEx) hfuel (by
      rw [hsc2, ← hreads]
      intro x hx
      exact ⟨(vs.reads x hx).rank_lt hi.base, (p3.good _ x).2 ((vs.reads x hx).good hi hv hg), (p7 _ _ _).2 (vs.reads x hx)⟩)
  rw [q1, hsc2] at *
  rw [runScript_plainS _ _ _ _ _ _ hplain (Or.inl hcrash)]
  generalize runScript.cmds (engine d (n + 1)) cx t (childCx cx t) (scriptAt w dof).ifchange 0 (startW w2 cx.runid t dof) = cr
    at q2 ⊢
  obtain ⟨rv, w5⟩ := cr
  have s2 := q2.invN
  obtain ⟨⟨s1, -, s3, s4, s5, s6, s7⟩, -⟩ := q2
  dsimp only at s1 s2 s3 s4 s5 s6 s7 ⊢
  subst s1
  have hnc : ((0 : Nat) : Int) ≠ CRASHED := zero_ne_crashed
  simp only [ne_eq, not_true_eq_false, if_false, vs.exit, hnc]
  rw [show ((0 : Nat) : Int) = 0 from rfl]
  have hv5 := (s3.ver t hv2).1
  have hg5 : (w5.recs t).isGenerated = true := by rw [(s3.ver t hv2).2.2]; exact hg2
  have hrules5 : w5.rules = w.rules := s3.rules.trans hrules2
  have hplainfs : ∀ x, w.rules x = [] → w5.fs x = w.fs x := fun x hx =>
    (s3.plain x (by rw [hrules2]; exact hx)).trans (congrFun p3.fs x)
  have hcand : ∀ c ∈ w.rules t, w5.fs c = w.fs c := fun c hc => hplainfs c (hi.base.rulesOk.2 t c hc).1
  have hsc5 : scriptAt w5 dof = scriptAt w dof :=
    scriptAt_congr (hcand dof (by rw [vs.rules]; simp)) (s3.progs.trans p3.progs)
  obtain ⟨h0, hf⟩ := recordIdem_fields cx t (w.recs t) (scriptAt w dof) w5 hplain hi.Rpos (verR_marked s2 hv5) hv5.1
  have hcs0 : nc = true → ((recordNewState cx t (w.recs t) 0 (outOf w5 (scriptAt w dof))
      (stampW cx t (scriptAt w dof) w5)).2.recs t).csum = none := fun hc => by
    rw [stampW_zero (hplainN.2 hc)]
    exact (recordKeep_fields cx t (w.recs t) _ w5 (verR_marked s2 hv5)).2.csum.trans ((s2.base.nostamp hc).csum t)
  rw [← hsc5] at hf hcs0
  obtain ⟨a1, a2, a3⟩ := recordIdem_spec (b := b) (po := po) (pre := pre) (dof := dof) (post := post) s2 hv5 hg5
    (by rw [hrules5]; exact vs.rules)
    (fun c hc => by
      have hcm : c ∈ w.rules t := by rw [vs.rules]; simp [hc]
      have habs : existsF w5 c = false := by rw [existsF_congr (hcand c hcm)]; exact (vs.pre c hc).1
      refine ⟨habs, s4.2 c false (p4 c hc) (fun hin => ?_)⟩
      exfalso
      rw [← hreads] at hin
      have hcP := (hi.base.rulesOk.2 t c hcm).1
      have := static_exists hi.base (((vs.reads c hin).good hi hv hg).recCur hi) (hi.base.srcNotGen c hcP)
      rw [(vs.pre c hc).1] at this; cases this)
    (by rw [existsF_congr (hcand dof (by rw [vs.rules]; simp))]; exact vs.dofEx)
    (s4.2 dof true p5 (fun _ => rfl))
    (by rw [hsc5, hreads]; exact s5) hf hcs0 hlt
  rw [hsc5] at a1 a2 a3
  refine ⟨h0, a1, ((p3.toBExt hlt).trans (s3.lift hlt)).trans a3, fun _ => Or.inl a2, fun hn _ => ?_, ?_⟩
  · have hn5 : NoFail cx.runid w5 := s7 (hn.eqv p3.eqv : NoFail cx.runid { w2 with deps := w.deps })
    intro f
    by_cases e : f = t
    · subst e; rw [hsc5] at hf; rw [hf.failed]; simp
    · rw [hsc5] at hf; rw [hf.recs f e]; exact hn5 f
  · rw [h0]; exact zero_ne_crashed

/-! ### A job of `redo`; the loops of a top-level command. -/

theorem buildJob_forced_spec {rank R t w b n fuel} {cx : Ctx} (d : Defects)
    (hd : nc = false → d.oobRecordsDepsOnCaller = false ∧ d.oobRebuildsDepsNotTarget = false) (hcx : cx.runid = R)
    (hredo : cx.isRedo = true) (hcrash : cx.crash = none) (hcyc : cx.cycles = []) (hi : InvN nc rank R NoX w)
    (hfuel : rank t ≤ n + 1) (hlt : rank t < b) (po : Option Nat) (hnf : nc = false → (w.recs t).failed ≠ some R) :
    JobPostW nc rank R NoX t b po w
      ((buildJob (engine d (n + 1)) d cx fuel t w).1.st, (buildJob (engine d (n + 1)) d cx fuel t w).2) := by
  rw [buildJob_forced_eq _ _ _ _ _ _ hredo]
  simp only [JobResult.st]
  by_cases hvg : VerR w R t ∧ (w.recs t).isGenerated = true
  · exact (startSelf_idem d hd hcx hcrash hcyc hi hvg.1 hvg.2 hfuel hlt po).2.weak
  · refine (startSelf_spec (engine_spec False rank R d hd (n + 1)) d hcx (KillMode.none hcrash) hi (fun hv => ?_)
      (fun _ h => h.elim) hlt po hnf).unkilled
    cases hg : (w.recs t).isGenerated with
    | false => rfl
    | true => exact absurd ⟨hv, hg⟩ hvg

theorem runTargets_top {rank R b fuel} {E : Engine} {cx : Ctx} (d : Defects)
    (hkg : nc = false → cx.isRedo = true → cx.keepGoing = false)
    (hjob : ∀ t w, InvN nc rank R NoX w → rank t < b → (nc = false → cx.isRedo = true → NoFail R w) →
      JobPostW nc rank R NoX t b none w ((buildJob E d cx fuel t w).1.st, (buildJob E d cx fuel t w).2)) :
    ∀ (ts seen : List Nat) (errored : Bool) (w : World), InvN nc rank R NoX w → (∀ t ∈ ts, rank t < b) →
      (errored = false → NoFail R w ∧ ∀ s ∈ seen, Good w R s) →
      (InvN nc rank R NoX (runTargets E d cx fuel ts seen errored w).2 ∧
        (runTargets E d cx fuel ts seen errored w).2.runCounter = w.runCounter ∧
        (runTargets E d cx fuel ts seen errored w).2.rules = w.rules) ∧
      ((runTargets E d cx fuel ts seen errored w).1 = 0 → errored = false ∧
        NoFail R (runTargets E d cx fuel ts seen errored w).2 ∧
        (∀ t ∈ ts, Good (runTargets E d cx fuel ts seen errored w).2 R t) ∧
        ∀ s ∈ seen, Good (runTargets E d cx fuel ts seen errored w).2 R s) := by
  intro ts seen errored w hi hts hs
  obtain ⟨a1, a2, _, a4, a5⟩ := (runTargets_loopK (E := E) (d := d) (cx := cx) (fuel := fuel) (P := True)
    (I := InvN nc rank R NoX) (Rel := BExt rank R b none) (G := fun w s => Good w R s) (K := NoFail R)
    (Kd := fun _ _ => False) (A := fun t => rank t < b)
    (BExt.refl _ _ _ _) (fun _ _ _ => BExt.trans) (fun _ _ _ h => h.good)
    (fun w' t hi' => ⟨(WEqv.addKnown w' t).inv hi', (WEqv.addKnown w' t).toBExt, fun hk => hk.eqv (WEqv.addKnown w' t)⟩)
    (fun _ _ h => h.elim) (fun _ _ _ _ h => h)
    (fun t w' e hi' hlt he hk => by
      -- with checksums `redo` stops at the first failure (`hkg`), so a job starts only while nothing has failed
      obtain ⟨j1, j2, j3, j4, j5⟩ := hjob t w' hi' hlt (fun hn hr => hk trivial (by
        rw [hkg hn hr] at he; simpa using he))
      exact Or.inr ⟨j1, j2, j5, fun hk' hz => ⟨j3 hz (hk' t), j4 hk' hz⟩⟩)
    ts seen errored w hi hts (fun _ h => (hs h).1)).resolve_left id
  refine ⟨⟨a1, a2.rc, a2.rules⟩, fun h => ?_⟩
  obtain ⟨hn, hg⟩ := hs (a4 h)
  exact ⟨a4 h, (a5 hn hg h).1, (a5 hn hg h).2, fun s hs' => a2.good (hg s hs')⟩

/-- The top-level loop, as far as exit status 0 is concerned: every job started in a run without failures. -/
theorem runTargets_top0 {rank R b fuel} {E : Engine} {cx : Ctx} (d : Defects)
    (hjob : ∀ t w, InvN nc rank R NoX w → rank t < b → NoFail R w →
      JobPostW nc rank R NoX t b none w ((buildJob E d cx fuel t w).1.st, (buildJob E d cx fuel t w).2)) :
    ∀ (ts seen : List Nat) (w : World), InvN nc rank R NoX w → (∀ t ∈ ts, rank t < b) → NoFail R w →
      (∀ s ∈ seen, Good w R s) → (runTargets E d cx fuel ts seen false w).1 = 0 →
      (InvN nc rank R NoX (runTargets E d cx fuel ts seen false w).2 ∧
        (runTargets E d cx fuel ts seen false w).2.runCounter = w.runCounter ∧
        (runTargets E d cx fuel ts seen false w).2.rules = w.rules) ∧
      (∀ t ∈ ts, Good (runTargets E d cx fuel ts seen false w).2 R t) ∧
      ∀ s ∈ seen, Good (runTargets E d cx fuel ts seen false w).2 R s := by
  intro ts seen w hi hts hn hs hz
  refine (runTargets_zero_induct (P := fun ts seen w w' => InvN nc rank R NoX w → (∀ t ∈ ts, rank t < b) → NoFail R w →
    (∀ s ∈ seen, Good w R s) → (InvN nc rank R NoX w' ∧ w'.runCounter = w.runCounter ∧ w'.rules = w.rules) ∧
      (∀ t ∈ ts, Good w' R t) ∧ ∀ s ∈ seen, Good w' R s) ?_ ?_ ?_ ts seen false w hz).2 hi hts hn hs
  · exact fun seen w hi _ _ hs => ⟨⟨hi, rfl, rfl⟩, fun _ ht => (nomatch ht), hs⟩
  · intro t ts seen w w' hin ih hi hts hn hs
    obtain ⟨a1, a2, a3⟩ := ih hi (fun t' h => hts t' (List.mem_cons_of_mem _ h)) hn hs
    exact ⟨a1, List.forall_mem_cons.2 ⟨a3 t hin, a2⟩, a3⟩
  · intro t ts seen w w2 w' _ hbj ih hi hts hn hs
    have e1 := WEqv.addKnown w t
    have hn1 : NoFail R (addKnown w t) := hn.eqv e1
    -- the job returned 0 in a run without failures: its target is good, and still nothing has failed
    obtain ⟨j1, j2, j3, j4, -⟩ := hjob t (addKnown w t) (e1.inv hi) (hts t List.mem_cons_self) hn1
    rw [hbj] at j1 j2 j3 j4
    obtain ⟨a1, a2, a3⟩ := ih j1 (fun t' h => hts t' (List.mem_cons_of_mem _ h)) (j4 hn1 rfl)
      (List.forall_mem_cons.2 ⟨j3 rfl (hn1 t), fun s hs' => j2.good ((e1.good R s).2 (hs s hs'))⟩)
    exact ⟨⟨a1.1, a1.2.1.trans (j2.rc.trans e1.rc), a1.2.2.trans (j2.rules.trans e1.rules)⟩,
      List.forall_mem_cons.2 ⟨a3 t List.mem_cons_self, a2⟩, fun s hs' => a3 s (List.mem_cons_of_mem _ hs')⟩

end RedoModel.Deps.S
