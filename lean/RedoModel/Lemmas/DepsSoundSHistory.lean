import RedoModel.Lemmas.DepsSoundSForced
/-! C01 on the full engine model, with and without `redo-stamp`: the one induction, over `InvN nc`. Between commands: the invariant `Btw`, what the user may do, histories, and the main theorems. -/
namespace RedoModel.Deps.S
open RedoModel.Generated

/-! ### Top-level commands: the between-commands invariant `Btw`, and what exit status 0 means. -/

/-- The invariant between commands: run ids in use are at most the run counter.  Over `BaseN nc`; `Deps.Btw` is the case
`nc = true` (`Btw.iffN`). -/
def Btw (nc : Bool) (rank : Nat → Nat) (w : World) : Prop := BaseN nc rank w.runCounter NoX w

theorem Inv_alloc {rank w} (h : Btw nc rank w) :
    InvN nc rank (w.runCounter + 1) NoX (allocRun w).2 ∧ NoFail (w.runCounter + 1) (allocRun w).2 := by
  have hb : BaseN nc rank w.runCounter NoX w := h
  have hck : ∀ f, (w.recs f).checked ≠ some (w.runCounter + 1) := fun f e => by
    have := hb.ckLe f _ e; omega
  have hch : ∀ f, (w.recs f).changed ≠ some (w.runCounter + 1) := fun f e => by
    have := hb.chLe f _ e; omega
  refine ⟨⟨{ hb with
      chLe := fun f ch e => Nat.le_succ_of_le (hb.chLe f ch e)
      ckLe := fun f ck e => Nat.le_succ_of_le (hb.ckLe f ck e)
      ckFail := fun f e => absurd e (hck f)
      markFail := fun f e => absurd e (hch f)
      flLe := fun f k e => Nat.le_succ_of_le (hb.flLe f k e)
      recA := ?_
      nostamp := fun hc => (hb.nostamp hc).of_eq (fun _ => rfl) rfl }, Nat.succ_pos _, ?_⟩, ?_⟩
  · intro t _ hrc hg
    exact hb.recA t (Or.inl id) hrc hg
  · intro f hv
    rcases hv.2 with e | e
    · exact absurd e (hck f)
    · exact absurd e (hch f)
  · intro f e
    have := hb.flLe f _ e; omega

theorem Good.upToDate {rank R X w t} (hi : InvN nc rank R X w) (hg : Good w R t) : UpToDateD w t :=
  good_upToDate (w' := w) hi rfl rfl (fun _ _ => rfl) (fun _ _ => ⟨rfl, rfl⟩) (rank t + 1) t (Nat.lt_succ_self _) hg

/-- A job of a top-level command, `redo-ifchange` or `redo`.  With checksums a forced job asks that its target has not
failed in this run. -/
theorem top_job {rank N R t w} {cx : Ctx} (d : Defects)
    (hd : nc = false → d.oobRecordsDepsOnCaller = false ∧ d.oobRebuildsDepsNotTarget = false) (hN : ∀ f, rank f < N)
    (hcx : cx.runid = R) (hcrash : cx.crash = none) (hcyc : cx.cycles = []) (hi : InvN nc rank R NoX w) (hlt : rank t < N)
    (hnf : nc = false → cx.isRedo = true → (w.recs t).failed ≠ some R) :
    JobPostW nc rank R NoX t N none w
      ((buildJob (engine d (2 * N + 4)) d cx (2 * N + 4) t w).1.st, (buildJob (engine d (2 * N + 4)) d cx (2 * N + 4) t w).2) := by
  cases hr : cx.isRedo with
  | false =>
    exact (buildJob_spec (engine_spec False rank _ d hd (2 * N + 4)) d hd hcx hr (KillMode.none hcrash) hi
      (fun _ hx => hx.elim) hlt none).unkilled.weak
  | true =>
    have := hN t
    exact buildJob_forced_spec (n := 2 * N + 3) d hd hcx hr hcrash hcyc hi (by omega) hlt none (fun hsw => hnf hsw hr)

theorem top_run {rank N w} {cx : Ctx} (d : Defects)
    (hd : nc = false → d.oobRecordsDepsOnCaller = false ∧ d.oobRebuildsDepsNotTarget = false)
    (hkg : nc = false → cx.isRedo = true → cx.keepGoing = false) (hN : ∀ f, rank f < N) (h : Btw nc rank w)
    (hcx : cx.runid = w.runCounter + 1) (hcrash : cx.crash = none) (hcyc : cx.cycles = []) (ts : List Nat) :
    (Btw nc rank (runTargets (engine d (2 * N + 4)) d cx (2 * N + 4) ts [] false (allocRun w).2).2 ∧
      (runTargets (engine d (2 * N + 4)) d cx (2 * N + 4) ts [] false (allocRun w).2).2.rules = w.rules) ∧
    ((runTargets (engine d (2 * N + 4)) d cx (2 * N + 4) ts [] false (allocRun w).2).1 = 0 →
      ∀ t ∈ ts, UpToDateD (runTargets (engine d (2 * N + 4)) d cx (2 * N + 4) ts [] false (allocRun w).2).2 t) := by
  obtain ⟨hi1, hnf1⟩ := Inv_alloc h
  obtain ⟨⟨a1, a2, a2'⟩, a3⟩ := runTargets_top d hkg
    (fun t w0 hi0 hlt hnf0 => top_job d hd hN hcx hcrash hcyc hi0 hlt (fun hsw hr => hnf0 hsw hr t))
    ts [] false (allocRun w).2 hi1 (fun t _ => hN t)
    (fun _ => ⟨hnf1, fun s hs => by simp at hs⟩)
  constructor
  · refine ⟨?_, a2'⟩
    show BaseN nc rank _ NoX _
    rw [a2]; exact a1.base
  · intro hz t ht
    exact ((a3 hz).2.2.1 t ht).upToDate a1

/-- Exit status 0 of `redo ts` / `redo-ifchange ts` at top level (with or without `-k`): the invariant is kept and every
target is up to date. -/
theorem top_sound {rank N w} {cx : Ctx} (d : Defects)
    (hd : nc = false → d.oobRecordsDepsOnCaller = false ∧ d.oobRebuildsDepsNotTarget = false)
    (hN : ∀ f, rank f < N) (h : Btw nc rank w)
    (hcx : cx.runid = w.runCounter + 1) (hcrash : cx.crash = none) (hcyc : cx.cycles = []) (ts : List Nat) :
    (runTargets (engine d (2 * N + 4)) d cx (2 * N + 4) ts [] false (allocRun w).2).1 = 0 →
      (Btw nc rank (runTargets (engine d (2 * N + 4)) d cx (2 * N + 4) ts [] false (allocRun w).2).2 ∧
        (runTargets (engine d (2 * N + 4)) d cx (2 * N + 4) ts [] false (allocRun w).2).2.rules = w.rules) ∧
      ∀ t ∈ ts, UpToDateD (runTargets (engine d (2 * N + 4)) d cx (2 * N + 4) ts [] false (allocRun w).2).2 t := by
  obtain ⟨hi1, hnf1⟩ := Inv_alloc h
  intro hz
  obtain ⟨⟨a1, a2, a2'⟩, a3, _⟩ := runTargets_top0 d
    (fun t w0 hi0 hlt hnf0 => top_job d hd hN hcx hcrash hcyc hi0 hlt (fun _ _ => hnf0 t))
    ts [] (allocRun w).2 hi1 (fun t _ => hN t) hnf1
    (fun s hs => by simp at hs) hz
  refine ⟨⟨?_, a2'⟩, fun t ht => (a3 t ht).upToDate a1⟩
  show BaseN nc rank _ NoX _
  rw [a2]; exact a1.base

/-! ### Every top-level command keeps `Btw`; `redo` / `redo-ifchange` with status 0 leave their targets up to date. -/

theorem Btw_alloc {rank w} (h : Btw nc rank w) : Btw nc rank (allocRun w).2 := (Inv_alloc h).1.base

theorem runCmd_btw {rank N w} (d : Defects)
    (hd : nc = false → d.oobRecordsDepsOnCaller = false ∧ d.oobRebuildsDepsNotTarget = false)
    (hN : ∀ f, rank f < N) (h : Btw nc rank w) (c : Cmd) (hc : nc = false → CmdOk d N w c) :
    Btw nc rank (runCmd d N c w).2 ∧ (runCmd d N c w).2.rules = w.rules := by
  cases c with
  | redo ts kg =>
    cases kg with
    | false =>
      exact (top_run (cx := { runid := w.runCounter + 1, keepGoing := false, isRedo := true }) d hd (fun _ _ => rfl) hN h
        rfl rfl rfl ts).1
    | true =>
      -- with checksums the invariant is only known to survive a `redo -k` that exits 0
      cases nc with
      | false =>
        exact (top_sound (cx := { runid := w.runCounter + 1, keepGoing := true, isRedo := true }) d hd hN h
          rfl rfl rfl ts (hc rfl)).1
      | true =>
        exact (top_run (cx := { runid := w.runCounter + 1, keepGoing := true, isRedo := true }) d hd
          (fun hsw => by cases hsw) hN h rfl rfl rfl ts).1
  | ifchange ts kg =>
    exact (top_run (cx := { runid := w.runCounter + 1, keepGoing := kg }) d hd (fun _ h => by cases h) hN h
      rfl rfl rfl ts).1
  | targets => exact ⟨Btw_alloc h, rfl⟩
  | sources => exact ⟨Btw_alloc h, rfl⟩
  | ood =>
    -- what the walk of `redo-ood` wrote is rolled back
    rw [query_world d N w .ood (.inl rfl)]
    exact ⟨Btw_alloc h, rfl⟩

theorem runCmd_sound {rank N w} (d : Defects)
    (hd : nc = false → d.oobRecordsDepsOnCaller = false ∧ d.oobRebuildsDepsNotTarget = false)
    (hN : ∀ f, rank f < N) (h : Btw nc rank w) (ts : List Nat) (kg forced : Bool) :
    (runCmd d N (if forced then .redo ts kg else .ifchange ts kg) w).1.status = 0 →
    ∀ t ∈ ts, UpToDateD (runCmd d N (if forced then .redo ts kg else .ifchange ts kg) w).2 t := by
  cases forced with
  | true =>
    exact fun h0 => (top_sound (cx := { runid := w.runCounter + 1, keepGoing := kg, isRedo := true }) d hd hN h rfl rfl rfl ts h0).2
  | false =>
    exact fun h0 => (top_sound (cx := { runid := w.runCounter + 1, keepGoing := kg }) d hd hN h rfl rfl rfl ts h0).2

/-! ### What the user does between commands (edit, remove, chmod a file) keeps `Btw`. -/

theorem RecTruth_user {f w w' u} (h : FsUpd f w w')
    (hdiff : w'.fs f ≠ w.fs f → (w.recs f).stamp ≠ some (readStamp w' f) ∨ FailedAbsent w f) (hu : w'.fs u = w.fs u)
    (ht : RecTruth w u) : RecTruth w' u :=
  ht.mono (by rw [h.rules]) (fun s m hh => by unfold HasRow at hh ⊢; rw [h.deps]; exact hh) (by rw [h.recs])
    (contentOf_congr hu)
    (fun dof _ _ => ⟨(h.key hdiff dof _).imp (fun ⟨e, _⟩ => ⟨existsF_congr e, scriptAt_congr e h.progs⟩) id,
      fun hd => (h.key hdiff dof _).elim (fun ⟨_, hiff⟩ => hiff.2 hd) id⟩)
    (fun d _ => Hdet.of_key (by rw [h.recs]) (h.key hdiff d _))

theorem Base_user {rank R f w w'} (hb : BaseN nc rank R NoX w) (h : FsUpd f w w') (hrk : Ranked rank w')
    (hf0 : f ≠ alwaysId)
    (hgen : (w.recs f).isGenerated = true → w'.fs f = none ∨ w'.fs f = w.fs f)
    (hfsB : ∀ n, w'.fs f = some n → n.ms ≤ w'.clock)
    (hstB : ∀ ms rest, (w.recs f).stamp = some (.st ms rest) → ∀ n, w'.fs f = some n →
      ms < n.ms ∨ (ms = n.ms ∧ rest ≤ n.rest))
    (hdiff : w'.fs f ≠ w.fs f → (w.recs f).stamp ≠ some (readStamp w' f) ∨ FailedAbsent w f)
    (hcsum : (w.recs f).csum ≠ none → w'.fs f = none ∨ w'.fs f = w.fs f) : BaseN nc rank R NoX w' := by
  have hr := h.recs
  -- the clauses that speak of the records alone are those of `w`; the others look at the file of `f`
  refine { rulesOk := by rw [h.rules]; exact hb.rulesOk, ranked := hrk, plainProgs := by rw [h.progs]; exact hb.plainProgs
           chLe := by rw [hr]; exact hb.chLe, ckLe := by rw [hr]; exact hb.ckLe, csumEx := by rw [hr]; exact hb.csumEx
           srcNoCsum := by rw [hr, h.rules]; exact hb.srcNoCsum, csumCh := by rw [hr]; exact hb.csumCh
           noOvr := by rw [hr]; exact hb.noOvr, srcNotGen := by rw [hr, h.rules]; exact hb.srcNotGen
           fs0 := by rw [h.fs _ (Ne.symm hf0)]; exact hb.fs0, rec0 := by rw [hr]; exact hb.rec0
           rowsLt := by rw [h.deps]; exact hb.rowsLt, cPlain := by rw [h.deps, h.rules]; exact hb.cPlain
           stampCh := by rw [hr]; exact hb.stampCh, staticEx := by rw [hr]; exact hb.staticEx
           ckFail := by rw [hr]; exact hb.ckFail, markFail := by rw [hr]; exact hb.markFail, flLe := by rw [hr]; exact hb.flLe
           nostamp := fun hc => (hb.nostamp hc).of_eq (fun _ => by rw [hr]) h.progs
           csumFile := ?csumFile, genMs := ?genMs, fsB := ?fsB, stB := ?stB, recA := ?recA }
  case csumFile =>
    intro x c hc n hn
    rw [hr] at hc
    by_cases e : x = f
    · subst e
      rcases hcsum (by rw [hc]; simp) with e2 | e2
      · rw [e2] at hn; cases hn
      · rw [e2] at hn; exact hb.csumFile x c hc n hn
    · rw [h.fs x e] at hn; exact hb.csumFile x c hc n hn
  case genMs =>
    intro x hg n hn
    rw [hr] at hg ⊢
    by_cases e : x = f
    · subst e
      rcases hgen hg with e2 | e2
      · rw [e2] at hn; cases hn
      · rw [e2] at hn; exact hb.genMs x hg n hn
    · rw [h.fs x e] at hn; exact hb.genMs x hg n hn
  case fsB =>
    intro x n hn
    by_cases e : x = f
    · subst e; exact hfsB n hn
    · rw [h.fs x e] at hn; exact Nat.le_trans (hb.fsB x n hn) h.clock
  case stB =>
    intro x ms rest hs
    rw [hr] at hs
    refine ⟨Nat.le_trans (hb.stB x ms rest hs).1 h.clock, fun n hn => ?_⟩
    by_cases e : x = f
    · subst e; exact hstB ms rest hs n hn
    · rw [h.fs x e] at hn; exact (hb.stB x ms rest hs).2 n hn
  case recA =>
    intro t hx hrc hg
    rw [hr] at hg
    have hfs : w'.fs t = w.fs t := by
      by_cases e : t = f
      · subst e
        by_cases e2 : w'.fs t = w.fs t
        · exact e2
        · exfalso
          have := hrc.2.2
          rw [hr] at this
          rcases hdiff e2 with h1 | h1
          · exact h1 this
          · have h2 := hrc.1; rw [hr] at h2; exact h1.1 h2
      · exact h.fs t e
    have hrc0 : RecCur w t := by
      unfold RecCur at hrc ⊢
      rw [hr, readStamp_congr hfs] at hrc; exact hrc
    have hx0 : ¬ NoX t ∨ VerR w R t := Or.inl (fun hh => hh)
    exact RecTruth_user h hdiff hfs (hb.recA t hx0 hrc0 hg)

/-! ### The plain user operations keep `Btw`. -/

theorem Btw_write {rank w f v} (h : Btw nc rank w) (hp : w.rules f = []) (h0 : f ≠ alwaysId)
    (hrk : Ranked rank (writeW w f v)) : Btw nc rank (writeW w f v) := by
  have hb : BaseN nc rank w.runCounter NoX w := h
  have hup : FsUpd f w (writeW w f v) :=
    ⟨rfl, rfl, rfl, rfl, rfl, fun x hx => by simp [writeW, setFile, hx], Nat.le_succ _⟩
  have hfs : (writeW w f v).fs f = some { content := srcContent v, ms := w.clock + 1, rest := 0 } := by
    simp [writeW, setFile]
  have hck : (writeW w f v).clock = w.clock + 1 := rfl
  refine Base_user hb hup hrk h0 (fun hg => ?_) (fun n hn => ?_) (fun ms rest hs n hn => ?_) (fun _ => Or.inl ?_)
    (fun hc => absurd (hb.srcNoCsum f hp) hc)
  · rw [hb.srcNotGen f hp] at hg; cases hg
  · rw [hfs] at hn; cases hn; rw [hck]; exact Nat.le_refl _
  · rw [hfs] at hn; cases hn
    have := (hb.stB f ms rest hs).1
    exact Or.inl (by show ms < w.clock + 1; omega)
  · intro e
    have hrs : readStamp (writeW w f v) f = .st (w.clock + 1) 0 := by unfold readStamp; rw [hfs]
    rw [hrs] at e
    have := (hb.stB f _ _ e).1
    omega

theorem Btw_remove {rank w f} (h : Btw nc rank w) (h0 : f ≠ alwaysId) (hrk : Ranked rank (setFile w f none)) :
    Btw nc rank (setFile w f none) := by
  have hb : BaseN nc rank w.runCounter NoX w := h
  have hfs : (setFile w f none).fs f = none := by simp [setFile]
  refine Base_user hb (setFile_fsUpd w f none) hrk h0 (fun _ => Or.inl hfs) (fun n hn => ?_) (fun ms rest _ n hn => ?_)
    (fun hd => ?_) (fun _ => Or.inl hfs)
  · rw [hfs] at hn; cases hn
  · rw [hfs] at hn; cases hn
  · have hrs : readStamp (setFile w f none) f = .missing := readStamp_missing.2 hfs
    rw [hrs]
    rw [hfs] at hd
    cases hn : w.fs f with
    | none => exact absurd hn.symm hd
    | some n =>
      by_cases hst : (w.recs f).stamp = some .missing
      · right
        cases hg : (w.recs f).isGenerated with
        | true =>
          obtain ⟨rest, e⟩ := hb.genMs f hg n hn
          rw [e] at hst; cases hst
        | false =>
          exact ⟨fun hf => hb.staticEx f hf hg hst, hg, hst⟩
      · exact Or.inl hst

theorem Btw_chmod {rank w f} (h : Btw nc rank w) (hp : w.rules f = []) (h0 : f ≠ alwaysId)
    (hrk : Ranked rank (chmodW w f)) : Btw nc rank (chmodW w f) := by
  have hb : BaseN nc rank w.runCounter NoX w := h
  unfold chmodW at hrk ⊢
  cases hn : w.fs f with
  | none => exact h
  | some n =>
    rw [hn] at hrk
    simp only at hrk ⊢
    have hfs : (setFile w f (some { n with rest := n.rest + 1 })).fs f = some { n with rest := n.rest + 1 } := by
      simp [setFile]
    refine Base_user hb (setFile_fsUpd w f _) hrk h0 (fun hg => ?_) (fun n' hn' => ?_) (fun ms rest hs n' hn' => ?_)
      (fun _ => Or.inl ?_) (fun hc => absurd (hb.srcNoCsum f hp) hc)
    · rw [hb.srcNotGen f hp] at hg; cases hg
    · rw [hfs] at hn'; cases hn'; exact hb.fsB f n hn
    · rw [hfs] at hn'; cases hn'
      rcases (hb.stB f ms rest hs).2 n hn with h1 | ⟨h1, h2⟩
      · exact Or.inl h1
      · exact Or.inr ⟨h1, Nat.le_succ_of_le h2⟩
    · intro e
      have hrs : readStamp (setFile w f (some { n with rest := n.rest + 1 })) f = .st n.ms (n.rest + 1) := by
        unfold readStamp; rw [hfs]
      rw [hrs] at e
      rcases (hb.stB f _ _ e).2 n hn with h1 | ⟨_, h2⟩
      · exact Nat.lt_irrefl _ h1
      · omega

/-! ### `setProg` keeps `Btw` when it does not change the meaning of a .do file in place. -/

theorem PlainN.plain {sc : Script} (h : PlainN true sc) : sc.Plain :=
  ⟨h.1.1, h.1.2.1, h.1.2.2.1, h.2 rfl, h.1.2.2.2.2.1, h.1.2.2.2.2.2.1⟩

theorem Btw_setProg {rank w c s} (h : Btw nc rank w) (hs : PlainN nc s) (hok : SetProgOk w c s)
    (hrk : Ranked rank (setProgW w c s)) : Btw nc rank (setProgW w c s) := by
  have hb : BaseN nc rank w.runCounter NoX w := h
  refine { hb with ranked := hrk, plainProgs := ?_, recA := ?_, nostamp := fun hc => ⟨(hb.nostamp hc).csum, fun c' sc hp => ?_⟩ }
  · intro c' sc hp
    show sc.PlainS
    unfold setProgW at hp
    simp only at hp
    split at hp
    · cases hp; exact hs.1
    · exact hb.plainProgs c' sc hp
  rotate_left
  · unfold setProgW at hp
    simp only at hp
    subst hc
    split at hp
    · cases hp; exact hs.plain
    · exact (hb.nostamp rfl).progs c' sc hp
  · intro t hx hrc hg
    exact RecTruth.mono (w := w) rfl (fun _ _ h => h) rfl rfl
      (fun dof hdm _ => ⟨Or.inl ⟨rfl, scriptAt_setProg hok hdm⟩, id⟩) (fun _ _ => Hdet.same (.refl _) rfl) (hb.recA t hx hrc hg)

/-! ### The invariant along a plain history. -/

theorem Btw_init {rank rules} (hr : RulesOk rules) (hrk : Ranked rank (initWorld rules)) : Btw nc rank (initWorld rules) :=
  ⟨(Deps.Btw_init hr hrk).toS, fun _ => ⟨(Deps.Btw_init hr hrk).noCsum, (Deps.Btw_init hr hrk).plainProgs⟩⟩

/-- The user operations of the proof: with `nc = true`, plain ones. -/
def PlainOpN (nc : Bool) (rules : Nat → List Nat) (op : UserOp) : Prop :=
  PlainOpS rules op ∧ (nc = true → PlainOp rules op)

theorem applyOp_btw {rank n rules w} (hN : ∀ f, rank f < n) (h : Btw nc rank w) (hr : w.rules = rules) (op : UserOp)
    (hpc : PlainOpN nc rules op) (hok : OpOk w op) (hck : nc = false → OpCmdOk n w op)
    (hrk : Ranked rank (applyOp {} n op w).2) :
    Btw nc rank (applyOp {} n op w).2 ∧ (applyOp {} n op w).2.rules = rules := by
  have hp := hpc.1
  cases op with
  | write f v =>
    rw [applyOp_write] at hrk ⊢
    exact ⟨Btw_write h (by rw [hr]; exact hp.1) hp.2 hrk, hr⟩
  | remove f =>
    rw [applyOp_remove] at hrk ⊢
    exact ⟨Btw_remove h hp hrk, hr⟩
  | chmod f =>
    rw [applyOp_chmod] at hrk ⊢
    refine ⟨Btw_chmod h (by rw [hr]; exact hp.1) hp.2 hrk, ?_⟩
    unfold chmodW; split <;> exact hr
  | hide f => exact hp.elim
  | unhide f => exact hp.elim
  | setProg c s =>
    rw [applyOp_setProg] at hrk ⊢
    exact ⟨Btw_setProg h ⟨hp, fun hc => (hpc.2 hc).2.2.2.1⟩ hok hrk, hr⟩
  | cmd c =>
    obtain ⟨a1, a2⟩ := runCmd_btw {} (fun _ => ⟨rfl, rfl⟩) hN h c hck
    exact ⟨a1, a2.trans hr⟩
  | crashCmd ts t k => exact hp.elim

theorem history_btw {rank n rules} (hN : ∀ f, rank f < n) :
    ∀ (ops : List UserOp) (w : World), Btw nc rank w → w.rules = rules → (∀ op ∈ ops, PlainOpN nc rules op) →
      (∀ w' ∈ worldsOf n {} w ops, Ranked rank w') → OpsOk n w ops → (nc = false → RedoKOk n w ops) →
      Btw nc rank (ops.foldl (fun w op => (applyOp {} n op w).2) w) ∧
      (ops.foldl (fun w op => (applyOp {} n op w).2) w).rules = rules
  | [], w, h, hr, _, _, _, _ => ⟨h, hr⟩
  | op :: ops, w, h, hr, hp, hrk, hok, hck => by
    have hrk1 : Ranked rank (applyOp {} n op w).2 :=
      hrk _ (by simp only [worldsOf, List.mem_cons]; exact Or.inr (worldsOf_head n {} _ ops))
    obtain ⟨a1, a2⟩ := applyOp_btw hN h hr op (hp op (by simp)) hok.1 (fun hc => (hck hc).1) hrk1
    exact history_btw hN ops _ a1 a2 (fun op' h' => hp op' (List.mem_cons_of_mem _ h'))
      (fun w' hw' => hrk w' (by simp only [worldsOf, List.mem_cons]; exact Or.inr hw')) hok.2 (fun hc => (hck hc).2)

/-! ### Facts of `DepsPrim` and `DepsSoundFrames` under the names of this namespace (the chain uses the originals). -/

theorem isSome_false_iff {α} {o : Option α} : o.isSome = false ↔ o = none := Deps.isSome_false_iff
theorem firstEx_none {w : World} : ∀ (cs : List Nat), firstEx w cs = none → ∀ c ∈ cs, existsF w c = false := Deps.firstEx_none
theorem setRec_fs (w : World) (f : Nat) (r : Rec) : (setRec w f r).fs = w.fs := rfl
theorem setRec_deps (w : World) (f : Nat) (r : Rec) : (setRec w f r).deps = w.deps := rfl
theorem setRec_rules (w : World) (f : Nat) (r : Rec) : (setRec w f r).rules = w.rules := rfl
theorem setRec_progs (w : World) (f : Nat) (r : Rec) : (setRec w f r).progs = w.progs := rfl
theorem setRec_clock (w : World) (f : Nat) (r : Rec) : (setRec w f r).clock = w.clock := rfl
theorem setRec_readStamp (w : World) (f : Nat) (r : Rec) (x) : readStamp (setRec w f r) x = readStamp w x := rfl
theorem setRec_existsF (w : World) (f : Nat) (r : Rec) (x) : existsF (setRec w f r) x = existsF w x := rfl
theorem setRec_contentOf (w : World) (f : Nat) (r : Rec) (x) : contentOf (setRec w f r) x = contentOf w x := rfl
theorem updateStamp_row (w : World) (t : Nat) (r : Rec) (R : Nat) : (updateStamp w t r R).row = r.row :=
  Deps.updateStamp_row w t r R
theorem setStatic_failed (w t r R) : (setStatic w t r R).failed = none := rfl
theorem setStatic_ovr (w t r R) : (setStatic w t r R).isOverride = false := rfl
theorem setStatic_gen (w t r R) : (setStatic w t r R).isGenerated = false := rfl
theorem setFailed_failed (w t r R) : (setFailed w t r R).failed = some R := rfl
theorem setStatic_cur {w : World} {t R : Nat} (hc : RecCur w t) (hg : (w.recs t).isGenerated = false)
    (ho : (w.recs t).isOverride = false) (hcs : (w.recs t).csum = none) : setStatic w t (w.recs t) R = w.recs t :=
  Deps.setStatic_cur hc hg ho hcs
theorem isCheckedR_ext (r : Rec) (R : Nat) (g o : Bool) :
    isCheckedR { r with isGenerated := g, isOverride := o } R = isCheckedR r R := rfl
theorem isChangedR_ext (r : Rec) (R : Nat) (g o : Bool) :
    isChangedR { r with isGenerated := g, isOverride := o } R = isChangedR r R := rfl
theorem zapDeps2_sub (w : World) (t : Nat) (r : Rec) : ∀ d ∈ (setRec (zapDeps2 w t) t r).deps, d ∈ w.deps :=
  Deps.zapDeps2_sub w t r

end RedoModel.Deps.S

/-! ### **C01 for histories whose scripts may use `redo-stamp`**: the main theorem. -/
namespace RedoModel.Deps
open RedoModel.Generated

/-- **Soundness with checksums.**  The statement of `noStalePlainD` with `PlainOpS` (scripts may pipe their output to
`redo-stamp`) in place of `PlainOp`: whenever `redo-ifchange ts` / `redo ts` exits 0, every `t ∈ ts` is up to date —
including the targets the run did *not* rebuild because a checksummed dependency was rebuilt out of band with an
unchanged checksum.  Extra hypothesis: `RedoKOk` (see there). -/
theorem noStaleStamp_partial (n : Nat) (rules : Nat → List Nat) (rank : Nat → Nat) (ops : List UserOp) (ts : List Nat)
    (kg forced : Bool) (hr : RulesOk rules) (hp : ∀ op ∈ ops, PlainOpS rules op)
    (hrk : ∀ w ∈ worldsOf n {} (initWorld rules) ops, Ranked rank w) (hN : ∀ f, rank f < n)
    (hok : OpsOk n (initWorld rules) ops) (hk : RedoKOk n (initWorld rules) ops) :
    let w := ops.foldl (fun w op => (applyOp {} n op w).2) (initWorld rules)
    let r := runCmd {} n (if forced then .redo ts kg else .ifchange ts kg) w
    r.1.status = 0 → ∀ t ∈ ts, UpToDateD r.2 t := by
  intro w r
  have h0 : S.Btw false rank (initWorld rules) := S.Btw_init hr (hrk _ (worldsOf_head n {} _ ops))
  obtain ⟨hb, _⟩ := S.history_btw hN ops (initWorld rules) h0 rfl (fun op h => ⟨hp op h, fun hc => by cases hc⟩) hrk hok
    (fun _ => hk)
  exact S.runCmd_sound {} (fun _ => ⟨rfl, rfl⟩) hN hb ts kg forced

/-- The same with the notion `UpToDate` of `DepsSoundSpec`, which in addition needs every .do candidate in place
to have a `progs` entry (`Meaningful`, see `noStalePlain_partial`). -/
theorem noStaleStamp_partial_upToDate (n : Nat) (rules : Nat → List Nat) (rank : Nat → Nat) (ops : List UserOp) (ts : List Nat)
    (kg forced : Bool) (hr : RulesOk rules) (hp : ∀ op ∈ ops, PlainOpS rules op)
    (hrk : ∀ w ∈ worldsOf n {} (initWorld rules) ops, Ranked rank w) (hN : ∀ f, rank f < n)
    (hok : OpsOk n (initWorld rules) ops) (hk : RedoKOk n (initWorld rules) ops) :
    let w := ops.foldl (fun w op => (applyOp {} n op w).2) (initWorld rules)
    let r := runCmd {} n (if forced then .redo ts kg else .ifchange ts kg) w
    r.1.status = 0 → Meaningful r.2 → ∀ t ∈ ts, UpToDate r.2 t := by
  intro w r hz hm t ht
  have h0 : S.Btw false rank (initWorld rules) := S.Btw_init hr (hrk _ (worldsOf_head n {} _ ops))
  obtain ⟨hb, _⟩ := S.history_btw hN ops (initWorld rules) h0 rfl (fun op h => ⟨hp op h, fun hc => by cases hc⟩) hrk hok
    (fun _ => hk)
  have hc : S.CmdOk {} n w (if forced then .redo ts kg else .ifchange ts kg) := by
    cases forced with
    | false => trivial
    | true =>
      cases kg with
      | false => trivial
      | true => exact hz
  have hb' : S.Btw false rank r.2 := (S.runCmd_btw {} (fun _ => ⟨rfl, rfl⟩) hN hb _ (fun _ => hc)).1
  exact (noStaleStamp_partial n rules rank ops ts kg forced hr hp hrk hN hok hk hz t ht).toUpToDate hm
    (fun c sc h => (hb'.plainProgs c sc h).2.2.2.2.2.1)

end RedoModel.Deps
