import RedoModel.Lemmas.DepsSoundSScript
import RedoModel.Lemmas.DepsCsum
/-! C01 on the full engine model, with and without `redo-stamp`: the one induction, over `InvN nc`. `ssBuild`, `startSelf`, `buildJob`, `runTargets`, `ifchangeWith`: the engine meets its specification.  (`DepsCsum` supplies the out-of-band path of a job, `oobPath`, and `isDirty_nocsum`.) -/
namespace RedoModel.Deps.S
open RedoModel.Generated

/-! ### Pieces of `ssBuild`: the record and file of the target stay put while its script runs. -/

structure SameT (t : Nat) (w w' : World) : Prop where
  flds : Flds (w'.recs t) (w.recs t)
  fs : w'.fs t = w.fs t

theorem SameT.toPlain {t w w'} (h : SameT t w w') : Deps.SameT t w w' := ⟨h.flds.toPlain, h.fs⟩

theorem _root_.RedoModel.Deps.SameT.toS {t w w'} (h : Deps.SameT t w w') : SameT t w w' := ⟨h.flds.toS, h.fs⟩

theorem SameT.refl (t : Nat) (w : World) : SameT t w w := ⟨Flds.refl _, rfl⟩
theorem SameT.trans {t a b c} (h1 : SameT t a b) (h2 : SameT t b c) : SameT t a c :=
  ⟨h2.flds.trans h1.flds, h2.fs.trans h1.fs⟩

theorem WEqv.sameT {w w'} (h : WEqv w w') (t : Nat) : SameT t w w' :=
  ⟨⟨h.gen t, h.ovr t, h.checked t, h.changed t, h.failed t, h.stamp t, h.csum t⟩, congrFun h.fs t⟩

theorem RowOp.sameT {t' w w'} (h : RowOp t' w w') (t : Nat) : SameT t w w' := (h.toPlain.sameT t).toS

theorem BExt.sameT {rank R b po w w'} (h : BExt rank R b po w w') {t : Nat} (ht : b ≤ rank t) : SameT t w w' :=
  (h.toPlain.sameT ht).toS

theorem SameT.good {t w w'} (h : SameT t w w') (R : Nat) : Good w' R t ↔ Good w R t := h.toPlain.good R

theorem SameT.existsF {t w w'} (h : SameT t w w') : existsF w' t = existsF w t := existsF_congr h.fs

theorem RowOp.toBExt {rank R b po t w w'} (h : RowOp t w w') (hlt : rank t < b) : BExt rank R b po w w' :=
  (h.toPlain.toBExt hlt).toS

theorem BExt.lift {rank R t b po w w'} (h : BExt rank R (rank t) (some t) w w') (hlt : rank t < b) :
    BExt rank R b po w w' := (h.toPlain.lift hlt).toS

/-- The exempt set while `t` is under construction. -/
def addX (X : Nat → Prop) (t : Nat) : Nat → Prop := fun x => X x ∨ x = t

/-! ### A target under construction that is not exempt: the clause `recA` for one file survives the row operations of that
file's own unfinished build when it has one .do candidate (every such operation adds an `m` row, and there is no `c` row to
lose). -/

/-- The clause `BaseN.recA` for one file. -/
def KeepT (w : World) (t : Nat) : Prop := RecCur w t → (w.recs t).isGenerated = true → RecTruth w t

theorem BaseN.release {nc rank R w t} {X : Nat → Prop} (hb : BaseN nc rank R (addX X t) w) (hk : KeepT w t) :
    BaseN nc rank R X w :=
  { hb with recA := fun u hx hrc hg =>
      if e : u = t then e ▸ hk (e ▸ hrc) (e ▸ hg)
      else hb.recA u (hx.imp (fun hn hxu => hxu.elim hn e) id) hrc hg }

theorem InvN.release {nc rank R w t} {X : Nat → Prop} (hi : InvN nc rank R (addX X t) w) (hk : KeepT w t) :
    InvN nc rank R X w := ⟨hi.base.release hk, hi.Rpos, hi.ver⟩

theorem BaseN.keepT {nc rank R w t} {X : Nat → Prop} (hb : BaseN nc rank R X w) (hx : ¬ X t) : KeepT w t :=
  fun hrc hg => hb.recA t (Or.inl hx) hrc hg

theorem RecTruth_rowOp {w w' : World} {t : Nat} (hS : SingleDo w.rules) (hro : RowOp t w w')
    (hrows : ∀ s, HasRow w t s true → HasRow w' t s true) (ht : RecTruth w t) : RecTruth w' t := by
  have e := hro.eqv
  obtain ⟨pre, dof, post, sc, hr, hpre, hdof, hreads, hexit, hsc, cs, hcont, hlen, hz⟩ :=
    (e.recTruth ht : RecTruth { w' with deps := w.deps } t)
  have hpre0 : pre = [] := (single_split (t := t) (by rw [e.rules]; exact hS) hr).1
  have back : ∀ s, HasRow { w' with deps := w.deps } t s true → HasRow w' t s true := fun s h => hrows s h
  exact ⟨pre, dof, post, sc, hr, (fun c hc => by rw [hpre0] at hc; cases hc), back _ hdof,
    fun d hd => back _ (hreads d hd), hexit, hsc, cs, hcont, hlen, hz⟩

theorem KeepT_rowOp {w w' : World} {t : Nat} (hS : SingleDo w.rules) (hro : RowOp t w w')
    (hrows : ∀ s, HasRow w t s true → HasRow w' t s true) (hk : KeepT w t) : KeepT w' t := by
  intro hrc hg
  have hg0 : (w.recs t).isGenerated = true := by rw [← hro.eqv.gen t]; exact hg
  exact RecTruth_rowOp hS hro hrows (hk ((hro.recCur t).1 hrc) hg0)

/-- The rows of a target `t` that is not good may be rewritten: `t` is exempt, or there is one .do candidate per target
(then the clause of the invariant for `t` survives, `KeepT_rowOp`).  Here, in `addXk` and in `prep_open` the contracts with and
without `k` part. -/
def RowsOpen (X : Nat → Prop) (w : World) (t : Nat) : Prop := X t ∨ SingleDo w.rules

theorem Inv_rowOp_open {nc rank R X t w w'} (hi : InvN nc rank R X w) (h : RowOp t w w') (ho : RowsOpen X w t)
    (hrows : ∀ s, HasRow w t s true → HasRow w' t s true) (hng : ¬ Good w R t)
    (hrowsLt : ∀ d ∈ w'.deps, rank d.source < rank d.target)
    (hcPlain : ∀ d ∈ w'.deps, d.modeM = false → w'.rules d.source = []) : InvN nc rank R X w' := by
  by_cases hx : X t
  · exact Inv_rowOp hi h hx hng hrowsLt hcPlain
  · exact (Inv_rowOp (X := addX X t) (hi.weaken (fun _ => Or.inl)) h (Or.inr rfl) hng hrowsLt hcPlain).release
      (KeepT_rowOp (ho.resolve_left hx) h hrows (hi.base.keepT hx))

theorem Inv_addDep_open {nc rank R X t w s} (hi : InvN nc rank R X w) (ho : RowsOpen X w t) (hng : ¬ Good w R t)
    (hlt : rank s < rank t) : InvN nc rank R X (addDep w t s true) := by
  have hro := RowOp.addDep w t s true
  refine Inv_rowOp_open hi hro ho (fun x h => ?_) hng (fun d hd => ?_) (fun d hd hm => ?_)
  · by_cases e : x = s
    · subst e; exact addDep_hasRow_new w t x true
    · exact addDep_hasRow_keep h (fun ⟨_, h2⟩ => e h2)
  · rcases addDep_mem hd with rfl | ⟨h, _⟩
    · exact hlt
    · exact hi.base.rowsLt d h
  · rw [hro.rules]
    rcases addDep_mem hd with rfl | ⟨h, _⟩
    · cases hm
    · exact hi.base.cPlain d h hm

/-- The exempt set while `t` is under construction: with `k` nothing new is exempt. -/
def addXk (k : Prop) (X : Nat → Prop) (t : Nat) : Nat → Prop := fun x => X x ∨ (x = t ∧ ¬ k)

theorem addXk_open (k : Prop) (X : Nat → Prop) (t : Nat) : addXk k X t t ∨ k :=
  (Classical.em k).elim Or.inr (fun nk => Or.inl (Or.inr ⟨rfl, nk⟩))

theorem addXk_sub {k X t} : ∀ x, addXk k X t x → addX X t x := fun _ h => h.imp id And.left

/-- With `k` the target under construction was never exempt. -/
theorem Killed.drop {k nc rank R X t w res} (h : Killed k nc rank R (addXk k X t) w res) : Killed k nc rank R X w res := by
  obtain ⟨hk, a, b, c⟩ := h
  exact ⟨hk, a, b.weaken (fun x hx => hx.elim id (fun h => absurd hk h.2)), c⟩

/-- After the preparation of the build of `t` that found a .do file: with `k`, `t` is released again at once. -/
theorem prep_open {k nc rank R X t w dof} {c : Option (Nat × Nat)} (hm : KillMode k nc c w) (hi : InvN nc rank R X w)
    (p2 : InvN nc rank R (addX X t) (prepW w t).2)
    (h : (prepW w t).1 = some dof) :
    InvN nc rank R (addXk k X t) (prepW w t).2 := by
  by_cases hk : k
  · by_cases hx : X t
    · exact p2.weaken (fun x h => h.elim Or.inl (fun e => Or.inl (e ▸ hx)))
    · have hS : SingleDo (zapDeps1 w t).rules := hm.single hk
      refine (p2.release ?_).weaken (fun _ => Or.inl)
      rw [show (prepW w t).2 = addDep (zapDeps1 w t) t dof true from findDoFile_single (hS t) h]
      exact KeepT_rowOp hS (RowOp.addDep _ t dof true) (fun x h => by
          by_cases e : x = dof
          · subst e; exact addDep_hasRow_new _ t x true
          · exact addDep_hasRow_keep h (fun ⟨_, h2⟩ => e h2))
        (KeepT_rowOp (hm.single hk) (RowOp.zapDeps1 w t) (fun s h => (Deps.SameTriples.zapDeps1 w t t s true).2 h)
          (hi.base.keepT hx))
  · exact p2.weaken (fun x h => h.imp id (fun e => ⟨e, hk⟩))

theorem ssb_prep_inv {rank R t w} {X : Nat → Prop} (hi : InvN nc rank R X w) (hng : ¬ Good w R t) :
    InvN nc rank R (addX X t) (prepW w t).2 := by
  have hXt : addX X t t := Or.inr rfl
  exact findDoFile_inv hXt _ _ (Inv_zapDeps1 (hi.weaken (fun x hx => Or.inl hx)) hXt hng)
    (fun h => hng (((RowOp.zapDeps1 w t).good R t).1 h))
    (fun c hc => ⟨hi.base.ranked.1 t c hc, (hi.base.rulesOk.2 t c hc).1⟩)

abbrev JobPost (nc : Bool) (rank : Nat → Nat) (R : Nat) (X : Nat → Prop) (t b : Nat) (po : Option Nat) (w : World)
    (res : Status × World) : Prop :=
  Post nc rank R X b po (fun w' => Good w' R t) w res

/-- `JobPost`, except that a target which had already failed in this run need not become good. -/
abbrev JobPostW (nc : Bool) (rank : Nat → Nat) (R : Nat) (X : Nat → Prop) (t b : Nat) (po : Option Nat) (w : World)
    (res : Status × World) : Prop :=
  Post nc rank R X b po (fun w' => (w.recs t).failed ≠ some R → Good w' R t) w res

/-- `JobPost` gives `JobPostW` (named after `Post`, which both abbreviate, so that dot notation finds it from either). -/
theorem Post.weak {rank R X t b po w res} (h : JobPost nc rank R X t b po w res) : JobPostW nc rank R X t b po w res :=
  h.mono (fun _ hg _ => hg)

theorem ssb_none {rank R t w w2 b po} {X : Nat → Prop} (hng : ¬ Good w R t)
    (hi2 : InvN nc rank R (addX X t) w2) (hro : RowOp t w w2) (hlt : rank t < b) :
    JobPost nc rank R X t b po w
      (if existsF w2 t then (0, setRec w2 t (setStatic w2 t (w.recs t) R))
       else (1, setRec w2 t (setFailed w2 t (w.recs t) R))) := by
  have hng2 : ¬ Good w2 R t := fun h => hng ((hro.good R t).1 h)
  have hfl : Flds (w.recs t) (w2.recs t) := (hro.sameT t).flds.symm
  have hb0 : BExt rank R b po w w2 := hro.toBExt hlt
  split
  · rename_i hex
    obtain ⟨a1, a2, a3, a4⟩ := setStatic_spec' (b := b) (po := po) (X' := X) hi2 hng2 addX_drop (OffT.setRec w2 t _) rfl
      (fun _ h => h) (by simpa using setStatic_flds hfl w2 t R) hex hlt
    refine ⟨a1, hb0.trans a3, fun _ => a2, fun hnf _ => ?_, zero_ne_crashed⟩
    exact NoFail.setRec (hnf.eqv hro.eqv : NoFail R { w2 with deps := w.deps }) (by simp)
  · rename_i hex
    have hex' : existsF w2 t = false := by simpa using hex
    obtain ⟨a1, a2, _⟩ := setFailed_spec (b := b) (po := po) (X' := X) hi2 hng2 addX_drop (OffT.setRec w2 t _) rfl
      (fun _ h => h) (by simpa using setFailed_flds hfl w2 t R) (fun _ => hex') hlt
    exact StepPost.fail a1 (hb0.trans a2) one_ne_zero_status one_ne_crashed

/-! ### `ssBuild` when a .do file is found: the state after the script has run. -/

/-- The scripts of the proof: with `nc = true` they do not call `redo-stamp`. -/
def PlainN (nc : Bool) (sc : Script) : Prop := sc.PlainS ∧ (nc = true → sc.stamp = 0)

theorem scriptAt_plain {rank R X w} (hb : BaseN nc rank R X w) (dof : Nat) : PlainN nc (scriptAt w dof) := by
  have hd : PlainN nc {} := ⟨⟨rfl, rfl, rfl, Or.inl rfl, rfl, rfl, fun e => by cases e⟩, fun _ => rfl⟩
  unfold scriptAt
  cases w.fs dof with
  | none => exact hd
  | some n =>
    simp only
    cases h : w.progs n.content with
    | none => exact hd
    | some sc => exact ⟨hb.plainProgs _ sc h, fun hc => ((hb.nostamp hc).progs _ sc h).2.2.2.1⟩

theorem scriptAt_ranked {rank R X w t dof} (hb : BaseN nc rank R X w) (hd : dof ∈ w.rules t) :
    ∀ c ∈ (scriptAt w dof).ifchange, ∀ d ∈ c, rank d < rank t := by
  unfold scriptAt
  cases hn : w.fs dof with
  | none => intro c hc; simp at hc
  | some n =>
    simp only
    cases h : w.progs n.content with
    | none => intro c hc; simp at hc
    | some sc => exact hb.ranked.2 t dof hd n sc hn h

/-- The state after the script of `t` (chosen .do file `dof`, script `sc`) has run its commands.  `Deps.Ran` over `Inv` of this
namespace, for scripts that may stamp (`PlainS`).  The induction carries `RanN`, which extends it. -/
structure Ran (rank : Nat → Nat) (R : Nat) (X : Nat → Prop) (t dof : Nat) (sc : Script) (w2 w5 : World) (rv : Status) : Prop where
  inv : Inv rank R (addX X t) w5
  bext : BExt rank R (rank t) (some t) w2 w5
  decl : RowsDecl t sc.ifchange.flatten w2 w5
  ok : rv = 0 → ∀ d ∈ sc.ifchange.flatten, Good w5 R d ∧ HasRowU w5 t d true
  noFail : NoFail R w2 → rv = 0 → NoFail R w5
  notCrashed : rv ≠ CRASHED
  dofGood : Good w5 R dof
  script : scriptAt w5 dof = sc
  plain : sc.PlainS

/-- `Ran` over `InvN nc`, what `ssb_script` gives and `ssb_built`, `ssb_ok` take: with the switch on, the world after the
script has no checksum and the script did not stamp. -/
structure RanN (nc : Bool) (rank : Nat → Nat) (R : Nat) (X : Nat → Prop) (t dof : Nat) (sc : Script) (w2 w5 : World)
    (rv : Status) : Prop extends Ran rank R X t dof sc w2 w5 rv where
  nostamp : nc = true → NoStamp w5 ∧ sc.stamp = 0

theorem RanN.invN {nc rank R X t dof sc w2 w5 rv} (h : RanN nc rank R X t dof sc w2 w5 rv) :
    InvN nc rank R (addX X t) w5 := ⟨⟨h.inv.base, fun hc => (h.nostamp hc).1⟩, h.inv.Rpos, h.inv.ver⟩

theorem RanN.plainN {nc rank R X t dof sc w2 w5 rv} (h : RanN nc rank R X t dof sc w2 w5 rv) : PlainN nc sc :=
  ⟨h.plain, fun hc => (h.nostamp hc).2⟩

/-- The world in which the script starts: the .do file is recorded as the user's (it is good now), nothing else
that the invariant looks at has changed. -/
theorem startW_spec {rank R t dof w2} {X : Nat → Prop} (hi2 : InvN nc rank R X w2) (hdm : dof ∈ w2.rules t)
    (hdex : existsF w2 dof = true) :
    InvN nc rank R X (startW w2 R t dof) ∧ Good (startW w2 R t dof) R dof ∧
    BExt rank R (rank t) (some t) w2 (startW w2 R t dof) ∧ (startW w2 R t dof).deps = w2.deps ∧
    (NoFail R w2 → NoFail R (startW w2 R t dof)) := by
  have hdP : w2.rules dof = [] := (hi2.base.rulesOk.2 t dof hdm).1
  obtain ⟨hi3, hg3, hb3, hn3⟩ := setStatic_spec (b := rank t) (po := some t) hi2 hdex
    (fun _ => hi2.base.srcNotGen dof hdP) (hi2.base.ranked.1 t dof hdm)
  have e4 := WEqv.ev (setRec w2 dof (setStatic w2 dof (w2.recs dof) R)) (.ran t)
  exact ⟨e4.inv hi3, (e4.good R dof).2 hg3, hb3.trans e4.toBExt, rfl, fun h => (hn3 h).eqv e4⟩

theorem ssb_script {k nc rank R E t dof w2} {cx : Ctx} {X : Nat → Prop} (hE : ESpecG k nc rank R E) (hcx : cx.runid = R)
    (hm : KillMode k nc cx.crash w2) (hi2 : InvN nc rank R (addXk k X t) w2) (hng2 : ¬ Good w2 R t)
    (hXa : ∀ x, X x → rank t < rank x) (hdm : dof ∈ w2.rules t) (hdex : existsF w2 dof = true) :
    PlainN nc (scriptAt (startW w2 R t dof) dof) ∧
    (Killed k nc rank R X w2
      (runScript.cmds E cx t (childCx cx t) (scriptAt (startW w2 R t dof) dof).ifchange 0 (startW w2 R t dof)) ∨
    RanN nc rank R X t dof (scriptAt (startW w2 R t dof) dof) w2
      (runScript.cmds E cx t (childCx cx t) (scriptAt (startW w2 R t dof) dof).ifchange 0 (startW w2 R t dof)).2
      (runScript.cmds E cx t (childCx cx t) (scriptAt (startW w2 R t dof) dof).ifchange 0 (startW w2 R t dof)).1) := by
  have hdP : w2.rules dof = [] := (hi2.base.rulesOk.2 t dof hdm).1
  obtain ⟨hi4, hg4, hb4, hdeps, hn4⟩ := startW_spec hi2 hdm hdex
  generalize startW w2 R t dof = w4 at hi4 hg4 hb4 hdeps hn4 ⊢
  have hng4 : ¬ Good w4 R t := fun h => hng2 (((hb4.sameT (Nat.le_refl _)).good R).1 h)
  have hpl := scriptAt_plain hi4.base dof
  rcases cmds_spec (cx := cx) (cx' := childCx cx t) hE hcx rfl rfl rfl rfl
    (X := addXk k X t) (addXk_open k X t)
    (fun x hx => hx.elim (fun h => Nat.le_of_lt (hXa x h)) (fun h => by rw [h.1]; exact Nat.le_refl _))
    (scriptAt w4 dof).ifchange 0 w4 (hm.tr hb4.rules) hi4 hng4
    (scriptAt_ranked hi4.base (by rw [hb4.rules]; exact hdm)) with hk | a
  · exact ⟨hpl, Or.inl (hk.drop.from hb4.rc hb4.rules)⟩
  refine ⟨hpl, Or.inr ?_⟩
  have hdecl : RowsDecl t (scriptAt w4 dof).ifchange.flatten w2
      (runScript.cmds E cx t (childCx cx t) (scriptAt w4 dof).ifchange 0 w4).2 := by
    have a3 := a.decl
    unfold RowsDecl HasRowU at a3 ⊢
    rw [hdeps] at a3; exact a3
  have a2 := a.post.frame
  exact ⟨⟨(a.post.inv.weaken addXk_sub).toInv, hb4.trans a2, hdecl, a.post.ok, fun h hz => a.post.keep (hn4 h) hz,
    a.post.notCrashed, a2.good hg4, scriptAt_congr (a2.plain dof (by rw [hb4.rules]; exact hdP)) a2.progs, hpl.1⟩,
    fun hc => ⟨a.post.inv.base.nostamp hc, hpl.2 hc⟩⟩

/-! ### `ssBuild` when a .do file is found: recording the failure or the success. -/

theorem zapDeps2_off (w : World) (t : Nat) (r : Rec) : OffT t w (setRec (zapDeps2 w t) t r) := (Deps.zapDeps2_off w t r).toS

/-- `w5'` is `w5` up to the record of `t` (and `nextRow`): the world after the `redo-stamp` step. -/
structure StampT (t : Nat) (w5 w5' : World) : Prop where
  fs : w5'.fs = w5.fs
  deps : w5'.deps = w5.deps
  rules : w5'.rules = w5.rules
  progs : w5'.progs = w5.progs
  clock : w5'.clock = w5.clock
  rc : w5'.runCounter = w5.runCounter
  recs : ∀ y, y ≠ t → w5'.recs y = w5.recs y

theorem StampT.refl (t : Nat) (w : World) : StampT t w w := ⟨rfl, rfl, rfl, rfl, rfl, rfl, fun _ _ => rfl⟩

theorem StampT.stampW (cx : Ctx) (t : Nat) (sc : Script) (w : World) : StampT t w (stampW cx t sc w) := by
  obtain ⟨e1, e2, e3, e4, e5, e6⟩ := stampW_eqv cx t sc w
  exact ⟨e1, e2, e3, e4, e5, e6, fun y hy => stampW_other cx t sc w hy⟩

theorem ssb_fail {rank R t w w2 w5 w5' b dof} {X : Nat → Prop} {cx : Ctx} (hcx : cx.runid = R) (hng : ¬ Good w R t)
    (hro : RowOp t w w2) (hi5 : InvN nc rank R (addX X t) w5) (hb5 : BExt rank R (rank t) (some t) w2 w5)
    (hs : StampT t w5 w5')
    (hdm : dof ∈ w.rules t) (hlt : rank t < b) (po : Option Nat) (rv : Status) (out : Option Content)
    (hrv : rv ≠ 0) (hnc : rv ≠ CRASHED) :
    JobPost nc rank R X t b po w (recordNewState cx t (w.recs t) rv out w5') := by
  rw [recordFail_eq _ _ _ _ _ _ hrv, hcx, setFailed_congr_fs (congrFun hs.fs t)]
  have hst : SameT t w w5 := (hro.sameT t).trans (hb5.sameT (Nat.le_refl _))
  have hng5 : ¬ Good w5 R t := fun h => hng ((hst.good R).1 h)
  have hr5 : w5.rules t ≠ [] := by
    rw [hb5.rules, hro.rules]; intro h; rw [h] at hdm; simp at hdm
  have off : OffT t w5 (setRec (zapDeps2 w5' t) t (setFailed w5 t (w.recs t) R)) := by
    refine ⟨hs.rules, hs.progs, fun x _ => congrFun hs.fs x, fun _ => congrFun hs.fs t,
      fun x hx => (setRec_recs_other _ _ _ hx).trans (hs.recs x hx), fun d hd => ?_, Nat.le_of_eq hs.clock.symm, hs.rc⟩
    show d ∈ (zapDeps2 w5' t).deps ↔ d ∈ w5.deps
    unfold zapDeps2
    simp only [List.mem_filter, hs.deps]
    simp [hd]
  have hsub : ∀ d ∈ (setRec (zapDeps2 w5' t) t (setFailed w5 t (w.recs t) R)).deps, d ∈ w5.deps := by
    intro d hd
    have : d ∈ (zapDeps2 w5' t).deps := hd
    unfold zapDeps2 at this
    rw [hs.deps] at this
    exact (List.mem_filter.1 this).1
  obtain ⟨a1, a2, _⟩ := setFailed_spec (b := b) (po := po) (X' := X) hi5 hng5 addX_drop off (congrFun hs.fs t) hsub
    (by simpa using setFailed_flds hst.flds.symm w5 t R) (fun h => absurd h hr5) hlt
  have hb05 : BExt rank R b po w w5 := (hro.toBExt hlt).trans (hb5.lift hlt)
  exact StepPost.fail a1 (hb05.trans a2) hrv hnc

theorem notMarked {rank R X w t} (hi : InvN nc rank R X w) (hng : ¬ Good w R t) (hnf : (w.recs t).failed ≠ some R) :
    isCheckedR (w.recs t) R = false ∧ isChangedR (w.recs t) R = false := by
  have hb := hi.base
  refine ⟨Bool.eq_false_iff.2 fun hx => ?_, Bool.eq_false_iff.2 fun hx => ?_⟩
  · have hc := (isCheckedR_iff hi.Rpos (hb.ckLe t)).1 hx
    exact hng (Or.inl ⟨hb.ckFail t hc, Or.inl hc⟩)
  · have hc := (isChangedR_iff hi.Rpos (hb.chLe t)).1 hx
    rcases hb.markFail t hc with h | h
    · exact hng (Or.inl ⟨h, Or.inr hc⟩)
    · exact hnf h

theorem ssb_built {rank R t w w2 w5 dof sc pre post} {X : Nat → Prop} (hi : InvN nc rank R X w) (hng : ¬ Good w R t)
    (hro : RowOp t w w2) (hr : w.rules t = pre ++ dof :: post) (hpre : ∀ c ∈ pre, existsF w c = false)
    (hdex : existsF w dof = true)
    (hshape : ∀ d ∈ w2.deps, d.target = t → d.deleteMe = false → DoRow w (some dof) d)
    (hrows : (∀ c ∈ pre, HasRowU w2 t c false) ∧ HasRowU w2 t dof true)
    (ran : RanN nc rank R X t dof sc w2 w5 0) (hexit : sc.exit = 0) : Built rank R t pre dof post sc w5 := by
  have hst : SameT t w w5 := (hro.sameT t).trans (ran.bext.sameT (Nat.le_refl _))
  have hrules : w5.rules = w.rules := ran.bext.rules.trans hro.rules
  have hplain : ∀ x, w.rules x = [] → w5.fs x = w.fs x := fun x hx =>
    (ran.bext.plain x (by rw [hro.rules]; exact hx)).trans (congrFun hro.fs x)
  have hcand : ∀ c ∈ w.rules t, w5.fs c = w.fs c := fun c hc => hplain c (hi.base.rulesOk.2 t c hc).1
  have hreads : sc.reads = sc.ifchange.flatten := ran.plain.2.2.2.2.2.1
  have hi5 := ran.invN
  refine ⟨fun h => hng ((hst.good R).1 h), by rw [hrules]; exact hr, ?_, ?_, ?_, ran.dofGood, ran.script, hexit, ?_, ?_⟩
  · intro c hc
    have hcm : c ∈ w.rules t := by rw [hr]; simp [hc]
    have habs : existsF w5 c = false := by rw [existsF_congr (hcand c hcm)]; exact hpre c hc
    refine ⟨habs, ran.decl.2 c false (hrows.1 c hc) (fun hin => ?_)⟩
    exfalso
    have hg := (ran.ok rfl c hin).1
    have hcP : w5.rules c = [] := by rw [hrules]; exact (hi.base.rulesOk.2 t c hcm).1
    have := static_exists hi5.base (hg.recCur hi5) (hi5.base.srcNotGen c hcP)
    rw [habs] at this; cases this
  · rw [existsF_congr (hcand dof (by rw [hr]; simp))]; exact hdex
  · exact ran.decl.2 dof true hrows.2 (fun _ => rfl)
  · rw [hreads]; exact ran.ok rfl
  · intro d hd hdt hdm
    rcases ran.decl.1 d hd hdt with h | ⟨a, b, _⟩
    · obtain ⟨_, s1, s2⟩ := hshape d h hdt hdm
      refine ⟨fun hm => ?_, fun hm => Or.inl (Option.some.inj (s2 hm)).symm⟩
      have hsP : w.rules d.source = [] := by rw [← hrules]; exact hi5.base.cPlain d hd hm
      rw [existsF_congr (hplain _ hsP)]; exact s1 hm
    · exact ⟨(fun hm => by rw [a] at hm; cases hm), fun _ => Or.inr (by rw [hreads]; exact b)⟩

/-! ### `ssBuild` and `startSelf` for a target that is not good. -/

theorem stampW_zero {cx : Ctx} {t : Nat} {sc : Script} {w : World} (h : sc.stamp = 0) : stampW cx t sc w = w := by
  unfold stampW; simp [h]

theorem ssb_ok {rank R t w w2 w5 b dof sc pre post} {X : Nat → Prop} {cx : Ctx} (hcx : cx.runid = R)
    (hro : RowOp t w w2)
    (built : Built rank R t pre dof post sc w5) (hi5 : InvN nc rank R (addX X t) w5)
    (hb5 : BExt rank R (rank t) (some t) w2 w5) (hlt : rank t < b) (po : Option Nat)
    (hnf5 : NoFail R w → NoFail R w5) (hnf0 : nc = false → (w.recs t).failed ≠ some R) (hpl : PlainN nc sc) :
    JobPostW nc rank R X t b po w (recordNewState cx t (w.recs t) 0 (outOf w5 sc) (stampW cx t sc w5)) := by
  have hst : SameT t w w5 := (hro.sameT t).trans (hb5.sameT (Nat.le_refl _))
  have hb05 : BExt rank R b po w w5 := (hro.toBExt hlt).trans (hb5.lift hlt)
  have hb := hi5.base
  rcases hpl.1.2.2.2.1 with hs | hs
  · rw [stampW_zero hs]
    cases hm : (isCheckedR (w5.recs t) cx.runid || isChangedR (w5.recs t) cx.runid) with
    | false =>
      simp only [Bool.or_eq_false_iff] at hm
      obtain ⟨h0, hf⟩ := recordOk_fields cx t (w.recs t) (outOf w5 sc) w5 hm.1 hm.2
      have hcs := (Deps.recordOk_fields cx t (w.recs t) (outOf w5 sc) w5 hm.1 hm.2).2.csum
      rw [hcx] at hf
      obtain ⟨a1, a2, a3, a4⟩ := recordOk_spec (b := b) (po := po) (X' := X) hi5 addX_drop built hf (fun _ => hcs) hlt
      refine ⟨a1, hb05.trans a3, fun _ _ => Or.inl a2, fun h _ => a4 (hnf5 h), ?_⟩
      rw [h0]; exact zero_ne_crashed
    | true =>
      -- the target had failed in this run and is rebuilt by `redo`: its marks stay
      obtain ⟨h0, hf⟩ := recordKeep_fields cx t (w.recs t) (outOf w5 sc) w5 hm
      rw [hcx] at hm
      have hchg : (w5.recs t).changed = some R := by
        rcases (Bool.or_eq_true _ _).mp hm with h | h
        · have hc := (isCheckedR_iff hi5.Rpos (hb.ckLe t)).1 h
          exact absurd (Or.inl ⟨hb.ckFail t hc, Or.inl hc⟩) built.notGood
        · exact (isChangedR_iff hi5.Rpos (hb.chLe t)).1 h
      have hfl : (w5.recs t).failed = some R :=
        (hb.markFail t hchg).resolve_left (fun h => built.notGood (Or.inl ⟨h, Or.inr hchg⟩))
      have hfl0 : (w.recs t).failed = some R := by rw [← hst.flds.failed]; exact hfl
      -- with checksums this case is excluded: the record would keep a checksum that no longer describes the file
      have hsw : nc = true := by
        cases nc with
        | true => rfl
        | false => exact absurd hfl0 (hnf0 rfl)
      obtain ⟨a1, a2, a3⟩ := recordKeep_spec (b := b) (po := po) (X' := X) hi5 built.notGood addX_drop hfl hchg
        ((hb.nostamp hsw).csum t) (built.ne hi5).1 hf hlt
      refine ⟨a1, hb05.trans a2, fun _ h => absurd hfl0 h, fun h _ => absurd hfl0 (h t), ?_⟩
      rw [h0]; exact zero_ne_crashed
  · have hom : sc.outMode ≠ 2 := hpl.1.2.2.2.2.2.2 hs
    have hsw : nc = false := by
      cases nc with
      | false => rfl
      | true => rw [hpl.2 rfl] at hs; cases hs
    have hout : outOf w5 sc = some (outContent sc.tag (sc.reads.map (contentOf w5))) := by
      unfold outOf; simp [hom]
    rw [hout]
    obtain ⟨h0, hf⟩ := recordStamp_fields cx t (w.recs t) sc w5 hs (by rw [hcx]; exact hi5.Rpos) _ rfl
    rw [hcx] at hf
    generalize recordNewState cx t (w.recs t) 0 (some (outContent sc.tag (sc.reads.map (contentOf w5)))) (stampW cx t sc w5)
      = res at h0 hf ⊢
    rcases hf with ⟨_, hf⟩ | ⟨_, hf⟩
    · have hf' : OkFields R t (outOf w5 sc) w5 res.2 := by rw [hout]; exact hf
      obtain ⟨a1, a2, a3, a4⟩ := recordOk_spec (b := b) (po := po) (X' := X) hi5 addX_drop built hf'
        (fun hc => by rw [hsw] at hc; cases hc) hlt
      refine ⟨a1, hb05.trans a3, fun _ _ => Or.inl a2, fun h _ => a4 (hnf5 h), ?_⟩
      rw [h0]; exact zero_ne_crashed
    · obtain ⟨a1, a2, a3, a4⟩ := recordSame_spec (b := b) (po := po) (X' := X) hi5 addX_drop built hout hf hlt
      refine ⟨a1, hb05.trans a3, fun _ _ => Or.inl a2, fun h _ => a4 (hnf5 h), ?_⟩
      rw [h0]; exact zero_ne_crashed

theorem ssBuild_spec {k nc rank R E t w b} {cx : Ctx} {X : Nat → Prop} (hE : ESpecG k nc rank R E) (d : Defects)
    (hcx : cx.runid = R) (hm : KillMode k nc cx.crash w) (hi : InvN nc rank R X w) (hng : ¬ Good w R t)
    (hXa : ∀ x, X x → rank t < rank x) (hlt : rank t < b) (po : Option Nat)
    (hnf : nc = false → (w.recs t).failed ≠ some R) :
    Out k nc rank R X b po (fun w' => (w.recs t).failed ≠ some R → Good w' R t) w (ssBuild E d cx t (w.recs t) w) := by
  subst hcx
  obtain ⟨p1, p3, p4, p5⟩ := ssb_prep_rows t w
  replace p3 := p3.toS
  have p2 := ssb_prep_inv hi hng
  have po2 := fun dof => prep_open (k := k) (t := t) (dof := dof) hm hi p2
  generalize hfd : prepW w t = fr at p1 p2 p3 p4 p5 po2
  obtain ⟨o, w2⟩ := fr
  dsimp only at p1 p2 p3 p4 p5 po2
  cases o with
  | none =>
    rw [ssBuild_eq_none hfd]
    exact Or.inr (ssb_none hng p2 p3 hlt).weak
  | some dof =>
    rw [ssBuild_some hfd]
    have ran := ssb_script (E := E) (cx := cx) hE rfl (hm.tr p3.rules) (po2 dof rfl) (fun h => hng ((p3.good _ t).1 h)) hXa
      (dof := dof) (by rw [p3.rules]; exact (firstEx_mem _ _ p1.symm).1)
      (by rw [p3.existsF]; exact (firstEx_mem _ _ p1.symm).2)
    generalize scriptAt (startW w2 cx.runid t dof) dof = sc at ran ⊢
    obtain ⟨hpl, ran⟩ := ran
    -- with kills there is no stamp, so the kill point after `redo-stamp` does not exist
    rw [runScript_plainS _ _ _ _ _ _ hpl.1
      ((Classical.em k).elim (fun hk => Or.inr (hpl.2 (hm.nocs hk))) (fun nk => Or.inl (hm.quiet nk)))]
    generalize runScript.cmds E cx t (childCx cx t) sc.ifchange 0 (startW w2 cx.runid t dof) = cr at ran ⊢
    obtain ⟨rv, w5⟩ := cr
    dsimp only at ran ⊢
    have hdm : dof ∈ w.rules t := (firstEx_mem _ _ p1.symm).1
    rcases ran with ⟨k0, k1, k2, k3, k4⟩ | ran
    · left
      dsimp only at k1 k2 k3 k4
      subst k1
      have hne : CRASHED ≠ (0 : Status) := fun h => zero_ne_crashed h.symm
      simp only [ne_eq, hne, not_false_eq_true, if_true]
      exact ⟨k0, rfl, k2, k3.trans p3.eqv.rc, k4.trans p3.rules⟩
    right
    by_cases hrv : rv = 0
    · subst hrv
      simp only [ne_eq, not_true_eq_false, if_false]
      have hexc : ((sc.exit : Nat) : Int) ≠ CRASHED := by
        have : (0 : Int) ≤ (sc.exit : Int) := Int.natCast_nonneg _
        intro h; rw [h] at this; exact absurd this (by decide)
      simp only [hexc, if_false]
      by_cases hex : sc.exit = 0
      · obtain ⟨pre, post, hr, hpre, hdex⟩ := firstEx_some_split _ _ p1.symm
        have built := ssb_built hi hng p3 hr hpre hdex (by rw [p1]; exact p4) (p5 pre dof post hr hpre hdex) ran hex
        rw [hex]
        exact ssb_ok rfl p3 built ran.invN ran.bext hlt po
          (fun h => ran.noFail ((h.eqv p3.eqv : NoFail cx.runid { w2 with deps := w.deps })) rfl) hnf ran.plainN
      · have hne : ((sc.exit : Nat) : Int) ≠ 0 := by
          intro h; exact hex (Int.natCast_eq_zero.1 h)
        exact (ssb_fail rfl hng p3 ran.invN ran.bext (StampT.stampW cx t sc w5) hdm hlt po _ _ hne hexc).weak
    · simp only [ne_eq, hrv, not_false_eq_true, if_true, ran.notCrashed, if_false]
      exact (ssb_fail rfl hng p3 ran.invN ran.bext (StampT.refl t w5) hdm hlt po _ _ hrv ran.notCrashed).weak

/-- `startSelf` on a target that is not a verified generated target (the job's record copy being current). -/
theorem startSelf_spec {k rank R E t w b} {cx : Ctx} {X : Nat → Prop} (hE : ESpecG k nc rank R E) (d : Defects)
    (hcx : cx.runid = R) (hm : KillMode k nc cx.crash w) (hi : InvN nc rank R X w)
    (hV : VerR w R t → (w.recs t).isGenerated = false)
    (hXa : ∀ x, X x → rank t < rank x) (hlt : rank t < b) (po : Option Nat)
    (hnf : nc = false → (w.recs t).failed ≠ some R) :
    Out k nc rank R X b po (fun w' => (w.recs t).failed ≠ some R → Good w' R t) w (startSelf E d cx t (w.recs t) w) := by
  rw [startSelf_eq, ssGuard_noop hi.base]
  simp only [hi.base.noOvr t, Bool.false_or, Bool.not_false]
  have hgg : Good w R t → (w.recs t).isGenerated = false := fun h => h.elim hV (fun h => h.2)
  split
  · rename_i hc
    simp only [Bool.and_eq_true, Bool.not_eq_true'] at hc
    subst hcx
    obtain ⟨a1, a2, a3, a4⟩ := setStatic_spec (b := b) (po := po) hi hc.1 hgg hlt
    exact Or.inr ⟨a1, a3, fun _ _ => a2, fun h _ => a4 h, zero_ne_crashed⟩
  · rename_i hc
    refine ssBuild_spec hE d hcx hm hi (fun hg => hc ?_) hXa hlt po hnf
    have hgen := hgg hg
    simp only [Bool.and_eq_true, Bool.not_eq_true']
    exact ⟨static_exists hi.base (hg.recCur hi) hgen, hgen⟩

/-! ### `shouldBuild` / `buildJob` for `redo-ifchange` (not forced). -/

theorem DExt.noFail {rank R b w w'} (h : DExt rank R b w w') (hR : 0 < R) (hn : NoFail R w) : NoFail R w' := by
  intro f
  rcases h.fail f with e | e
  · rw [e]; exact hn f
  · rw [e]; intro h; cases h; omega

theorem BExt.weakenPo {rank R b po w w'} (h : BExt rank R b none w w') : BExt rank R b po w w' := h.toPlain.weakenPo.toS

section
variable {k : Prop} {nc : Bool} {rank : Nat → Nat} {R : Nat} {X : Nat → Prop} {b : Nat} {po : Option Nat}
  {G : World → Prop} {w w0 : World} {res : Status × World}

/-- A step about files of rank `< b'` that leaves every parent's rows alone is a step of any job above. -/
theorem Out.lift {b'} (h : Out k nc rank R X b' none G w res) (hb : b' ≤ b) : Out k nc rank R X b po G w res :=
  h.imp id (fun hp => hp.pre (fun h => (h.mono hb).weakenPo) id)

theorem Out.afterCheck {t} (h : Out k nc rank R X b po G w res) (hdx : DExt rank R (rank t + 1) w0 w) (hlt : rank t < b)
    (hR : 0 < R) : Out k nc rank R X b po G w0 res :=
  h.pre (hdx.toBExt.mono (Nat.succ_le_of_lt hlt)) (hdx.noFail hR)

end

/-- The job decided to rebuild `t` itself (verdict dirty, or `need` for `t` alone, or `need` when OOB is off). -/
theorem job_dirty {k rank R E t w w1 b} {cx : Ctx} {X : Nat → Prop} (hE : ESpecG k nc rank R E) (d : Defects)
    (hcx : cx.runid = R) (hm : KillMode k nc cx.crash w) (hi : InvN nc rank R X w) (hi1 : InvN nc rank R X w1)
    (hdx : DExt rank R (rank t + 1) w w1) (ho : OwnRel w w1 t) (hnv : ¬ VerR w R t)
    (hnf0 : (w.recs t).failed ≠ some R)
    (hXa : ∀ x, X x → rank t < rank x) (hlt : rank t < b) (po : Option Nat) :
    Out k nc rank R X b po (fun w' => Good w' R t) w
      ((startSelf E d cx t (w.recs t) w1).1, (startSelf E d cx t (w.recs t) w1).2) := by
  subst hcx
  have hown' : w1.recs t = w.recs t ∨
      (w1.recs t = { w.recs t with isGenerated := false, isOverride := false, failed := some 0 } ∧ w1.fs t = none) :=
    ho.imp id (fun ⟨h, hf⟩ => ⟨h, by rw [congrFun hdx.same.1 t]; exact hf⟩)
  rw [startSelf_own E d cx t (w.recs t) w1 (hi.base.recOk t).noOvr hown']
  have hV : VerR w1 cx.runid t → (w1.recs t).isGenerated = false := by
    intro hv
    rcases hown' with h | ⟨h, _⟩
    · exact absurd (by unfold VerR at hv ⊢; rw [h] at hv; exact hv) hnv
    · rw [h]
  have hnf1 : (w1.recs t).failed ≠ some cx.runid := by
    rcases hown' with h | ⟨h, _⟩
    · rw [h]; exact hnf0
    · rw [h]; intro e; have e' := Option.some.inj e; have := hi.Rpos; omega
  exact ((startSelf_spec (b := b) (po := po) hE d rfl (hm.tr (hdx.toBExt (po := none)).rules) hi1 hV hXa hlt
    (fun _ => hnf1)).mono (fun _ hg => hg hnf1)).afterCheck hdx hlt hi.Rpos

/-- The out-of-band path: `redo-ifchange ts` (files below `t`), then `redo-ifchange t` unlocked. -/
theorem job_oob {k rank R E t w1 b} {cx : Ctx} {X : Nat → Prop} (hE : ESpecG k nc rank R E)
    (hcx : cx.runid = R) (hm : KillMode k nc cx.crash w1) (hi1 : InvN nc rank R X w1)
    (ts : List Nat) (hts : ∀ x ∈ ts, rank x < rank t)
    (hXa : ∀ x, X x → rank t < rank x) (hlt : rank t < b) (po : Option Nat) (hsw : nc = false) :
    Out k nc rank R X b po (fun w' => Good w' R t) w1 ((oobPath E cx t ts w1).1.st, (oobPath E cx t ts w1).2) := by
  unfold oobPath
  have hts' : ∀ x ∈ oobOrder w1 ts, rank x < rank t := by
    intro x hx
    unfold oobOrder at hx
    split at hx
    · exact hts x (List.mem_eraseDups.1 (List.mem_reverse.1 hx))
    · exact hts x (List.mem_eraseDups.1 hx)
  have h1 : Out k nc rank R X b po _ w1 _ := Out.lift ((hE X (oobCx1 cx t) (oobOrder w1 ts) w1 (rank t) hcx rfl hm hi1 hts'
    (fun x hx => Nat.le_of_lt (hXa x hx)) (fun _ p hp => by cases hp) (fun _ => rfl)).imp id (·.post)) (Nat.le_of_lt hlt)
  generalize E.ifchangeCmd (oobCx1 cx t) (oobOrder w1 ts) w1 = r1 at h1
  obtain ⟨rv1, w2⟩ := r1
  by_cases hrv : rv1 = 0
  · subst hrv
    rcases h1 with hk | p1
    · exact absurd hk.2.1 zero_ne_crashed
    simp only [if_true]
    have h2 : Out k nc rank R X b po _ w2 _ := Out.lift ((hE X (oobCx2 cx) [t] w2 (rank t + 1) hcx rfl (hm.tr p1.frame.rules)
      p1.inv (fun x hx => by simp at hx; subst hx; exact Nat.lt_succ_self _)
      (fun x hx => Nat.succ_le_of_lt (hXa x hx)) (fun hu => by simp [oobCx2] at hu)
      (fun hc => by rw [hsw] at hc; cases hc)).imp id (·.post)) (Nat.succ_le_of_lt hlt)
    exact (h2.mono (fun _ hg => hg t (by simp))).pre p1.frame (fun h => p1.keep h rfl)
  · simp only [hrv, if_false]
    exact h1.mono (fun hz _ => absurd hz hrv)

theorem buildJob_spec {k rank R E t w b fuel} {cx : Ctx} {X : Nat → Prop} (hE : ESpecG k nc rank R E) (d : Defects)
    (hd : nc = false → d.oobRecordsDepsOnCaller = false ∧ d.oobRebuildsDepsNotTarget = false)
    (hcx : cx.runid = R) (hredo : cx.isRedo = false) (hm : KillMode k nc cx.crash w) (hi : InvN nc rank R X w)
    (hXa : ∀ x, X x → rank t < rank x) (hlt : rank t < b) (po : Option Nat) :
    Out k nc rank R X b po (fun w' => Good w' R t) w ((buildJob E d cx fuel t w).1.st, (buildJob E d cx fuel t w).2) := by
  obtain ⟨c1, c2, c3, c4, c5, c6⟩ := exit_codes
  cases hfr : isFailedR (getRec w cx.runid t) cx.runid with
  | true =>
    unfold buildJob shouldBuild
    simp only [hredo, Bool.false_eq_true, if_false, hfr, if_true]
    split <;> exact Or.inr (Post.nonzero hi c1 c2)
  | false =>
    subst hcx
    have hsp := isDirty_specN fuel t cx.runid [] w [] none hi (fun s e => by cases e) hXa
    have hgc := fun hg => good_clean fuel t [] w [] none hi hg (fun s e => by cases e) hXa
    have hnf0 : (w.recs t).failed ≠ some cx.runid := by
      rw [← getRec_failed_eq w cx.runid t]; exact isFailedR_false hi.Rpos hfr
    -- the job when the verdict (after `should_build`'s adjustment) is `dirty`
    have hD : ∀ dr w1 c, isDirty false cx.runid fuel w [] t cx.runid [] none = (dr, w1, c) → dr ≠ .clean → dr ≠ .cyclic →
        Out k nc rank cx.runid X b po (fun w' => Good w' cx.runid t) w
          ((startSelf E d cx t (w.recs t) w1).1, (startSelf E d cx t (w.recs t) w1).2) := by
      intro dr w1 c hres hnc hncy
      rw [hres] at hsp hgc
      obtain ⟨hi1, hdx, _, _, hown⟩ := hsp
      refine job_dirty hE d rfl hm hi hi1 hdx (hown hnc) (fun hv => ?_) hnf0 hXa hlt po
      rcases hgc (Or.inl hv) with h1 | ⟨h1, _⟩
      · exact hnc h1
      · exact hncy h1
    generalize hres : isDirty false cx.runid fuel w [] t cx.runid [] none = res at hsp hgc hD
    obtain ⟨dr, w1, c⟩ := res
    obtain ⟨hi1, hdx, hnn, hcl, hown⟩ := hsp
    dsimp only at hi1 hdx hnn hcl hown hgc
    cases dr with
    | cyclic =>
      unfold buildJob
      rw [shouldBuild_of_verdict hredo hfr hres (fun ts e => by cases e)]
      exact Or.inr (StepPost.fail hi1 (hdx.toBExt.mono (Nat.succ_le_of_lt hlt)) c3 c4)
    | clean =>
      unfold buildJob
      rw [shouldBuild_of_verdict hredo hfr hres (fun ts e => by cases e)]
      obtain ⟨hck, hv, _⟩ := hcl rfl
      exact Or.inr ⟨hi1, hdx.toBExt.mono (Nat.succ_le_of_lt hlt), fun _ => Or.inl hv,
        fun h _ => hdx.noFail hi.Rpos h, zero_ne_crashed⟩
    | dirty =>
      unfold buildJob
      rw [shouldBuild_of_verdict hredo hfr hres (fun ts e => by cases e)]
      exact hD _ _ _ rfl (by intro h; cases h) (by intro h; cases h)
    | need ts =>
      -- without checksums the check never asks for an out-of-band rebuild
      have hsw : nc = false := by
        cases nc with
        | false => rfl
        | true =>
          exact absurd (congrArg Prod.fst hres) ((isDirty_nocsum false cx.runid fuel w [] t cx.runid [] none
            (hi.base.nostamp rfl).csum (fun _ h => by cases h)).2 ts)
      have hDn := hD _ _ _ rfl (by intro h; cases h) (by intro h; cases h)
      have hok : NeedOk rank t (rank t) ts := hnn ts rfl
      have hsb := shouldBuild_of_need hredo hfr hres
      by_cases hts : ts = [t]
      · unfold buildJob
        rw [hsb]
        simp only [hts, if_true]
        exact hDn
      · simp only [hts, if_false] at hsb
        cases hno : cx.noOob with
        | true =>
          unfold buildJob
          rw [hsb]
          simp only [hno, if_true]
          exact hDn
        | false =>
          rw [Deps.buildJob_need E d cx fuel t w ts hno (hd hsw).1 (hd hsw).2 (by rw [hsb]), hsb]
          have hlow : ∀ x ∈ ts, rank x < rank t := by
            rcases hok with h | ⟨_, h⟩
            · exact absurd h hts
            · exact h
          exact (job_oob (b := b) hE rfl (hm.tr (hdx.toBExt (po := none)).rules) hi1 ts hlow hXa hlt po hsw).afterCheck hdx hlt
            hi.Rpos

/-! ### `runTargets` for `redo-ifchange`; the declarations of a command. -/

theorem runTargets_spec {k rank R E b fuel} {cx : Ctx} {X : Nat → Prop} (hE : ESpecG k nc rank R E) (d : Defects)
    (hd : nc = false → d.oobRecordsDepsOnCaller = false ∧ d.oobRebuildsDepsNotTarget = false)
    (hcx : cx.runid = R) (hredo : cx.isRedo = false) (hXb : ∀ x, X x → b ≤ rank x) (po : Option Nat)
    (ts seen : List Nat) (errored : Bool) (w : World) (hm : KillMode k nc cx.crash w) (hi : InvN nc rank R X w)
    (hts : ∀ t ∈ ts, rank t < b) (hseen : errored = false → ∀ s ∈ seen, Good w R s) :
    Out k nc rank R X b po (fun w' => ∀ t ∈ ts, Good w' R t) w (runTargets E d cx fuel ts seen errored w) := by
  refine (runTargets_loop (E := E) (d := d) (cx := cx) (fuel := fuel)
    (I := fun w => KillMode k nc cx.crash w ∧ InvN nc rank R X w)
    (Rel := BExt rank R b po) (G := fun w s => Good w R s) (K := fun w' => NoFail R w → NoFail R w')
    (Kd := Killed k nc rank R X) (A := fun t => rank t < b)
    (BExt.refl _ _ _ _) (fun _ _ _ => BExt.trans) (fun _ _ _ h => h.good)
    (fun w' t hi' => ⟨⟨hi'.1.tr (WEqv.addKnown w' t).rules, (WEqv.addKnown w' t).inv hi'.2⟩,
      (WEqv.addKnown w' t).toBExt, fun hk hn => (hk hn).eqv (WEqv.addKnown w' t)⟩)
    (fun _ _ h => h.2.1) (fun _ _ _ hr hk => hk.from hr.rc hr.rules)
    (fun t w' hi' hlt =>
      (buildJob_spec (fuel := fuel) hE d hd hcx hredo hi'.1 hi'.2 (fun x hx => Nat.lt_of_lt_of_le hlt (hXb x hx)) hlt
        po).imp id (fun j =>
          ⟨⟨hi'.1.tr j.frame.rules, j.inv⟩, j.frame, j.notCrashed, fun hk hz => ⟨j.ok hz, fun hn => j.keep (hk hn) hz⟩⟩))
    ts seen errored w ⟨hm, hi⟩ hts).imp id (fun ⟨a1, a2, a3, a4, a5⟩ => ?_)
  exact ⟨a1.2, a2, fun h => (a5 id (hseen (a4 h)) h).2, fun hn h => (a5 id (hseen (a4 h)) h).1 hn, a3⟩

theorem declare_inv {rank R X p} :
    ∀ (ts : List Nat) (w : World), InvN nc rank R X w → RowsOpen X w p → ¬ Good w R p → (∀ t ∈ ts, rank t < rank p) →
      InvN nc rank R X (declare p ts w)
  | [], _, hi, _, _, _ => hi
  | t :: ts, w, hi, ho, hng, hts =>
    declare_inv ts (addDep w p t true) (Inv_addDep_open hi ho hng (hts t (by simp)))
      (ho.imp id (fun h => (RowOp.addDep w p t true).rules ▸ h))
      (fun h => hng (((RowOp.addDep w p t true).good R p).1 h)) (fun t' h => hts t' (List.mem_cons_of_mem _ h))

/-! ### `ifchangeWith` meets the contract `ESpecG` when the nested engine does; hence `engine d n` does. -/

theorem ifchangeWith_spec {k rank R E} (hE : ESpecG k nc rank R E) (d : Defects)
    (hd : nc = false → d.oobRecordsDepsOnCaller = false ∧ d.oobRebuildsDepsNotTarget = false) (fuel : Nat) :
    ESpecG k nc rank R { ifchangeCmd := fun cx ts w => ifchangeWith E d fuel cx ts w } := by
  intro X cx ts w b h1 h2 hm hi hts hXb hpar _
  show Killed k nc rank R X w (ifchangeWith E d fuel cx ts w) ∨
    NestedOk nc rank R X b (if cx.unlocked = true then none else cx.parent) ts w (ifchangeWith E d fuel cx ts w)
  cases hp : cx.parent with
  | none =>
    rw [ifchangeWith_undeclared E d fuel ts w (Or.inl hp)]
    rw [ite_self]
    exact (runTargets_spec (fuel := fuel) hE d hd h1 h2 hXb none ts [] false w hm hi hts
      (fun _ s hs => by simp at hs)).imp id (fun a => ⟨a, fun _ hp' => nomatch hp'⟩)
  | some p =>
    cases h3 : cx.unlocked with
    | true =>
      rw [ifchangeWith_undeclared E d fuel ts w (Or.inr h3)]
      rw [if_pos rfl]
      exact (runTargets_spec (fuel := fuel) hE d hd h1 h2 hXb none ts [] false w hm hi hts
        (fun _ s hs => by simp at hs)).imp id (fun a => ⟨a, fun _ hp' => nomatch hp'⟩)
    | false =>
    -- the targets rank below the script's own: it is not among them
    obtain ⟨hbp, hXp, hngp⟩ := hpar h3 p hp
    rw [ifchangeWith_declare E d fuel w hp h3 (fun h => absurd (hts p h) (Nat.not_lt.2 hbp))]
    have e1 := WEqv.addKnown w p
    have hi1 := e1.inv hi
    have hng1 : ¬ Good (addKnown w p) R p := fun h => hngp ((e1.good R p).1 h)
    have hm1 := hm.tr e1.rules
    have d1 := declare_inv ts (addKnown w p) hi1 (hXp.imp id hm1.single) hng1
      (fun t ht => Nat.lt_of_lt_of_le (hts t ht) hbp)
    have hrd : (declare p ts (addKnown w p)).rules = w.rules := (declare_rows p ts (addKnown w p)).1.rules.trans e1.rules
    rcases runTargets_spec (fuel := fuel) hE d hd h1 h2 hXb none ts [] false
      (declare p ts (addKnown w p)) (hm.tr hrd) d1 hts (fun _ s hs => by simp at hs) with hk | a
    · exact Or.inl (hk.from ((declare_rows p ts (addKnown w p)).1.eqv.rc.trans e1.rc) hrd)
    obtain ⟨q1, q2, q3, _, q5⟩ := declare_then hbp a.frame.toPlain
    rw [if_neg (by simp)]
    refine Or.inr ⟨a.pre (fun _ => q1.toS) q5, fun p' hp' => ?_⟩
    cases hp'
    exact ⟨q2, fun _ => q3⟩

theorem engine_spec (k : Prop) (rank : Nat → Nat) (R : Nat) (d : Defects)
    (hd : nc = false → d.oobRecordsDepsOnCaller = false ∧ d.oobRebuildsDepsNotTarget = false) :
    ∀ n, ESpecG k nc rank R (engine d n)
  | 0 => by
    intro X cx ts w b _ _ _ hi _ _ _ _
    obtain ⟨_, _, _, _, c5, c6⟩ := exit_codes
    exact Or.inr ⟨Post.nonzero hi c5 c6, fun p _ => ⟨RowsDecl.refl _ _ _, fun h => absurd h c5⟩⟩
  | n + 1 => ifchangeWith_spec (engine_spec k rank R d hd n) d hd (n + 1)

end RedoModel.Deps.S
