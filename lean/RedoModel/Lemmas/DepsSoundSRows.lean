import RedoModel.Lemmas.DepsSoundSDirty
/-! C01 on the full engine model, with and without `redo-stamp`: the one induction, over `InvN nc`. Worlds equal up to what the invariant does not look at, and the frames of the row operations and of a build. -/
namespace RedoModel.Deps.S

/-! ### The invariant does not look at `row`, `nextRow`, `trace`: worlds equal up to those (`WEqv`). -/

structure WEqv (w w' : World) : Prop where
  fs : w'.fs = w.fs
  deps : w'.deps = w.deps
  rules : w'.rules = w.rules
  progs : w'.progs = w.progs
  clock : w'.clock = w.clock
  rc : w'.runCounter = w.runCounter
  gen : ∀ x, (w'.recs x).isGenerated = (w.recs x).isGenerated
  ovr : ∀ x, (w'.recs x).isOverride = (w.recs x).isOverride
  checked : ∀ x, (w'.recs x).checked = (w.recs x).checked
  changed : ∀ x, (w'.recs x).changed = (w.recs x).changed
  failed : ∀ x, (w'.recs x).failed = (w.recs x).failed
  stamp : ∀ x, (w'.recs x).stamp = (w.recs x).stamp
  csum : ∀ x, (w'.recs x).csum = (w.recs x).csum

theorem WEqv.toPlain {w w'} (h : WEqv w w') : Deps.WEqv w w' :=
  ⟨h.fs, h.deps, h.rules, h.progs, h.clock, h.rc, h.gen, h.ovr, h.checked, h.changed, h.failed, h.stamp, h.csum⟩

theorem _root_.RedoModel.Deps.WEqv.toS {w w'} (h : Deps.WEqv w w') : WEqv w w' :=
  ⟨h.fs, h.deps, h.rules, h.progs, h.clock, h.rc, h.gen, h.ovr, h.checked, h.changed, h.failed, h.stamp, h.csum⟩

theorem WEqv.symm {w w'} (h : WEqv w w') : WEqv w' w := h.toPlain.symm.toS

theorem WEqv.trans {a b c} (h1 : WEqv a b) (h2 : WEqv b c) : WEqv a c := (h1.toPlain.trans h2.toPlain).toS

theorem WEqv.readStamp {w w'} (h : WEqv w w') (f) : readStamp w' f = readStamp w f := readStamp_congr (congrFun h.fs f)
theorem WEqv.existsF {w w'} (h : WEqv w w') (f) : existsF w' f = existsF w f := existsF_congr (congrFun h.fs f)
theorem WEqv.contentOf {w w'} (h : WEqv w w') (f) : contentOf w' f = contentOf w f := contentOf_congr (congrFun h.fs f)
theorem WEqv.scriptAt {w w'} (h : WEqv w w') (f) : scriptAt w' f = scriptAt w f := scriptAt_congr (congrFun h.fs f) h.progs
theorem WEqv.recCur {w w'} (h : WEqv w w') (f) : RecCur w' f ↔ RecCur w f := h.toPlain.recCur f

theorem WEqv.detectS {w w'} (h : WEqv w w') (M f) : DetectS w' M f ↔ DetectS w M f := h.toPlain.detectS M f

theorem WEqv.verR {w w'} (h : WEqv w w') (R f) : VerR w' R f ↔ VerR w R f := h.toPlain.verR R f

theorem WEqv.good {w w'} (h : WEqv w w') (R f) : Good w' R f ↔ Good w R f := h.toPlain.good R f

theorem WEqv.mof {w w'} (h : WEqv w w') (f) : Mof (w'.recs f) = Mof (w.recs f) := h.toPlain.mof f

theorem WEqv.hasRow {w w'} (h : WEqv w w') (t s m) : HasRow w' t s m ↔ HasRow w t s m := h.toPlain.hasRow t s m

theorem WEqv.upToDate {w w'} (h : WEqv w w') {f} (hu : UpToDateD w f) : UpToDateD w' f := h.toPlain.upToDate hu

theorem WEqv.recTruth {w w'} (h : WEqv w w') {t} (ht : RecTruth w t) : RecTruth w' t :=
  ht.mono (by rw [h.rules]) (fun _ _ => (h.hasRow _ _ _).2) (h.mof t) (h.contentOf t)
    (fun dof _ _ => ⟨Or.inl ⟨h.existsF dof, h.scriptAt dof⟩, (h.detectS _ dof).2⟩)
    (fun d _ => Hdet.same ⟨h.gen d, h.ovr d, h.checked d, h.changed d, h.failed d, h.stamp d, h.csum d⟩ (congrFun h.fs d))

theorem WEqv.base {rank R w w'} (h : WEqv w w') (hb : BaseN nc rank R X w) : BaseN nc rank R X w' := by
  refine BaseN.of_recOk (by rw [h.rules]; exact hb.rulesOk) ⟨by rw [h.rules]; exact hb.ranked.1, ?_⟩
    (by rw [h.progs]; exact hb.plainProgs)
    (fun f => (hb.recOk f).congr ⟨h.gen f, h.ovr f, h.checked f, h.changed f, h.failed f, h.stamp f, h.csum f⟩
      (congrFun h.fs f) h.rules (Nat.le_of_eq h.clock.symm))
    (by rw [h.fs]; exact hb.fs0) (by rw [h.deps]; exact hb.rowsLt) (by rw [h.deps, h.rules]; exact hb.cPlain) ?_
    (fun hc => (hb.nostamp hc).of_eq h.csum h.progs)
  · rw [h.rules, h.fs, h.progs]; exact hb.ranked.2
  · intro t hx hrc hg
    exact h.recTruth (hb.recA t (hx.imp id (h.verR R t).1) ((h.recCur t).1 hrc) (by rw [← h.gen]; exact hg))

theorem WEqv.inv {rank R w w'} (h : WEqv w w') (hi : InvN nc rank R X w) : InvN nc rank R X w' := by
  refine ⟨h.base hi.base, hi.Rpos, ?_⟩
  intro f hv
  obtain ⟨h1, h2, h3⟩ := hi.ver f ((h.verR R f).1 hv)
  refine ⟨(h.recCur f).2 h1, h.upToDate h2, ?_⟩
  rw [h.gen, h.deps]
  intro hg d hd hdt
  exact ⟨fun hm => (h.good R _).2 ((h3 hg d hd hdt).1 hm), fun hm => by rw [h.existsF]; exact (h3 hg d hd hdt).2 hm⟩

theorem BaseN.weaken {rank R w} {X X' : Nat → Prop} (hb : BaseN nc rank R X w) (h : ∀ x, X x → X' x) : BaseN nc rank R X' w :=
  { hb with recA := fun t hx => hb.recA t (hx.imp (fun hn hxt => hn (h t hxt)) id) }

theorem InvN.weaken {rank R w} {X X' : Nat → Prop} (hi : InvN nc rank R X w) (h : ∀ x, X x → X' x) : InvN nc rank R X' w :=
  ⟨hi.base.weaken h, hi.Rpos, hi.ver⟩

theorem WEqv.addKnown (w : World) (f : Nat) : WEqv w (addKnown w f) := (Deps.WEqv.addKnown w f).toS

theorem WEqv.ev (w : World) (e : Ev) : WEqv w (ev w e) := (Deps.WEqv.ev w e).toS

/-! ### Operations on the rows of a target under construction (`zapDeps1`, `addDep`): frame `RowOp`. -/

/-- `w'` is `w` up to `row`/`nextRow`/`trace` and the rows whose target is `t`. -/
structure RowOp (t : Nat) (w w' : World) : Prop where
  eqv : WEqv w { w' with deps := w.deps }
  rows : ∀ d : Dep, d.target ≠ t → (d ∈ w'.deps ↔ d ∈ w.deps)

theorem RowOp.toPlain {t w w'} (h : RowOp t w w') : Deps.RowOp t w w' := ⟨h.eqv.toPlain, h.rows⟩

theorem _root_.RedoModel.Deps.RowOp.toS {t w w'} (h : Deps.RowOp t w w') : RowOp t w w' := ⟨h.eqv.toS, h.rows⟩

theorem RowOp.of_eqv {t : Nat} {w w' : World} (h : WEqv w w') : RowOp t w w' :=
  ⟨{ h with deps := rfl }, fun _ _ => by rw [h.deps]⟩

theorem RowOp.fs {t w w'} (h : RowOp t w w') : w'.fs = w.fs := h.eqv.fs
theorem RowOp.rules {t w w'} (h : RowOp t w w') : w'.rules = w.rules := h.eqv.rules
theorem RowOp.progs {t w w'} (h : RowOp t w w') : w'.progs = w.progs := h.eqv.progs
theorem RowOp.clock {t w w'} (h : RowOp t w w') : w'.clock = w.clock := h.eqv.clock

theorem RowOp.verR {t w w'} (h : RowOp t w w') (R f) : VerR w' R f ↔ VerR w R f := h.eqv.verR R f
theorem RowOp.recCur {t w w'} (h : RowOp t w w') (f) : RecCur w' f ↔ RecCur w f := h.eqv.recCur f
theorem RowOp.good {t w w'} (h : RowOp t w w') (R f) : Good w' R f ↔ Good w R f := h.eqv.good R f
theorem RowOp.existsF {t w w'} (h : RowOp t w w') (f) : existsF w' f = existsF w f := h.eqv.existsF f
theorem RowOp.contentOf {t w w'} (h : RowOp t w w') (f) : contentOf w' f = contentOf w f := h.eqv.contentOf f
theorem RowOp.readStamp {t w w'} (h : RowOp t w w') (f) : readStamp w' f = readStamp w f := h.eqv.readStamp f
theorem RowOp.scriptAt {t w w'} (h : RowOp t w w') (f) : scriptAt w' f = scriptAt w f := h.eqv.scriptAt f

theorem RowOp.hasRow {t w w'} (h : RowOp t w w') {x s m} (hx : x ≠ t) : HasRow w' x s m ↔ HasRow w x s m :=
  h.toPlain.hasRow hx

/-- All fields but `row` agree. -/
structure Flds (a b : Rec) : Prop where
  gen : a.isGenerated = b.isGenerated
  ovr : a.isOverride = b.isOverride
  checked : a.checked = b.checked
  changed : a.changed = b.changed
  failed : a.failed = b.failed
  stamp : a.stamp = b.stamp
  csum : a.csum = b.csum

theorem Flds.toPlain {a b} (h : Flds a b) : Deps.Flds a b :=
  ⟨h.gen, h.ovr, h.checked, h.changed, h.failed, h.stamp, h.csum⟩

theorem _root_.RedoModel.Deps.Flds.toS {a b} (h : Deps.Flds a b) : Flds a b :=
  ⟨h.gen, h.ovr, h.checked, h.changed, h.failed, h.stamp, h.csum⟩

theorem Flds.refl (a : Rec) : Flds a a := ⟨rfl, rfl, rfl, rfl, rfl, rfl, rfl⟩
theorem Flds.of_eq {a b : Rec} (h : a = b) : Flds a b := h ▸ Flds.refl a
theorem Flds.symm {a b : Rec} (h : Flds a b) : Flds b a := h.toPlain.symm.toS

theorem Flds.trans {a b c : Rec} (h1 : Flds a b) (h2 : Flds b c) : Flds a c := (h1.toPlain.trans h2.toPlain).toS

theorem Inv_rowOp {rank R X t w w'} (hi : InvN nc rank R X w) (h : RowOp t w w') (hX : X t) (hng : ¬ Good w R t)
    (hrowsLt : ∀ d ∈ w'.deps, rank d.source < rank d.target)
    (hcPlain : ∀ d ∈ w'.deps, d.modeM = false → w'.rules d.source = []) : InvN nc rank R X w' := by
  have hi1 : InvN nc rank R X { w' with deps := w.deps } := h.eqv.inv hi
  have hng1 : ¬ Good { w' with deps := w.deps } R t := fun hg => hng ((h.eqv.good R t).1 hg)
  have hnv1 : ¬ VerR { w' with deps := w.deps } R t := fun hv => hng1 (Or.inl hv)
  have off : OffT t { w' with deps := w.deps } w' :=
    ⟨rfl, rfl, fun _ _ => rfl, fun _ => rfl, fun _ _ => rfl, fun d hd => h.rows d hd, Nat.le_refl _, rfl⟩
  refine ⟨Base_upd hi1.base off ((hi1.base.recOk t).congr (.refl _) rfl rfl (Nat.le_refl _)) (fun _ _ hx => hx) hrowsLt hcPlain
    (hdet_quiet rfl rfl (Or.inl rfl) (fun hs => hs) (fun hs => hs)) ?_ (fun hc => (hi1.base.nostamp hc).csum t), hi.Rpos,
    Ver_upd hi1 off hng1 (fun hv => absurd hv hnv1)⟩
  rintro (hx | hv)
  · exact absurd hX hx
  · exact absurd hv hnv1

theorem RowOp.zapDeps1 (w : World) (t : Nat) : RowOp t w (zapDeps1 w t) := (Deps.RowOp.zapDeps1 w t).toS

theorem Inv_zapDeps1 {rank R X t w} (hi : InvN nc rank R X w) (hX : X t) (hng : ¬ Good w R t) :
    InvN nc rank R X (zapDeps1 w t) :=
  Inv_rowOp hi (RowOp.zapDeps1 w t) hX hng
    (zapDeps1_rows (P := fun d => rank d.source < rank d.target) (fun _ h => h) hi.base.rowsLt)
    (zapDeps1_rows (P := fun d => d.modeM = false → w.rules d.source = []) (fun _ h => h) hi.base.cPlain)

theorem RowOp.addDep (w : World) (t s : Nat) (m : Bool) : RowOp t w (addDep w t s m) := (Deps.RowOp.addDep w t s m).toS

theorem addDep_hasRow_new (w : World) (t s : Nat) (m : Bool) : HasRow (addDep w t s m) t s m :=
  Deps.addDep_hasRow_new w t s m

theorem addDep_hasRow_keep {w : World} {t s : Nat} {m : Bool} {x s' : Nat} {m' : Bool} (h : HasRow w x s' m')
    (hne : ¬ (x = t ∧ s' = s)) : HasRow (addDep w t s m) x s' m' :=
  Deps.addDep_hasRow_keep h hne

theorem Inv_addDep {rank R X t w s m} (hi : InvN nc rank R X w) (hX : X t) (hng : ¬ Good w R t)
    (hlt : rank s < rank t) (hpl : m = false → w.rules s = []) : InvN nc rank R X (addDep w t s m) := by
  have hro := RowOp.addDep w t s m
  refine Inv_rowOp hi hro hX hng (fun d hd => ?_) (fun d hd hm => ?_)
  · rcases addDep_mem hd with rfl | ⟨h, _⟩
    · exact hlt
    · exact hi.base.rowsLt d h
  · rw [hro.rules]
    rcases addDep_mem hd with rfl | ⟨h, _⟩
    · exact hpl hm
    · exact hi.base.cPlain d h hm

/-- A row declared during the current build of `t` (`U`: not marked for deletion). -/
def HasRowU (w : World) (t s : Nat) (m : Bool) : Prop :=
  ∃ d ∈ w.deps, d.target = t ∧ d.source = s ∧ d.modeM = m ∧ d.deleteMe = false

theorem HasRowU.hasRow {w t s m} (h : HasRowU w t s m) : HasRow w t s m :=
  Deps.HasRowU.hasRow h

/-! ### Frame of building files of rank `< b` (`BExt`), and conversions from the smaller frames. -/

/-- Frame of a command that builds files of rank `< b` on behalf of `po` (whose rows it may extend). -/
structure BExt (rank : Nat → Nat) (R b : Nat) (po : Option Nat) (w w' : World) : Prop where
  rules : w'.rules = w.rules
  progs : w'.progs = w.progs
  plain : ∀ x, w.rules x = [] → w'.fs x = w.fs x
  above : ∀ x, b ≤ rank x → w'.fs x = w.fs x ∧
    (w'.recs x).isGenerated = (w.recs x).isGenerated ∧ (w'.recs x).isOverride = (w.recs x).isOverride ∧
    (w'.recs x).checked = (w.recs x).checked ∧ (w'.recs x).changed = (w.recs x).changed ∧
    (w'.recs x).failed = (w.recs x).failed ∧ (w'.recs x).stamp = (w.recs x).stamp ∧
    (w'.recs x).csum = (w.recs x).csum
  rowsAbove : ∀ d : Dep, b ≤ rank d.target → po ≠ some d.target → (d ∈ w'.deps ↔ d ∈ w.deps)
  ver : ∀ x, VerR w R x → VerR w' R x ∧ contentOf w' x = contentOf w x ∧
    (w'.recs x).isGenerated = (w.recs x).isGenerated
  stat : ∀ x, RecCur w x → (w.recs x).isGenerated = false →
    RecCur w' x ∧ (w'.recs x).isGenerated = false ∧ w'.fs x = w.fs x
  clock : w.clock ≤ w'.clock
  rc : w'.runCounter = w.runCounter

theorem BExt.toPlain {rank R b po w w'} (h : BExt rank R b po w w') : Deps.BExt rank R b po w w' :=
  ⟨h.rules, h.progs, h.plain, h.above, h.rowsAbove, h.ver, h.stat, h.clock, h.rc⟩

theorem _root_.RedoModel.Deps.BExt.toS {rank R b po w w'} (h : Deps.BExt rank R b po w w') : BExt rank R b po w w' :=
  ⟨h.rules, h.progs, h.plain, h.above, h.rowsAbove, h.ver, h.stat, h.clock, h.rc⟩

theorem BExt.refl (rank R b po w) : BExt rank R b po w w := (Deps.BExt.refl rank R b po w).toS

theorem BExt.trans {rank R b po w w' w''} (h1 : BExt rank R b po w w') (h2 : BExt rank R b po w' w'') :
    BExt rank R b po w w'' := (h1.toPlain.trans h2.toPlain).toS

theorem BExt.mono {rank R b b' po w w'} (h : BExt rank R b po w w') (hb : b ≤ b') : BExt rank R b' po w w' :=
  (h.toPlain.mono hb).toS

theorem BExt.good {rank R b po w w'} (h : BExt rank R b po w w') {x} (hg : Good w R x) : Good w' R x := h.toPlain.good hg

theorem DExt.toBExt {rank R b po w w'} (h : DExt rank R b w w') : BExt rank R b po w w' := by
  obtain ⟨hfs, hdeps, hrc, hclock, _, hprogs, hrules⟩ := h.same
  refine ⟨hrules, hprogs, fun x _ => congrFun hfs x, fun x hx => ?_, fun d _ _ => by rw [hdeps],
    fun x hv => ⟨(h.ver x hv).1, contentOf_congr (congrFun hfs x), (h.ver x hv).2⟩,
    fun x hc hg => ⟨(h.stat x hc hg).1, (h.stat x hc hg).2, congrFun hfs x⟩, Nat.le_of_eq hclock.symm, hrc⟩
  · rw [h.above x hx]; exact ⟨congrFun hfs x, rfl, rfl, rfl, rfl, rfl, rfl, rfl⟩

end RedoModel.Deps.S
