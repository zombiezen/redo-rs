import RedoModel.Lemmas.DepsSoundSRows
/-! C01 on the full engine model, with and without `redo-stamp`: the one induction, over `InvN nc`. What a job does before and after its script: re-stamped records, `findDoFile`, nested commands, `recordNewState`. -/
namespace RedoModel.Deps.S

/-! ### `ssGuard` is a no-op; `OffT` and `WEqv` as `BExt` frames. -/

theorem ssGuard_noop {rank R X w} (hb : BaseN nc rank R X w) (cx : Ctx) (t : Nat) :
    ssGuard cx t (w.recs t) w = (w.recs t, w) := by
  -- no target is an override, and the stamp of a generated target's record is that of its file
  refine if_neg fun h => ?_
  simp only [Bool.and_eq_true, Bool.or_eq_true, bne_iff_ne, ne_eq] at h
  obtain ⟨⟨hg, hne⟩, ho⟩ := h
  rcases ho with ho | ho
  · rw [hb.noOvr t] at ho; cases ho
  · cases hfs : w.fs t with
    | none => exact hne (readStamp_missing.2 hfs)
    | some n =>
      obtain ⟨rest, hst⟩ := hb.genMs t hg n hfs
      have hrs : readStamp w t = .st n.ms n.rest := by unfold readStamp; rw [hfs]
      rw [hst, hrs] at ho
      simp [detectOverride] at ho

theorem OffT.toBExt {rank R t w w' b po} (h : OffT t w w') (hlt : rank t < b)
    (hver : VerR w R t → VerR w' R t ∧ contentOf w' t = contentOf w t ∧
      (w'.recs t).isGenerated = (w.recs t).isGenerated)
    (hstat : RecCur w t → (w.recs t).isGenerated = false →
      RecCur w' t ∧ (w'.recs t).isGenerated = false ∧ w'.fs t = w.fs t) : BExt rank R b po w w' :=
  (h.toPlain.toBExt hlt hver hstat).toS

theorem WEqv.toBExt {rank R b po w w'} (h : WEqv w w') : BExt rank R b po w w' := h.toPlain.toBExt.toS

theorem WEqv.setRec_self (w : World) (t : Nat) : WEqv w (setRec w t (w.recs t)) := (Deps.WEqv.setRec_self w t).toS

theorem NoFail.eqv {R w w'} (h : WEqv w w') (hn : NoFail R w) : NoFail R w' := fun f => by rw [h.failed]; exact hn f

/-! ### `setStatic` on an existing file keeps the invariant and makes the file good. -/

theorem setStatic_recOk {rank R X w t} (hb : BaseN nc rank R X w) (hex : existsF w t = true) :
    RecOk R t (setRec w t (setStatic w t (w.recs t) R)) := by
  have o := hb.recOk t
  obtain ⟨n, hn⟩ := existsF_eq_true.1 hex
  have hrs : readStamp w t = .st n.ms n.rest := by unfold readStamp; rw [hn]
  constructor <;>
    simp only [setRec_recs_self, setRec_fs, setRec_rules, setRec_clock, setStatic_failed, setStatic_ovr,
      setStatic_gen, setStatic_stamp, setStatic_checked, setStatic_csum]
  case chLe =>
    intro ch h; rw [setStatic_changed] at h
    split at h
    · exact o.chLe ch h
    · cases h; exact Nat.le_refl _
  case ckLe => exact o.ckLe
  case csumFile => intro _ h; cases h
  case csumEx => intro _ _; rw [hrs]; simp
  case srcNoCsum => exact fun _ => trivial
  case csumCh => intro h; exact absurd rfl h
  case srcNotGen => exact fun _ => trivial
  case rec0 => intro e; subst e; rw [hb.fs0] at hn; cases hn
  case stampCh =>
    intro _; rw [setStatic_changed]
    split
    · rename_i h; exact o.stampCh (by rw [h]; simp)
    · simp
  case staticEx => intro _ _; rw [hrs]; simp
  case genMs => intro h; cases h
  case fsB => exact o.fsB
  case stB =>
    intro ms rest h
    rw [hrs] at h; cases h
    refine ⟨o.fsB n hn, fun n' hn' => ?_⟩
    rw [hn] at hn'; cases hn'
    exact Or.inr ⟨rfl, Nat.le_refl _⟩
  case ckFail => exact fun _ => trivial
  case markFail => exact fun _ => Or.inl trivial
  case flLe => intro k h; cases h

theorem setFailed_recOk {rank R X w t} (hi : InvN nc rank R X w) (hng : ¬ Good w R t)
    (hpl : w.rules t = [] → existsF w t = false) :
    RecOk R t (setRec w t (setFailed w t (w.recs t) R)) := by
  have hb := hi.base
  have o := hb.recOk t
  constructor <;>
    simp only [setRec_recs_self, setRec_fs, setRec_rules, setRec_clock, setFailed_failed,
      setFailed_stamp, setFailed_checked, setFailed_csum, setFailed_gen]
  case chLe =>
    intro ch h; rw [setFailed_changed] at h
    split at h
    · exact o.chLe ch h
    · cases h; exact Nat.le_refl _
  case ckLe => exact o.ckLe
  case csumFile => exact o.csumFile
  case csumEx => intro _ h; cases h
  case srcNoCsum => exact o.srcNoCsum
  case csumCh =>
    intro h; rw [setFailed_changed]; split
    · exact o.csumCh h
    · simp
  case noOvr => exact setFailed_ovr w t _ R o.noOvr
  case srcNotGen =>
    intro h
    have := hpl h
    rw [readStamp_missing.2 (existsF_eq_false.1 this)]; rfl
  case rec0 => exact fun _ => Or.inl (by simp)
  case stampCh =>
    intro _; rw [setFailed_changed]
    split
    · rename_i h; exact o.stampCh (by rw [h]; simp)
    · simp
  case staticEx => intro h; cases h
  case genMs =>
    intro _ n hn
    exact ⟨n.rest, by unfold readStamp; rw [hn]⟩
  case fsB => exact o.fsB
  case stB =>
    intro ms rest h
    cases hn : w.fs t with
    | none => rw [readStamp_missing.2 hn] at h; cases h
    | some n =>
      have hrs : readStamp w t = .st n.ms n.rest := by unfold readStamp; rw [hn]
      rw [hrs] at h; cases h
      exact ⟨o.fsB n hn, fun n' hn' => by cases hn'; exact Or.inr ⟨rfl, Nat.le_refl _⟩⟩
  case ckFail =>
    intro h
    exact absurd (Or.inl ⟨hb.ckFail t h, Or.inl h⟩) hng
  case markFail => exact fun _ => Or.inr trivial
  case flLe => intro k h; cases h; exact Nat.le_refl _

theorem setFailed_spec {rank R w w' t b po} {X X' : Nat → Prop} (hi : InvN nc rank R X w) (hng : ¬ Good w R t)
    (hX : ∀ u, u ≠ t → ¬ X' u → ¬ X u) (off : OffT t w w') (hfs : w'.fs t = w.fs t)
    (hsub : ∀ d ∈ w'.deps, d ∈ w.deps) (hrec : Flds (w'.recs t) (setFailed w t (w.recs t) R))
    (hpl : w.rules t = [] → existsF w t = false) (hlt : rank t < b) :
    InvN nc rank R X' w' ∧ BExt rank R b po w w' ∧ (w'.recs t).failed = some R := by
  have hfail : (w'.recs t).failed = some R := by rw [hrec.failed]; rfl
  have hok : RecOk R t w' :=
    (setFailed_recOk hi hng hpl).congr (by simpa using hrec.toPlain) hfs off.rules off.clock
  have hdet : ∀ u, u ≠ t → RecCur w u → (w.recs u).isGenerated = true → HasRow w u t true →
      Hdet w w' t (Mof (w.recs u)) := by
    by_cases hs : (w.recs t).stamp = some (readStamp w t)
    · refine hdet_quiet (contentOf_congr hfs) ?_ (Or.inl (by rw [hrec.csum, setFailed_csum])) (fun h => absurd hs h) (fun h => ?_)
      · rw [hrec.changed, setFailed_changed, if_pos hs]
      · have hm : readStamp w t = .missing := by
          have := h.2.2; rw [hs] at this; exact Option.some.inj this
        refine ⟨by rw [hfail]; simp, by rw [hrec.gen, setFailed_gen, hm]; rfl, by rw [hrec.stamp, setFailed_stamp, hm]⟩
    · exact hdet_loud hi hng (by rw [hrec.changed, setFailed_changed, if_neg hs])
  have hb' := Base_upd (X' := X') hi.base off hok hX (fun d hd => hi.base.rowsLt d (hsub d hd))
    (fun d hd hm => by rw [off.rules]; exact hi.base.cPlain d (hsub d hd) hm) hdet
    (fun _ hrc _ => by rw [hrc.1] at hfail; cases hfail)
    (fun hc => by rw [hrec.csum, setFailed_csum]; exact (hi.base.nostamp hc).csum t)
  exact ⟨⟨hb', hi.Rpos, Ver_upd hi off hng (fun hv => by rw [hv.1] at hfail; cases hfail)⟩,
    off.toBExt hlt (fun hv => absurd (Or.inl hv) hng) (fun hc hg => absurd (Or.inr ⟨hc, hg⟩) hng), hfail⟩

theorem setStatic_spec' {rank R w w' t b po} {X X' : Nat → Prop} (hi : InvN nc rank R X w) (hng : ¬ Good w R t)
    (hX : ∀ u, u ≠ t → ¬ X' u → ¬ X u) (off : OffT t w w') (hfs : w'.fs t = w.fs t)
    (hsub : ∀ d ∈ w'.deps, d ∈ w.deps) (hrec : Flds (w'.recs t) (setStatic w t (w.recs t) R))
    (hex : existsF w t = true) (hlt : rank t < b) :
    InvN nc rank R X' w' ∧ Good w' R t ∧ BExt rank R b po w w' ∧ (w'.recs t).failed = none := by
  have hfail : (w'.recs t).failed = none := by rw [hrec.failed]; rfl
  have hgen : (w'.recs t).isGenerated = false := by rw [hrec.gen]; rfl
  have hok : RecOk R t w' :=
    (setStatic_recOk hi.base hex).congr (by simpa using hrec.toPlain) hfs off.rules off.clock
  have hrs : readStamp w' t = readStamp w t := readStamp_congr hfs
  have hrc' : RecCur w' t := by
    refine ⟨hfail, ?_, by rw [hrec.stamp, hrs]; simp⟩
    rw [hrec.changed, setStatic_changed]
    split
    · rename_i h; exact hi.base.stampCh t (by rw [h]; simp)
    · simp
  have hdet : ∀ u, u ≠ t → RecCur w u → (w.recs u).isGenerated = true → HasRow w u t true →
      Hdet w w' t (Mof (w.recs u)) := by
    by_cases hs : (w.recs t).stamp = some (readStamp w t)
    · refine hdet_quiet (contentOf_congr hfs) ?_ (Or.inr (by rw [hrec.csum, setStatic_csum])) (fun h => absurd hs h)
        (fun h => absurd h (notFA_of_cur hex hs))
      rw [hrec.changed, setStatic_changed, if_pos hs]
    · exact hdet_loud hi hng (by rw [hrec.changed, setStatic_changed, if_neg hs])
  have hb' := Base_upd (X' := X') hi.base off hok hX (fun d hd => hi.base.rowsLt d (hsub d hd))
    (fun d hd hm => by rw [off.rules]; exact hi.base.cPlain d (hsub d hd) hm) hdet
    (fun _ _ hg => by rw [hgen] at hg; cases hg) (fun _ => by rw [hrec.csum, setStatic_csum])
  have hex' : existsF w' t = true := by rw [existsF_congr hfs]; exact hex
  exact ⟨⟨hb', hi.Rpos, Ver_upd hi off hng (fun _ => ⟨hrc', UpToDateD.user hgen hex', fun hg => by rw [hgen] at hg; cases hg⟩)⟩,
    Or.inr ⟨hrc', hgen⟩,
    off.toBExt hlt (fun hv => absurd (Or.inl hv) hng) (fun hc hg => absurd (Or.inr ⟨hc, hg⟩) hng), hfail⟩

theorem setStatic_spec {rank R X w t b po} (hi : InvN nc rank R X w) (hex : existsF w t = true)
    (hgg : Good w R t → (w.recs t).isGenerated = false) (hlt : rank t < b) :
    InvN nc rank R X (setRec w t (setStatic w t (w.recs t) R)) ∧
    Good (setRec w t (setStatic w t (w.recs t) R)) R t ∧
    BExt rank R b po w (setRec w t (setStatic w t (w.recs t) R)) ∧
    (NoFail R w → NoFail R (setRec w t (setStatic w t (w.recs t) R))) := by
  have hnf : ∀ w0 : World, NoFail R w0 → NoFail R (setRec w0 t (setStatic w t (w.recs t) R)) :=
    fun w0 h => NoFail.setRec h (by simp)
  by_cases hg : Good w R t
  · -- the record stays as it is, except that a checksum it still carried is dropped
    have hrc := hg.recCur hi
    have hgen := hgg hg
    have off := OffT.setRec w t (setStatic w t (w.recs t) R)
    have hch : (setStatic w t (w.recs t) R).changed = (w.recs t).changed := by
      rw [setStatic_changed, if_pos hrc.2.2]
    have hrc' : RecCur (setRec w t (setStatic w t (w.recs t) R)) t :=
      ⟨by simp, by simp only [setRec_recs_self, hch]; exact hrc.2.1, by simp⟩
    have hgood' : Good (setRec w t (setStatic w t (w.recs t) R)) R t := Or.inr ⟨hrc', by simp⟩
    have hvr : ∀ {r : Rec}, r.failed = none → r.checked = (w.recs t).checked → r.changed = (w.recs t).changed →
        ((r.failed = none ∧ (r.checked = some R ∨ r.changed = some R)) ↔ VerR w R t) := by
      intro r h1 h2 h3; unfold VerR; rw [h1, h2, h3, hrc.1]
    have hdet : ∀ u, u ≠ t → RecCur w u → (w.recs u).isGenerated = true → HasRow w u t true →
        Hdet w (setRec w t (setStatic w t (w.recs t) R)) t (Mof (w.recs u)) :=
      hdet_quiet rfl (by simp [hch]) (Or.inr (by simp)) (fun h => absurd hrc.2.2 h) (fun h => absurd hrc.1 h.1)
    have hb' := Base_upd (X' := X) hi.base off (setStatic_recOk hi.base hex) (fun _ _ h => h) hi.base.rowsLt
      hi.base.cPlain hdet (fun _ _ hgen => by simp at hgen) (fun _ => by simp)
    have hver : Ver R (setRec w t (setStatic w t (w.recs t) R)) :=
      Ver_upd_quiet hi off rfl (by simp [hgen]) (fun _ => hgood')
        (fun hv => (hvr (r := setStatic w t (w.recs t) R) (by simp) (by simp) hch).1 (by simpa [VerR] using hv))
        (fun _ => ⟨hrc', fun hg => by simp at hg⟩)
    refine ⟨⟨hb', hi.Rpos, hver⟩, hgood', off.toBExt hlt (fun hv => ⟨?_, rfl, by simp [hgen]⟩)
      (fun _ _ => ⟨hrc', by simp, rfl⟩), hnf w⟩
    have := (hvr (r := setStatic w t (w.recs t) R) (by simp) (by simp) hch).2 hv
    simpa [VerR] using this
  · obtain ⟨a1, a2, a3, _⟩ := setStatic_spec' (b := b) (po := po) hi hg (fun _ _ h => h) (OffT.setRec w t _) rfl
      (fun _ h => h) (Flds.of_eq (setRec_recs_self _ _ _)) hex hlt
    exact ⟨a1, a2, a3, hnf w⟩

theorem setStatic_flds {a b : Rec} (h : Flds a b) (w : World) (t R : Nat) :
    Flds (setStatic w t a R) (setStatic w t b R) := (Deps.setStatic_flds h.toPlain w t R).toS

theorem setFailed_flds {a b : Rec} (h : Flds a b) (w : World) (t R : Nat) :
    Flds (setFailed w t a R) (setFailed w t b R) := (Deps.setFailed_flds h.toPlain w t R).toS

/-! ### `findDoFile` keeps the invariant (the rows it adds: `findDoFile_rows`). -/

theorem findDoFile_inv {rank R X t} (hX : X t) (cs : List Nat) (w : World) (hi : InvN nc rank R X w) (hng : ¬ Good w R t)
    (hcs : ∀ c ∈ cs, rank c < rank t ∧ w.rules c = []) : InvN nc rank R X (findDoFile t cs w).2 := by
  fun_induction findDoFile t cs w with
  | case1 w => exact hi
  | case2 c cs w _ => exact Inv_addDep hi hX hng (hcs c List.mem_cons_self).1 (fun h => by cases h)
  | case3 c cs w _ ih =>
    have hro := RowOp.addDep w t c false
    exact ih (Inv_addDep (m := false) hi hX hng (hcs c List.mem_cons_self).1 (fun _ => (hcs c List.mem_cons_self).2))
      (fun h => hng ((hro.good R t).1 h))
      (fun c' hc' => ⟨(hcs c' (List.mem_cons_of_mem _ hc')).1, by rw [hro.rules]; exact (hcs c' (List.mem_cons_of_mem _ hc')).2⟩)

/-! ### Specification of nested `redo-ifchange` commands (`ESpecG`) and of the loop of a script over them. -/

/-- How the rows of the parent `p` change in a command that declares `ts`. -/
def RowsDecl (p : Nat) (ts : List Nat) (w w' : World) : Prop :=
  (∀ d ∈ w'.deps, d.target = p → d ∈ w.deps ∨ (d.modeM = true ∧ d.source ∈ ts ∧ d.deleteMe = false)) ∧
  (∀ s m, HasRowU w p s m → (s ∈ ts → m = true) → HasRowU w' p s m)

theorem BExt.good_above {rank R b po w w'} (h : BExt rank R b po w w') {t} (ht : b ≤ rank t) :
    Good w' R t ↔ Good w R t := h.toPlain.good_above ht

/-! The contract of a nested command has two switches.  `nc` (no checksums) is that of the invariant.  `k` is for killed
builds: without `k` nobody is killed (`cx.crash = none`) and a target under construction is exempt from the record clause of
the invariant; with `k` the process tree may be killed at any step, there are no checksums (a kill between `redo-stamp` and
the record is not recovered from) and every target has one .do candidate (`SingleDo`); then nothing new is exempt, because
the promise of the old record survives the row operations of the unfinished build (`KeepT_rowOp` in DepsSoundSJob), and the
outcome "killed" leaves the between-commands invariant. -/

structure KillMode (k : Prop) (nc : Bool) (crash : Option (Nat × Nat)) (w : World) : Prop where
  quiet : ¬ k → crash = none
  nocs : k → nc = true
  single : k → SingleDo w.rules

theorem KillMode.tr {k nc c w w'} (h : KillMode k nc c w) (hr : w'.rules = w.rules) : KillMode k nc c w' :=
  ⟨h.quiet, h.nocs, fun hk => hr ▸ h.single hk⟩

theorem KillMode.k {k nc c w} (h : KillMode k nc c w) {x} (hc : c = some x) : k :=
  Classical.byContradiction (fun nk => by rw [h.quiet nk] at hc; cases hc)

/-- Outcome "killed": only with `k`; the between-commands part of the invariant holds with the same exempt set. -/
def Killed (k : Prop) (nc : Bool) (rank : Nat → Nat) (R : Nat) (X : Nat → Prop) (w : World) (res : Status × World) : Prop :=
  k ∧ res.1 = CRASHED ∧ BaseN nc rank R X res.2 ∧ res.2.runCounter = w.runCounter ∧ res.2.rules = w.rules

theorem Killed.from {k nc rank R X w w0 res} (h : Killed k nc rank R X w res) (h1 : w.runCounter = w0.runCounter)
    (h2 : w.rules = w0.rules) : Killed k nc rank R X w0 res :=
  ⟨h.1, h.2.1, h.2.2.1, h.2.2.2.1.trans h1, h.2.2.2.2.trans h2⟩

theorem Killed.now {k nc c rank R X w} (hm : KillMode k nc c w) {x} (hc : c = some x) (hi : InvN nc rank R X w) :
    Killed k nc rank R X w (CRASHED, w) := ⟨hm.k hc, rfl, hi.base, rfl, rfl⟩

/-- What a step from `w` guarantees when it is not killed: the invariant, the frame of builds of rank `< b` on behalf of
`po`, what status 0 means (`G`), no failure recorded on status 0, a status other than "killed". -/
abbrev Post (nc : Bool) (rank : Nat → Nat) (R : Nat) (X : Nat → Prop) (b : Nat) (po : Option Nat) (G : World → Prop)
    (w : World) (res : Status × World) : Prop :=
  StepPost (InvN nc rank R X) (BExt rank R b po) (NoFail R) G w res

def Out (k : Prop) (nc : Bool) (rank : Nat → Nat) (R : Nat) (X : Nat → Prop) (b : Nat) (po : Option Nat) (G : World → Prop)
    (w : World) (res : Status × World) : Prop :=
  Killed k nc rank R X w res ∨ Post nc rank R X b po G w res

section
variable {k : Prop} {nc : Bool} {rank : Nat → Nat} {R : Nat} {X : Nat → Prop} {b : Nat} {po : Option Nat}
  {G G' : World → Prop} {w w0 : World} {res : Status × World}

theorem Post.nonzero (hi : InvN nc rank R X w) {rv : Status} (h0 : rv ≠ 0) (hc : rv ≠ CRASHED) :
    Post nc rank R X b po G w (rv, w) :=
  StepPost.fail hi (BExt.refl _ _ _ _ _) h0 hc

theorem Out.mono (h : Out k nc rank R X b po G w res) (hG : res.1 = 0 → G res.2 → G' res.2) :
    Out k nc rank R X b po G' w res :=
  h.imp id (fun hp => hp.mono hG)

theorem Out.pre (h : Out k nc rank R X b po G w res) (hb : BExt rank R b po w0 w) (hn : NoFail R w0 → NoFail R w) :
    Out k nc rank R X b po G w0 res :=
  h.imp (fun hk => hk.from hb.rc hb.rules) (fun hp => hp.pre hb.trans hn)

theorem Out.unkilled (h : Out False nc rank R X b po G w res) : Post nc rank R X b po G w res :=
  h.resolve_left (fun hk => hk.1)

theorem KillMode.none {c : Option (Nat × Nat)} (h : c = none) : KillMode False nc c w := ⟨fun _ => h, False.elim, False.elim⟩

end

structure NestedOk (nc : Bool) (rank : Nat → Nat) (R : Nat) (X : Nat → Prop) (b : Nat) (po : Option Nat) (ts : List Nat)
    (w : World) (res : Status × World) : Prop where
  post : Post nc rank R X b po (fun w' => ∀ t ∈ ts, Good w' R t) w res
  rows : ∀ p, po = some p → RowsDecl p ts w res.2 ∧ (res.1 = 0 → ∀ d ∈ ts, HasRowU res.2 p d true)

/-- In unlocked mode (second phase of `redo-unlocked`, which only a checksum brings about) the command does not act on
behalf of the parent. -/
def ESpecG (k : Prop) (nc : Bool) (rank : Nat → Nat) (R : Nat) (E : Engine) : Prop :=
  ∀ (X : Nat → Prop) (cx : Ctx) (ts : List Nat) (w : World) (b : Nat),
    cx.runid = R → cx.isRedo = false → KillMode k nc cx.crash w →
    InvN nc rank R X w → (∀ t ∈ ts, rank t < b) → (∀ x, X x → b ≤ rank x) →
    (cx.unlocked = false → ∀ p, cx.parent = some p → b ≤ rank p ∧ (X p ∨ k) ∧ ¬ Good w R p) →
    (nc = true → cx.unlocked = false) →
    Killed k nc rank R X w (E.ifchangeCmd cx ts w) ∨
    NestedOk nc rank R X b (if cx.unlocked = true then none else cx.parent) ts w (E.ifchangeCmd cx ts w)

theorem ESpecG.unkilled {nc rank R E} (h : ESpecG False nc rank R E) (X : Nat → Prop) (cx : Ctx) (ts : List Nat) (w : World)
    (b : Nat) (h1 : cx.runid = R) (h2 : cx.isRedo = false) (h4 : cx.crash = none) (hi : InvN nc rank R X w)
    (hts : ∀ t ∈ ts, rank t < b) (hXb : ∀ x, X x → b ≤ rank x)
    (hpar : cx.unlocked = false → ∀ p, cx.parent = some p → b ≤ rank p ∧ X p ∧ ¬ Good w R p)
    (hun : nc = true → cx.unlocked = false) :
    NestedOk nc rank R X b (if cx.unlocked = true then none else cx.parent) ts w (E.ifchangeCmd cx ts w) :=
  (h X cx ts w b h1 h2 (KillMode.none h4) hi hts hXb
    (fun hu p hp => ⟨(hpar hu p hp).1, Or.inl (hpar hu p hp).2.1, (hpar hu p hp).2.2⟩) hun).resolve_left (fun hk => hk.1)

structure LoopOk (nc : Bool) (rank : Nat → Nat) (R : Nat) (X : Nat → Prop) (t : Nat) (cs : List (List Nat)) (w : World)
    (res : Status × World) : Prop where
  post : Post nc rank R X (rank t) (some t) (fun w' => ∀ d ∈ cs.flatten, Good w' R d ∧ HasRowU w' t d true) w res
  decl : RowsDecl t cs.flatten w res.2

theorem nested_spec {k nc rank R E} (hE : ESpecG k nc rank R E) {X : Nat → Prop} {t : Nat} {cx' : Ctx}
    {cr : Option (Nat × Nat)} (h1 : cx'.runid = R) (h2 : cx'.isRedo = false) (h3 : cx'.unlocked = false)
    (h4 : cx'.crash = cr) (h5 : cx'.parent = some t) (hX : X t ∨ k) (hXa : ∀ x, X x → rank t ≤ rank x)
    (c : List Nat) (w : World) (hm : KillMode k nc cr w) (hi : InvN nc rank R X w) (hng : ¬ Good w R t)
    (hc : ∀ d ∈ c, rank d < rank t) :
    Killed k nc rank R X w (E.ifchangeCmd cx' c w) ∨ NestedOk nc rank R X (rank t) (some t) c w (E.ifchangeCmd cx' c w) := by
  have := hE X cx' c w (rank t) h1 h2 (h4 ▸ hm) hi hc hXa
    (fun _ p hp => by rw [h5] at hp; cases hp; exact ⟨Nat.le_refl _, hX, hng⟩) (fun _ => h3)
  simpa only [h3, h5, Bool.false_eq_true, if_false] using this

theorem cmds_spec {k nc rank R E} (hE : ESpecG k nc rank R E) {X : Nat → Prop} {t : Nat} {cx cx' : Ctx}
    (h1 : cx'.runid = R) (h2 : cx'.isRedo = false) (h3 : cx'.unlocked = false) (h4 : cx'.crash = cx.crash)
    (h5 : cx'.parent = some t) (hX : X t ∨ k) (hXa : ∀ x, X x → rank t ≤ rank x)
    (cs : List (List Nat)) (j : Nat) (w : World) : KillMode k nc cx.crash w → InvN nc rank R X w → ¬ Good w R t →
      (∀ c ∈ cs, ∀ d ∈ c, rank d < rank t) →
      Killed k nc rank R X w (runScript.cmds E cx t cx' cs j w) ∨
      LoopOk nc rank R X t cs w (runScript.cmds E cx t cx' cs j w) := by
  fun_induction runScript.cmds E cx t cx' cs j w with
  | case1 j w =>
    intro hm hi _ _
    by_cases hc : cx.crash = some (t, j)
    · rw [if_pos hc]; exact Or.inl (Killed.now hm hc hi)
    · rw [if_neg hc]
      exact Or.inr
        ⟨⟨hi, BExt.refl _ _ _ _ _, fun _ d hd => by simp at hd, fun h _ => h, zero_ne_crashed⟩, RowsDecl.refl _ _ _⟩
  | case2 c cs j w hc => exact fun hm hi _ _ => Or.inl (Killed.now hm hc hi)
  | case3 c cs j w _ w1 he ih =>
    intro hm hi hng hr
    have hs := nested_spec hE h1 h2 h3 h4 h5 hX hXa c w hm hi hng (hr c (by simp))
    rw [he] at hs
    rcases hs with hk | c1
    · exact absurd hk.2.1 zero_ne_crashed
    obtain ⟨hrd, hhas⟩ := c1.rows t rfl
    have hb1 := c1.post.frame
    have hng1 : ¬ Good w1 R t := fun h => hng ((hb1.good_above (Nat.le_refl _)).1 h)
    rcases ih (hm.tr hb1.rules) c1.post.inv hng1 (fun c' hc' => hr c' (List.mem_cons_of_mem _ hc')) with hk | a
    · exact Or.inl (hk.from hb1.rc hb1.rules)
    refine Or.inr ⟨(a.post.mono (fun _ hg d hd => ?_)).pre hb1.trans (fun h0 => c1.post.keep h0 rfl),
      by rw [List.flatten_cons]; exact RowsDecl.trans hrd a.decl⟩
    rw [List.flatten_cons, List.mem_append] at hd
    rcases hd with hd | hd
    · exact ⟨a.post.frame.good (c1.post.ok rfl d hd), a.decl.2 d true (hhas rfl d hd) (fun _ => rfl)⟩
    · exact hg d hd
  | case4 c cs j w _ rv w1 hrv he =>
    intro hm hi hng hr
    have hs := nested_spec hE h1 h2 h3 h4 h5 hX hXa c w hm hi hng (hr c (by simp))
    rw [he] at hs
    exact hs.imp id (fun c1 => ⟨c1.post.mono (fun hz _ => absurd hz hrv),
      RowsDecl.mono (c1.rows t rfl).1 (fun x hx => by rw [List.flatten_cons]; exact List.mem_append_left _ hx)⟩)

/-! ### A plain script: `runScript` is the loop over its `redo-ifchange` commands followed by the output. -/

/-- The environment of the commands a script of `t` runs (`scriptCtx` of `DepsParts`). -/
def childCx (cx : Ctx) (t : Nat) : Ctx :=
  { runid := cx.runid, parent := some t, cycles := t :: cx.cycles, keepGoing := cx.keepGoing, crash := cx.crash }

/-- The world after the `redo-stamp` step of a script that pipes its output to it (`rsStampW` of `DepsParts` for
`stamp ≤ 1`, in terms of `contentOf`). -/
def stampW (cx : Ctx) (t : Nat) (sc : Script) (w : World) : World :=
  if sc.stamp = 0 then w else
    setRec (addKnown w t) t (stampRec ((addKnown w t).recs t) cx.runid (outContent sc.tag (sc.reads.map (contentOf w))))

/-- (The kill point after `redo-stamp` needs a kill and a stamp.) -/
theorem runScript_plainS (E : Engine) (d : Defects) (cx : Ctx) (t : Nat) (sc : Script) (w : World) (hp : sc.PlainS)
    (hcrash : cx.crash = none ∨ sc.stamp = 0) :
    runScript E d cx t sc w =
      (if (runScript.cmds E cx t (childCx cx t) sc.ifchange 0 w).1 ≠ 0 then
        ((runScript.cmds E cx t (childCx cx t) sc.ifchange 0 w).1, none, (runScript.cmds E cx t (childCx cx t) sc.ifchange 0 w).2)
       else ((sc.exit : Int), outOf (runScript.cmds E cx t (childCx cx t) sc.ifchange 0 w).2 sc,
          stampW cx t sc (runScript.cmds E cx t (childCx cx t) sc.ifchange 0 w).2)) := by
  obtain ⟨h1, h2, h3, h4, h5, _, _⟩ := hp
  rw [runScript_eq]
  simp only [rsAlways, h1, Bool.false_eq_true, if_false, h2, List.any_nil, List.foldl_nil]
  unfold rsBody
  simp only [h3, runScript.conds, ne_eq, not_true_eq_false, if_false]
  show (match runScript.cmds E cx t (childCx cx t) sc.ifchange 0 w with
    | (rv, w) => if rv ≠ 0 then (rv, none, w) else rsFinish cx t sc w) = _
  generalize runScript.cmds E cx t (childCx cx t) sc.ifchange 0 w = r
  obtain ⟨rv, w1⟩ := r
  simp only
  split
  · rfl
  · unfold rsFinish rsFailNow stampW
    rcases hcrash with hcrash | hst
    · simp only [h5, Bool.false_eq_true, if_false, hcrash, reduceCtorEq, decide_false, Bool.and_false]
      rcases h4 with h4 | h4
      · simp only [h4, if_true]; rfl
      · simp only [h4, if_true]; rfl
    · simp only [h5, Bool.false_eq_true, if_false, hst, bne_self_eq_false, Bool.false_and, if_true]
      rfl

theorem runScript_plain (E : Engine) (d : Defects) (cx : Ctx) (t : Nat) (sc : Script) (w : World) (hp : sc.Plain) :
    runScript E d cx t sc w =
      (if (runScript.cmds E cx t (childCx cx t) sc.ifchange 0 w).1 ≠ 0 then
        ((runScript.cmds E cx t (childCx cx t) sc.ifchange 0 w).1, none, (runScript.cmds E cx t (childCx cx t) sc.ifchange 0 w).2)
       else ((sc.exit : Int), outOf (runScript.cmds E cx t (childCx cx t) sc.ifchange 0 w).2 sc,
          (runScript.cmds E cx t (childCx cx t) sc.ifchange 0 w).2)) := by
  rw [runScript_plainS E d cx t sc w hp.plainS (Or.inr hp.2.2.2.1)]
  unfold stampW
  rw [if_pos hp.2.2.2.1]

/-! ### `recordNewState` after a successful script: the fields of the resulting world. -/

/-- What `recordNewState` writes after a successful build of a target not yet marked in this run.  `Deps.OkFields`, except
that a checksum may be recorded: then it is that of the output. -/
structure OkFields (R t : Nat) (out : Option Content) (w w' : World) : Prop where
  rules : w'.rules = w.rules
  progs : w'.progs = w.progs
  fs : ∀ x, x ≠ t → w'.fs x = w.fs x
  content : contentOf w' t = out
  recs : ∀ x, x ≠ t → w'.recs x = w.recs x
  deps : w'.deps = w.deps.filter (fun d => !(d.target = t && d.deleteMe))
  clock : w.clock ≤ w'.clock
  rc : w'.runCounter = w.runCounter
  fsB : ∀ n, w'.fs t = some n → n.ms ≤ w'.clock
  gen : (w'.recs t).isGenerated = true
  ovr : (w'.recs t).isOverride = false
  checked : (w'.recs t).checked = (w.recs t).checked
  changed : (w'.recs t).changed = some R
  failed : (w'.recs t).failed = none
  stamp : (w'.recs t).stamp = some (readStamp w' t)
  csum : ∀ x, (w'.recs t).csum = some x → out = some x

theorem _root_.RedoModel.Deps.OkFields.toS {R t out w w'} (h : Deps.OkFields R t out w w') : OkFields R t out w w' :=
  ⟨h.rules, h.progs, h.fs, h.content, h.recs, h.deps, h.clock, h.rc, h.fsB, h.gen, h.ovr, h.checked, h.changed, h.failed,
   h.stamp, fun x hx => by rw [h.csum] at hx; cases hx⟩

theorem recordOk_fields (cx : Ctx) (t : Nat) (sf : Rec) (out : Option Content) (w : World)
    (hck : isCheckedR (w.recs t) cx.runid = false) (hch : isChangedR (w.recs t) cx.runid = false) :
    (recordNewState cx t sf 0 out w).1 = 0 ∧ OkFields cx.runid t out w (recordNewState cx t sf 0 out w).2 :=
  ⟨(Deps.recordOk_fields cx t sf out w hck hch).1, (Deps.recordOk_fields cx t sf out w hck hch).2.toS⟩

/-- The other branch of `recordNewState`: the record was already marked in this run; only its stamp moves. -/
structure KeepFields (t : Nat) (out : Option Content) (w w' : World) : Prop where
  rules : w'.rules = w.rules
  progs : w'.progs = w.progs
  fs : ∀ x, x ≠ t → w'.fs x = w.fs x
  content : contentOf w' t = out
  recs : ∀ x, x ≠ t → w'.recs x = w.recs x
  deps : w'.deps = w.deps.filter (fun d => !(d.target = t && d.deleteMe))
  clock : w.clock ≤ w'.clock
  rc : w'.runCounter = w.runCounter
  fsB : ∀ n, w'.fs t = some n → n.ms ≤ w'.clock
  gen : (w'.recs t).isGenerated = true
  ovr : (w'.recs t).isOverride = false
  checked : (w'.recs t).checked = (w.recs t).checked
  changed : (w'.recs t).changed = (w.recs t).changed
  failed : (w'.recs t).failed = (w.recs t).failed
  stamp : (w'.recs t).stamp = some (readStamp w' t)
  csum : (w'.recs t).csum = (w.recs t).csum

theorem _root_.RedoModel.Deps.KeepFields.toS {t out w w'} (h : Deps.KeepFields t out w w') : KeepFields t out w w' :=
  ⟨h.rules, h.progs, h.fs, h.content, h.recs, h.deps, h.clock, h.rc, h.fsB, h.gen, h.ovr, h.checked, h.changed, h.failed,
   h.stamp, h.csum⟩

theorem recordKeep_fields (cx : Ctx) (t : Nat) (sf : Rec) (out : Option Content) (w : World)
    (hm : (isCheckedR (w.recs t) cx.runid || isChangedR (w.recs t) cx.runid) = true) :
    (recordNewState cx t sf 0 out w).1 = 0 ∧ KeepFields t out w (recordNewState cx t sf 0 out w).2 :=
  ⟨(Deps.recordKeep_fields cx t sf out w hm).1, (Deps.recordKeep_fields cx t sf out w hm).2.toS⟩

/-- The record after a successful build whose output reproduced the recorded checksum `x`. -/
structure SameFields (R t : Nat) (x : Content) (w w' : World) : Prop where
  rules : w'.rules = w.rules
  progs : w'.progs = w.progs
  fs : ∀ y, y ≠ t → w'.fs y = w.fs y
  content : contentOf w' t = some x
  recs : ∀ y, y ≠ t → w'.recs y = w.recs y
  deps : w'.deps = w.deps.filter (fun d => !(d.target = t && d.deleteMe))
  clock : w.clock ≤ w'.clock
  rc : w'.runCounter = w.runCounter
  fsB : ∀ n, w'.fs t = some n → n.ms ≤ w'.clock
  gen : (w'.recs t).isGenerated = true
  ovr : (w'.recs t).isOverride = false
  checked : (w'.recs t).checked = some R
  changed : (w'.recs t).changed = (w.recs t).changed
  failed : (w'.recs t).failed = none
  stamp : (w'.recs t).stamp = some (readStamp w' t)
  csum : (w'.recs t).csum = some x
  csum0 : (w.recs t).csum = some x

theorem stampW_other (cx : Ctx) (t : Nat) (sc : Script) (w : World) {y : Nat} (hy : y ≠ t) :
    (stampW cx t sc w).recs y = w.recs y := by
  unfold stampW
  split
  · rfl
  · rw [setRec_recs_other _ _ _ hy]
    unfold Deps.addKnown
    split
    · rfl
    · simp [setRec, hy]

theorem stampW_eqv (cx : Ctx) (t : Nat) (sc : Script) (w : World) :
    (stampW cx t sc w).fs = w.fs ∧ (stampW cx t sc w).deps = w.deps ∧ (stampW cx t sc w).rules = w.rules ∧
    (stampW cx t sc w).progs = w.progs ∧ (stampW cx t sc w).clock = w.clock ∧
    (stampW cx t sc w).runCounter = w.runCounter := by
  have e := WEqv.addKnown w t
  unfold stampW
  split
  · exact ⟨rfl, rfl, rfl, rfl, rfl, rfl⟩
  · exact ⟨e.fs, e.deps, e.rules, e.progs, e.clock, e.rc⟩

theorem stampW_self (cx : Ctx) (t : Nat) (sc : Script) (w : World) (hs : sc.stamp = 1) :
    (stampW cx t sc w).recs t =
      stampRec ((addKnown w t).recs t) cx.runid (outContent sc.tag (sc.reads.map (contentOf w))) := by
  unfold stampW
  simp [hs]

theorem stampRec_ne {r : Rec} {R : Nat} {data : Content} (h : r.csum ≠ some data) :
    stampRec r R data = { r with isGenerated := true, isOverride := false, failed := none, changed := some R, csum := some data } := by
  unfold stampRec setChanged
  simp only [ne_eq, h, not_false_eq_true, if_true]

theorem stampRec_eq {r : Rec} {R : Nat} {data : Content} (h : r.csum = some data) :
    stampRec r R data = { r with isGenerated := true, isOverride := false, failed := none, checked := some R } := by
  unfold stampRec
  simp only [ne_eq, h, not_true_eq_false, if_false]

theorem stampW_marked (cx : Ctx) (t : Nat) (sc : Script) (w : World) (hs : sc.stamp = 1) (hR : 0 < cx.runid) :
    (isCheckedR ((stampW cx t sc w).recs t) cx.runid || isChangedR ((stampW cx t sc w).recs t) cx.runid) = true := by
  rw [stampW_self cx t sc w hs]
  have hR' : cx.runid ≠ 0 := by omega
  by_cases h : ((addKnown w t).recs t).csum = some (outContent sc.tag (sc.reads.map (contentOf w)))
  · rw [stampRec_eq h]; simp [isCheckedR, hR']
  · rw [stampRec_ne h]; simp [isChangedR, hR']

/-- Recording the success of a script that piped its output `o` to `redo-stamp`. -/
theorem recordStamp_fields (cx : Ctx) (t : Nat) (sf : Rec) (sc : Script) (w : World) (hs : sc.stamp = 1)
    (hR : 0 < cx.runid) (o : Content) (ho : o = outContent sc.tag (sc.reads.map (contentOf w))) :
    (recordNewState cx t sf 0 (some o) (stampW cx t sc w)).1 = 0 ∧
    (((w.recs t).csum ≠ some o ∧ OkFields cx.runid t (some o) w (recordNewState cx t sf 0 (some o) (stampW cx t sc w)).2) ∨
     ((w.recs t).csum = some o ∧ SameFields cx.runid t o w (recordNewState cx t sf 0 (some o) (stampW cx t sc w)).2)) := by
  obtain ⟨h0, k⟩ := recordKeep_fields cx t sf (some o) (stampW cx t sc w) (stampW_marked cx t sc w hs hR)
  refine ⟨h0, ?_⟩
  obtain ⟨e1, e2, e3, e4, e5, e6⟩ := stampW_eqv cx t sc w
  have ea := WEqv.addKnown w t
  have hself := stampW_self cx t sc w hs
  rw [← ho] at hself
  generalize (recordNewState cx t sf 0 (some o) (stampW cx t sc w)).2 = w' at k
  by_cases h : (w.recs t).csum = some o
  · right
    have h' : ((addKnown w t).recs t).csum = some o := by rw [ea.csum]; exact h
    rw [stampRec_eq h'] at hself
    refine ⟨h, k.rules.trans e3, k.progs.trans e4, fun y hy => by rw [k.fs y hy, e1], k.content,
      fun y hy => by rw [k.recs y hy, stampW_other cx t sc w hy], by rw [k.deps, e2], by rw [← e5]; exact k.clock,
      k.rc.trans e6, k.fsB, k.gen, k.ovr, ?_, ?_, ?_, k.stamp, ?_, h⟩
    · rw [k.checked, hself]
    · rw [k.changed, hself]; exact ea.changed t
    · rw [k.failed, hself]
    · rw [k.csum, hself]; exact h'
  · left
    have h' : ((addKnown w t).recs t).csum ≠ some o := by rw [ea.csum]; exact h
    rw [stampRec_ne h'] at hself
    refine ⟨h, k.rules.trans e3, k.progs.trans e4, fun y hy => by rw [k.fs y hy, e1], k.content,
      fun y hy => by rw [k.recs y hy, stampW_other cx t sc w hy], by rw [k.deps, e2], by rw [← e5]; exact k.clock,
      k.rc.trans e6, k.fsB, k.gen, k.ovr, ?_, ?_, ?_, k.stamp, ?_⟩
    · rw [k.checked, hself]; exact ea.checked t
    · rw [k.changed, hself]
    · rw [k.failed, hself]
    · intro x hx; rw [k.csum, hself] at hx; exact hx

/-! ### The record written after a successful build of a target that was not good: the analogue of the
success case of `P.build_spec`. -/

/-- What the two ways of recording a success (`OkFields`, `SameFields`) have in common: the fields of `Wrote` (`DepsParts`)
that do not speak of the record of `t`. -/
structure BuiltFields (t : Nat) (out : Option Content) (w w' : World) : Prop where
  rules : w'.rules = w.rules
  progs : w'.progs = w.progs
  fs : ∀ x, x ≠ t → w'.fs x = w.fs x
  content : contentOf w' t = out
  recs : ∀ x, x ≠ t → w'.recs x = w.recs x
  deps : w'.deps = w.deps.filter (fun d => !(d.target = t && d.deleteMe))
  clock : w.clock ≤ w'.clock
  rc : w'.runCounter = w.runCounter

theorem OkFields.toBuilt {R t out w w'} (hf : OkFields R t out w w') : BuiltFields t out w w' :=
  ⟨hf.rules, hf.progs, hf.fs, hf.content, hf.recs, hf.deps, hf.clock, hf.rc⟩

theorem SameFields.toBuilt {R t x w w'} (hf : SameFields R t x w w') : BuiltFields t (some x) w w' :=
  ⟨hf.rules, hf.progs, hf.fs, hf.content, hf.recs, hf.deps, hf.clock, hf.rc⟩

theorem BuiltFields.offT {t out w w'} (hf : BuiltFields t out w w') (hr : w.rules t ≠ []) : OffT t w w' :=
  (Deps.OffT.of_zapped hf.rules hf.progs hf.fs hf.recs hf.deps hf.clock hf.rc hr).toS

theorem BuiltFields.hasRow {t out w w' s m} (hf : BuiltFields t out w w') (h : HasRowU w t s m) : HasRow w' t s m :=
  Deps.HasRowU.zapped h hf.deps

theorem recOk_success {R t : Nat} {w w' : World} (hrules : w'.rules = w.rules) (hr : w.rules t ≠ []) (h0 : t ≠ alwaysId)
    (hfsB : ∀ n, w'.fs t = some n → n.ms ≤ w'.clock) (hgen : (w'.recs t).isGenerated = true)
    (hovr : (w'.recs t).isOverride = false) (hfl : (w'.recs t).failed = none)
    (hst : (w'.recs t).stamp = some (readStamp w' t))
    (hch : ∀ ch, (w'.recs t).changed = some ch → ch ≤ R) (hck : ∀ ck, (w'.recs t).checked = some ck → ck ≤ R)
    (hcn : (w'.recs t).changed ≠ none) (hcs : ∀ x, (w'.recs t).csum = some x → contentOf w' t = some x) :
    RecOk R t w' := by
  refine { chLe := hch, ckLe := hck, csumCh := fun _ => hcn, noOvr := hovr, stampCh := fun _ => hcn, fsB := hfsB
           ckFail := fun _ => hfl, markFail := fun _ => Or.inl hfl, genMs := fun _ => (stampCur_ok hst hfsB).1
           stB := (stampCur_ok hst hfsB).2, rec0 := fun e => absurd e h0, csumFile := ?csumFile, csumEx := ?csumEx
           srcNoCsum := ?srcNoCsum, srcNotGen := ?srcNotGen, staticEx := ?staticEx, flLe := ?flLe }
  case csumFile =>
    intro x hx n hn
    have := hcs x hx; unfold contentOf at this; rw [hn] at this; simpa using this
  case csumEx =>
    intro hne _
    obtain ⟨x, hx⟩ := Option.ne_none_iff_exists'.1 hne
    have := hcs x hx
    rw [hst]
    cases hn : w'.fs t with
    | none => unfold contentOf at this; rw [hn] at this; cases this
    | some n => unfold readStamp; rw [hn]; simp
  case srcNoCsum => intro h; rw [hrules] at h; exact absurd h hr
  case srcNotGen => intro h; rw [hrules] at h; exact absurd h hr
  case staticEx => intro _ h; rw [hgen] at h; cases h
  case flLe => intro k h; rw [hfl] at h; cases h

theorem OkFields.recOk {R t out w w'} (hf : OkFields R t out w w') (o : RecOk R t w) (hr : w.rules t ≠ [])
    (h0 : t ≠ alwaysId) : RecOk R t w' :=
  recOk_success hf.rules hr h0 hf.fsB hf.gen hf.ovr hf.failed hf.stamp
    (fun ch h => by rw [hf.changed] at h; cases h; exact Nat.le_refl _) (by rw [hf.checked]; exact o.ckLe)
    (by rw [hf.changed]; simp) (fun x hx => by rw [hf.content]; exact hf.csum x hx)

theorem SameFields.recOk {R t x w w'} (hf : SameFields R t x w w') (o : RecOk R t w) (hr : w.rules t ≠ [])
    (h0 : t ≠ alwaysId) : RecOk R t w' :=
  recOk_success hf.rules hr h0 hf.fsB hf.gen hf.ovr hf.failed hf.stamp
    (by rw [hf.changed]; exact o.chLe) (fun ck h => by rw [hf.checked] at h; cases h; exact Nat.le_refl _)
    (by rw [hf.changed]; exact o.csumCh (by rw [hf.csum0]; simp))
    (fun y hy => by rw [hf.csum] at hy; cases hy; exact hf.content)

/-- Everything known about the world `w` just before the result of a successful build of `t` is recorded. -/
structure Built (rank : Nat → Nat) (R t : Nat) (pre : List Nat) (dof : Nat) (post : List Nat) (sc : Script) (w : World) : Prop where
  notGood : ¬ Good w R t
  rules : w.rules t = pre ++ dof :: post
  pre : ∀ c ∈ pre, existsF w c = false ∧ HasRowU w t c false
  dofEx : existsF w dof = true
  dofRow : HasRowU w t dof true
  dofGood : Good w R dof
  script : scriptAt w dof = sc
  exit : sc.exit = 0
  reads : ∀ d ∈ sc.reads, Good w R d ∧ HasRowU w t d true
  shape : ∀ d ∈ w.deps, d.target = t → d.deleteMe = false →
    (d.modeM = false → existsF w d.source = false) ∧ (d.modeM = true → d.source = dof ∨ d.source ∈ sc.reads)

theorem Built.ne {rank R X t pre dof post sc w} (hi : InvN nc rank R X w) (hb : Built rank R t pre dof post sc w) :
    w.rules t ≠ [] ∧ t ≠ alwaysId ∧ ∀ x, Good w R x → x ≠ t := by
  have h1 : w.rules t ≠ [] := by rw [hb.rules]; simp
  exact ⟨h1, fun e => h1 (e ▸ hi.base.rulesOk.1), fun x hx e => hb.notGood (e ▸ hx)⟩

theorem Built.vscript {rank R t pre dof post sc w w'} (hi : InvN nc rank R X w)
    (hb : Built rank R t pre dof post sc w) (hf : BuiltFields t (outOf w sc) w w') :
    scriptAt w' dof = sc ∧ VScript w' t pre dof post := by
  obtain ⟨hr, h0, hne⟩ := hb.ne hi
  have off := hf.offT hr
  have hplain : ∀ c ∈ w.rules t, w'.fs c = w.fs c := fun c hc => off.fsPlain (hi.base.rulesOk.2 t c hc).1
  have hfsd := hplain dof (by rw [hb.rules]; simp)
  have hsc : scriptAt w' dof = sc := by rw [scriptAt_congr hfsd hf.progs]; exact hb.script
  have hmap : sc.reads.map (contentOf w') = sc.reads.map (contentOf w) :=
    List.map_congr_left (fun d hd => contentOf_congr (hf.fs d (hne d (hb.reads d hd).1)))
  refine ⟨hsc, by rw [hf.rules]; exact hb.rules, fun c hc => ⟨?_, hf.hasRow (hb.pre c hc).2⟩,
    by rw [existsF_congr hfsd]; exact hb.dofEx, hf.hasRow hb.dofRow, ?_, by rw [hsc]; exact hb.exit, ?_⟩
  · rw [existsF_congr (hplain c (by rw [hb.rules]; simp [hc]))]; exact (hb.pre c hc).1
  · rw [hsc]; exact fun d hd => hf.hasRow (hb.reads d hd).2
  · rw [hsc, hf.content]; unfold outOf; rw [hmap]

theorem recordOk_recTruth {rank R t pre dof post sc w w'} (hi : InvN nc rank R X w)
    (hb : Built rank R t pre dof post sc w) (hf : BuiltFields t (outOf w sc) w w') : RecTruth w' t := by
  obtain ⟨_, _, hne⟩ := hb.ne hi
  obtain ⟨hsc, vs⟩ := hb.vscript hi hf
  refine vs.recTruth ?_
  rintro s ⟨d, hd, h1, h2, h3⟩ c hc
  have hd' := (List.mem_filter.1 (hf.deps ▸ hd))
  have hdm : d.deleteMe = false := by
    cases hx : d.deleteMe with
    | false => rfl
    | true => simp [h1, hx] at hd'
  have hg : Good w R s := by
    rcases (hb.shape d hd'.1 h1 hdm).2 h3 with e | e
    · rw [← h2, e]; exact hb.dofGood
    · rw [← h2]; exact (hb.reads _ e).1
  rw [hf.recs s (hne _ hg)] at hc
  rw [contentOf_congr (hf.fs s (hne _ hg))]
  exact hi.base.csumCur (hg.recCur hi) hc

theorem recordOk_upToDate {rank R t pre dof post sc w w'} (hi : InvN nc rank R X w)
    (hb : Built rank R t pre dof post sc w) (hf : BuiltFields t (outOf w sc) w w') : UpToDateD w' t := by
  obtain ⟨hr, _, hne⟩ := hb.ne hi
  obtain ⟨hsc, vs⟩ := hb.vscript hi hf
  refine vs.upToDate (fun d hd => ?_)
  rw [hsc] at hd
  exact good_upToDate hi hf.rules hf.progs (fun x hx => contentOf_congr ((hf.offT hr).fsPlain hx))
    (fun x hx => ⟨contentOf_congr (hf.fs x (hne x hx)), by rw [hf.recs x (hne x hx)]⟩)
    (rank d + 1) d (Nat.lt_succ_self _) (hb.reads d hd).1

theorem recordBuilt_spec {rank R t pre dof post sc w w' b po} {X X' : Nat → Prop} (hi : InvN nc rank R X w)
    (hX : ∀ u, u ≠ t → ¬ X' u → ¬ X u) (hb : Built rank R t pre dof post sc w)
    (hf : BuiltFields t (outOf w sc) w w') (hok : RecOk R t w') (hrs : RecCur w' t) (hv : VerR w' R t)
    (hdet : ∀ u, u ≠ t → RecCur w u → (w.recs u).isGenerated = true → HasRow w u t true →
      Hdet w w' t (Mof (w.recs u))) (hcs : nc = true → (w'.recs t).csum = none) (hlt : rank t < b) :
    InvN nc rank R X' w' ∧ VerR w' R t ∧ BExt rank R b po w w' ∧ (NoFail R w → NoFail R w') := by
  obtain ⟨hr, h0, hne⟩ := hb.ne hi
  have off := hf.offT hr
  have hsub : ∀ d ∈ w'.deps, d ∈ w.deps := fun d hd => by
    rw [hf.deps, List.mem_filter] at hd; exact hd.1
  have hb' := Base_upd (X' := X') hi.base off hok hX
    (fun d hd => hi.base.rowsLt d (hsub d hd))
    (fun d hd hm => by rw [off.rules]; exact hi.base.cPlain d (hsub d hd) hm)
    hdet (fun _ _ _ => recordOk_recTruth hi hb hf) hcs
  have hver := Ver_upd hi off hb.notGood (fun _ => ⟨hrs, recordOk_upToDate hi hb hf, fun _ d hd hdt => by
    rw [hf.deps, List.mem_filter] at hd
    obtain ⟨hd1, hd2⟩ := hd
    have hdm : d.deleteMe = false := by
      cases hx : d.deleteMe with
      | false => rfl
      | true => simp [hdt, hx] at hd2
    obtain ⟨s1, s2⟩ := hb.shape d hd1 hdt hdm
    refine ⟨fun hm => ?_, fun hm => ?_⟩
    · have hg : Good w R d.source := by
        rcases s2 hm with e | e
        · rw [e]; exact hb.dofGood
        · exact (hb.reads _ e).1
      exact (off.good (hne _ hg) R).2 hg
    · rw [existsF_congr (off.fsPlain (hi.base.cPlain d hd1 hm))]; exact s1 hm⟩)
  refine ⟨⟨hb', hi.Rpos, hver⟩, hv,
    off.toBExt hlt (fun h => absurd (Or.inl h) hb.notGood) (fun hc hg => absurd (Or.inr ⟨hc, hg⟩) hb.notGood), ?_⟩
  intro hnf f
  by_cases e : f = t
  · subst e; rw [hrs.1]; simp
  · rw [hf.recs f e]; exact hnf f

theorem recordOk_spec {rank R t pre dof post sc w w' b po} {X X' : Nat → Prop} (hi : InvN nc rank R X w)
    (hX : ∀ u, u ≠ t → ¬ X' u → ¬ X u) (hb : Built rank R t pre dof post sc w)
    (hf : OkFields R t (outOf w sc) w w') (hcs : nc = true → (w'.recs t).csum = none) (hlt : rank t < b) :
    InvN nc rank R X' w' ∧ VerR w' R t ∧ BExt rank R b po w w' ∧ (NoFail R w → NoFail R w') := by
  obtain ⟨hr, h0, _⟩ := hb.ne hi
  exact recordBuilt_spec hi hX hb hf.toBuilt (hf.recOk (hi.base.recOk t) hr h0)
    ⟨hf.failed, by rw [hf.changed]; simp, hf.stamp⟩ ⟨hf.failed, Or.inr hf.changed⟩
    (hdet_loud hi hb.notGood hf.changed) hcs hlt

/-- The script reproduced the recorded checksum: the record is only marked `checked`, and that is right. -/
theorem recordSame_spec {rank R t pre dof post sc w w' b po x} {X X' : Nat → Prop} (hi : InvN nc rank R X w)
    (hX : ∀ u, u ≠ t → ¬ X' u → ¬ X u) (hb : Built rank R t pre dof post sc w) (hx : outOf w sc = some x)
    (hf : SameFields R t x w w') (hlt : rank t < b) :
    InvN nc rank R X' w' ∧ VerR w' R t ∧ BExt rank R b po w w' ∧ (NoFail R w → NoFail R w') := by
  obtain ⟨hr, h0, _⟩ := hb.ne hi
  have hcn : (w'.recs t).changed ≠ none := by
    rw [hf.changed]; exact hi.base.csumCh t (by rw [hf.csum0]; simp)
  exact recordBuilt_spec hi hX hb (hx ▸ hf.toBuilt) (hf.recOk (hi.base.recOk t) hr h0)
    ⟨hf.failed, hcn, hf.stamp⟩ ⟨hf.failed, Or.inl hf.checked⟩
    (hdet_reproduced hf.csum0 hf.csum hf.content hf.changed)
    (fun hc => absurd ((hi.base.nostamp hc).csum t) (by rw [hf.csum0]; simp)) hlt

theorem KeepFields.offT {t out w w'} (hf : KeepFields t out w w') (hr : w.rules t ≠ []) : OffT t w w' :=
  (Deps.OffT.of_zapped hf.rules hf.progs hf.fs hf.recs hf.deps hf.clock hf.rc hr).toS

theorem KeepFields.recOk {R t out w w'} (hf : KeepFields t out w w') (o : RecOk R t w) (hr : w.rules t ≠ [])
    (h0 : t ≠ alwaysId) (hcn : (w.recs t).changed ≠ none) (hcs : (w.recs t).csum = none) : RecOk R t w' := by
  have hcs' : (w'.recs t).csum = none := hf.csum.trans hcs
  exact {
    chLe := by rw [hf.changed]; exact o.chLe
    ckLe := by rw [hf.checked]; exact o.ckLe
    csumFile := fun x hx => by rw [hcs'] at hx; cases hx
    csumEx := fun h => absurd hcs' h, srcNoCsum := fun _ => hcs', csumCh := fun h => absurd hcs' h, noOvr := hf.ovr
    srcNotGen := fun h => by rw [hf.rules] at h; exact absurd h hr
    rec0 := fun e => absurd e h0
    stampCh := fun _ => by rw [hf.changed]; exact hcn
    staticEx := fun _ h => by rw [hf.gen] at h; cases h
    genMs := fun _ => (stampCur_ok hf.stamp hf.fsB).1, fsB := hf.fsB, stB := (stampCur_ok hf.stamp hf.fsB).2
    ckFail := by rw [hf.checked, hf.failed]; exact o.ckFail
    markFail := by rw [hf.changed, hf.failed]; exact o.markFail
    flLe := by rw [hf.failed]; exact o.flLe }

/-- A forced rebuild of a target without checksum that already failed in this run succeeds: the record stays failed.
(With a checksum the record would keep one that no longer describes the file.) -/
theorem recordKeep_spec {rank R t w w' b po out} {X X' : Nat → Prop} (hi : InvN nc rank R X w) (hng : ¬ Good w R t)
    (hX : ∀ u, u ≠ t → ¬ X' u → ¬ X u) (hfail : (w.recs t).failed = some R) (hch : (w.recs t).changed = some R)
    (hcs : (w.recs t).csum = none)
    (hr : w.rules t ≠ []) (hf : KeepFields t out w w') (hlt : rank t < b) :
    InvN nc rank R X' w' ∧ BExt rank R b po w w' ∧ (w'.recs t).failed = some R := by
  have h0 : t ≠ alwaysId := fun e => hr (e ▸ hi.base.rulesOk.1)
  have hfail' : (w'.recs t).failed = some R := by rw [hf.failed]; exact hfail
  have off := hf.offT hr
  have hsub : ∀ d ∈ w'.deps, d ∈ w.deps := fun d hd => by
    rw [hf.deps, List.mem_filter] at hd; exact hd.1
  have hok := hf.recOk (hi.base.recOk t) hr h0 (by rw [hch]; simp) hcs
  have hb' := Base_upd (X' := X') hi.base off hok hX (fun d hd => hi.base.rowsLt d (hsub d hd))
    (fun d hd hm => by rw [off.rules]; exact hi.base.cPlain d (hsub d hd) hm)
    (hdet_loud hi hng (by rw [hf.changed]; exact hch))
    (fun _ hrc _ => by rw [hrc.1] at hfail'; cases hfail') (fun _ => hf.csum.trans hcs)
  exact ⟨⟨hb', hi.Rpos, Ver_upd hi off hng (fun hv => by rw [hv.1] at hfail'; cases hfail')⟩,
    off.toBExt hlt (fun hv => absurd (Or.inl hv) hng) (fun hc hg => absurd (Or.inr ⟨hc, hg⟩) hng), hfail'⟩

end RedoModel.Deps.S
