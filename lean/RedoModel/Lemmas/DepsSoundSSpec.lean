import RedoModel.Lemmas.DepsSoundFrames
import RedoModel.Lemmas.DepsFuelCheck
/-!
C01 for histories whose scripts may pipe their output to `redo-stamp` (content checksums): statement-level
definitions (`PlainS`, `PlainOpS`, and the hypothesis `RedoKOk` on `redo -k` commands in the history).  The proof (the
invariant below, then `DepsSoundSVerified` … `DepsSoundSHistory`, namespace `RedoModel.Deps.S`) is the one induction
for histories with and without checksums: its invariant `InvN nc` carries the switch "no checksums".  What does not
rest on the invariant is taken from `DepsSoundFrames`; `DepsSoundPlain` reads the statements for plain histories, whose
vocabulary is in `DepsSoundPlainSpec` (imported from `DepsSoundSUpdate` on), off it.
-/
namespace RedoModel.Deps

/-- plain, except that the script may pipe its output to redo-stamp -/
def Script.PlainS (sc : Script) : Prop :=
  sc.always = false ∧ sc.ifcreate = [] ∧ sc.cond = [] ∧ (sc.stamp = 0 ∨ sc.stamp = 1) ∧ sc.failIfOdd = none ∧
  sc.reads = sc.ifchange.flatten ∧ (sc.stamp = 1 → sc.outMode ≠ 2)

theorem Script.Plain.plainS {sc : Script} (h : sc.Plain) : sc.PlainS :=
  ⟨h.1, h.2.1, h.2.2.1, Or.inl h.2.2.2.1, h.2.2.2.2.1, h.2.2.2.2.2, fun e => by rw [h.2.2.2.1] at e; cases e⟩

/-- `PlainOp`, with scripts that may use `redo-stamp`. -/
def PlainOpS (rules : Nat → List Nat) : UserOp → Prop
  | .write f _ => rules f = [] ∧ f ≠ alwaysId
  | .remove f => f ≠ alwaysId
  | .chmod f => rules f = [] ∧ f ≠ alwaysId
  | .hide _ => False
  | .unhide _ => False
  | .setProg _ s => s.PlainS
  | .cmd _ => True
  | .crashCmd _ _ _ => False

namespace S

/-- A `redo -k` command (keep going after a failure, every target forced) is required to exit 0
(see `noStaleStamp_partial`). -/
def CmdOk (d : Defects) (N : Nat) (w : World) : Cmd → Prop
  | .redo ts true => (runCmd d N (.redo ts true) w).1.status = 0
  | _ => True

/-- The extra condition on commands in the history: a `redo -k` must exit 0 (see `noStaleStamp_partial`). -/
def OpCmdOk (n : Nat) (w : World) : UserOp → Prop
  | .cmd c => CmdOk {} n w c
  | _ => True

/-- `OpCmdOk` at every step of the history. -/
def RedoKOk (n : Nat) : World → List UserOp → Prop
  | _, [] => True
  | w, op :: ops => OpCmdOk n w op ∧ RedoKOk n (applyOp {} n op w).2 ops

end S

/-- The one hypothesis beyond those of `noStalePlainD`: every `redo -k` (forced rebuild that keeps going after a
failure) *in the history* exited 0.  Histories without `redo -k` satisfy it trivially (`redoKOk_of_none`); the final
command is unrestricted. -/
def RedoKOk (n : Nat) (w : World) (ops : List UserOp) : Prop := S.RedoKOk n w ops

theorem redoKOk_of_none (n : Nat) : ∀ (ops : List UserOp) (w : World), (∀ op ∈ ops, ∀ ts, op ≠ .cmd (.redo ts true)) →
    RedoKOk n w ops
  | [], _, _ => trivial
  | op :: ops, w, h => by
    refine ⟨?_, redoKOk_of_none n ops _ (fun op' h' => h op' (List.mem_cons_of_mem _ h'))⟩
    cases op with
    | cmd c =>
      cases c with
      | redo ts kg =>
        cases kg with
        | false => trivial
        | true => exact absurd rfl (h _ (by simp) ts)
      | _ => trivial
    | _ => trivial

end RedoModel.Deps

/-!
The run invariant with checksums.  `scriptAt`, `firstEx`, `contentOf`, `outOf`, `UpToDateD` are those of `DepsSound1`.
`RecCur`, `DetectM`, `DetectS`, `Mof`, `VerR`, `HasRow`, `Good`, `Ver`, `NoFail` are stated again word for word, so a
lemma of `DepsSoundFrames` about one of them applies here by unfolding.  Beyond the plain invariant: the loud part of detection
(`DetectL`), the checksum clause of `RecTruth`, and the clauses `csumFile`, `csumEx`, `srcNoCsum`, `csumCh` of `Base`.

The frames and postconditions of the files that follow are stated again in this namespace.  `Snap`, `OwnRel`, `OffT`,
`WEqv`, `RowOp`, `Flds`, `HasRowU`, `BExt`, `RowsDecl`, `SameT`, `addX`, `addXk`, `KeepFields`, `Built`, `IdemStep`, `NoX` are
word for word those of `DepsSoundFrames`/`DepsSoundPlainSpec`, and their algebra is read off the lemmas there through
`toPlain`/`toS`; `CkExt`, `DExt`, `ChkPost`, `OkFields`, `Ran`, `RecOk`, `Btw` differ, as their docstrings say.  The lemmas of
the chain take the copy of this namespace; only `Hdet.same` and `RecOk.congr` (`DepsSoundSUpdate`) take `Deps.Flds`, whose copy
comes later (`DepsSoundSRows`).  `NoCsum` is from `DepsFuelCheck`.
-/
namespace RedoModel.Deps.S

def RecCur (w : World) (f : Nat) : Prop :=
  (w.recs f).failed = none ∧ (w.recs f).changed ≠ none ∧ (w.recs f).stamp = some (readStamp w f)

/-- A change of the `m` dependency `d` is visible to a parent whose max(changed, checked) is `M`. -/
def DetectM (w : World) (M : Nat) (d : Nat) : Prop :=
  (w.recs d).failed ≠ none ∨ (w.recs d).changed = none ∨
  (∃ ch, (w.recs d).changed = some ch ∧ ch > M) ∨ (w.recs d).stamp ≠ some (readStamp w d)

/-- A failure is recorded for a file redo does not own that was absent then. -/
def FailedAbsent (w : World) (d : Nat) : Prop :=
  (w.recs d).failed ≠ none ∧ (w.recs d).isGenerated = false ∧ (w.recs d).stamp = some .missing

/-- `DetectM` in which a `failed` flag counts only as part of `FailedAbsent`: the truth clause (`RecTruth`) uses this one. -/
def DetectS (w : World) (M : Nat) (d : Nat) : Prop :=
  (w.recs d).changed = none ∨
  (∃ ch, (w.recs d).changed = some ch ∧ ch > M) ∨ (w.recs d).stamp ≠ some (readStamp w d) ∨ FailedAbsent w d

def Mof (r : Rec) : Nat := max (r.changed.getD 0) (r.checked.getD 0)

def VerR (w : World) (R : Nat) (f : Nat) : Prop :=
  (w.recs f).failed = none ∧ ((w.recs f).checked = some R ∨ (w.recs f).changed = some R)

def HasRow (w : World) (t s : Nat) (m : Bool) : Prop :=
  ∃ d ∈ w.deps, d.target = t ∧ d.source = s ∧ d.modeM = m

def rowsOf (w : World) (t : Nat) : List Dep := w.deps.filter (fun d => d.target = t)

/-- The part of `DetectS` that nothing undoes: the `changed` mark of the dependency is newer than the parent. -/
def DetectL (w : World) (M : Nat) (d : Nat) : Prop :=
  (w.recs d).changed = none ∨ ∃ ch, (w.recs d).changed = some ch ∧ ch > M

theorem DetectL.detectS {w M d} (h : DetectL w M d) : DetectS w M d := by
  rcases h with h | h
  · exact Or.inl h
  · exact Or.inr (Or.inl h)

/-- What the record of a current generated target `t` promises.  With checksums: whenever a file it read carries a
checksum, that checksum is the content remembered (or the file has been loudly changed since). -/
def RecTruth (w : World) (t : Nat) : Prop :=
  ∃ (pre : List Nat) (dof : Nat) (post : List Nat) (sc : Script),
    w.rules t = pre ++ dof :: post ∧
    (∀ c ∈ pre, HasRow w t c false) ∧ HasRow w t dof true ∧ (∀ d ∈ sc.reads, HasRow w t d true) ∧
    sc.exit = 0 ∧
    ((existsF w dof = true ∧ scriptAt w dof = sc) ∨ DetectS w (Mof (w.recs t)) dof) ∧
    ∃ cs : List (Option Content),
      contentOf w t = (if sc.outMode = 2 then none else some (outContent sc.tag cs)) ∧
      cs.length = sc.reads.length ∧
      ∀ p ∈ List.zip sc.reads cs,
        (p.2 ≠ contentOf w p.1 → DetectS w (Mof (w.recs t)) p.1) ∧
        (∀ x, (w.recs p.1).csum = some x → p.2 = some x ∨ DetectL w (Mof (w.recs t)) p.1)

/-- The part of the invariant that also holds between commands (`R` bounds the run ids in use).  `X` is the exempt set: the
targets under construction, whose rows are being rewritten; the record of `t ∈ X` need not keep its promise (`recA`) unless
it is verified in this run.  Between commands and at top level nothing is exempt (`NoX`); a job on `t` adds `t` (`addX`). -/
structure Base (rank : Nat → Nat) (R : Nat) (X : Nat → Prop) (w : World) : Prop where
  rulesOk : RulesOk w.rules
  ranked : Ranked rank w
  plainProgs : ∀ c sc, w.progs c = some sc → sc.PlainS
  chLe : ∀ f ch, (w.recs f).changed = some ch → ch ≤ R
  ckLe : ∀ f ck, (w.recs f).checked = some ck → ck ≤ R
  csumFile : ∀ f x, (w.recs f).csum = some x → ∀ n, w.fs f = some n → n.content = x
  csumEx : ∀ f, (w.recs f).csum ≠ none → (w.recs f).failed = none → (w.recs f).stamp ≠ some .missing
  srcNoCsum : ∀ f, w.rules f = [] → (w.recs f).csum = none
  csumCh : ∀ f, (w.recs f).csum ≠ none → (w.recs f).changed ≠ none
  noOvr : ∀ f, (w.recs f).isOverride = false
  srcNotGen : ∀ f, w.rules f = [] → (w.recs f).isGenerated = false
  fs0 : w.fs alwaysId = none
  rec0 : (w.recs alwaysId).failed ≠ none ∨ ((w.recs alwaysId).stamp = none ∧ (w.recs alwaysId).checked = none)
  rowsLt : ∀ d ∈ w.deps, rank d.source < rank d.target
  cPlain : ∀ d ∈ w.deps, d.modeM = false → w.rules d.source = []
  stampCh : ∀ f, (w.recs f).stamp ≠ none → (w.recs f).changed ≠ none
  staticEx : ∀ f, (w.recs f).failed = none → (w.recs f).isGenerated = false → (w.recs f).stamp ≠ some .missing
  genMs : ∀ f, (w.recs f).isGenerated = true → ∀ n, w.fs f = some n → ∃ rest, (w.recs f).stamp = some (.st n.ms rest)
  fsB : ∀ f n, w.fs f = some n → n.ms ≤ w.clock
  stB : ∀ f ms rest, (w.recs f).stamp = some (.st ms rest) →
      ms ≤ w.clock ∧ ∀ n, w.fs f = some n → ms < n.ms ∨ (ms = n.ms ∧ rest ≤ n.rest)
  ckFail : ∀ f, (w.recs f).checked = some R → (w.recs f).failed = none
  markFail : ∀ f, (w.recs f).changed = some R → (w.recs f).failed = none ∨ (w.recs f).failed = some R
  flLe : ∀ f k, (w.recs f).failed = some k → k ≤ R
  recA : ∀ t, (¬ X t ∨ VerR w R t) → RecCur w t → (w.recs t).isGenerated = true → RecTruth w t

/-- Verified in run `R`, or a current record of a file redo does not own (nothing to rebuild). -/
def Good (w : World) (R : Nat) (f : Nat) : Prop :=
  VerR w R f ∨ (RecCur w f ∧ (w.recs f).isGenerated = false)

def Ver (R : Nat) (w : World) : Prop :=
  ∀ f, VerR w R f → RecCur w f ∧ UpToDateD w f ∧
    ((w.recs f).isGenerated = true → ∀ d ∈ w.deps, d.target = f →
      (d.modeM = true → Good w R d.source) ∧ (d.modeM = false → existsF w d.source = false))

structure Inv (rank : Nat → Nat) (R : Nat) (X : Nat → Prop) (w : World) : Prop where
  base : Base rank R X w
  Rpos : 0 < R
  ver : Ver R w

def NoFail (R : Nat) (w : World) : Prop := ∀ f, (w.recs f).failed ≠ some R

/-! ### One invariant for histories with and without checksums

The soundness proof is carried out once, over `InvN nc`.  `InvN false` is `Inv` above; `InvN true` is the invariant of
plain histories, `Deps.Inv` of `DepsSound1` (`DepsSoundPlain`: `Inv.iffN`). -/

structure NoStamp (w : World) : Prop where
  csum : NoCsum w
  progs : ∀ c sc, w.progs c = some sc → sc.Plain

theorem NoStamp.of_eq {w w' : World} (h : NoStamp w) (hc : ∀ f, (w'.recs f).csum = (w.recs f).csum) (hp : w'.progs = w.progs) :
    NoStamp w' :=
  ⟨fun f => (hc f).trans (h.csum f), fun c sc hs => h.progs c sc (hp ▸ hs)⟩

/-- `Base`, with the switch `nc` ("no checksums", as in `WInv nc`): `nc = true` adds `NoStamp`, the case of plain
histories; `nc = false` adds nothing.  The clause is part of the invariant, and not a side condition of the lemmas, so
that it is at hand in every world the engine produces: no lemma needs a frame argument of its own for it. -/
structure BaseN (nc : Bool) (rank : Nat → Nat) (R : Nat) (X : Nat → Prop) (w : World) : Prop extends Base rank R X w where
  nostamp : nc = true → NoStamp w

structure InvN (nc : Bool) (rank : Nat → Nat) (R : Nat) (X : Nat → Prop) (w : World) : Prop where
  base : BaseN nc rank R X w
  Rpos : 0 < R
  ver : Ver R w

theorem InvN.toInv {nc rank R X w} (hi : InvN nc rank R X w) : Inv rank R X w := ⟨hi.base.toBase, hi.Rpos, hi.ver⟩

theorem Inv.toInvN {rank R X w} (hi : Inv rank R X w) : InvN false rank R X w :=
  ⟨⟨hi.base, fun h => by cases h⟩, hi.Rpos, hi.ver⟩

theorem Base.csumCur {rank R X w} (hb : Base rank R X w) {f x} (hc : RecCur w f) (hx : (w.recs f).csum = some x) :
    contentOf w f = some x := by
  have h1 := hb.csumEx f (by rw [hx]; simp) hc.1
  rw [hc.2.2] at h1
  unfold contentOf
  cases hn : w.fs f with
  | none => exact absurd (by rw [readStamp_missing.2 hn]) h1
  | some n => simp [hb.csumFile f x hx n hn]

end RedoModel.Deps.S
