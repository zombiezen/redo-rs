import RedoModel.Lemmas.DepsSoundSVerified
import RedoModel.Lemmas.DepsSoundPlainSpec
/-! C01 on the full engine model, with and without `redo-stamp`: the one induction, over `InvN nc`. Updates of a single record: `Base_upd`, `Ver_upd_keep`, and the two writes of the dirtiness check. -/
namespace RedoModel.Deps.S

/-! ### The general single-file update lemmas (`Base_upd`, `Ver_upd_keep`): the analogue of `P.Inv_upd`. -/

/-- `w'` differs from `w` only at file `t`: its file, its record, the rows whose target is `t`; the clock may advance. -/
structure OffT (t : Nat) (w w' : World) : Prop where
  rules : w'.rules = w.rules
  progs : w'.progs = w.progs
  fs : ∀ x, x ≠ t → w'.fs x = w.fs x
  fsP : w.rules t = [] → w'.fs t = w.fs t
  recs : ∀ x, x ≠ t → w'.recs x = w.recs x
  rows : ∀ d : Dep, d.target ≠ t → (d ∈ w'.deps ↔ d ∈ w.deps)
  clock : w.clock ≤ w'.clock
  rc : w'.runCounter = w.runCounter

theorem OffT.toPlain {t w w'} (h : OffT t w w') : Deps.OffT t w w' :=
  ⟨h.rules, h.progs, h.fs, h.fsP, h.recs, h.rows, h.clock, h.rc⟩

theorem _root_.RedoModel.Deps.OffT.toS {t w w'} (h : Deps.OffT t w w') : OffT t w w' :=
  ⟨h.rules, h.progs, h.fs, h.fsP, h.recs, h.rows, h.clock, h.rc⟩

theorem OffT.refl (t : Nat) (w : World) : OffT t w w := (Deps.OffT.refl t w).toS

theorem OffT.trans {t : Nat} {a b c : World} (h1 : OffT t a b) (h2 : OffT t b c) : OffT t a c :=
  (h1.toPlain.trans h2.toPlain).toS

theorem OffT.hasRow {t w w'} (h : OffT t w w') {x s m} (hx : x ≠ t) : HasRow w' x s m ↔ HasRow w x s m := h.toPlain.hasRow hx

theorem OffT.fsPlain {t w w'} (h : OffT t w w') {x} (hx : w.rules x = []) : w'.fs x = w.fs x := h.toPlain.fsPlain hx

theorem OffT.recCur {t w w'} (h : OffT t w w') {x} (hx : x ≠ t) : RecCur w' x ↔ RecCur w x := h.toPlain.recCur hx

theorem OffT.verR {t w w'} (h : OffT t w w') {x} (hx : x ≠ t) (R) : VerR w' R x ↔ VerR w R x := h.toPlain.verR hx R

theorem OffT.good {t w w'} (h : OffT t w w') {x} (hx : x ≠ t) (R) : Good w' R x ↔ Good w R x := h.toPlain.good hx R

theorem OffT.ranked {rank R t w w'} (h : OffT t w w') (hb : Base rank R X w) : Ranked rank w' := by
  refine ⟨fun x c hc => hb.ranked.1 x c (by rw [← h.rules]; exact hc), ?_⟩
  intro x dof hdof n sc hn hsc
  rw [h.rules] at hdof
  have hp : w.rules dof = [] := (hb.rulesOk.2 x dof hdof).1
  rw [h.fsPlain hp] at hn
  rw [h.progs] at hsc
  exact hb.ranked.2 x dof hdof n sc hn hsc

/-- How an update of `t` looks to a parent whose max(changed, checked) is `M`: loud; or quiet with the same content
(or something already detectable); or a rebuild that reproduced the recorded checksum. -/
def Hdet (w w' : World) (t M : Nat) : Prop :=
  DetectL w' M t ∨
  ((∀ x, (w'.recs t).csum = some x → (w.recs t).csum = some x) ∧ (DetectL w M t → DetectL w' M t) ∧
    (DetectS w' M t ∨ (contentOf w' t = contentOf w t ∧ ¬ DetectS w M t))) ∨
  (∃ x, (w.recs t).csum = some x ∧ (w'.recs t).csum = some x ∧ contentOf w' t = some x ∧
    (DetectL w M t → DetectL w' M t)) ∨
  (contentOf w' t = contentOf w t ∧ RecCur w t ∧ (DetectL w M t → DetectL w' M t) ∧
    ∀ x, (w'.recs t).csum = some x → contentOf w' t = some x)

theorem RecCur.detectL {w : World} {M d : Nat} (hc : RecCur w d) (h : DetectS w M d) : DetectL w M d := by
  rcases h with h | h | h | h
  · exact Or.inl h
  · exact Or.inr h
  · exact absurd hc.2.2 h
  · exact absurd hc.1 h.1

/-- Quiet update: same content, same `changed`, the checksum kept or dropped (`setStatic`), same stamp-currency. -/
theorem Hdet.quiet {w w' : World} {t M : Nat} (hc : contentOf w' t = contentOf w t)
    (hch : (w'.recs t).changed = (w.recs t).changed)
    (hcs : (w'.recs t).csum = (w.recs t).csum ∨ (w'.recs t).csum = none)
    (hst : (w.recs t).stamp ≠ some (readStamp w t) → (w'.recs t).stamp ≠ some (readStamp w' t))
    (hfa : FailedAbsent w t → FailedAbsent w' t) : Hdet w w' t M := by
  refine Or.inr (Or.inl ⟨fun x hx => ?_, fun h => by unfold DetectL at h ⊢; rw [hch]; exact h, ?_⟩)
  · rcases hcs with e | e
    · rw [← e]; exact hx
    · rw [e] at hx; cases hx
  by_cases hd : DetectS w M t
  · left
    unfold DetectS at hd ⊢
    rw [hch]
    rcases hd with h | h | h | h
    · exact Or.inl h
    · exact Or.inr (Or.inl h)
    · exact Or.inr (Or.inr (Or.inl (hst h)))
    · exact Or.inr (Or.inr (Or.inr (hfa h)))
  · exact Or.inr ⟨hc, hd⟩

theorem Hdet.same {w w' : World} {d M : Nat} (hr : Deps.Flds (w'.recs d) (w.recs d)) (hf : w'.fs d = w.fs d) : Hdet w w' d M :=
  Hdet.quiet (contentOf_congr hf) hr.changed (Or.inl hr.csum) (by rw [hr.stamp, readStamp_congr hf]; exact id)
    (by unfold FailedAbsent; rw [hr.failed, hr.gen, hr.stamp]; exact id)

theorem Hdet.of_key {w w' : World} {d M : Nat} (hr : w'.recs d = w.recs d)
    (h : (w'.fs d = w.fs d ∧ (DetectS w' M d ↔ DetectS w M d)) ∨ DetectS w' M d) : Hdet w w' d M := by
  rcases h with ⟨e, _⟩ | h
  · exact Hdet.same (.of_eq hr) e
  · exact Or.inr (Or.inl ⟨fun x hx => hr ▸ hx, fun hl => by unfold DetectL at hl ⊢; rw [hr]; exact hl, Or.inl h⟩)

theorem Hdet.detectS {w w' : World} {t M : Nat} (h : Hdet w w' t M) (hcs : (w.recs t).csum = none)
    (hd : DetectS w M t) : DetectS w' M t := by
  rcases h with h3 | ⟨_, _, h3 | ⟨_, h3⟩⟩ | ⟨x, h3, _⟩ | ⟨_, k2, k3, _⟩
  · exact h3.detectS
  · exact h3
  · exact absurd hd h3
  · rw [hcs] at h3; cases h3
  · exact (k3 (k2.detectL hd)).detectS

/-- What the record of `u` promises carries over to a world where `u` itself looks the same, every .do candidate keeps its
script or is detected, and every file `u` depends on looks to `u` as `Hdet` says (`Hdet.same`: nothing has changed). -/
theorem RecTruth.mono {w w' : World} {u : Nat} (hru : w'.rules u = w.rules u)
    (hrow : ∀ s m, HasRow w u s m → HasRow w' u s m) (hM : Mof (w'.recs u) = Mof (w.recs u))
    (hc : contentOf w' u = contentOf w u)
    (hdo : ∀ dof ∈ w.rules u, HasRow w u dof true →
      ((existsF w' dof = existsF w dof ∧ scriptAt w' dof = scriptAt w dof) ∨ DetectS w' (Mof (w.recs u)) dof) ∧
      (DetectS w (Mof (w.recs u)) dof → DetectS w' (Mof (w.recs u)) dof))
    (hdet : ∀ d, HasRow w u d true → Hdet w w' d (Mof (w.recs u)))
    (ht : RecTruth w u) : RecTruth w' u := by
  obtain ⟨pre, dof, post, sc, hr, hpre, hdof, hreads, hexit, hsc, cs, hcont, hlen, hz⟩ := ht
  refine ⟨pre, dof, post, sc, hru.trans hr, fun c hc => hrow _ _ (hpre c hc), hrow _ _ hdof,
    fun d hd => hrow _ _ (hreads d hd), hexit, ?_, cs, hc.trans hcont, hlen, ?_⟩
  · rw [hM]
    obtain ⟨h1, h2⟩ := hdo dof (by rw [hr]; simp) hdof
    rcases hsc with ⟨k1, k2⟩ | k1
    · exact h1.imp (fun ⟨e1, e2⟩ => ⟨e1.trans k1, e2.trans k2⟩) id
    · exact Or.inr (h2 k1)
  · intro p hp
    rw [hM]
    obtain ⟨hz1, hz2⟩ := hz p hp
    -- how the file read looks to `u` now: loud; quiet; the recorded checksum reproduced; the content reproduced
    rcases hdet p.1 (hreads p.1 (List.of_mem_zip hp).1) with h3 | ⟨k1, k2, k3⟩ | ⟨x, k1, k2, k3, k4⟩ | ⟨k1, k2, k3, k4⟩
    · exact ⟨fun _ => h3.detectS, fun _ _ => Or.inr h3⟩
    · refine ⟨fun hne => ?_, fun x hx => (hz2 x (k1 x hx)).imp id k2⟩
      rcases k3 with k3 | ⟨k3, k4⟩
      · exact k3
      · rw [k3] at hne; exact absurd (hz1 hne) k4
    · refine ⟨fun hne => ?_, fun x' hx' => ?_⟩
      · rcases hz2 x k1 with h4 | h4
        · rw [k3] at hne; exact absurd h4 hne
        · exact (k4 h4).detectS
      · rw [k2] at hx'; cases hx'
        exact (hz2 x k1).imp id k4
    · have hl : p.2 ≠ contentOf w p.1 → DetectL w' (Mof (w.recs u)) p.1 := fun hne => k3 (k2.detectL (hz1 hne))
      refine ⟨fun hne => (hl (by rw [← k1]; exact hne)).detectS, fun x hx => ?_⟩
      by_cases he : p.2 = some x
      · exact Or.inl he
      · exact Or.inr (hl (by rw [← k1, k4 x hx]; exact he))

/-- The promise of another target's record survives an update of `t`, provided a change of `t` is detectable
by that target whenever it matters. -/
theorem RecTruth_off {rank R t w w' u} (hb : BaseN nc rank R X w) (h : OffT t w w') (hu : u ≠ t)
    (hdet : HasRow w u t true → Hdet w w' t (Mof (w.recs u)))
    (ht : RecTruth w u) : RecTruth w' u := by
  have hall : ∀ d, HasRow w u d true → Hdet w w' d (Mof (w.recs u)) := fun d hrow =>
    if e : d = t then e ▸ hdet (e ▸ hrow) else Hdet.same (.of_eq (h.recs d e)) (h.fs d e)
  refine ht.mono (by rw [h.rules]) (fun _ _ => (h.hasRow hu).2) (by rw [h.recs u hu]) (contentOf_congr (h.fs u hu))
    (fun dof hd hrow => ?_) hall
  -- a .do candidate is a plain file: it keeps its content, and carries no checksum
  have hp := (hb.rulesOk.2 u dof hd).1
  have hfs := h.fsPlain hp
  exact ⟨Or.inl ⟨existsF_congr hfs, scriptAt_congr hfs h.progs⟩, (hall dof hrow).detectS (hb.srcNoCsum dof hp)⟩

/-- The clauses of `Base` that speak about one record, for file `t` in world `w` (`Deps.RecOk` has `noCsum` where this one has
the four checksum clauses). -/
structure RecOk (R t : Nat) (w : World) : Prop where
  chLe : ∀ ch, (w.recs t).changed = some ch → ch ≤ R
  ckLe : ∀ ck, (w.recs t).checked = some ck → ck ≤ R
  csumFile : ∀ x, (w.recs t).csum = some x → ∀ n, w.fs t = some n → n.content = x
  csumEx : (w.recs t).csum ≠ none → (w.recs t).failed = none → (w.recs t).stamp ≠ some .missing
  srcNoCsum : w.rules t = [] → (w.recs t).csum = none
  csumCh : (w.recs t).csum ≠ none → (w.recs t).changed ≠ none
  noOvr : (w.recs t).isOverride = false
  srcNotGen : w.rules t = [] → (w.recs t).isGenerated = false
  rec0 : t = alwaysId → ((w.recs t).failed ≠ none ∨ ((w.recs t).stamp = none ∧ (w.recs t).checked = none))
  stampCh : (w.recs t).stamp ≠ none → (w.recs t).changed ≠ none
  staticEx : (w.recs t).failed = none → (w.recs t).isGenerated = false → (w.recs t).stamp ≠ some .missing
  genMs : (w.recs t).isGenerated = true → ∀ n, w.fs t = some n → ∃ rest, (w.recs t).stamp = some (.st n.ms rest)
  fsB : ∀ n, w.fs t = some n → n.ms ≤ w.clock
  stB : ∀ ms rest, (w.recs t).stamp = some (.st ms rest) →
      ms ≤ w.clock ∧ ∀ n, w.fs t = some n → ms < n.ms ∨ (ms = n.ms ∧ rest ≤ n.rest)
  ckFail : (w.recs t).checked = some R → (w.recs t).failed = none
  markFail : (w.recs t).changed = some R → (w.recs t).failed = none ∨ (w.recs t).failed = some R
  flLe : ∀ k, (w.recs t).failed = some k → k ≤ R

theorem BaseN.recOk {rank R w} (hb : BaseN nc rank R X w) (t : Nat) : RecOk R t w :=
  ⟨hb.chLe t, hb.ckLe t, hb.csumFile t, hb.csumEx t, hb.srcNoCsum t, hb.csumCh t, hb.noOvr t, hb.srcNotGen t, fun e => e ▸ hb.rec0, hb.stampCh t,
   hb.staticEx t, hb.genMs t, hb.fsB t, hb.stB t, hb.ckFail t, hb.markFail t, hb.flLe t⟩

theorem BaseN.of_recOk {rank R w} (hru : RulesOk w.rules) (hrk : Ranked rank w)
    (hpr : ∀ c sc, w.progs c = some sc → sc.PlainS) (hrec : ∀ f, RecOk R f w) (hfs0 : w.fs alwaysId = none)
    (hrowsLt : ∀ d ∈ w.deps, rank d.source < rank d.target)
    (hcPlain : ∀ d ∈ w.deps, d.modeM = false → w.rules d.source = [])
    (hrecA : ∀ t, (¬ X t ∨ VerR w R t) → RecCur w t → (w.recs t).isGenerated = true → RecTruth w t)
    (hns : nc = true → NoStamp w) : BaseN nc rank R X w :=
  { rulesOk := hru, ranked := hrk, plainProgs := hpr, fs0 := hfs0, rowsLt := hrowsLt, cPlain := hcPlain, recA := hrecA,
    nostamp := hns, rec0 := (hrec alwaysId).rec0 rfl
    chLe := fun f => (hrec f).chLe, ckLe := fun f => (hrec f).ckLe, csumFile := fun f => (hrec f).csumFile,
    csumEx := fun f => (hrec f).csumEx, srcNoCsum := fun f => (hrec f).srcNoCsum, csumCh := fun f => (hrec f).csumCh,
    noOvr := fun f => (hrec f).noOvr, srcNotGen := fun f => (hrec f).srcNotGen, stampCh := fun f => (hrec f).stampCh,
    staticEx := fun f => (hrec f).staticEx, genMs := fun f => (hrec f).genMs, fsB := fun f => (hrec f).fsB,
    stB := fun f => (hrec f).stB, ckFail := fun f => (hrec f).ckFail, markFail := fun f => (hrec f).markFail,
    flLe := fun f => (hrec f).flLe }

theorem RecOk.congr {R t w w'} (o : RecOk R t w) (hr : Deps.Flds (w'.recs t) (w.recs t)) (hf : w'.fs t = w.fs t)
    (hru : w'.rules = w.rules) (hc : w.clock ≤ w'.clock) : RecOk R t w' := by
  obtain ⟨e1, e2, e3, e4, e5, e6, e7⟩ := hr
  constructor <;> try simp only [e1, e2, e3, e4, e5, e6, e7]
  case chLe => exact o.chLe
  case ckLe => exact o.ckLe
  case csumFile => rw [hf]; exact o.csumFile
  case csumEx => exact o.csumEx
  case srcNoCsum => rw [hru]; exact o.srcNoCsum
  case csumCh => exact o.csumCh
  case noOvr => exact o.noOvr
  case srcNotGen => rw [hru]; exact o.srcNotGen
  case rec0 => exact o.rec0
  case stampCh => exact o.stampCh
  case staticEx => exact o.staticEx
  case genMs => rw [hf]; exact o.genMs
  case fsB => rw [hf]; exact fun n hn => Nat.le_trans (o.fsB n hn) hc
  case stB => rw [hf]; exact fun ms rest hs => ⟨Nat.le_trans (o.stB ms rest hs).1 hc, (o.stB ms rest hs).2⟩
  case ckFail => exact o.ckFail
  case markFail => exact o.markFail
  case flLe => exact o.flLe

theorem Base_upd {rank R t w w'} {X X' : Nat → Prop} (hb : BaseN nc rank R X w) (h : OffT t w w') (hok : RecOk R t w')
    (hX : ∀ u, u ≠ t → ¬ X' u → ¬ X u)
    (hrowsLt : ∀ d ∈ w'.deps, rank d.source < rank d.target)
    (hcPlain : ∀ d ∈ w'.deps, d.modeM = false → w'.rules d.source = [])
    (hdet : ∀ u, u ≠ t → RecCur w u → (w.recs u).isGenerated = true → HasRow w u t true →
      Hdet w w' t (Mof (w.recs u)))
    (hA : (¬ X' t ∨ VerR w' R t) → RecCur w' t → (w'.recs t).isGenerated = true → RecTruth w' t)
    (hcs : nc = true → (w'.recs t).csum = none) :
    BaseN nc rank R X' w' := by
  have hrec : ∀ x, RecOk R x w' := by
    intro x
    by_cases e : x = t
    · subst e; exact hok
    · exact (hb.recOk x).congr (.of_eq (h.recs x e)) (h.fs x e) h.rules h.clock
  refine BaseN.of_recOk (by rw [h.rules]; exact hb.rulesOk) (h.ranked hb.toBase) (by rw [h.progs]; exact hb.plainProgs) hrec
    ?_ hrowsLt hcPlain ?_ (fun hc => ⟨fun f => ?_, fun c sc hs => (hb.nostamp hc).progs c sc (h.progs ▸ hs)⟩)
  · rw [h.fsPlain hb.rulesOk.1]; exact hb.fs0
  · intro u hx hrc hg
    by_cases e : u = t
    · subst e; exact hA hx hrc hg
    · have hrc0 := (h.recCur e).1 hrc
      rw [h.recs u e] at hg
      have hx0 : ¬ X u ∨ VerR w R u := hx.imp (hX u e) (h.verR e R).1
      exact RecTruth_off hb h e (hdet u e hrc0 hg) (hb.recA u hx0 hrc0 hg)
  · by_cases e : f = t
    · exact e ▸ hcs hc
    · rw [h.recs f e]; exact (hb.nostamp hc).csum f

/-- `Ver` across an update of `t`: a good `t` keeps its content, its ownership and its goodness (a file that is not good may
change at will); what a verified `t` promises afterwards is the caller's, who may use that every file that was good is still
up to date. -/
theorem Ver_upd_keep {rank R t w w'} (hi : InvN nc rank R X w) (h : OffT t w w')
    (hkeep : Good w R t → contentOf w' t = contentOf w t ∧ (w'.recs t).isGenerated = (w.recs t).isGenerated ∧ Good w' R t)
    (hT : (∀ x, Good w R x → UpToDateD w' x) → VerR w' R t → RecCur w' t ∧ UpToDateD w' t ∧
      ((w'.recs t).isGenerated = true → ∀ d ∈ w'.deps, d.target = t →
        (d.modeM = true → Good w' R d.source) ∧ (d.modeM = false → existsF w' d.source = false))) :
    Ver R w' := by
  have hfro : ∀ x, Good w R x → contentOf w' x = contentOf w x ∧ (w'.recs x).isGenerated = (w.recs x).isGenerated := by
    intro x hx
    by_cases e : x = t
    · subst e; exact ⟨(hkeep hx).1, (hkeep hx).2.1⟩
    · exact ⟨contentOf_congr (h.fs x e), by rw [h.recs x e]⟩
  have hup : ∀ x, Good w R x → UpToDateD w' x := fun x hx =>
    good_upToDate hi h.rules h.progs (fun y hy => contentOf_congr (h.fsPlain hy)) hfro (rank x + 1) x
      (Nat.lt_succ_self _) hx
  have hgd : ∀ x, Good w R x → Good w' R x := by
    intro x hx
    by_cases e : x = t
    · subst e; exact (hkeep hx).2.2
    · exact (h.good e R).2 hx
  intro f hv
  by_cases e : f = t
  · subst e; exact hT hup hv
  · have hv0 := (h.verR e R).1 hv
    obtain ⟨hrc, _, hcl⟩ := hi.ver f hv0
    refine ⟨(h.recCur e).2 hrc, hup f (Or.inl hv0), ?_⟩
    rw [h.recs f e]
    intro hg d hd hdt
    have hd0 := (h.rows d (by rw [hdt]; exact e)).1 hd
    exact ⟨fun hm => hgd _ ((hcl hg d hd0 hdt).1 hm), fun hm => by
      rw [existsF_congr (h.fsPlain (hi.base.cPlain d hd0 hm))]; exact (hcl hg d hd0 hdt).2 hm⟩

theorem Ver_upd {rank R t w w'} (hi : InvN nc rank R X w) (h : OffT t w w') (hng : ¬ Good w R t)
    (hT : VerR w' R t → RecCur w' t ∧ UpToDateD w' t ∧
      ((w'.recs t).isGenerated = true → ∀ d ∈ w'.deps, d.target = t →
        (d.modeM = true → Good w' R d.source) ∧ (d.modeM = false → existsF w' d.source = false))) :
    Ver R w' :=
  Ver_upd_keep hi h (fun hg => absurd hg hng) (fun _ => hT)

theorem Ver_upd_quiet {rank R t w w'} (hi : InvN nc rank R X w) (h : OffT t w w')
    (hc : contentOf w' t = contentOf w t) (hgen : (w'.recs t).isGenerated = (w.recs t).isGenerated)
    (hgood : Good w R t → Good w' R t) (hvr : VerR w' R t → VerR w R t)
    (hT : VerR w' R t → RecCur w' t ∧
      ((w'.recs t).isGenerated = true → ∀ d ∈ w'.deps, d.target = t →
        (d.modeM = true → Good w' R d.source) ∧ (d.modeM = false → existsF w' d.source = false))) :
    Ver R w' :=
  Ver_upd_keep hi h (fun hg => ⟨hc, hgen, hgood hg⟩) (fun hup hv => ⟨(hT hv).1, hup t (Or.inl (hvr hv)), (hT hv).2⟩)

theorem parents_lt {rank R w t u} (hi : InvN nc rank R X w) (hng : ¬ Good w R t) (hrc : RecCur w u)
    (hg : (w.recs u).isGenerated = true) (hrow : HasRow w u t true) : Mof (w.recs u) < R := by
  have hle := hi.base.Mof_le u
  rcases Nat.lt_or_ge (Mof (w.recs u)) R with h | h
  · exact h
  · exfalso
    have he : Mof (w.recs u) = R := Nat.le_antisymm hle h
    have hv : VerR w R u := ⟨hrc.1, (Mof_eq_R he hi.Rpos).symm⟩
    exact hng (hrow.good hi hv hg)

/-! ### The argument `hdet` of `Base_upd` (how the update of `t` looks to every parent of `t`), by kind of update. -/

theorem hdet_loud {rank R w w' t} (hi : InvN nc rank R X w) (hng : ¬ Good w R t) (hch : (w'.recs t).changed = some R) :
    ∀ u, u ≠ t → RecCur w u → (w.recs u).isGenerated = true → HasRow w u t true → Hdet w w' t (Mof (w.recs u)) :=
  fun _ _ hrc hg hrow => Or.inl (Or.inr ⟨R, hch, parents_lt hi hng hrc hg hrow⟩)

theorem hdet_quiet {w w' : World} {t : Nat} (hc : contentOf w' t = contentOf w t)
    (hch : (w'.recs t).changed = (w.recs t).changed)
    (hcs : (w'.recs t).csum = (w.recs t).csum ∨ (w'.recs t).csum = none)
    (hst : (w.recs t).stamp ≠ some (readStamp w t) → (w'.recs t).stamp ≠ some (readStamp w' t))
    (hfa : FailedAbsent w t → FailedAbsent w' t) :
    ∀ u, u ≠ t → RecCur w u → (w.recs u).isGenerated = true → HasRow w u t true → Hdet w w' t (Mof (w.recs u)) :=
  fun _ _ _ _ _ => Hdet.quiet hc hch hcs hst hfa

/-- A rebuild of a file that is not good which reproduced the recorded checksum `x`: `changed` is kept. -/
theorem hdet_reproduced {w w' : World} {t : Nat} {x : Content} (h1 : (w.recs t).csum = some x)
    (h2 : (w'.recs t).csum = some x) (hc : contentOf w' t = some x)
    (hch : (w'.recs t).changed = (w.recs t).changed) :
    ∀ u, u ≠ t → RecCur w u → (w.recs u).isGenerated = true → HasRow w u t true → Hdet w w' t (Mof (w.recs u)) :=
  fun _ _ _ _ _ => Or.inr (Or.inr (Or.inl ⟨x, h1, h2, hc, fun h => by unfold DetectL at h ⊢; rw [hch]; exact h⟩))

/-- A rebuild of a current file that reproduced its content; `changed` may move to `R`. -/
theorem hdet_idem {rank R X w w'} {t : Nat} (hb : BaseN nc rank R X w) (hc : contentOf w' t = contentOf w t) (hrc : RecCur w t)
    (hch : (w'.recs t).changed = (w.recs t).changed ∨ (w'.recs t).changed = some R)
    (hcs : ∀ x, (w'.recs t).csum = some x → contentOf w' t = some x) :
    ∀ u, u ≠ t → RecCur w u → (w.recs u).isGenerated = true → HasRow w u t true → Hdet w w' t (Mof (w.recs u)) := by
  intro u _ _ _ _
  refine Or.inr (Or.inr (Or.inr ⟨hc, hrc, fun h => ?_, hcs⟩))
  rcases hch with e | e
  · unfold DetectL at h ⊢; rw [e]; exact h
  · rcases h with h | ⟨ch, h1, h2⟩
    · exact absurd h hrc.2.1
    · exact Or.inr ⟨R, e, Nat.lt_of_lt_of_le h2 (hb.chLe t ch h1)⟩

/-! ### Record-only updates made by the dirtiness check: the vanished-target write and the checked mark. -/

theorem OffT.setRec (w : World) (f : Nat) (r : Rec) : OffT f w (setRec w f r) := (Deps.OffT.setRec w f r).toS

/-- `isDirty` found the file of a generated target missing: it forgets that it was generated. -/
theorem Inv_vanished {rank R w f} (hi : InvN nc rank R X w) (hf : (w.recs f).failed = none)
    (hs : (w.recs f).stamp ≠ some (readStamp w f)) :
    InvN nc rank R X (setRec w f { w.recs f with isGenerated := false, isOverride := false, failed := some 0 }) := by
  have hnv : ¬ VerR w R f := fun hv => hs (hi.ver f hv).1.2.2
  have hng : ¬ Good w R f := fun hg => hs (hg.recCur hi).2.2
  have o := hi.base.recOk f
  have hoff := OffT.setRec w f { w.recs f with isGenerated := false, isOverride := false, failed := some 0 }
  refine ⟨Base_upd hi.base hoff ?_ (fun _ _ h => h) hi.base.rowsLt hi.base.cPlain
    (hdet_quiet rfl (by simp) (Or.inl (by simp)) (by simp) (fun h => absurd hf h.1)) ?_
    (fun hc => by simp only [setRec_recs_self]; exact (hi.base.nostamp hc).csum f), hi.Rpos, Ver_upd hi hoff hng ?_⟩
  · constructor <;> simp only [setRec_recs_self, setRec_fs, setRec_rules, setRec_clock]
    case chLe => exact o.chLe
    case ckLe => exact o.ckLe
    case csumFile => exact o.csumFile
    case csumEx => exact fun _ h => by cases h
    case srcNoCsum => exact o.srcNoCsum
    case csumCh => exact o.csumCh
    case srcNotGen => exact fun _ => trivial
    case rec0 => exact fun _ => Or.inl (by simp)
    case stampCh => exact o.stampCh
    case staticEx => exact fun h => by cases h
    case genMs => exact fun h => by cases h
    case fsB => exact o.fsB
    case stB => exact o.stB
    case ckFail => exact fun h => absurd ⟨hf, Or.inl h⟩ hnv
    case markFail => exact fun h => absurd ⟨hf, Or.inr h⟩ hnv
    case flLe => intro k h; cases h; exact Nat.zero_le _
  · intro _ hrc; exact absurd hrc.1 (by simp)
  · intro hv; exact absurd hv.1 (by simp)

theorem RecTruth_clean {rank R w f mx} (hi : InvN nc rank R X w) (hx : ¬ X f ∨ VerR w R f) (hrc : RecCur w f)
    (hg : (w.recs f).isGenerated = true) (hmx : mx ≤ Mof (w.recs f)) (hrows : RowsClean w R mx f) :
    ∃ pre dof post, VScript w f pre dof post := by
  refine recTruth_script (hi.base.recA f hx hrc hg) ?_ ?_
  · rintro s ⟨d, hd, h1, h2, h3⟩ hdt
    exact ((hrows hg d hd h1).1 h3).2 (h2 ▸ DetectS.toM hdt hmx)
  · rintro s ⟨d, hd, h1, h2, h3⟩
    exact h2 ▸ (hrows hg d hd h1).2 h3

theorem Base_setChecked {rank R w f mx} (hi : InvN nc rank R X w) (hx : ¬ X f) (hrc : RecCur w f)
    (hmx : mx ≤ Mof (w.recs f)) (hrows : RowsClean w R mx f) :
    BaseN nc rank R X (setRec w f { w.recs f with checked := some R }) := by
  have o := hi.base.recOk f
  have hf0 : f ≠ alwaysId := by
    intro e; subst e
    rcases hi.base.rec0 with h | ⟨h, _⟩
    · exact h hrc.1
    · have := hrc.2.2; rw [h] at this; cases this
  refine Base_upd hi.base (OffT.setRec w f _) ?_ (fun _ _ h => h) hi.base.rowsLt hi.base.cPlain
    (hdet_quiet rfl (by simp) (Or.inl (by simp)) (by simp) (fun h => absurd hrc.1 h.1)) ?_
    (fun hc => by simp only [setRec_recs_self]; exact (hi.base.nostamp hc).csum f)
  · constructor <;>
      simp only [setRec_recs_self, setRec_fs, setRec_rules, setRec_clock]
    case chLe => exact o.chLe
    case ckLe => intro ck h; cases h; exact Nat.le_refl _
    case csumFile => exact o.csumFile
    case csumEx => exact o.csumEx
    case srcNoCsum => exact o.srcNoCsum
    case csumCh => exact o.csumCh
    case noOvr => exact o.noOvr
    case srcNotGen => exact o.srcNotGen
    case rec0 => exact fun e => absurd e hf0
    case stampCh => exact o.stampCh
    case staticEx => exact o.staticEx
    case genMs => exact o.genMs
    case fsB => exact o.fsB
    case stB => exact o.stB
    case ckFail => exact fun _ => hrc.1
    case markFail => exact o.markFail
    case flLe => exact o.flLe
  · intro _ _ hg
    simp only [setRec_recs_self] at hg
    obtain ⟨pre, dof, post, vs⟩ := RecTruth_clean hi (Or.inl hx) hrc hg hmx hrows
    refine (vs.setRec f _).recTruth ?_
    rintro s ⟨r, hrm, h1, h2, h3⟩ c hc
    have hcs : ((setRec w f { w.recs f with checked := some R }).recs s).csum = (w.recs s).csum := by
      by_cases e : s = f
      · rw [e]; simp
      · rw [setRec_recs_other _ _ _ e]
    have hv : VerR w R s := h2 ▸ ((hrows hg r hrm h1).1 h3).1
    exact hi.base.csumCur (hi.ver _ hv).1 (hcs ▸ hc)

theorem Ver_setChecked {rank R w f mx} (hi : InvN nc rank R X w) (hx : ¬ X f) (hrc : RecCur w f)
    (hmx : mx ≤ Mof (w.recs f)) (hrows : RowsClean w R mx f) :
    Ver R (setRec w f { w.recs f with checked := some R }) := by
  have hgen : ((setRec w f { w.recs f with checked := some R }).recs f).isGenerated = (w.recs f).isGenerated := by simp
  refine Ver_upd_keep hi (OffT.setRec w f _) (fun hgd => ⟨rfl, hgen, ck_good hgd⟩) (fun hup _ => ⟨?_, ?_, ?_⟩)
  · unfold RecCur; simp only [setRec_recs_self, setRec_readStamp]; exact hrc
  · cases hg : (w.recs f).isGenerated with
    | false =>
      refine UpToDateD.user (by rw [hgen]; exact hg) ?_
      show existsF w f = true
      exact static_exists hi.base hrc hg
    | true =>
      obtain ⟨pre, dof, post, vs⟩ := RecTruth_clean hi (Or.inl hx) hrc hg hmx hrows
      refine (vs.setRec f _).upToDate (fun d hd => ?_)
      obtain ⟨r, hrm, h1, h2, h3⟩ := vs.reads d hd
      exact hup d (Or.inl (h2 ▸ ((hrows hg r hrm h1).1 h3).1))
  · intro hg d hd hdt
    rw [hgen] at hg
    exact ⟨fun hm => Or.inl (ck_verR ((hrows hg d hd hdt).1 hm).1), (hrows hg d hd hdt).2⟩

theorem Inv_setChecked {rank R w f mx} (hi : InvN nc rank R X w) (hx : ¬ X f) (hrc : RecCur w f)
    (hmx : mx ≤ Mof (w.recs f)) (hrows : RowsClean w R mx f) :
    InvN nc rank R X (setRec w f { w.recs f with checked := some R }) :=
  ⟨Base_setChecked hi hx hrc hmx hrows, hi.Rpos, Ver_setChecked hi hx hrc hmx hrows⟩

end RedoModel.Deps.S
