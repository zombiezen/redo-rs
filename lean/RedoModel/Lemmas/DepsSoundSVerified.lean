import RedoModel.Lemmas.DepsSoundSSpec
import RedoModel.Lemmas.ListZip
/-! C01 on the full engine model, with and without `redo-stamp`: the one induction, over `InvN nc`. Basic facts about the functions of `fs`, and what the invariant says about a verified file: its script, its cone. -/
namespace RedoModel.Deps.S

/-! ### The plain invariant as a special case (`Base.toS`); the `CkExt` frame. -/

theorem _root_.RedoModel.Deps.Base.toS {rank R X w} (hb : Deps.Base rank R X w) : Base rank R X w :=
  have hn : ∀ {f x}, (w.recs f).csum = some x → False := fun h => by rw [hb.noCsum] at h; cases h
  { hb with
    plainProgs := fun c sc h => (hb.plainProgs c sc h).plainS
    csumFile := fun _ _ h => (hn h).elim
    csumEx := fun f h => absurd (hb.noCsum f) h
    srcNoCsum := fun f _ => hb.noCsum f
    csumCh := fun f h => absurd (hb.noCsum f) h
    recA := fun t hx hrc hg => by
      obtain ⟨pre, dof, post, sc, h1, h2, h3, h4, h5, h6, cs, h7, h8, hz⟩ := hb.recA t hx hrc hg
      exact ⟨pre, dof, post, sc, h1, h2, h3, h4, h5, h6, cs, h7, h8, fun p hp => ⟨hz p hp, fun _ h => (hn h).elim⟩⟩ }

/-- `w'` differs from `w` only by `checked := some R` on files of rank `< b` (and the ghost trace).  `Deps.CkExt` with one
clause more: a record that got the mark had not failed. -/
def CkExt (rank : Nat → Nat) (R b : Nat) (w w' : World) : Prop :=
  SameButRecs w w' ∧ ∀ x, w'.recs x = w.recs x ∨
    (rank x < b ∧ w'.recs x = { w.recs x with checked := some R } ∧ (w.recs x).failed = none)

theorem CkExt.refl (rank R b w) : CkExt rank R b w w := ⟨SameButRecs.refl w, fun _ => Or.inl rfl⟩

theorem CkExt.mono {rank R b b' w w'} (h : CkExt rank R b w w') (hb : b ≤ b') : CkExt rank R b' w w' :=
  ⟨h.1, fun x => (h.2 x).imp id (fun ⟨hx, e⟩ => ⟨Nat.lt_of_lt_of_le hx hb, e⟩)⟩

theorem CkExt.trans {rank R b w w' w''} (h1 : CkExt rank R b w w') (h2 : CkExt rank R b w' w'') :
    CkExt rank R b w w'' := by
  refine ⟨h1.1.trans h2.1, fun x => ?_⟩
  rcases h1.2 x with e1 | ⟨hx1, e1, f1⟩ <;> rcases h2.2 x with e2 | ⟨hx2, e2, f2⟩
  · exact Or.inl (e2.trans e1)
  · exact Or.inr ⟨hx2, by rw [e2, e1], by rw [← e1]; exact f2⟩
  · exact Or.inr ⟨hx1, by rw [e2, e1], f1⟩
  · exact Or.inr ⟨hx1, by rw [e2, e1], f1⟩

/-- It is a `CkExt` of the plain development (the clause `failed = none` dropped), whose lemmas about what such a step
leaves alone apply. -/
theorem CkExt.toPlain {rank R b w w'} (h : CkExt rank R b w w') : Deps.CkExt rank R b w w' :=
  ⟨h.1, fun x => (h.2 x).imp id (fun ⟨hx, e, _⟩ => ⟨hx, e⟩)⟩

theorem CkExt.fs {rank R b w w'} (h : CkExt rank R b w w') : w'.fs = w.fs := h.1.1
theorem CkExt.deps {rank R b w w'} (h : CkExt rank R b w w') : w'.deps = w.deps := h.1.2.1

theorem CkExt.readStamp {rank R b w w'} (h : CkExt rank R b w w') (f) : readStamp w' f = readStamp w f :=
  h.toPlain.readStamp f
theorem CkExt.existsF {rank R b w w'} (h : CkExt rank R b w w') (f) : existsF w' f = existsF w f :=
  h.toPlain.existsF f
theorem CkExt.contentOf {rank R b w w'} (h : CkExt rank R b w w') (f) : contentOf w' f = contentOf w f :=
  h.toPlain.contentOf f

theorem CkExt.fields {rank R b w w'} (h : CkExt rank R b w w') (x) :
    (w'.recs x).failed = (w.recs x).failed ∧ (w'.recs x).changed = (w.recs x).changed ∧
    (w'.recs x).stamp = (w.recs x).stamp ∧ (w'.recs x).isGenerated = (w.recs x).isGenerated ∧
    (w'.recs x).isOverride = (w.recs x).isOverride ∧ (w'.recs x).csum = (w.recs x).csum ∧
    ((w'.recs x).checked = (w.recs x).checked ∨ (w'.recs x).checked = some R) := h.toPlain.fields x

theorem CkExt.above {rank R b w w'} (h : CkExt rank R b w w') {x} (hx : b ≤ rank x) : w'.recs x = w.recs x :=
  h.toPlain.above hx

theorem DetectM_ext {rank R b w w'} (h : CkExt rank R b w w') (M d) : DetectM w' M d ↔ DetectM w M d :=
  Deps.DetectM_ext h.toPlain M d

theorem DetectS_ext {rank R b w w'} (h : CkExt rank R b w w') (M d) : DetectS w' M d ↔ DetectS w M d :=
  Deps.DetectS_ext h.toPlain M d

theorem RecCur_ext {rank R b w w'} (h : CkExt rank R b w w') (f) : RecCur w' f ↔ RecCur w f := Deps.RecCur_ext h.toPlain f

theorem VerR_ext {rank R b w w'} (h : CkExt rank R b w w') {f} (hv : VerR w R f) : VerR w' R f := Deps.VerR_ext h.toPlain hv

theorem Good_ext {rank R b w w'} (h : CkExt rank R b w w') {f} (hv : Good w R f) : Good w' R f := by
  rcases hv with hv | ⟨hc, hg⟩
  · exact Or.inl (VerR_ext h hv)
  · exact Or.inr ⟨(RecCur_ext h f).2 hc, by rw [(h.fields f).2.2.2.1]; exact hg⟩

theorem HasRow_ext {rank R b w w'} (h : CkExt rank R b w w') (t s m) : HasRow w' t s m ↔ HasRow w t s m :=
  Deps.HasRow_ext h.toPlain t s m

/-! ### What the invariant says about a good file: its record is current, nothing detects it, its rows. -/

theorem BaseN.Mof_le {rank R w} (hb : BaseN nc rank R X w) (u : Nat) : Mof (w.recs u) ≤ R := by
  unfold Mof
  have h1 : (w.recs u).changed.getD 0 ≤ R := by
    cases h : (w.recs u).changed with
    | none => simp
    | some c => simpa using hb.chLe u c h
  have h2 : (w.recs u).checked.getD 0 ≤ R := by
    cases h : (w.recs u).checked with
    | none => simp
    | some c => simpa using hb.ckLe u c h
  exact Nat.max_le.2 ⟨h1, h2⟩

theorem VerR.Mof_eq {rank R w f} (hb : BaseN nc rank R X w) (hv : VerR w R f) : Mof (w.recs f) = R := by
  have hle := hb.Mof_le f
  unfold Mof at hle ⊢
  rcases hv.2 with h | h
  · rw [h] at hle ⊢; simp only [Option.getD_some] at hle ⊢; omega
  · rw [h] at hle ⊢; simp only [Option.getD_some] at hle ⊢; omega

theorem RecCur.notDetectS {rank R w d} (hb : BaseN nc rank R X w) (hc : RecCur w d) : ¬ DetectS w R d := by
  rintro (h | ⟨ch, h1, h2⟩ | h | h)
  · exact hc.2.1 h
  · have := hb.chLe d ch h1; omega
  · exact h hc.2.2
  · exact h.1 hc.1

theorem Good.recCur {rank R w d} (hi : InvN nc rank R X w) (hg : Good w R d) : RecCur w d := by
  rcases hg with hv | ⟨hc, _⟩
  · exact (hi.ver d hv).1
  · exact hc

theorem Good.notDetectM {rank R w d} (hi : Inv rank R X w) (hg : Good w R d) : ¬ DetectM w R d := by
  have hc := hg.recCur hi.toInvN
  rintro (h | h | h | h)
  · exact h hc.1
  · exact hc.notDetectS hi.toInvN.base (Or.inl h)
  · exact hc.notDetectS hi.toInvN.base (Or.inr (Or.inl h))
  · exact hc.notDetectS hi.toInvN.base (Or.inr (Or.inr (Or.inl h)))

theorem static_exists {rank R w d} (hb : BaseN nc rank R X w) (hc : RecCur w d) (hg : (w.recs d).isGenerated = false) :
    existsF w d = true := by
  have h1 := hb.staticEx d hc.1 hg
  rw [hc.2.2] at h1
  cases hx : existsF w d with
  | true => rfl
  | false =>
    exfalso; apply h1
    rw [readStamp_missing.2 (existsF_eq_false.1 hx)]

theorem HasRow.good {rank R w x s} (hi : InvN nc rank R X w) (hv : VerR w R x) (hg : (w.recs x).isGenerated = true)
    (h : HasRow w x s true) : Good w R s := by
  obtain ⟨d, hd, h1, h2, h3⟩ := h
  have := ((hi.ver x hv).2.2 hg d hd h1).1 h3
  rwa [h2] at this

theorem HasRow.absent {rank R w x s} (hi : Inv rank R X w) (hv : VerR w R x) (hg : (w.recs x).isGenerated = true)
    (h : HasRow w x s false) : existsF w s = false := by
  obtain ⟨d, hd, h1, h2, h3⟩ := h
  have := ((hi.ver x hv).2.2 hg d hd h1).2 h3
  rwa [h2] at this

/-! ### The script of a verified target (`VScript`), and what keeps it. -/

/-- What is known about a current generated target `x` none of whose rows is dirty: its script is the one in place, ran to
completion on the present contents, and every declaration is recorded. -/
structure VScript (w : World) (x : Nat) (pre : List Nat) (dof : Nat) (post : List Nat) : Prop where
  rules : w.rules x = pre ++ dof :: post
  pre : ∀ c ∈ pre, existsF w c = false ∧ HasRow w x c false
  dofEx : existsF w dof = true
  dofRow : HasRow w x dof true
  reads : ∀ d ∈ (scriptAt w dof).reads, HasRow w x d true
  exit : (scriptAt w dof).exit = 0
  content : contentOf w x = outOf w (scriptAt w dof)

theorem VScript.first {w x pre dof post} (vs : VScript w x pre dof post) : firstEx w (w.rules x) = some dof := by
  rw [vs.rules]; exact firstEx_split pre dof post (fun c hc => (vs.pre c hc).1) vs.dofEx

theorem VScript.setRec {w x pre dof post} (vs : VScript w x pre dof post) (f : Nat) (r : Rec) :
    VScript (setRec w f r) x pre dof post :=
  ⟨vs.rules, vs.pre, vs.dofEx, vs.dofRow, vs.reads, vs.exit, vs.content⟩

theorem recTruth_script {w : World} {x : Nat} (ht : RecTruth w x)
    (hnd : ∀ s, HasRow w x s true → ¬ DetectS w (Mof (w.recs x)) s)
    (habs : ∀ s, HasRow w x s false → existsF w s = false) : ∃ pre dof post, VScript w x pre dof post := by
  obtain ⟨pre, dof, post, sc, hr, hpre, hdof, hreads, hexit, hsc, cs, hcont, hlen, hz⟩ := ht
  obtain ⟨hex, hsceq⟩ : existsF w dof = true ∧ scriptAt w dof = sc := by
    rcases hsc with h | h
    · exact h
    · exact absurd h (hnd dof hdof)
  have hall : ∀ p ∈ List.zip sc.reads cs, p.2 = contentOf w p.1 := by
    intro p hp
    by_cases he : p.2 = contentOf w p.1
    · exact he
    · exact absurd ((hz p hp).1 he) (hnd p.1 (hreads p.1 (List.of_mem_zip hp).1))
  have hcs := List.eq_map_of_forall_mem_zip (contentOf w) sc.reads cs hlen hall
  subst hsceq
  exact ⟨pre, dof, post, hr, fun c hc => ⟨habs c (hpre c hc), hpre c hc⟩, hex, hdof, hreads, hexit, by rw [hcont, hcs]; rfl⟩

theorem verR_script {rank R w x} (hi : InvN nc rank R X w) (hv : VerR w R x) (hg : (w.recs x).isGenerated = true) :
    ∃ pre dof post, VScript w x pre dof post := by
  refine recTruth_script (hi.base.recA x (Or.inr hv) (hi.ver x hv).1 hg) (fun s hs => ?_) (fun s hs => hs.absent hi.toInv hv hg)
  rw [hv.Mof_eq hi.base]
  exact ((hs.good hi hv hg).recCur hi).notDetectS hi.base

theorem VScript.recTruth {w : World} {x pre dof post} (vs : VScript w x pre dof post)
    (hcs : ∀ d, HasRow w x d true → ∀ c, (w.recs d).csum = some c → contentOf w d = some c) : RecTruth w x := by
  refine ⟨pre, dof, post, scriptAt w dof, vs.rules, fun c hc => (vs.pre c hc).2, vs.dofRow, vs.reads, vs.exit,
    Or.inl ⟨vs.dofEx, rfl⟩, (scriptAt w dof).reads.map (contentOf w), vs.content, by simp, ?_⟩
  intro p hp
  have hp2 := List.snd_eq_of_mem_zip_map (contentOf w) _ p hp
  exact ⟨fun hne => absurd hp2 hne,
    fun c hc => Or.inl (by rw [hp2]; exact hcs p.1 (vs.reads p.1 (List.of_mem_zip hp).1) c hc)⟩

theorem VScript.upToDate {w : World} {x pre dof post} (vs : VScript w x pre dof post)
    (hup : ∀ d ∈ (scriptAt w dof).reads, UpToDateD w d) : UpToDateD w x :=
  UpToDateD.target vs.first hup vs.content

theorem VScript.keep {rank R w w' x pre dof post} (hb : BaseN nc rank R X w) (vs : VScript w x pre dof post)
    (hr : w'.rules = w.rules) (hp : w'.progs = w.progs) (hpl : ∀ y, w.rules y = [] → contentOf w' y = contentOf w y)
    (hrd : ∀ d ∈ (scriptAt w dof).reads, contentOf w' d = contentOf w d) (hx : contentOf w' x = contentOf w x) :
    scriptAt w' dof = scriptAt w dof ∧ firstEx w' (w'.rules x) = some dof ∧ contentOf w' x = outOf w' (scriptAt w dof) := by
  have hplain : ∀ c ∈ w.rules x, contentOf w' c = contentOf w c := fun c hc => hpl c (hb.rulesOk.2 x c hc).1
  refine ⟨scriptAt_of_contentOf (hplain dof (by rw [vs.rules]; simp)) hp, ?_, ?_⟩
  · rw [hr, firstEx_of_contentOf _ hplain]; exact vs.first
  · rw [hx, vs.content]; unfold outOf; rw [List.map_congr_left hrd]

/-! ### Good files are up to date. -/

theorem HasRow.rank_lt {rank R w t s m} (hb : BaseN nc rank R X w) (h : HasRow w t s m) : rank s < rank t := by
  obtain ⟨d, hd, h1, h2, _⟩ := h
  have := hb.rowsLt d hd
  rwa [h1, h2] at this

theorem good_upToDate {rank R w w'} (hi : InvN nc rank R X w) (hr : w'.rules = w.rules) (hp : w'.progs = w.progs)
    (hpl : ∀ x, w.rules x = [] → contentOf w' x = contentOf w x)
    (hfro : ∀ x, Good w R x → contentOf w' x = contentOf w x ∧ (w'.recs x).isGenerated = (w.recs x).isGenerated) :
    ∀ n x, rank x < n → Good w R x → UpToDateD w' x
  | 0, _, h, _ => by omega
  | n + 1, x, hx, hg => by
    have hrc := hg.recCur hi
    cases hgen : (w.recs x).isGenerated with
    | false =>
      refine UpToDateD.user (by rw [(hfro x hg).2]; exact hgen) ?_
      rw [existsF_of_contentOf (hfro x hg).1]; exact static_exists hi.base hrc hgen
    | true =>
      have hv : VerR w R x := by
        rcases hg with h | ⟨_, h⟩
        · exact h
        · rw [hgen] at h; cases h
      obtain ⟨pre, dof, post, vs⟩ := verR_script hi hv hgen
      have hgd : ∀ d ∈ (scriptAt w dof).reads, Good w R d := fun d hd => (vs.reads d hd).good hi hv hgen
      obtain ⟨hsc, hfe, hc⟩ := vs.keep hi.base hr hp hpl (fun d hd => (hfro d (hgd d hd)).1) (hfro x hg).1
      refine UpToDateD.target (dof := dof) hfe ?_ (by rw [hsc]; exact hc)
      rw [hsc]; intro d hd
      have := (vs.reads d hd).rank_lt hi.base
      exact good_upToDate hi hr hp hpl hfro n d (by omega) (hgd d hd)

end RedoModel.Deps.S
