import RedoModel.Lemmas.DepsLoops
/-! `ssBuild` by the answer of `findDoFile`; `startSelf` with the copy of the record that the job loaded before the
dirtiness check ran. -/
namespace RedoModel.Deps

theorem ssBuild_eq_none {E : Engine} {d : Defects} {cx : Ctx} {t : Nat} {sf : Rec} {w w2 : World}
    (h : prepW w t = (none, w2)) :
    ssBuild E d cx t sf w =
      if existsF w2 t then (0, setRec w2 t (setStatic w2 t sf cx.runid))
      else (1, setRec w2 t (setFailed w2 t sf cx.runid)) := by
  unfold ssBuild prepW at *
  simp only [h]

/-- `sc` is the script found at `dof` (`scriptAt … dof` of either development, by `rfl`). -/
theorem ssBuild_eq_some {E : Engine} {d : Defects} {cx : Ctx} {t : Nat} {sf : Rec} {w w2 : World} {dof : Nat} (sc : Script)
    (h : prepW w t = (some dof, w2))
    (hsc : sc = match (startW w2 cx.runid t dof).fs dof with
      | some n => ((startW w2 cx.runid t dof).progs n.content).getD {}
      | none => {}) :
    ssBuild E d cx t sf w =
      match runScript E d cx t sc (startW w2 cx.runid t dof) with
      | (rv, out, w5) => if rv = CRASHED then (CRASHED, w5) else recordNewState cx t sf rv out w5 := by
  subst hsc
  unfold ssBuild prepW at *
  simp only [h]
  rfl

/-! ### `startSelf` with the job's stale copy of the record -/

/-- `a` and `b` agree except perhaps on `isGenerated` and `failed`. -/
def AgreeGF (a b : Rec) : Prop :=
  a.row = b.row ∧ a.isOverride = b.isOverride ∧ a.checked = b.checked ∧ a.changed = b.changed ∧
  a.stamp = b.stamp ∧ a.csum = b.csum

theorem setStatic_agree {a b : Rec} (h : AgreeGF a b) (w : World) (t R : Nat) :
    setStatic w t a R = setStatic w t b R := by
  obtain ⟨h1, h2, h3, h4, h5, h6⟩ := h
  cases a; cases b
  simp only at h1 h2 h3 h4 h5 h6
  subst h1 h2 h3 h4 h5 h6
  unfold setStatic updateStamp setChanged
  simp only
  split <;> rfl

theorem setFailed_agree {a b : Rec} (h : AgreeGF a b) (w : World) (t R : Nat) :
    setFailed w t a R = setFailed w t b R := by
  obtain ⟨h1, h2, h3, h4, h5, h6⟩ := h
  cases a; cases b
  simp only at h1 h2 h3 h4 h5 h6
  subst h1 h2 h3 h4 h5 h6
  unfold setFailed updateStamp setChanged
  simp only
  split <;> rfl

theorem recordNewState_agree {a b : Rec} (h : AgreeGF a b) (cx : Ctx) (t : Nat) (rv : Status) (out : Option Content)
    (w : World) : recordNewState cx t a rv out w = recordNewState cx t b rv out w := by
  unfold recordNewState
  simp only [setFailed_agree h]

theorem ssBuild_agree {a b : Rec} (h : AgreeGF a b) (E : Engine) (d : Defects) (cx : Ctx) (t : Nat) (w : World) :
    ssBuild E d cx t a w = ssBuild E d cx t b w := by
  unfold ssBuild
  simp only [setFailed_agree h, setStatic_agree h, recordNewState_agree h]

theorem startSelf_own (E : Engine) (d : Defects) (cx : Ctx) (t : Nat) (sf0 : Rec) (w : World)
    (hov : sf0.isOverride = false)
    (h : w.recs t = sf0 ∨ (w.recs t = { sf0 with isGenerated := false, isOverride := false, failed := some 0 } ∧ w.fs t = none)) :
    startSelf E d cx t sf0 w = startSelf E d cx t (w.recs t) w := by
  rcases h with h | ⟨h, hfs⟩
  · rw [h]
  · rw [startSelf_eq, startSelf_eq, ssGuard_missing _ _ _ _ hfs, ssGuard_missing _ _ _ _ hfs]
    have hex : existsF w t = false := existsF_eq_false.2 hfs
    simp only [hex, Bool.false_and, Bool.false_eq_true, if_false]
    apply ssBuild_agree
    rw [h]
    exact ⟨rfl, hov, rfl, rfl, rfl, rfl⟩

end RedoModel.Deps
