import RedoModel.Lemmas.DepsEngineFrame
/-!
# The ghost trace only grows

* `TraceExt w w'` : `w'.trace = pre ++ w.trace`; holds across every function of the engine.
* `RanIn t w w'` : the script of `t` was executed between `w` and `w'` (`.ran t` is in the new part).
-/
namespace RedoModel.Deps
open RedoModel.Generated

def TraceExt (w w' : World) : Prop := ∃ pre, w'.trace = pre ++ w.trace

theorem TraceExt.refl (w : World) : TraceExt w w := ⟨[], rfl⟩

theorem TraceExt.of_eq {w w' : World} (h : w'.trace = w.trace) : TraceExt w w' := ⟨[], h⟩

theorem TraceExt.trans {a b c : World} (h1 : TraceExt a b) (h2 : TraceExt b c) : TraceExt a c := by
  obtain ⟨p1, e1⟩ := h1
  obtain ⟨p2, e2⟩ := h2
  exact ⟨p2 ++ p1, by rw [e2, e1, List.append_assoc]⟩

theorem TraceExt.ev (w : World) (e : Ev) : TraceExt w (ev w e) := ⟨[e], rfl⟩

theorem TraceExt.dirtyRel : DirtyRel TraceExt :=
  ⟨TraceExt.refl, TraceExt.trans, fun _ _ _ => TraceExt.of_eq rfl, fun w _ => TraceExt.ev w _⟩

theorem TraceExt.addKnown (w : World) (f : Nat) : TraceExt w (addKnown w f) := by
  unfold Deps.addKnown
  split <;> exact TraceExt.of_eq rfl

theorem TraceExt.findDoFile (t : Nat) (cs : List Nat) (w : World) : TraceExt w (findDoFile t cs w).2 :=
  findDoFile_rel TraceExt.refl TraceExt.trans (fun w c m => TraceExt.of_eq (addDep_trace w t c m)) cs w

theorem recordNewState_trace (cx : Ctx) (t : Nat) (sf : Rec) (rv : Status) (out : Option Content) (w : World) :
    (recordNewState cx t sf rv out w).2.trace = w.trace := by
  unfold recordNewState
  split
  · cases out <;> rfl
  · rfl

theorem traceExt_frame :
    EngineFrame (fun _ => True) (fun _ => True) (fun _ => True) (fun _ _ => True) (fun _ => True) TraceExt where
  refl := TraceExt.refl
  trans := TraceExt.trans
  keepP := fun _ _ => trivial
  keepA := fun _ _ => trivial
  child := fun _ _ => trivial
  script := fun _ _ _ => trivial
  addKnown := TraceExt.addKnown
  ownRec := fun _ _ _ => TraceExt.of_eq rfl
  dofRec := fun _ _ _ _ => TraceExt.of_eq rfl
  alwaysRec := fun _ _ _ _ => TraceExt.of_eq rfl
  evWarn := fun w _ => TraceExt.ev w _
  evRan := fun w _ => TraceExt.ev w _
  zapDeps1 := fun _ _ => TraceExt.of_eq rfl
  findDo := fun w _ _ => TraceExt.findDoFile _ _ w
  addDepM := fun w s _ => TraceExt.of_eq (addDep_trace w _ s true)
  addDepC := fun w f _ _ _ _ => TraceExt.of_eq (addDep_trace w _ f false)
  record := fun rv out _ w _ _ _ _ _ _ h _ _ => h.trans (TraceExt.of_eq (recordNewState_trace _ _ _ rv out w))
  oob1 := fun _ _ _ => trivial
  oob2 := fun _ => trivial
  parent := fun _ _ => trivial
  dirty := fun fuel t w _ _ => shouldBuild_rel TraceExt.dirtyRel _ fuel t w
  other := fun _ _ _ _ _ _ _ _ h => absurd trivial h

/-- What a nested `redo-ifchange` must satisfy. -/
def EngineExt (E : Engine) : Prop := ∀ cx ts w, TraceExt w (E.ifchangeCmd cx ts w).2

theorem EngineExt.frame {E : Engine} (hE : EngineExt E) : EFrame (fun _ => True) (fun _ => True) TraceExt E :=
  fun cx ts w _ _ => hE cx ts w

theorem runScript_traceExt (E : Engine) (hE : EngineExt E) (d : Defects) (cx : Ctx) (t : Nat) (sc : Script) (w : World) :
    TraceExt w (runScript E d cx t sc w).2.2 :=
  traceExt_frame.runScript hE.frame d (cx := cx) trivial trivial sc w trivial trivial

theorem ssRun_traceExt (E : Engine) (hE : EngineExt E) (d : Defects) (cx : Ctx) (t : Nat) (sf : Rec) (sc : Script)
    (w : World) : TraceExt w (ssRun E d cx t sf sc w).2 := by
  have h4 := runScript_traceExt E hE d cx t sc w
  fun_cases ssRun E d cx t sf sc w with
  | case1 out w4 hrs => rwa [hrs] at h4
  | case2 rv out w4 hrs _ =>
    rw [hrs] at h4
    exact h4.trans (TraceExt.of_eq (recordNewState_trace cx t sf rv out w4))

/-- Every nested `redo-ifchange` of the real engine only prepends to the trace. -/
theorem engine_traceExt (d : Defects) (n : Nat) : EngineExt (engine d n) :=
  fun cx ts w => traceExt_frame.engine d n cx ts w trivial trivial

/-! ### "the script of `t` ran between `w` and `w'`" -/

def RanIn (t : Nat) (w w' : World) : Prop := ∃ pre, w'.trace = pre ++ w.trace ∧ Ev.ran t ∈ pre

theorem RanIn.mem {t : Nat} {w w' : World} (h : RanIn t w w') : Ev.ran t ∈ w'.trace := by
  obtain ⟨pre, e, hm⟩ := h
  rw [e]
  exact List.mem_append_left _ hm

theorem RanIn.ext {t : Nat} {w w' : World} (h : RanIn t w w') : TraceExt w w' := by
  obtain ⟨pre, e, _⟩ := h
  exact ⟨pre, e⟩

theorem RanIn.ev (t : Nat) (w : World) : RanIn t w (ev w (.ran t)) := ⟨[.ran t], rfl, List.mem_singleton.2 rfl⟩

theorem RanIn.after {t : Nat} {a b c : World} (h1 : TraceExt a b) (h2 : RanIn t b c) : RanIn t a c := by
  obtain ⟨p1, e1⟩ := h1
  obtain ⟨p2, e2, hm⟩ := h2
  exact ⟨p2 ++ p1, by rw [e2, e1, List.append_assoc], List.mem_append_left _ hm⟩

theorem RanIn.before {t : Nat} {a b c : World} (h1 : RanIn t a b) (h2 : TraceExt b c) : RanIn t a c := by
  obtain ⟨p1, e1, hm⟩ := h1
  obtain ⟨p2, e2⟩ := h2
  exact ⟨p2 ++ p1, by rw [e2, e1, List.append_assoc], List.mem_append_right _ hm⟩

end RedoModel.Deps
