import RedoModel.Lemmas.DepsOod
import RedoModel.Lemmas.DepsEngineFrame
import RedoModel.Lemmas.Once.DepsFrame
/-! Well-formed run ids in every reachable world. -/
set_option linter.unusedSimpArgs false
/-!
### The bound on run ids and the record updates that keep it

`BR R r`: every run id in the record `r` is `≤ R`.  A process with run id `R` keeps that of every record (`br_frame`: it
only writes `R`, `0`, maxima with `R`, and copies of what it read).
-/
namespace RedoModel.Deps
open RedoModel.Generated

def BR (R : Nat) (r : Rec) : Prop :=
  (∀ c, r.checked = some c → c ≤ R) ∧ (∀ c, r.changed = some c → c ≤ R) ∧ (∀ c, r.failed = some c → c ≤ R)

def BW (R : Nat) (w : World) : Prop := R ≤ w.runCounter ∧ ∀ f, BR R (w.recs f)

theorem WF_iff_BW (w : World) : WF w ↔ BW w.runCounter w := ⟨fun h => ⟨Nat.le_refl _, h⟩, fun h => h.2⟩

theorem BR.mono {R R' : Nat} {r : Rec} (h : BR R r) (hle : R ≤ R') : BR R' r :=
  ⟨fun c hc => Nat.le_trans (h.1 c hc) hle, fun c hc => Nat.le_trans (h.2.1 c hc) hle,
   fun c hc => Nat.le_trans (h.2.2 c hc) hle⟩

/-- Only the three mark fields matter. -/
theorem BR.congr {R : Nat} {r r' : Rec} (h : BR R r) (h1 : r'.checked = r.checked) (h2 : r'.changed = r.changed)
    (h3 : r'.failed = r.failed) : BR R r' := by
  unfold BR; rw [h1, h2, h3]; exact h

theorem BR.setChanged {R : Nat} {r : Rec} (h : BR R r) : BR R (setChanged r R) := by
  obtain ⟨h1, _, _⟩ := h
  refine ⟨h1, ?_, ?_⟩ <;> simp [Deps.setChanged]

theorem BR.updateStamp {R : Nat} {r : Rec} (h : BR R r) (w : World) (f : Nat) : BR R (updateStamp w f r R) := by
  unfold Deps.updateStamp
  dsimp only
  split
  · exact h
  · exact (h.congr (r' := { r with stamp := some (readStamp w f) }) rfl rfl rfl).setChanged

theorem BR.setFailed {R : Nat} {r : Rec} (h : BR R r) (w : World) (f : Nat) : BR R (setFailed w f r R) := by
  obtain ⟨h1, h2, _⟩ := h.updateStamp w f
  refine ⟨h1, h2, ?_⟩
  simp [Deps.setFailed]

theorem BR.setStatic {R : Nat} {r : Rec} (h : BR R r) (w : World) (f : Nat) : BR R (setStatic w f r R) := by
  obtain ⟨h1, h2, _⟩ := h.updateStamp w f
  refine ⟨h1, h2, ?_⟩
  simp [Deps.setStatic]

theorem BR.setOverride {R : Nat} {r : Rec} (h : BR R r) (w : World) (f : Nat) : BR R (setOverride w f r R) := by
  obtain ⟨h1, h2, _⟩ := h.updateStamp w f
  refine ⟨h1, h2, ?_⟩
  simp [Deps.setOverride]

theorem BR.stampRec {R : Nat} {r : Rec} (h : BR R r) (data : Content) : BR R (stampRec r R data) := by
  obtain ⟨h1, h2, _⟩ := h
  unfold Deps.stampRec
  dsimp only
  split
  · refine ⟨h1, ?_, ?_⟩ <;> simp [Deps.setChanged]
  · refine ⟨?_, h2, ?_⟩ <;> simp

theorem BR.getRec {R : Nat} {w : World} (h : ∀ f, BR R (w.recs f)) (f : Nat) : BR R (getRec w R f) := by
  unfold Deps.getRec
  split
  · refine ⟨(h f).1, fun c hc => ?_, (h f).2.2⟩
    cases hc
    cases hx : (w.recs f).changed with
    | none => exact Nat.le_refl _
    | some c0 => have := (h f).2.1 c0 hx; simp only; omega
  · exact h f

theorem BR.built {R : Nat} {w : World} (h : ∀ f, BR R (w.recs f)) (t : Nat) : BR R (builtRec w t R) := by
  unfold builtRec
  dsimp only
  split
  · exact (h t).congr rfl rfl rfl
  · exact (((h t).congr (r' := { (w.recs t) with isGenerated := true, isOverride := false, csum := none }) rfl rfl
      rfl).updateStamp w t).setChanged

/-- A process with run id `R` writes no run id above `R`. -/
theorem br_frame (R : Nat) :
    EngineFrame (fun cx => cx.runid = R) (fun w => ∀ f, BR R (w.recs f)) (fun _ => True) (fun _ _ => True) (BR R)
      (KeepsRecs (BR R)) :=
  recs_frame (fun h _ => h.congr rfl rfl rfl) (fun h f => BR.getRec h f)
    (fun {r} h => (h.congr (r' := { r with stamp := some DStamp.missing }) rfl rfl rfl).setChanged)
    (fun h data => h.stampRec data) (fun h => ⟨h.1, h.2.1, fun c hc => by cases hc; exact Nat.zero_le _⟩)
    (fun h _ => ⟨fun c hc => by cases hc; exact Nat.le_refl _, h.2.1, h.2.2⟩) (fun h w f _ _ => h.setOverride w f)
    (fun h w f => h.setStatic w f) (fun h w f => h.setFailed w f) (fun h t => BR.built h t)

/-! ### Top-level commands and user operations -/

theorem WF_runTargets (d : Defects) (cx : Ctx) (fuel n : Nat) (ts : List Nat) (w : World) (hwf : WF w)
    (hcx : cx.runid = w.runCounter + 1) :
    WF (runTargets (engine d n) d cx fuel ts [] false (allocRun w).2).2 := by
  have h0 : ∀ f, BR (w.runCounter + 1) ((allocRun w).2.recs f) := fun f => BR.mono (r := w.recs f) (hwf f) (Nat.le_succ _)
  have h1 := (br_frame _).runTargets ((br_frame _).engine d n) d hcx fuel ts [] false _ h0 h0
  have h2 := Once.runTargets_keeps (Once.engine_keeps d n) (allocRun w).2 d cx fuel ts [] false _ (Once.Keeps.refl _)
  intro f
  rw [h2.1]
  exact h1 f

theorem WF_applyOp (d : Defects) (n : Nat) (op : UserOp) (w : World) (hwf : WF w) : WF (applyOp d n op w).2 := by
  rcases applyOp_shape d n op w with ⟨hrec, hle, _⟩ | ⟨cx, ts, hR, e⟩
  · exact fun f => hrec ▸ BR.mono (r := w.recs f) (hwf f) hle
  · rw [e]
    exact WF_runTargets d cx _ _ ts w hwf hR

theorem WF_reachable (d : Defects) (n : Nat) (rules : Nat → List Nat) (ops : List UserOp) :
    WF (ops.foldl (fun w op => (applyOp d n op w).2) (initWorld rules)) :=
  history_inv d n ops _ (WF_initWorld rules) fun op _ w h => WF_applyOp d n op w h

end RedoModel.Deps
