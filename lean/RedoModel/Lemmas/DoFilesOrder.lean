import RedoModel.DoFiles
import RedoModel.Lemmas.Paths
/-!
Lemmas about the `.do` rule enumeration (`RedoModel/DoFiles.lean`): the order of the candidate list,
absence of duplicates, the script arguments and the choice made by `findDoFile`.
The property theorems built on them are in `Props/C13b.lean`.
-/
namespace RedoModel.DoFiles
open RedoModel.Paths

/-- A directory component of a cleaned absolute path: non-empty, no `/`, neither `.` nor `..`. -/
def NormComp (c : List Char) : Prop := GoodComp c ∧ c ≠ dot ∧ c ≠ dotdot

theorem NormComp.good {c} (h : NormComp c) : GoodComp c := h.1

/-! ### The literal names as character lists

`decide` and `rfl` are given these instead of `"…".toList`, which is slow to evaluate. -/

theorem default_chars : "default".toList = ['d', 'e', 'f', 'a', 'u', 'l', 't'] := String.toList_ofList

theorem defaultDot_chars : "default.".toList = "default".toList ++ ['.'] := by
  rw [default_chars]; exact String.toList_ofList

theorem do_chars : ".do".toList = ['.', 'd', 'o'] := String.toList_ofList

theorem tmp_chars : ".redo.tmp".toList = ['.', 'r', 'e', 'd', 'o', '.', 't', 'm', 'p'] := String.toList_ofList

/-! ### Path lemmas -/

theorem joinSlash_snoc_append (ds : List (List Char)) (b e : List Char) :
    joinSlash (ds ++ [b]) ++ e = joinSlash (ds ++ [b ++ e]) := by
  cases ds with
  | nil => simp [joinSlash]
  | cons c cs =>
    rw [joinSlash_append _ _ (by simp) (by simp), joinSlash_append _ _ (by simp) (by simp)]
    simp [joinSlash]

theorem pushPath_nil (x : List Char) : pushPath [] x = x := by
  unfold pushPath; split <;> simp

theorem pushPath_slash {a x : List Char} (ha : a ≠ []) (hl : a.getLast? ≠ some '/') (hx : rooted x = false) :
    pushPath a x = a ++ '/' :: x := by
  unfold pushPath
  simp [hx, ha, hl]

theorem pushPath_joinSlash (ds : List (List Char)) (x : List Char) (h : ∀ c ∈ ds, GoodComp c)
    (hx : rooted x = false) : pushPath (joinSlash ds) x = joinSlash (ds ++ [x]) := by
  by_cases hd : ds = []
  · subst hd; simp [joinSlash, pushPath_nil]
  · rw [joinSlash_append _ _ hd (by simp), pushPath_slash (joinSlash_ne_nil ds hd h) (getLast?_joinSlash ds h) hx]
    rfl

theorem pushPath_render (ds : List (List Char)) (x : List Char) (h : ∀ c ∈ ds, GoodComp c)
    (hx : rooted x = false) : pushPath (render true ds) x = render true (ds ++ [x]) := by
  by_cases hd : ds = []
  · subst hd; simp [render, joinSlash, pushPath, hx]
  · rw [pushPath_slash (render_ne_nil h) (fun hl => hd (getLast?_render h hl).2) hx]
    simp only [render, if_true]
    rw [joinSlash_append _ _ hd (by simp)]
    rfl

theorem joinSlash_snoc_join (ds es : List (List Char)) (he : es ≠ []) :
    joinSlash (ds ++ [joinSlash es]) = joinSlash (ds ++ es) := by
  by_cases hd : ds = []
  · subst hd; simp [joinSlash]
  · rw [joinSlash_append _ _ hd (by simp), joinSlash_append _ _ hd he]; simp [joinSlash]

/-- `$1`-style relative paths rejoin with the directory they are relative to. -/
theorem rejoin (dirs : List (List Char)) (k : Nat) (x : List Char)
    (h : ∀ c ∈ dirs, GoodComp c) (hx : GoodComp x) :
    pushPath (render true (dirs.take k)) (joinSlash (dirs.drop k ++ [x])) = render true (dirs ++ [x]) := by
  have hr : rooted (joinSlash (dirs.drop k ++ [x])) = false := by
    apply rooted_joinSlash
    intro c hc
    rcases List.mem_append.1 hc with hc | hc
    · exact h c (List.mem_of_mem_drop hc)
    · simp at hc; subst hc; exact hx
  rw [pushPath_render _ _ (fun c hc => h c (List.mem_of_mem_take hc)) hr]
  simp only [render, if_true]
  rw [joinSlash_snoc_join _ _ (by simp), ← List.append_assoc, List.take_append_drop]

theorem render_snoc_inj (ds ds' : List (List Char)) (x x' : List Char)
    (h : ∀ c ∈ ds, '/' ∉ c) (h' : ∀ c ∈ ds', '/' ∉ c) (hx : '/' ∉ x) (hx' : '/' ∉ x')
    (e : render true (ds ++ [x]) = render true (ds' ++ [x'])) : ds = ds' ∧ x = x' := by
  simp only [render, if_true, List.cons.injEq, true_and] at e
  have e2 := congrArg splitSlash e
  rw [splitSlash_joinSlash _ (by simp), splitSlash_joinSlash _ (by simp)] at e2
  · have := List.append_inj' e2 rfl
    exact ⟨this.1, by simpa using this.2⟩
  · intro c hc
    rcases List.mem_append.1 hc with hc | hc
    · exact h' c hc
    · simp at hc; subst hc; exact hx'
  · intro c hc
    rcases List.mem_append.1 hc with hc | hc
    · exact h c hc
    · simp at hc; subst hc; exact hx

/-! ### Structure of the candidate list -/

/-- The (base, extension) pairs of the default rules: every dot cut, then the empty extension. -/
def cuts' (f : List Char) : List (List Char × List Char) := dotCuts f ++ [(f, [])]

/-- The default-rule candidate in the ancestor `dirs.take k` for the cut `f = b ++ e`. -/
def mkCand (dirs : List (List Char)) (k : Nat) (b e : List Char) : Cand :=
  { doDir := render true (dirs.take k), doFile := "default".toList ++ e ++ ".do".toList,
    baseDir := joinSlash (dirs.drop k), baseName := pushPath (joinSlash (dirs.drop k)) b, ext := e }

/-- The specific candidate `<dir>/<f>.do`. -/
def specCand (dirs : List (List Char)) (f : List Char) : Cand :=
  { doDir := render true dirs, doFile := f ++ ".do".toList, baseDir := [], baseName := f, ext := [] }

theorem defaultDoFiles_eq (f : List Char) :
    defaultDoFiles f = (cuts' f).map (fun p => ("default".toList ++ p.2 ++ ".do".toList, p.1, p.2)) := by
  unfold defaultDoFiles cuts'
  -- the literals become their character lists first: `rfl` would evaluate `toList` on them
  rw [List.map_append, List.map_singleton, String.toList_ofList, String.toList_ofList, String.toList_ofList]
  rfl

theorem candidates_eq (dirs : List (List Char)) (f : List Char) :
    candidates dirs f = specCand dirs f ::
      (List.range (dirs.length + 1)).reverse.flatMap
        (fun k => (cuts' f).map (fun p => mkCand dirs k p.1 p.2)) := by
  unfold candidates dirSplits
  rw [List.flatMap_map]
  congr 1
  congr 1
  funext k
  unfold candsIn
  rw [defaultDoFiles_eq, List.map_map]
  rfl

theorem mem_dotCuts {f b e : List Char} (h : (b, e) ∈ dotCuts f) : f = b ++ e ∧ e.head? = some '.' := by
  fun_induction dotCuts f generalizing b with
  | case1 => cases h
  | case2 cs rest =>
    rename_i ih
    simp only [rest, List.mem_cons, List.mem_map, Prod.mk.injEq, Prod.exists] at h
    rcases h with ⟨rfl, rfl⟩ | ⟨a, e', hm, rfl, rfl⟩
    · simp
    · simpa using ih hm
  | case3 c cs rest hc =>
    rename_i ih
    simp only [rest, List.mem_map, Prod.mk.injEq, Prod.exists] at h
    obtain ⟨a, e', hm, rfl, rfl⟩ := h
    simpa using ih hm
theorem dotCuts_of_cut (b e : List Char) (he : e.head? = some '.') : (b, e) ∈ dotCuts (b ++ e) := by
  induction b with
  | nil => cases e <;> simp_all [dotCuts]
  | cons c b ih =>
    simp only [List.cons_append, dotCuts]
    split <;> simp [ih]

theorem mem_cuts' {f b e : List Char} (h : (b, e) ∈ cuts' f) :
    f = b ++ e ∧ (e = [] ∨ e.head? = some '.') := by
  unfold cuts' at h
  rcases List.mem_append.1 h with h | h
  · exact ⟨(mem_dotCuts h).1, .inr (mem_dotCuts h).2⟩
  · simp only [List.mem_singleton, Prod.mk.injEq] at h
    obtain ⟨rfl, rfl⟩ := h
    simp

theorem dotCuts_pairwise (f : List Char) :
    (dotCuts f).Pairwise (fun x y => y.2.length < x.2.length) := by
  induction f with
  | nil => simp [dotCuts]
  | cons c cs ih =>
    simp only [dotCuts]
    have hrest : ((dotCuts cs).map (fun x => (c :: x.1, x.2))).Pairwise (fun x y => y.2.length < x.2.length) := by
      rw [List.pairwise_map]; exact ih
    split
    · rw [List.pairwise_cons]
      refine ⟨?_, hrest⟩
      intro a ha
      rw [List.mem_map] at ha
      obtain ⟨⟨b', e'⟩, hm, rfl⟩ := ha
      have := (mem_dotCuts hm).1
      have hl := congrArg List.length this
      simp only [List.length_append] at hl
      simp only [List.length_cons]
      omega
    · exact hrest

theorem cuts'_pairwise (f : List Char) :
    (cuts' f).Pairwise (fun x y => y.2.length < x.2.length) := by
  unfold cuts'
  rw [List.pairwise_append]
  refine ⟨dotCuts_pairwise f, by simp, ?_⟩
  intro a ha b hb
  simp only [List.mem_singleton] at hb
  subst hb
  obtain ⟨b', e'⟩ := a
  have := (mem_dotCuts ha).2
  cases e' with
  | nil => simp at this
  | cons => simp

theorem mem_defaults {dirs : List (List Char)} {f : List Char} {c : Cand} :
    c ∈ (List.range (dirs.length + 1)).reverse.flatMap (fun k => (cuts' f).map (fun p => mkCand dirs k p.1 p.2)) ↔
      ∃ k, k ≤ dirs.length ∧ ∃ b e, (b, e) ∈ cuts' f ∧ c = mkCand dirs k b e := by
  simp only [List.mem_flatMap, List.mem_reverse, List.mem_range, Nat.lt_succ_iff, List.mem_map, Prod.exists]
  exact exists_congr fun k => and_congr_right fun _ =>
    exists_congr fun b => exists_congr fun e => and_congr_right fun _ => eq_comm

theorem mem_candidates {dirs : List (List Char)} {f : List Char} {c : Cand} :
    c ∈ candidates dirs f ↔ c = specCand dirs f ∨
      ∃ k, k ≤ dirs.length ∧ ∃ b e, (b, e) ∈ cuts' f ∧ c = mkCand dirs k b e := by
  rw [candidates_eq, List.mem_cons, mem_defaults]

theorem specCand_eq (dirs : List (List Char)) (f : List Char) :
    specCand dirs f = { mkCand dirs dirs.length f [] with doFile := f ++ ".do".toList } := by
  simp [specCand, mkCand, joinSlash, pushPath_nil]

/-! ### Order -/

/-- Priority key of a candidate, computed from its fields only (`dirs`, `f` are the target):

* first component — how many levels above the target's directory the script lives:
  `dirs.length - (number of path components of c.doDir)`; `0` for the target's own directory,
  `dirs.length` for the root;
* second component — rank within a directory: `0` when the file name is *not* of the default-rule
  form `"default" ++ c.ext ++ ".do"` (the specific script `<f>.do`); otherwise
  `f.length + 1 - c.ext.length`, i.e. the longer the matched extension the smaller the rank, and
  `default.do` (`ext = ""`) gets the largest rank `f.length + 1`. -/
def prio (dirs : List (List Char)) (f : List Char) (c : Cand) : Nat × Nat :=
  (dirs.length - (comps c.doDir).length,
   if c.doFile = "default".toList ++ c.ext ++ ".do".toList then f.length + 1 - c.ext.length else 0)

def PLt (a b : Nat × Nat) : Prop := a.1 < b.1 ∨ (a.1 = b.1 ∧ a.2 < b.2)

theorem PLt_irrefl (a : Nat × Nat) : ¬ PLt a a := by
  unfold PLt; omega

theorem prio_mk (dirs : List (List Char)) (f : List Char) (k : Nat) (b e : List Char)
    (h : ∀ c ∈ dirs, GoodComp c) (hk : k ≤ dirs.length) :
    prio dirs f (mkCand dirs k b e) = (dirs.length - k, f.length + 1 - e.length) := by
  unfold prio mkCand
  simp only [if_true, render]
  rw [comps_slash_joinSlash _ (fun c hc => h c (List.mem_of_mem_take hc)), List.length_take]
  rw [Nat.min_eq_left hk]

theorem prio_spec (dirs : List (List Char)) (f : List Char) (h : ∀ c ∈ dirs, GoodComp c) :
    prio dirs f (specCand dirs f) = (0, if f = "default".toList then f.length + 1 else 0) := by
  unfold prio specCand
  simp only [render, if_true]
  rw [comps_slash_joinSlash _ h]
  simp only [Nat.sub_self, List.append_nil, List.length_nil, Nat.sub_zero, List.append_cancel_right_eq]

/-- The default-rule candidates (everything after the specific one) are strictly sorted. -/
theorem order_defaults (dirs : List (List Char)) (f : List Char) (h : ∀ c ∈ dirs, GoodComp c) :
    ((List.range (dirs.length + 1)).reverse.flatMap
        (fun k => (cuts' f).map (fun p => mkCand dirs k p.1 p.2))).Pairwise
      (fun a b => PLt (prio dirs f a) (prio dirs f b)) := by
  rw [List.pairwise_flatMap]
  constructor
  · intro k hk
    have hk' : k ≤ dirs.length := by simp at hk; omega
    rw [List.pairwise_map]
    refine List.Pairwise.imp_of_mem ?_ (cuts'_pairwise f)
    intro a b ha hb hlt
    rw [prio_mk _ _ _ _ _ h hk', prio_mk _ _ _ _ _ h hk']
    right
    refine ⟨rfl, ?_⟩
    have h1 := congrArg List.length (mem_cuts' (b := a.1) (e := a.2) ha).1
    simp only [List.length_append] at h1
    show f.length + 1 - a.2.length < f.length + 1 - b.2.length
    omega
  · rw [List.pairwise_reverse]
    refine List.Pairwise.imp_of_mem ?_ (List.pairwise_lt_range (n := dirs.length + 1))
    intro k k' hk hk' hlt x hx y hy
    have hk1 : k ≤ dirs.length := by simp at hk; omega
    have hk2 : k' ≤ dirs.length := by simp at hk'; omega
    rw [List.mem_map] at hx hy
    obtain ⟨p, _, rfl⟩ := hx
    obtain ⟨q, _, rfl⟩ := hy
    rw [prio_mk _ _ _ _ _ h hk1, prio_mk _ _ _ _ _ h hk2]
    left
    show dirs.length - k' < dirs.length - k
    omega

theorem order_strict (dirs : List (List Char)) (f : List Char) (h : ∀ c ∈ dirs, GoodComp c)
    (hf : f ≠ "default".toList) :
    (candidates dirs f).Pairwise (fun a b => PLt (prio dirs f a) (prio dirs f b)) := by
  rw [candidates_eq, List.pairwise_cons]
  refine ⟨?_, order_defaults dirs f h⟩
  intro c hc
  obtain ⟨k, hk', b, e, hp, rfl⟩ := mem_defaults.1 hc
  rw [prio_spec _ _ h, prio_mk _ _ _ _ _ h hk', if_neg hf]
  have h1 := congrArg List.length (mem_cuts' hp).1
  simp only [List.length_append] at h1
  unfold PLt
  simp only
  omega

/-! ### No duplicates -/

/-- Names whose specific script `<f>.do` is at the same time a default rule:
`default` (→ `default.do`) and `default.<ext>` (→ `default.<ext>.do`). -/
def DefaultLike (f : List Char) : Prop := f = "default".toList ∨ "default.".toList <+: f

theorem rooted_default (e : List Char) : rooted ("default".toList ++ e ++ ".do".toList) = false := by
  rw [default_chars]; rfl

theorem rooted_prefix {f b e : List Char} (hf : '/' ∉ f) (h : f = b ++ e) : rooted b = false := by
  cases b with
  | nil => rfl
  | cons a b =>
    subst h
    simp only [List.cons_append, List.mem_cons, not_or] at hf
    simp only [rooted, beq_eq_false_iff_ne, ne_eq]
    exact fun e => hf.1 e.symm

theorem noslash_default {e : List Char} (he : '/' ∉ e) : '/' ∉ "default".toList ++ e ++ ".do".toList := by
  simp [default_chars, do_chars, he]

theorem noslash_suffix {f b e : List Char} (hf : '/' ∉ f) (h : f = b ++ e) : '/' ∉ e := by
  subst h; simp only [List.mem_append, not_or] at hf; exact hf.2

theorem doPath_mk (dirs : List (List Char)) (k : Nat) (b e : List Char) (h : ∀ c ∈ dirs, GoodComp c) :
    doPath (mkCand dirs k b e) = render true (dirs.take k ++ ["default".toList ++ e ++ ".do".toList]) := by
  unfold doPath mkCand
  exact pushPath_render _ _ (fun c hc => h c (List.mem_of_mem_take hc)) (rooted_default e)

theorem doPath_spec (dirs : List (List Char)) (f : List Char) (h : ∀ c ∈ dirs, GoodComp c)
    (hf : GoodComp f) : doPath (specCand dirs f) = render true (dirs ++ [f ++ ".do".toList]) := by
  unfold doPath specCand
  refine pushPath_render _ _ h ?_
  obtain ⟨hne, hns⟩ := hf
  cases f with
  | nil => exact absurd rfl hne
  | cons a f =>
    simp only [List.mem_cons, not_or] at hns
    simp only [List.cons_append, rooted, beq_eq_false_iff_ne, ne_eq]
    exact fun e => hns.1 e.symm

theorem defaultLike_of_eq {f e : List Char} (h : f = "default".toList ++ e)
    (he : e = [] ∨ e.head? = some '.') : DefaultLike f := by
  rcases he with rfl | he
  · left; simpa using h
  · right
    cases e with
    | nil => simp at he
    | cons c cs =>
      simp only [List.head?_cons, Option.some.injEq] at he
      subst he
      refine ⟨cs, ?_⟩
      rw [h, defaultDot_chars]; simp

theorem take_inj {α} (l : List α) {k k' : Nat} (hk : k ≤ l.length) (hk' : k' ≤ l.length)
    (h : l.take k = l.take k') : k = k' := by
  have := congrArg List.length h
  simp only [List.length_take] at this
  omega

theorem doPath_inj (dirs : List (List Char)) (f : List Char) (h : ∀ c ∈ dirs, GoodComp c)
    (hf : GoodComp f) (hnd : ¬ DefaultLike f) {a b : Cand}
    (ha : a ∈ candidates dirs f) (hb : b ∈ candidates dirs f) (e : doPath a = doPath b) : a = b := by
  have hs : ∀ c ∈ dirs, '/' ∉ c := fun c hc => (h c hc).2
  have hst : ∀ k, ∀ c ∈ dirs.take k, '/' ∉ c := fun k c hc => hs c (List.mem_of_mem_take hc)
  have hfdo : '/' ∉ f ++ ".do".toList := by simp [do_chars, hf.2]
  -- a specific candidate never collides with a default one
  have key : ∀ k b' e', (b', e') ∈ cuts' f →
      doPath (specCand dirs f) = doPath (mkCand dirs k b' e') → False := by
    intro k b' e' hp he
    rw [doPath_spec _ _ h hf, doPath_mk _ _ _ _ h] at he
    have hc := mem_cuts' hp
    have := (render_snoc_inj _ _ _ _ hs (hst k) hfdo
      (noslash_default (noslash_suffix hf.2 hc.1)) he).2
    rw [List.append_cancel_right_eq] at this
    exact hnd (defaultLike_of_eq this hc.2)
  rw [mem_candidates] at ha hb
  rcases ha with rfl | ⟨k, hk, b1, e1, hp1, rfl⟩ <;> rcases hb with rfl | ⟨k', hk', b2, e2, hp2, rfl⟩
  · rfl
  · exact (key _ _ _ hp2 e).elim
  · exact (key _ _ _ hp1 e.symm).elim
  · rw [doPath_mk _ _ _ _ h, doPath_mk _ _ _ _ h] at e
    have hc1 := mem_cuts' hp1
    have hc2 := mem_cuts' hp2
    obtain ⟨ht, hd⟩ := render_snoc_inj _ _ _ _ (hst k) (hst k')
      (noslash_default (noslash_suffix hf.2 hc1.1)) (noslash_default (noslash_suffix hf.2 hc2.1)) e
    have hkk := take_inj dirs hk hk' ht
    rw [List.append_cancel_right_eq, List.append_cancel_left_eq] at hd
    subst hkk hd
    have : b1 = b2 := by
      have := hc1.1.symm.trans hc2.1
      exact List.append_cancel_right this
    subst this
    rfl

theorem nodup_of_not_defaultLike (dirs : List (List Char)) (f : List Char) (h : ∀ c ∈ dirs, GoodComp c)
    (hf : GoodComp f) (hnd : ¬ DefaultLike f) : ((candidates dirs f).map doPath).Nodup := by
  rw [List.nodup_iff_pairwise_ne, List.pairwise_map]
  have hfd : f ≠ "default".toList := fun e => hnd (.inl e)
  refine List.Pairwise.imp_of_mem ?_ (order_strict dirs f h hfd)
  intro a b ha hb hlt e
  have := doPath_inj dirs f h hf hnd ha hb e
  subst this
  exact PLt_irrefl _ hlt

/-- Conversely, for a default-like name the specific script is listed a second time as a default rule
in the target's own directory. -/
theorem not_nodup_of_defaultLike (dirs : List (List Char)) (f : List Char) (h : ∀ c ∈ dirs, GoodComp c)
    (hf : GoodComp f) (hd : DefaultLike f) : ¬ ((candidates dirs f).map doPath).Nodup := by
  obtain ⟨e, hfe, he⟩ : ∃ e, f = "default".toList ++ e ∧ (e = [] ∨ e.head? = some '.') := by
    rcases hd with rfl | ⟨t, rfl⟩
    · exact ⟨[], by simp, .inl rfl⟩
    · refine ⟨'.' :: t, ?_, .inr rfl⟩
      rw [defaultDot_chars]; simp
  have hp : ("default".toList, e) ∈ cuts' f := by
    unfold cuts'
    rcases he with rfl | he
    · simp [hfe]
    · rw [hfe]; exact List.mem_append_left _ (dotCuts_of_cut _ _ he)
  have hm := (mem_defaults (dirs := dirs)).2 ⟨dirs.length, Nat.le_refl _, _, _, hp, rfl⟩
  rw [candidates_eq, List.map_cons, List.nodup_cons]
  intro hn
  apply hn.1
  rw [List.mem_map]
  refine ⟨_, hm, ?_⟩
  rw [doPath_mk _ _ _ _ h, doPath_spec _ _ h hf, List.take_length, hfe]

/-! ### Arguments -/

theorem cand_args (dirs : List (List Char)) (f : List Char) (h : ∀ c ∈ dirs, GoodComp c)
    (hf : GoodComp f) {c : Cand} (hc : c ∈ candidates dirs f) :
    ∃ k, k ≤ dirs.length ∧ c.doDir = render true (dirs.take k) ∧
      ∀ s, arg1 c ++ s = joinSlash (dirs.drop k ++ [f ++ s]) := by
  rw [mem_candidates] at hc
  rcases hc with rfl | ⟨k, hk, b, e, hp, rfl⟩
  · refine ⟨dirs.length, Nat.le_refl _, by simp [specCand], ?_⟩
    intro s; simp [arg1, specCand, joinSlash]
  · refine ⟨k, hk, rfl, ?_⟩
    intro s
    have hcut := mem_cuts' hp
    have hb : rooted b = false := rooted_prefix hf.2 hcut.1
    simp only [arg1, mkCand]
    rw [pushPath_joinSlash _ _ (fun c hc => h c (List.mem_of_mem_drop hc)) hb, List.append_assoc,
      joinSlash_snoc_append, hcut.1, List.append_assoc]

theorem normComp_tmp {f : List Char} (hf : GoodComp f) : NormComp (f ++ ".redo.tmp".toList) := by
  have h2 : '/' ∉ ".redo.tmp".toList := by rw [tmp_chars]; decide
  have hl : (".redo.tmp".toList).length = 9 := by rw [tmp_chars]; rfl
  refine ⟨⟨by simp [hf.1], ?_⟩, ?_, ?_⟩
  · simp only [List.mem_append, not_or]; exact ⟨hf.2, h2⟩
  · intro e
    have := congrArg List.length e
    simp only [List.length_append, hl, dot, List.length_cons, List.length_nil] at this
    omega
  · intro e
    have := congrArg List.length e
    simp only [List.length_append, hl, dotdot, List.length_cons, List.length_nil] at this
    omega

/-- `$1` with any suffix `s` that keeps the file name a normal component, joined back onto the do directory, names the
target with that suffix. -/
theorem args_suffix (dirs : List (List Char)) (f s : List Char) (h : ∀ c ∈ dirs, NormComp c)
    (hf : GoodComp f) (hs : NormComp (f ++ s)) {c : Cand} (hc : c ∈ candidates dirs f) :
    normpath (pushPath c.doDir (arg1 c ++ s)) = render true (dirs ++ [f ++ s]) := by
  have hg : ∀ c ∈ dirs, GoodComp c := fun c hc => (h c hc).1
  obtain ⟨k, _, hd, ha⟩ := cand_args dirs f hg hf hc
  have hall : ∀ x ∈ dirs ++ [f ++ s], NormComp x := by
    intro x hx
    rcases List.mem_append.1 hx with hx | hx
    · exact h x hx
    · simp at hx; subst hx; exact hs
  rw [hd, ha s, rejoin _ _ _ hg hs.1]
  exact normpath_render (NStack.of_plain _ (Plain.reverse fun c hc => (hall c hc).2)) fun c hc => (hall c hc).1

/-! ### The choice -/

theorem findDoFile_eq (exist : List Char → Bool) (cs : List Cand) :
    findDoFile exist cs =
      (cs.find? (fun c => exist (doPath c)), cs.takeWhile (fun c => !exist (doPath c))) := by
  induction cs with
  | nil => rfl
  | cons c cs ih =>
    simp only [findDoFile, List.find?_cons, List.takeWhile_cons]
    by_cases h : exist (doPath c) = true
    · simp [h]
    · simp only [Bool.not_eq_true] at h
      simp [h, ih]

theorem later_dups_irrelevant (exist : List Char → Bool) (l1 l2 : List Cand) (a : Cand) :
    (findDoFile exist (l1 ++ a :: l2)).1 =
      (findDoFile exist (l1 ++ a :: l2.filter (fun b => doPath b != doPath a))).1 := by
  rw [findDoFile_eq, findDoFile_eq]
  simp only [List.find?_append, List.find?_cons]
  congr 1
  by_cases h : exist (doPath a) = true
  · simp [h]
  · simp only [h]
    rw [List.find?_filter]
    congr 1
    funext x
    by_cases hx : exist (doPath x) = true
    · have : doPath x ≠ doPath a := fun e => h (e ▸ hx)
      simp [hx, this]
    · simp [hx]

/-! ### Packaging for `Props/C13b.lean` -/

instance (f : List Char) : Decidable (DefaultLike f) := by unfold DefaultLike; infer_instance

theorem nodup_iff (dirs : List (List Char)) (f : List Char) (h : ∀ c ∈ dirs, GoodComp c)
    (hf : GoodComp f) : ((candidates dirs f).map doPath).Nodup ↔ ¬ DefaultLike f :=
  ⟨fun hn hd => not_nodup_of_defaultLike dirs f h hf hd hn, nodup_of_not_defaultLike dirs f h hf⟩

theorem args_rejoin (dirs : List (List Char)) (f : List Char) (h : ∀ c ∈ dirs, NormComp c)
    (hf : NormComp f) {c : Cand} (hc : c ∈ candidates dirs f) :
    normpath (pushPath c.doDir (arg1 c)) = render true (dirs ++ [f]) ∧
    (∃ k, k ≤ dirs.length ∧ c.doDir = render true (dirs.take k)) ∧
    normpath (tmpName c) = render true (dirs ++ [f ++ ".redo.tmp".toList]) :=
  ⟨by simpa using args_suffix dirs f [] h hf.1 (by simpa using hf) hc,
    (cand_args dirs f (fun c hc => (h c hc).1) hf.1 hc).imp fun _ hk => ⟨hk.1, hk.2.1⟩,
    args_suffix dirs f _ h hf.1 (normComp_tmp hf.1) hc⟩

/-- Example data: `dirs = ["a","b"]`, `f = "x.tar.gz"`. -/
def exDirs : List (List Char) := ["a".toList, "b".toList]
def exF : List Char := "x.tar.gz".toList

theorem exDirs_norm : ∀ c ∈ exDirs, NormComp c := by
  intro c hc
  simp only [exDirs, List.mem_cons, List.not_mem_nil, or_false] at hc
  rcases hc with rfl | rfl <;> exact ⟨⟨by decide, by decide⟩, by decide, by decide⟩

theorem exDirs_good : ∀ c ∈ exDirs, GoodComp c := fun c hc => (exDirs_norm c hc).1

theorem exF_norm : NormComp exF := ⟨⟨by decide, by decide⟩, by decide, by decide⟩

end RedoModel.DoFiles
