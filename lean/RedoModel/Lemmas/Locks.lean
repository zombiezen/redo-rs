import RedoModel.Locks
import RedoModel.Lemmas.Reach
/-! The invariant of the `Locks` acceptor (for Props/C06, C06b and Lemmas/RunLoopLocks.lean), kept by the three things a
step can do to the state: change the owners of targets nothing runs for (`Inv.owners`), start an execution of a target
nothing runs for (`Inv.start`), take executions away (`Inv.filter`). -/
namespace C06
open RedoModel.Locks

/-- The invariant: every execution under way runs under its target's lock (owned by the
executing process itself unless delegated), and no target has two executions under way. -/
structure Inv (s : State) : Prop where
  own : ∀ e ∈ s.running, e.delegated = false → ownerOf s e.fid = some e.pid
  held : ∀ e ∈ s.running, (ownerOf s e.fid).isSome = true
  one : ∀ e1 ∈ s.running, ∀ e2 ∈ s.running, e1.fid = e2.fid → e1 = e2
  nodup : s.running.Nodup

theorem inv_init : Inv {} := ⟨by simp, by simp, by simp, by simp⟩

variable {s s' : State}

/-- Owners change only for targets without an execution under way. -/
theorem Inv.owners (hi : Inv s) (hr : s'.running = s.running) (ho : ∀ x ∈ s.running, s'.owner x.fid = s.owner x.fid) :
    Inv s' := by
  obtain ⟨h1, h2, h3, h4⟩ := hi
  refine ⟨?_, ?_, hr ▸ h3, hr ▸ h4⟩ <;> simp only [hr, ownerOf] <;> intro x hx <;> rw [ho x hx]
  · exact h1 x hx
  · exact h2 x hx

/-- An execution `x` starts for a target that has none under way, under that target's lock. -/
theorem Inv.start (hi : Inv s) (x : Exec) (hr : s'.running = x :: s.running) (ho : s'.owner = s.owner)
    (hfree : ∀ y ∈ s.running, y.fid ≠ x.fid) (hown : x.delegated = false → s.owner x.fid = some x.pid)
    (hheld : (s.owner x.fid).isSome = true) : Inv s' := by
  obtain ⟨h1, h2, h3, h4⟩ := hi
  refine ⟨?_, ?_, ?_, ?_⟩ <;> simp only [hr, ownerOf, ho, List.forall_mem_cons]
  · exact ⟨hown, h1⟩
  · exact ⟨hheld, h2⟩
  · exact ⟨⟨fun _ => trivial, fun y hy h => absurd h.symm (hfree y hy)⟩,
      fun y hy => ⟨fun h => absurd h (hfree y hy), h3 y hy⟩⟩
  · exact List.nodup_cons.2 ⟨fun hm => hfree x hm rfl, h4⟩

theorem Inv.filter (hi : Inv s) (p : Exec → Bool) (hr : s'.running = s.running.filter p) (ho : s'.owner = s.owner) :
    Inv s' := by
  obtain ⟨h1, h2, h3, h4⟩ := hi
  refine ⟨?_, ?_, ?_, hr ▸ h4.filter _⟩ <;> simp only [hr, ownerOf, ho, List.mem_filter]
  · exact fun x hx => h1 x hx.1
  · exact fun x hx => h2 x hx.1
  · exact fun a ha b hb => h3 a ha.1 b hb.1

theorem not_any_fid {fid : Nat} (h : ¬ s.running.any (fun e => e.fid == fid) = true) : ∀ x ∈ s.running, x.fid ≠ fid :=
  fun x hx hxf => h (List.any_eq_true.2 ⟨x, hx, by simp [hxf]⟩)

theorem setOwner_other (o : Option Nat) {fid : Nat} (hfree : ∀ x ∈ s.running, x.fid ≠ fid) :
    ∀ x ∈ s.running, (setOwner s fid o).owner x.fid = s.owner x.fid :=
  fun x hx => if_neg (hfree x hx)

theorem step_inv (s : State) (e : Ev) (s' : State) (h : step s e = .ok s') (hi : Inv s) : Inv s' := by
  cases e with
  | lockFail p fid => cases h; exact hi
  | lockOk p fid =>
    simp only [step] at h
    split at h
    · split at h <;> cases h; exact hi
    · next hnone =>
      cases h
      -- a free lock: nothing runs for `fid`
      exact hi.owners rfl (setOwner_other _ fun x hx hxf => by simpa [hxf, hnone] using hi.held x hx)
  | unlock p fid =>
    simp only [step] at h
    split at h
    · cases h
    · split at h <;> cases h
      exact hi.owners rfl (setOwner_other _ (not_any_fid ‹_›))
  | script p fid unlocked =>
    simp only [step] at h
    cases unlocked with
    | true =>
      simp only [if_true] at h
      split at h
      · cases h
      · next hown =>
        split at h <;> cases h
        exact hi.start ⟨fid, p, true⟩ rfl rfl (not_any_fid ‹_›) nofun (by simpa [ownerOf, Option.isSome_iff_ne_none] using hown)
    | false =>
      simp only [Bool.false_eq_true, if_false] at h
      split at h
      · cases h
      · next hown =>
        split at h
        · cases h
        · next hself =>
          split at h <;> cases h
          next hdel =>
          have hown : s.owner fid = some p := by simpa [ownerOf] using hown
          refine hi.start ⟨fid, p, false⟩ rfl rfl (fun x hx hxf => ?_) (fun _ => hown) (by simp [hown])
          -- an execution of `fid` under way would be delegated, or `p`'s own: both are excluded by the guards
          cases hd : x.delegated with
          | true => exact hdel (List.any_eq_true.2 ⟨x, hx, by simp [hxf, hd]⟩)
          | false =>
            have := hi.own x hx hd
            rw [hxf, ownerOf, hown] at this
            exact hself (List.any_eq_true.2 ⟨x, hx, by simp [hxf, Option.some.inj this]⟩)
  | recordEnd p fid =>
    simp only [step] at h
    split at h <;> cases h
    exact hi.filter _ rfl rfl
  | exit p =>
    simp only [step] at h
    split at h <;> cases h
    next hnr =>
    refine hi.owners rfl fun x hx => if_neg fun hxo => hnr (List.any_eq_true.2 ⟨x, hx, ?_⟩)
    simp [ownerOf, hxo]

theorem _root_.RedoModel.Locks.run_iff {s s' : State} {es : List Ev} :
    run s es = .ok s' ↔ RedoModel.Reach (fun s e s1 => step s e = .ok s1) s es s' := by
  induction es generalizing s with
  | nil => simp [run, eq_comm]
  | cons e es ih => simp only [run, RedoModel.Reach.cons_iff]; cases step s e <;> simp [ih]

theorem _root_.RedoModel.Locks.run_inv {es : List Ev} {s s' : State} (hi : Inv s) (h : run s es = .ok s') : Inv s' :=
  (run_iff.1 h).inv step_inv hi

theorem _root_.RedoModel.Locks.inv_exclusive {s : State} (hi : Inv s) (fid : Nat) : (active s fid).length ≤ 1 := by
  unfold active
  match hl : s.running.filter (fun e => e.fid == fid) with
  | [] => simp [hl]
  | [_] => simp [hl]
  | a :: b :: r =>
    exfalso
    have ha : a ∈ s.running.filter (fun e => e.fid == fid) := by rw [hl]; simp
    have hb : b ∈ s.running.filter (fun e => e.fid == fid) := by rw [hl]; simp
    have hfa := (List.mem_filter.1 ha)
    have hfb := (List.mem_filter.1 hb)
    have hab : a = b := hi.one a hfa.1 b hfb.1 (by
      have h1 : a.fid = fid := by simpa using hfa.2
      have h2 : b.fid = fid := by simpa using hfb.2
      rw [h1, h2])
    have hnd := hi.nodup.filter (fun e => e.fid == fid)
    rw [hl, hab] at hnd
    simp at hnd

end C06
