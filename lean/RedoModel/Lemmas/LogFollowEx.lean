import RedoModel.Lemmas.LogFollowInv
import RedoModel.Lemmas.LogFollowStop
import RedoModel.Lemmas.LogFollowLines
/-!
# `redo-log --follow` — kernel-checked runs: the three that lose lines, tightness of the bound, non-vacuity
-/
namespace RedoModel.LogFollow

/-- What one looks at in the final state of a run: follower's pc, lines shown (oldest first), log at the name. -/
def outcome (s0 : Sys) (es : List Ev) : Option (Pc × List Nat × List Nat) :=
  (run s0 es).map (fun s => (s.pc, s.emitted.reverse, current s))

/-- The reproduced defect.  Old instance `[1]`; the builder holds the lock and has not created the new instance.
The follower opens (the old instance), the builder creates the new one and writes `2`, the follower shows `1`, the
builder unlocks, the follower sees end of file, re-checks the lock, sees end of file again and stops. -/
def staleRun : List Ev := [.fol, .fol, .create, .append 2, .fol, .fol, .unlock, .fol, .fol, .fol, .fol]

theorem stale_open_outcome : outcome (enter [[1]] .lockedNoLog) staleRun = some (.stopped, [1], [2]) := by decide

theorem staleRun_no_lock : Ev.lock ∉ staleRun := by decide

/-- A second build of the target while the follower holds a descriptor on the first one. -/
def rebuildRun : List Ev := [.fol, .fol, .lock, .create, .append 2, .unlock, .fol, .fol, .fol]

theorem rebuild_outcome : outcome (enter [[1]] .idle) rebuildRun = some (.stopped, [1], [2]) := by decide

/-- No log at all when the follower enters, lock free; the build starts only afterwards. -/
def lateBuildRun : List Ev := [.fol, .fol, .lock, .create, .append 1, .unlock, .fol]

theorem lateBuild_outcome : outcome (enter [] .idle) lateBuildRun = some (.stopped, [], [1]) := by decide

/-! ### Non-vacuity -/

/-- A session in which the follower enters during the build, lines are appended before and after it opens, the
lock is taken again later (target found clean), and the loop ends. -/
def goodRun : List Ev :=
  [.fol, .append 2, .fol, .fol, .fol, .fol, .append 3, .fol, .unlock, .fol, .fol, .fol, .lock, .fol, .unlock,
   .fol, .fol, .fol, .fol, .fol]

theorem goodRun_outcome : outcome (enter [[9], [1]] .building) goodRun = some (.stopped, [1, 2, 3], [1, 2, 3]) := by
  decide

theorem goodRun_no_create : Ev.create ∉ goodRun := by decide

/-- Fresh log: the follower enters before the instance exists and there is no old one. -/
def freshRun : List Ev := [.fol, .fol, .fol, .create, .append 1, .unlock, .fol, .fol, .fol, .fol, .fol]

theorem freshRun_outcome : outcome (enter [] .lockedNoLog) freshRun = some (.stopped, [1], [1]) := by decide

theorem freshRun_no_lock : Ev.lock ∉ freshRun := by decide

/-- A state in the middle of a run (descriptor open, one of two lines shown, a third still to come). -/
theorem midRun_outcome :
    (run (enter [[9], [1, 2]] .building) [.fol, .fol, .fol, .append 3]).map
        (fun s => (s.opened, s.pos, s.emitted, s.insts)) = some (some 1, 1, [1], [[9], [1, 2, 3]]) := by decide

/-! ### The bound `2 * remaining + 5` is attained -/

def slowState : Sys := { insts := [[7]], phase := .idle, pc := .top, wasLocked := true }

theorem slowState_remaining : remaining slowState = 1 := by decide

theorem slowState_needs_7 :
    (∀ n, n < 7 → (run slowState (List.replicate n .fol)).map (·.pc) ≠ some .stopped) ∧
    (run slowState (List.replicate 7 .fol)).map (·.pc) = some .stopped := by decide

/-! ### Pieces -/

theorem pieces_example :
    (∀ p ∈ [[1, 2], [3, 10], [10], [4], [5, 6, 10], [7]], Piece p) ∧
    feedAll [] [[1, 2], [3, 10], [10], [4], [5, 6, 10], [7]] = ([[1, 2, 3], [], [4, 5, 6]], [7]) ∧
    splitLines [] [1, 2, 3, 10, 10, 4, 5, 6, 10, 7] = ([[1, 2, 3], [], [4, 5, 6]], [7]) := by
  refine ⟨?_, by decide, by decide⟩
  intro p hp
  simp only [List.mem_cons, List.not_mem_nil, or_false] at hp
  rcases hp with rfl | rfl | rfl | rfl | rfl | rfl <;> exact ⟨by decide, by decide⟩

end RedoModel.LogFollow
