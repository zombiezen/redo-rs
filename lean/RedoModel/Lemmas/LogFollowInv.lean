import RedoModel.LogFollow
import RedoModel.Lemmas.Reach
/-!
# `redo-log --follow` — the invariants of the follower against any interleaving of the builder

The prefix invariant `Pre`; the one invariant of completeness, `Good`, kept by every step whose `create`s are
`CreateSafe`; and the conditions on a run under which it holds to the end: no `create`, one build on a fresh log, and
`SafeRun`, of which both are instances.
-/
namespace RedoModel.LogFollow

/-!
# `redo-log --follow` — basic facts and the prefix invariant (all interleavings, also with `create`)

`Step`: the branches of `step`, one constructor each; the invariants are proved by cases on it.
`Pre s`: what the follower has shown is exactly the first `pos` lines of the instance its descriptor refers to.
-/

/-! ### `appendLast`, `getD` -/

theorem appendLast_length (I : List (List Nat)) (l : Nat) : (appendLast I l).length = I.length := by
  fun_induction appendLast I l <;> simp_all

theorem appendLast_eq_nil (I : List (List Nat)) (l : Nat) : appendLast I l = [] ↔ I = [] := by
  fun_induction appendLast I l <;> simp_all

theorem appendLast_getD (I : List (List Nat)) (l : Nat) :
    ∀ g, (appendLast I l).getD g [] = if g + 1 = I.length then I.getD g [] ++ [l] else I.getD g [] := by
  fun_induction appendLast I l with
  | case1 => intro g; simp
  | case2 x l =>
    intro g
    cases g with
    | zero => simp
    | succ n => simp
  | case3 x y r l ih =>
    intro g
    cases g with
    | zero => simp
    | succ n => simpa using ih n

theorem getD_append_left (I J : List (List Nat)) (g : Nat) (h : g < I.length) : (I ++ J).getD g [] = I.getD g [] := by
  simp [List.getD_eq_getElem?_getD, List.getElem?_append_left h]

theorem getD_last (I : List (List Nat)) : I.getD (I.length - 1) [] = I.getLast?.getD [] := by
  simp [List.getD_eq_getElem?_getD, List.getLast?_eq_getElem?]

theorem current_append (s : Sys) (l : Nat) (h : s.insts ≠ []) :
    (appendLast s.insts l).getLast?.getD [] = s.insts.getLast?.getD [] ++ [l] := by
  have hl := appendLast_length s.insts l
  have hpos : 0 < s.insts.length := List.length_pos_iff.mpr h
  rw [← getD_last, ← getD_last, hl, appendLast_getD]
  have : s.insts.length - 1 + 1 = s.insts.length := by omega
  simp [this]

/-! ### `run` -/

theorem run_iff {s s' : Sys} {es : List Ev} :
    run s es = some s' ↔ Reach (fun s e s1 => step s e = some s1) s es s' := by
  induction es generalizing s with
  | nil => simp [run, eq_comm]
  | cons e es ih => simp only [run, Reach.cons_iff]; cases step s e <;> simp [ih]

theorem run_append_iff {s s2 : Sys} {es es' : List Ev} :
    run s (es ++ es') = some s2 ↔ ∃ s1, run s es = some s1 ∧ run s1 es' = some s2 := by
  simp only [run_iff, Reach.append_iff]

/-! ### `step` as a relation -/

inductive Step : Sys → Ev → Sys → Prop
  | lock {s} (hph : s.phase = .idle) : Step s .lock { s with phase := .lockedNoLog }
  | create {s} (hph : s.phase = .lockedNoLog) : Step s .create { s with phase := .building, insts := s.insts ++ [[]] }
  | append {s} (l : Nat) (hph : s.phase = .building) : Step s (.append l) { s with insts := appendLast s.insts l }
  | unlock {s} (hph : s.phase ≠ .idle) : Step s .unlock { s with phase := .idle }
  | start {s} (hpc : s.pc = .start) : Step s .fol { s with wasLocked := locked s, pc := .top }
  | topKeep {s g} (hpc : s.pc = .top) (hop : s.opened = some g) : Step s .fol { s with pc := .read }
  | topNone {s} (hpc : s.pc = .top) (hop : s.opened = none) (hin : s.insts = []) : Step s .fol { s with pc := .read }
  | topOpen {s} (hpc : s.pc = .top) (hop : s.opened = none) (hin : s.insts ≠ []) :
      Step s .fol { s with opened := some (s.insts.length - 1), pos := 0, pc := .read }
  | line {s g l} (hpc : s.pc = .read) (hop : s.opened = some g) (hl : (s.insts.getD g [])[s.pos]? = some l) :
      Step s .fol { s with emitted := l :: s.emitted, pos := s.pos + 1, pc := .top }
  | eofLocked {s} (hpc : s.pc = .read) (hl : ∀ g, s.opened = some g → (s.insts.getD g [])[s.pos]? = none)
      (hw : s.wasLocked = true) : Step s .fol { s with pc := .check }
  | eofFree {s} (hpc : s.pc = .read) (hl : ∀ g, s.opened = some g → (s.insts.getD g [])[s.pos]? = none)
      (hw : s.wasLocked = false) : Step s .fol { s with pc := .stopped }
  | check {s} (hpc : s.pc = .check) : Step s .fol { s with wasLocked := locked s, pc := .top }

theorem step_Step {s : Sys} {e : Ev} {s' : Sys} (h : step s e = some s') : Step s e s' := by
  cases e with
  | lock => simp only [step] at h; split at h <;> cases h; exact .lock ‹_›
  | create => simp only [step] at h; split at h <;> cases h; exact .create ‹_›
  | append l => simp only [step] at h; split at h <;> cases h; exact .append l ‹_›
  | unlock => simp only [step] at h; split at h <;> cases h; exact .unlock ‹_›
  | fol =>
    simp only [step] at h
    split at h
    · cases h; exact .start ‹_›
    · split at h
      · cases h; exact .topKeep ‹_› ‹_›
      · split at h <;> cases h
        · exact .topNone ‹_› ‹_› (List.isEmpty_iff.1 ‹_›)
        · exact .topOpen ‹_› ‹_› (fun h0 => ‹¬ _› (List.isEmpty_iff.2 h0))
    · next hpc =>
      split at h
      · next l hl =>
        cases h
        split at hl
        · exact .line hpc ‹_› hl
        · cases hl
      · next hl =>
        have hl' : ∀ g, s.opened = some g → (s.insts.getD g [])[s.pos]? = none := fun g e => by simpa [e] using hl
        split at h <;> cases h
        · exact .eofLocked hpc hl' ‹_›
        · exact .eofFree hpc hl' (Bool.eq_false_iff.2 ‹_›)
    · cases h; exact .check ‹_›
    · cases h

/-! ### The prefix invariant -/

/-- The descriptor's index is valid, the position is inside the instance, and what was shown (oldest first) is the
first `pos` lines of that instance.  Nothing open: nothing shown. -/
def Pre (s : Sys) : Prop :=
  match s.opened with
  | some g => g < s.insts.length ∧ s.pos ≤ (s.insts.getD g []).length ∧
      s.emitted.reverse = (s.insts.getD g []).take s.pos
  | none => s.emitted = []

theorem Pre_enter (insts : List (List Nat)) (ph : Phase) : Pre (enter insts ph) := by
  simp [Pre, enter]

theorem Pre_step (s : Sys) (e : Ev) (s' : Sys) (h : step s e = some s') (hp : Pre s) : Pre s' := by
  unfold Pre at hp ⊢
  cases step_Step h with
  | create =>
    dsimp only at hp ⊢
    split at hp
    · obtain ⟨h1, h2, h3⟩ := hp
      simp only [List.length_append, List.length_cons, List.length_nil, getD_append_left _ _ _ h1]
      exact ⟨by omega, h2, h3⟩
    · exact hp
  | append l =>
    dsimp only at hp ⊢
    split at hp
    · obtain ⟨h1, h2, h3⟩ := hp
      simp only [appendLast_length, appendLast_getD]
      refine ⟨h1, ?_, ?_⟩
      · split
        · simp only [List.length_append, List.length_cons, List.length_nil]; omega
        · exact h2
      · split
        · rw [List.take_append_of_le_length h2]; exact h3
        · exact h3
    · exact hp
  | topOpen hpc hop hin =>
    simp only [hop] at hp
    have hpos : 0 < s.insts.length := List.length_pos_iff.mpr hin
    exact ⟨by dsimp only; omega, Nat.zero_le _, by simp [hp]⟩
  | @line g l hpc hop hl =>
    simp only [hop] at hp ⊢
    obtain ⟨h1, h2, h3⟩ := hp
    refine ⟨h1, (List.getElem?_eq_some_iff.mp hl).1, ?_⟩
    rw [List.reverse_cons, h3, List.take_add_one, hl]; rfl
  | _ => exact hp

theorem Pre_run {s s' : Sys} {es : List Ev} (h : run s es = some s') (hp : Pre s) : Pre s' :=
  (run_iff.1 h).inv Pre_step hp

theorem follow_prefix_core (insts : List (List Nat)) (ph : Phase) (es : List Ev) (s : Sys)
    (h : run (enter insts ph) es = some s) :
    (∀ g, s.opened = some g → g < s.insts.length ∧ s.pos ≤ (s.insts.getD g []).length ∧
        s.emitted.reverse = (s.insts.getD g []).take s.pos) ∧
    (s.opened = none → s.emitted = []) := by
  have hp := Pre_run h (Pre_enter insts ph)
  unfold Pre at hp
  constructor
  · intro g hg; simpa [hg] using hp
  · intro hg; simpa [hg] using hp

/-!
# `redo-log --follow` — the invariant of completeness

`Good s`: the follower's descriptor (if any) is on the instance that is at the log name, and the follower's belief
"the lock was free" (`wasLocked = false`) is only held when the build is really over.  `CreateSafe s`: a new instance
may be renamed over the log name in state `s` without harm — the follower has no descriptor open, and it has not
started or believes the target locked (so it will look again).  Every step keeps `Good`, a `create` provided it happens
in a `CreateSafe` state (`Good_step`); a stopped `Good` state has shown the whole current instance and nothing can be
appended any more.
-/

def CreateSafe (s : Sys) : Prop := s.opened = none ∧ (s.pc = .start ∨ s.wasLocked = true)

structure Good (s : Sys) : Prop where
  pre : Pre s
  /-- the descriptor is on the instance at the log name -/
  last : ∀ g, s.opened = some g → g + 1 = s.insts.length
  /-- end of file without a descriptor, believed unlocked: there is no log file -/
  noFile : s.opened = none → (s.pc = .read ∨ s.pc = .stopped) → s.wasLocked = false → s.insts = []
  /-- "was not locked" is only believed once the build is over -/
  wl : s.pc ≠ .start → s.wasLocked = false → s.phase ≠ .building
  stop : s.pc = .stopped → s.phase ≠ .building ∧ s.emitted.reverse = current s
  /-- a returned follower believed the target unlocked -/
  stopWl : s.pc = .stopped → s.wasLocked = false

theorem Good_enter (insts : List (List Nat)) (ph : Phase) : Good (enter insts ph) := by
  refine ⟨Pre_enter insts ph, ?_, ?_, ?_, ?_, ?_⟩ <;> simp [enter]

theorem current_appendLast_nil (l : Nat) : current { insts := appendLast [] l, phase := .idle } = [] := rfl

/-- At end of file on the last instance everything of it has been shown. -/
theorem eof_all (s : Sys) (hg : Good s) (hpc : s.pc = .read) (hwl : s.wasLocked = false)
    (hline : ∀ g, s.opened = some g → (s.insts.getD g [])[s.pos]? = none) : s.emitted.reverse = current s := by
  have hp := hg.pre
  unfold Pre at hp
  unfold current
  cases hopen : s.opened with
  | some g =>
    simp only [hopen] at hp
    obtain ⟨h1, h2, h3⟩ := hp
    have hl := hg.last g hopen
    have hge : (s.insts.getD g []).length ≤ s.pos := List.getElem?_eq_none_iff.mp (hline g hopen)
    rw [h3, List.take_of_length_le hge, ← getD_last]
    congr 1; omega
  | none =>
    simp only [hopen] at hp
    have he := hg.noFile hopen (.inl hpc) hwl
    simp [hp, he]

/-- Every step keeps `Good`, provided an instance is created only while the follower has no descriptor open and will
look at the lock again. -/
theorem Good_step (s : Sys) (e : Ev) (s' : Sys) (h : step s e = some s') (hg : Good s)
    (hc : e = .create → CreateSafe s) : Good s' := by
  have hpre := Pre_step s e s' h hg.pre
  have ⟨_, hlast, hnf, hwl, hstop, hsw⟩ := hg
  have locked_false : locked s = false → s.phase ≠ .building := fun h hb => by simp [locked, hb] at h
  -- Written out row by row of `Step`: a builder step leaves the follower's fields alone and a follower step the
  -- builder's, so at most two clauses per row have anything to show.  (A search over all rows and clauses finds the
  -- same proof, but is very slow to check.)
  cases step_Step h with
  | lock hph | unlock hph => exact ⟨hpre, hlast, hnf, fun _ _ => nofun, fun h => ⟨nofun, (hstop h).2⟩, hsw⟩
  | create hph =>
    -- no descriptor, and not (read or stopped) with `wasLocked = false`: only `wl` and `stop` look at the new phase
    obtain ⟨hop, hc⟩ := hc rfl
    refine ⟨hpre, (fun g hg => by rw [hop] at hg; cases hg), fun _ _ _ => ?_, fun h1 h2 => ?_, fun h => ?_, hsw⟩
    · rcases hc with hc | hc <;> simp_all
    · rcases hc with hc | hc <;> simp_all
    · rcases hc with hc | hc <;> simp_all
  | append l hph =>
    exact ⟨hpre, (fun g hg => by rw [appendLast_length]; exact hlast g hg),
      fun h1 h2 h3 => (appendLast_eq_nil _ _).2 (hnf h1 h2 h3), hwl, fun h => absurd hph (hstop h).1, hsw⟩
  | start hpc | check hpc =>
    exact ⟨hpre, hlast, (by rintro _ (h | h) <;> cases h), fun _ => locked_false, nofun, nofun⟩
  | topKeep hpc hop =>
    exact ⟨hpre, hlast, (fun h => by rw [hop] at h; cases h), fun _ => hwl (by rw [hpc]; nofun), nofun, nofun⟩
  | topNone hpc hop hin => exact ⟨hpre, hlast, fun _ _ _ => hin, fun _ => hwl (by rw [hpc]; nofun), nofun, nofun⟩
  | topOpen hpc hop hin =>
    have := List.length_pos_iff.2 hin
    exact ⟨hpre, (fun g hg => by cases hg; show s.insts.length - 1 + 1 = s.insts.length; omega), nofun,
      fun _ => hwl (by rw [hpc]; nofun), nofun, nofun⟩
  | line hpc _ _ | eofLocked hpc _ _ =>
    exact ⟨hpre, hlast, (by rintro _ (h | h) <;> cases h), fun _ => hwl (by rw [hpc]; nofun), nofun, nofun⟩
  | eofFree hpc hl hw =>
    exact ⟨hpre, hlast, fun h1 _ h3 => hnf h1 (.inl hpc) h3, fun _ h2 => hwl (by rw [hpc]; nofun) h2,
      fun _ => ⟨hwl (by rw [hpc]; nofun) hw, eof_all s hg hpc hw hl⟩, fun _ => hw⟩

theorem Good_run {s s' : Sys} {es : List Ev} (h : run s es = some s') (hnc : Ev.create ∉ es) (hg : Good s) :
    Good s' :=
  (run_iff.1 h).inv_of_mem (fun s e s' he h hg => Good_step s e s' h hg (fun hc => absurd (hc ▸ he) hnc)) hg

/-! ### After the stop -/

/-- Stopped, build over: only `lock`/`unlock` are accepted as long as no `create` comes. -/
theorem stopped_step (s : Sys) (e : Ev) (s' : Sys) (hpc : s.pc = .stopped) (hph : s.phase ≠ .building)
    (hne : e ≠ .create) (h : step s e = some s') :
    s'.pc = .stopped ∧ s'.phase ≠ .building ∧ s'.insts = s.insts ∧ s'.emitted = s.emitted ∧
      (e = .lock ∨ e = .unlock) := by
  cases step_Step h <;> simp_all

theorem stopped_run {s s' : Sys} {es : List Ev} (h : run s es = some s') (hnc : Ev.create ∉ es)
    (hpc : s.pc = .stopped) (hph : s.phase ≠ .building) :
    s'.pc = .stopped ∧ s'.phase ≠ .building ∧ s'.insts = s.insts ∧ s'.emitted = s.emitted ∧
      ∀ e ∈ es, e = .lock ∨ e = .unlock := by
  have hr := run_iff.1 h; clear h
  induction hr with
  | nil => simp [hpc, hph]
  | @cons s s1 s' e es hs _ ih =>
    have hne : e ≠ .create := fun hc => hnc (hc ▸ List.mem_cons_self)
    obtain ⟨a1, a2, a3, a4, a5⟩ := stopped_step s e s1 hpc hph hne hs
    obtain ⟨b1, b2, b3, b4, b5⟩ := ih (fun hc => hnc (List.mem_cons_of_mem _ hc)) a1 a2
    exact ⟨b1, b2, b3.trans a3, b4.trans a4, List.forall_mem_cons.2 ⟨a5, b5⟩⟩

theorem complete_of_good {s0 s : Sys} {es : List Ev} (hg : Good s0) (h : run s0 es = some s)
    (hnc : Ev.create ∉ es) (hpc : s.pc = .stopped) :
    s.emitted.reverse = current s ∧
    ∀ es' s', Ev.create ∉ es' → run s es' = some s' →
      s'.pc = .stopped ∧ current s' = current s ∧ s'.emitted = s.emitted ∧ (∀ l, Ev.append l ∉ es') ∧ Ev.fol ∉ es' := by
  have hgs := Good_run h hnc hg
  obtain ⟨hph, hem⟩ := hgs.stop hpc
  refine ⟨hem, ?_⟩
  intro es' s' hnc' h'
  obtain ⟨a1, _, a3, a4, a5⟩ := stopped_run h' hnc' hpc hph
  refine ⟨a1, by simp [current, a3], a4, ?_, ?_⟩
  · intro l hl; rcases a5 _ hl with h | h <;> cases h
  · intro hl; rcases a5 _ hl with h | h <;> cases h

/-!
# `redo-log --follow` — one build per session (`lock` never taken again), fresh log allowed

If the follower enters while the builder holds the lock and has not created the instance yet, it is still correct
provided there is NO old instance at the log name (`insts = []`): it cannot open anything before the `create`.
-/

/-- Lock held, nothing created yet, no log file at all: the follower can only spin. -/
def Fresh (s : Sys) : Prop :=
  s.phase = .lockedNoLog ∧ s.insts = [] ∧ s.opened = none ∧ s.emitted = [] ∧
    (s.pc ≠ .start → s.wasLocked = true) ∧ s.pc ≠ .stopped

/-- `Good`, and the lock is not in the state "held, nothing created" (so no `create` can be accepted before a `lock`). -/
def Settled (s : Sys) : Prop := Good s ∧ s.phase ≠ .lockedNoLog

theorem Fresh_enter : Fresh (enter [] .lockedNoLog) := by simp [Fresh, enter]

theorem Settled_enter (insts : List (List Nat)) (ph : Phase) (h : ph ≠ .lockedNoLog) : Settled (enter insts ph) :=
  ⟨Good_enter insts ph, h⟩

theorem Settled_step (s : Sys) (e : Ev) (s' : Sys) (h : step s e = some s') (hs : Settled s) (hne : e ≠ .lock) :
    Settled s' := by
  have hph := hs.2
  -- no `create` is accepted in phase `idle` or `building`
  refine ⟨Good_step s e s' h hs.1 (fun he => ?_), ?_⟩ <;> cases step_Step h <;> simp_all

theorem Fresh.good {s : Sys} (hf : Fresh s) : Good s := by
  obtain ⟨hph, hin, hop, hem, _, hpc⟩ := hf
  exact ⟨by simp [Pre, hop, hem], (fun g hg => by rw [hop] at hg; cases hg), fun _ _ _ => hin,
    fun _ _ => by rw [hph]; nofun, fun h => absurd h hpc, fun h => absurd h hpc⟩

theorem Fresh.createSafe {s : Sys} (hf : Fresh s) : CreateSafe s :=
  ⟨hf.2.2.1, (Decidable.em (s.pc = .start)).imp_right hf.2.2.2.2.1⟩

theorem Fresh_step (s : Sys) (e : Ev) (s' : Sys) (h : step s e = some s') (hf : Fresh s) (hne : e ≠ .lock) :
    Fresh s' ∨ Settled s' := by
  have hg := Good_step s e s' h hf.good (fun _ => hf.createSafe)
  obtain ⟨hph, hin, hop, hem, hwl, hpc⟩ := hf
  cases step_Step h with
  | lock => exact absurd rfl hne
  | create | unlock => exact .inr ⟨hg, nofun⟩
  | _ => left; simp_all [Fresh, locked]

theorem FreshOrSettled_run {s s' : Sys} {es : List Ev} (h : run s es = some s') (hnl : Ev.lock ∉ es)
    (hs : Fresh s ∨ Settled s) : Fresh s' ∨ Settled s' :=
  (run_iff.1 h).inv_of_mem (I := fun s => Fresh s ∨ Settled s) (fun s e s' he h hp => by
    have hne : e ≠ .lock := fun hc => hnl (hc ▸ he)
    rcases hp with hp | hp
    · exact Fresh_step s e s' h hp hne
    · exact .inr (Settled_step s e s' h hp hne)) hs

/-- Stopped, lock free: nothing at all is accepted before the next `lock`. -/
theorem idle_stopped_run {s s' : Sys} {es : List Ev} (h : run s es = some s') (hnl : Ev.lock ∉ es)
    (hpc : s.pc = .stopped) (hph : s.phase = .idle) : es = [] ∧ s' = s := by
  cases es with
  | nil => cases h; exact ⟨rfl, rfl⟩
  | cons e es =>
    obtain ⟨s1, hs, _⟩ := Reach.cons_iff.1 (run_iff.1 h)
    cases step_Step hs <;> simp_all

/-!
# `redo-log --follow` — the general sufficient condition for completeness

If every `create` of a run happens in a `CreateSafe` state, `Good` holds along the run
(`Good_step`), so a returned follower has shown the whole log at the name.  Both special hypotheses (no `create`; one
build and no old instance) are instances.
-/

/-- Every accepted `create` of the run happens in a `CreateSafe` state. -/
def SafeRun : Sys → List Ev → Prop
  | _, [] => True
  | s, e :: es => ∀ s', step s e = some s' → (e = .create → CreateSafe s) ∧ SafeRun s' es

theorem Good_safeRun {s s' : Sys} {es : List Ev} (h : run s es = some s') (hsafe : SafeRun s es) (hg : Good s) :
    Good s' := by
  have hr := run_iff.1 h; clear h
  induction hr with
  | nil => exact hg
  | @cons s s1 s' e es hs _ ih => exact ih (hsafe s1 hs).2 (Good_step s e s1 hs hg (hsafe s1 hs).1)

theorem complete_general (insts : List (List Nat)) (ph : Phase) (es : List Ev) (s : Sys)
    (hsafe : SafeRun (enter insts ph) es) (h : run (enter insts ph) es = some s) (hpc : s.pc = .stopped) :
    s.emitted.reverse = current s ∧ s.phase ≠ .building :=
  have hg := Good_safeRun h hsafe (Good_enter insts ph)
  ⟨(hg.stop hpc).2, (hg.stop hpc).1⟩

/-! ### The two special hypotheses are instances -/

theorem safeRun_of_no_create (es : List Ev) : ∀ s, Ev.create ∉ es → SafeRun s es := by
  induction es with
  | nil => intro _ _; trivial
  | cons e es ih =>
    intro s hnc s' _
    exact ⟨fun he => absurd List.mem_cons_self (he ▸ hnc), ih s' (fun hm => hnc (List.mem_cons_of_mem _ hm))⟩

theorem safeRun_of_one_build (es : List Ev) : ∀ s, Ev.lock ∉ es → Fresh s ∨ Settled s → SafeRun s es := by
  induction es with
  | nil => intro _ _ _; trivial
  | cons e es ih =>
    intro s hnl hs s' hstep
    have hne : e ≠ .lock := fun he => hnl (he ▸ List.mem_cons_self)
    have hnl' : Ev.lock ∉ es := fun hm => hnl (List.mem_cons_of_mem _ hm)
    rcases hs with hf | hst
    · exact ⟨fun _ => hf.createSafe, ih s' hnl' (Fresh_step s e s' hstep hf hne)⟩
    · refine ⟨fun he => ?_, ih s' hnl' (.inr (Settled_step s e s' hstep hst hne))⟩
      subst he
      simp [step, hst.2] at hstep

/-- The follower entered before the `create` but made no step, or only its first one, before it: harmless even
with an old instance at the name. -/
theorem safeRun_example :
    SafeRun (enter [[1]] .lockedNoLog) [.fol, .create, .append 2, .fol, .fol, .unlock, .fol, .fol, .fol, .fol, .fol] ∧
    (run (enter [[1]] .lockedNoLog) [.fol, .create, .append 2, .fol, .fol, .unlock, .fol, .fol, .fol, .fol, .fol]).map
      (fun s => (s.pc, s.emitted, current s)) = some (.stopped, [2], [2]) := by
  refine ⟨?_, by decide⟩
  simp [SafeRun, step, enter, CreateSafe, locked]

end RedoModel.LogFollow
