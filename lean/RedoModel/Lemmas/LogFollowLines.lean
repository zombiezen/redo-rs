import RedoModel.LogFollow
/-!
# `redo-log` — reassembly of partial reads (`line_head`): gluing pieces is splitting the byte stream at newlines
-/
namespace RedoModel.LogFollow

theorem splitLines_append_clean (q rest : List Nat) : ∀ acc, 10 ∉ q →
    splitLines acc (q ++ rest) = splitLines (acc ++ q) rest := by
  induction q with
  | nil => intro acc _; simp
  | cons b q ih =>
    intro acc h
    have hb : b ≠ 10 := fun hb => h (hb ▸ List.mem_cons_self)
    have hq : 10 ∉ q := fun hq => h (List.mem_cons_of_mem _ hq)
    simp only [List.cons_append, splitLines, hb, if_false]
    rw [ih _ hq]; simp

theorem splitLines_nl (acc rest : List Nat) :
    splitLines acc (10 :: rest) = ((acc :: (splitLines [] rest).1), (splitLines [] rest).2) := by
  simp [splitLines]

theorem dropLast_append_last (p : List Nat) (a : Nat) (h : p.getLast? = some a) : p.dropLast ++ [a] = p := by
  obtain ⟨ys, rfl⟩ := List.getLast?_eq_some_iff.mp h; simp

theorem clean_of_last (p : List Nat) (h : 10 ∉ p.dropLast) (hl : p.getLast? ≠ some 10) : 10 ∉ p := by
  cases hg : p.getLast? with
  | none => simp [List.getLast?_eq_none_iff.mp hg]
  | some a =>
    have hp : p.dropLast ++ [a] = p := dropLast_append_last p a hg
    intro hm
    rw [← hp] at hm
    rcases List.mem_append.mp hm with hm | hm
    · exact h hm
    · simp only [List.mem_singleton] at hm
      exact hl (by rw [hg, hm])

theorem feedAll_pair (head : List Nat) (ps : List (List Nat)) :
    feedAll head ps = ((feedAll head ps).1, (feedAll head ps).2) := rfl

theorem feedAll_eq_splitLines (ps : List (List Nat)) : ∀ head, (∀ p ∈ ps, 10 ∉ p.dropLast) →
    feedAll head ps = splitLines head ps.flatten := by
  induction ps with
  | nil => intro head _; simp [feedAll, splitLines]
  | cons p ps ih =>
    intro head h
    have hp := h p List.mem_cons_self
    have hps : ∀ q ∈ ps, 10 ∉ q.dropLast := fun q hq => h q (List.mem_cons_of_mem _ hq)
    by_cases hl : p.getLast? = some 10
    · have hpe : p.dropLast ++ [10] = p := dropLast_append_last p 10 hl
      have e1 : feedAll head (p :: ps) =
          ((head ++ p.dropLast) :: (feedAll [] ps).1, (feedAll [] ps).2) := by
        simp [feedAll, feed, hl]
      rw [e1, ih [] hps, List.flatten_cons]
      conv => rhs; rw [← hpe]
      rw [List.append_assoc, splitLines_append_clean _ _ _ hp]
      simp [splitLines_nl]
    · have e1 : feedAll head (p :: ps) = feedAll (head ++ p) ps := by
        simp [feedAll, feed, hl]
      rw [e1, ih _ hps, List.flatten_cons, splitLines_append_clean _ _ _ (clean_of_last p hp hl)]

end RedoModel.LogFollow
