import RedoModel.Lemmas.LogFollowInv
import RedoModel.Lemmas.LogFollowEx
/-! The acceptor `Obs` of follower traces against the model of `--follow`. -/
namespace RedoModel.LogFollow
open Obs

/-! ### Projection and correspondence relation

`obsOf s es`: what the hooks log of the run `es` from `s` (lock events with the index of the new instance as inode,
the follower's `enter`/`opened`/`check`/`eof`/`stop`; reads of lines and appends are invisible). -/

/-- The line the follower's `read` step would get. -/
def nextLine (s : Sys) : Option Nat :=
  match s.opened with
  | some g => (s.insts.getD g [])[s.pos]?
  | none => none

theorem nextLine_eq_some {s : Sys} {g l : Nat} (hop : s.opened = some g) (hl : (s.insts.getD g [])[s.pos]? = some l) :
    nextLine s = some l := by
  simp only [nextLine, hop]
  exact hl

theorem nextLine_eq_none {s : Sys} (h : ∀ g, s.opened = some g → (s.insts.getD g [])[s.pos]? = none) :
    nextLine s = none := by
  unfold nextLine
  split
  · exact h _ ‹_›
  · rfl

/-- What the hooks log of one follower step taken in state `s`. -/
def obsFol (s : Sys) : List OEv :=
  match s.pc with
  | .start => [.enter (locked s)]
  | .top =>
    match s.opened with
    | some _ => []
    | none => if s.insts.isEmpty then [] else [.opened (s.insts.length - 1)]
  | .read =>
    match nextLine s with
    | some _ => []
    | none => if s.wasLocked then [.eof] else [.eof, .stop]
  | .check => [.check (locked s)]
  | .stopped => []

/-- What the hooks log of one event taken in state `s`; the inode of an instance is its index in `insts`. -/
def obsEv (s : Sys) : Ev → List OEv
  | .lock => [.lock]
  | .create => [.create s.insts.length]
  | .unlock => [.unlock]
  | .append _ => []
  | .fol => obsFol s

/-- The observable trace of the accepted part of a run. -/
def obsOf : Sys → List Ev → List OEv
  | _, [] => []
  | s, e :: es =>
    match step s e with
    | none => []
    | some s' => obsEv s e ++ obsOf s' es

/-- The acceptor on a few events, without the position counter. -/
def osteps : OSt → List OEv → Except Flag OSt
  | o, [] => .ok o
  | o, x :: r =>
    match ostep o x with
    | .error f => .error f
    | .ok o' => osteps o' r

theorem orun_append_ok (a b : List OEv) : ∀ (o o1 : OSt) (i : Nat), osteps o a = .ok o1 →
    orun o (a ++ b) i = orun o1 b (i + a.length) := by
  induction a with
  | nil => intro o o1 i h; simp only [osteps, Except.ok.injEq] at h; subst h; rfl
  | cons x r ih =>
    intro o o1 i h
    simp only [osteps] at h
    cases hx : ostep o x with
    | error f => rw [hx] at h; cases h
    | ok o2 =>
      rw [hx] at h
      simp only [List.cons_append, orun, hx, List.length_cons]
      rw [ih o2 o1 (i + 1) h]; congr 1; omega

/-- The acceptor's start state for a follower entering at `enter insts ph`. -/
def obsStart (insts : List (List Nat)) (ph : Phase) : OSt :=
  { phase := ph, cur := if insts = [] then none else some (insts.length - 1) }

/-- Every accepted `create` happens in a `CreateSafe` state, or after the follower has returned. -/
def SafeRunS : Sys → List Ev → Prop
  | _, [] => True
  | s, e :: es => ∀ s', step s e = some s' → (e = .create → CreateSafe s ∨ s.pc = .stopped) ∧ SafeRunS s' es

/-- The flags about the creation of an instance under the follower (the others check consistency of the trace). -/
def CreationFlag (f : Flag) : Prop := f = .staleOpen ∨ f = .rebuiltDuringFollow ∨ f = .createAfterFree

/-- The acceptor's state is the observable part of the model's state. -/
structure Rel (s : Sys) (o : OSt) : Prop where
  phase : o.phase = s.phase
  cur : s.phase = .building → s.insts ≠ [] → o.cur = some (s.insts.length - 1)
  folNone : (s.pc = .start ∨ s.pc = .stopped) → o.fol = none
  folSome : s.pc ≠ .start → s.pc ≠ .stopped →
    ∃ f, o.fol = some f ∧ f.opened = s.opened ∧ f.wasLocked = s.wasLocked

/-- Facts about the model's states used by the correspondence (true on every run from `enter`). -/
def ObsInv (s : Sys) : Prop := Pre s ∧ (s.pc = .start → s.opened = none)

theorem ObsInv_enter (insts : List (List Nat)) (ph : Phase) : ObsInv (enter insts ph) :=
  ⟨Pre_enter insts ph, fun _ => rfl⟩

theorem Rel_enter (insts : List (List Nat)) (ph : Phase) (o : OSt) (hph : o.phase = ph) (hfol : o.fol = none)
    (hcur : ph = .building → insts ≠ [] → o.cur = some (insts.length - 1)) : Rel (enter insts ph) o :=
  ⟨hph, hcur, fun _ => hfol, fun h => absurd rfl h⟩

theorem Rel_obsStart (insts : List (List Nat)) (ph : Phase) : Rel (enter insts ph) (obsStart insts ph) :=
  Rel_enter insts ph _ rfl rfl (fun _ h => by simp [obsStart, h])

/-- The wire driver's start state `{}` is right when the trace starts with the lock free. -/
theorem Rel_default (insts : List (List Nat)) : Rel (enter insts .idle) {} :=
  Rel_enter insts .idle _ rfl rfl (fun h => by cases h)

theorem ObsInv_step (s : Sys) (e : Ev) (s' : Sys) (h : step s e = some s') (hI : ObsInv s) : ObsInv s' := by
  refine ⟨Pre_step s e s' h hI.1, ?_⟩
  have h2 := hI.2
  cases step_Step h <;> simp_all

theorem ObsInv_run {s s' : Sys} {es : List Ev} (h : run s es = some s') (hI : ObsInv s) : ObsInv s' :=
  (run_iff.1 h).inv ObsInv_step hI

theorem stopped_absorb (s : Sys) (e : Ev) (s' : Sys) (hpc : s.pc = .stopped) (h : step s e = some s') :
    s'.pc = .stopped := by
  cases step_Step h <;> simp_all

theorem stopped_absorb_run {s s' : Sys} {es : List Ev} (h : run s es = some s') (hpc : s.pc = .stopped) :
    s'.pc = .stopped :=
  (run_iff.1 h).inv (fun s e s' h hp => stopped_absorb s e s' hp h) hpc

/-! ### One step of the simulation -/
open Obs

theorem sim_builder (s : Sys) (e : Ev) (s' : Sys) (o : OSt) (hR : Rel s o) (h : step s e = some s')
    (hne : e ≠ .create) (hnf : e ≠ .fol) :
    ∃ o', osteps o (obsEv s e) = .ok o' ∧ Rel s' o' := by
  obtain ⟨hph, hcur, hfn, hfs⟩ := hR
  cases step_Step h with
  | lock hidle =>
    exact ⟨{ o with phase := .lockedNoLog }, by simp [obsEv, osteps, ostep, hph, hidle], rfl, nofun, hfn, hfs⟩
  | unlock hidle =>
    exact ⟨{ o with phase := .idle }, by simp [obsEv, osteps, ostep, hph, hidle], rfl, nofun, hfn, hfs⟩
  | append l hb =>
    refine ⟨o, rfl, hph, fun h1 h2 => ?_, hfn, hfs⟩
    have hne : s.insts ≠ [] := fun h0 => h2 (by simp [h0, appendLast])
    simpa [appendLast_length] using hcur h1 hne
  | _ => contradiction

theorem sim_fol (s s' : Sys) (o : OSt) (hR : Rel s o) (hI : ObsInv s) (h : step s .fol = some s') :
    ∃ o', osteps o (obsEv s .fol) = .ok o' ∧ Rel s' o' := by
  obtain ⟨hph, hcur, hfn, hfs⟩ := hR
  cases step_Step h
  case start hpc =>
    exact ⟨{ o with fol := some { wasLocked := locked s } },
      by simp [obsEv, obsFol, hpc, osteps, ostep, hfn (.inl hpc), locked, hph],
      hph, hcur, nofun, fun _ _ => ⟨_, rfl, (hI.2 hpc).symm, rfl⟩⟩
  -- inside the loop the acceptor has a session `f` open that agrees with the follower
  all_goals obtain ⟨f, hf, hfo, hfw⟩ := hfs (by simp [*]) (by simp [*])
  case topKeep hpc hop =>
    exact ⟨o, by simp [obsEv, obsFol, hpc, hop, osteps], hph, hcur, nofun, fun _ _ => ⟨f, hf, hfo, hfw⟩⟩
  case topNone hpc hop hin =>
    exact ⟨o, by simp [obsEv, obsFol, hpc, hop, hin, osteps], hph, hcur, nofun, fun _ _ => ⟨f, hf, hfo, hfw⟩⟩
  case topOpen hpc hop hin =>
    refine ⟨{ o with
      fol := some { f with opened := some (s.insts.length - 1), openedUnderLock := s.phase = .lockedNoLog } },
      ?_, hph, hcur, nofun, fun _ _ => ⟨_, rfl, rfl, hfw⟩⟩
    have hev : obsEv s .fol = [.opened (s.insts.length - 1)] := by simp [obsEv, obsFol, hpc, hop, hin]
    rw [hev]
    simp only [osteps, ostep, hf, hfo.trans hop, Option.isSome_none, Bool.false_eq_true, if_false, hph]
    rw [if_neg]
    exact fun ⟨hb, hc⟩ => hc (hcur hb hin)
  case line hpc hop hl =>
    have hl := nextLine_eq_some hop hl
    exact ⟨o, by simp [obsEv, obsFol, hpc, hl, osteps], hph, hcur, nofun, fun _ _ => ⟨f, hf, hfo, hfw⟩⟩
  case eofLocked hpc hl hw =>
    have hl := nextLine_eq_none hl
    exact ⟨{ o with fol := some { f with eofSince := true } },
      by simp [obsEv, obsFol, hpc, hl, hw, osteps, ostep, hf], hph, hcur, nofun, fun _ _ => ⟨_, rfl, hfo, hfw⟩⟩
  case eofFree hpc hl hw =>
    have hl := nextLine_eq_none hl
    exact ⟨{ o with fol := none }, by simp [obsEv, obsFol, hpc, hl, hw, osteps, ostep, hf, hfw],
      hph, hcur, fun _ => rfl, fun _ hc => absurd rfl hc⟩
  case check hpc =>
    exact ⟨{ o with fol := some { f with wasLocked := locked s, eofSince := false } },
      by simp [obsEv, obsFol, hpc, osteps, ostep, hf, locked, hph], hph, hcur, nofun, fun _ _ => ⟨_, rfl, hfo, rfl⟩⟩

/-- `create` in a state where it is harmless: accepted by the acceptor. -/
theorem sim_create_ok (s s' : Sys) (o : OSt) (hR : Rel s o) (h : step s .create = some s')
    (hc : CreateSafe s ∨ s.pc = .stopped) :
    ∃ o', ostep o (.create s.insts.length) = .ok o' ∧ Rel s' o' := by
  obtain ⟨hph, hcur, hfn, hfs⟩ := hR
  cases step_Step h
  rename_i hl
  have hrel : Rel { s with phase := .building, insts := s.insts ++ [[]] }
      { o with phase := .building, cur := some s.insts.length } :=
    ⟨rfl, fun _ _ => by simp, hfn, hfs⟩
  by_cases hns : s.pc = .start ∨ s.pc = .stopped
  · exact ⟨_, by simp [ostep, hph, hl, hfn hns], hrel⟩
  · have h1 : s.pc ≠ .start := fun h => hns (.inl h)
    have h2 : s.pc ≠ .stopped := fun h => hns (.inr h)
    obtain ⟨f, hf, hfo, hfw⟩ := hfs h1 h2
    rcases hc with ⟨hop, hc | hc⟩ | hc
    · exact absurd hc h1
    · exact ⟨_, by simp [ostep, hph, hl, hf, hfo.trans hop, hfw, hc], hrel⟩
    · exact absurd hc h2

/-- `create` in any other state: one of the three creation flags. -/
theorem sim_create_bad (s s' : Sys) (o : OSt) (hR : Rel s o) (hI : ObsInv s) (h : step s .create = some s')
    (hc : ¬ (CreateSafe s ∨ s.pc = .stopped)) :
    ∃ fl, ostep o (.create s.insts.length) = .error fl ∧ CreationFlag fl := by
  obtain ⟨hph, hcur, hfn, hfs⟩ := hR
  cases step_Step h
  rename_i hl
  have h2 : s.pc ≠ .stopped := fun h => hc (.inr h)
  have h1 : s.pc ≠ .start := fun h => hc (.inl ⟨hI.2 h, .inl h⟩)
  obtain ⟨f, hf, hfo, hfw⟩ := hfs h1 h2
  cases hop : s.opened with
  | some g =>
    have hlt : g < s.insts.length := by
      have hp := hI.1; unfold Pre at hp; simp only [hop] at hp; exact hp.1
    have hfo' : f.opened = some g := hfo.trans hop
    have hne : g ≠ s.insts.length := by omega
    cases hu : f.openedUnderLock with
    | true => exact ⟨.staleOpen, by simp [ostep, hph, hl, hf, hfo', hne, hu], .inl rfl⟩
    | false => exact ⟨.rebuiltDuringFollow, by simp [ostep, hph, hl, hf, hfo', hne, hu], .inr (.inl rfl)⟩
  | none =>
    have hw : s.wasLocked = false := by
      cases hw : s.wasLocked with
      | false => rfl
      | true => exact absurd (.inl ⟨hop, .inr hw⟩) hc
    exact ⟨.createAfterFree, by simp [ostep, hph, hl, hf, hfo.trans hop, hfw, hw], .inr (.inr rfl)⟩

/-! ### Whole runs

`orun` accepts the projection of a run exactly when every `create` of the run happens in a `CreateSafe` state or after
the follower has returned (`SafeRunS`); the only flags it can raise on a projection are the three creation flags.
A follower step at the end of the file projects to `eof` (and `stop` if the loop ends there). -/
open Obs

theorem sim_step (s : Sys) (e : Ev) (s' : Sys) (o : OSt) (hR : Rel s o) (hI : ObsInv s) (h : step s e = some s') :
    ((e = .create → CreateSafe s ∨ s.pc = .stopped) ∧
      ∃ o', osteps o (obsEv s e) = .ok o' ∧ Rel s' o') ∨
    (¬ (e = .create → CreateSafe s ∨ s.pc = .stopped) ∧
      ∃ x fl, obsEv s e = [x] ∧ ostep o x = .error fl ∧ CreationFlag fl) := by
  by_cases he : e = .create
  · subst he
    by_cases hc : CreateSafe s ∨ s.pc = .stopped
    · obtain ⟨o', h1, h2⟩ := sim_create_ok s s' o hR h hc
      exact .inl ⟨fun _ => hc, o', by simp [obsEv, osteps, h1], h2⟩
    · obtain ⟨fl, h1, h2⟩ := sim_create_bad s s' o hR hI h hc
      exact .inr ⟨fun hh => hc (hh rfl), _, fl, rfl, h1, h2⟩
  · refine .inl ⟨fun hh => absurd hh he, ?_⟩
    by_cases hf : e = .fol
    · subst hf; exact sim_fol s s' o hR hI h
    · exact sim_builder s e s' o hR h he hf

theorem obs_run_aux (es : List Ev) : ∀ (s : Sys) (o : OSt) (i : Nat), Rel s o → ObsInv s →
    ((∃ o', orun o (obsOf s es) i = .ok o') ↔ SafeRunS s es) ∧
    (∀ fl j, orun o (obsOf s es) i = .error (fl, j) → CreationFlag fl) ∧
    (∀ o' s', orun o (obsOf s es) i = .ok o' → run s es = some s' → Rel s' o') := by
  induction es with
  | nil =>
    intro s o i hR _
    refine ⟨⟨fun _ => trivial, fun _ => ⟨o, rfl⟩⟩, ?_, ?_⟩
    · intro fl j h; simp [obsOf, orun] at h
    · intro o' s' h1 h2
      simp only [obsOf, orun, Except.ok.injEq] at h1
      simp only [run, Option.some.injEq] at h2
      subst h1; subst h2; exact hR
  | cons e es ih =>
    intro s o i hR hI
    cases hs : step s e with
    | none =>
      have hobs : obsOf s (e :: es) = [] := by simp [obsOf, hs]
      rw [hobs]
      refine ⟨⟨(fun _ s' h' => by rw [hs] at h'; cases h'), fun _ => ⟨o, rfl⟩⟩, ?_, ?_⟩
      · intro fl j h; simp [orun] at h
      · intro o' s' _ h2; simp [run, hs] at h2
    | some s1 =>
      have hobs : obsOf s (e :: es) = obsEv s e ++ obsOf s1 es := by simp [obsOf, hs]
      have hsafe : SafeRunS s (e :: es) ↔ (e = .create → CreateSafe s ∨ s.pc = .stopped) ∧ SafeRunS s1 es := by
        constructor
        · intro h; exact h s1 hs
        · intro h s' hs'; rw [hs] at hs'; cases hs'; exact h
      have hrun : ∀ s', run s (e :: es) = some s' ↔ run s1 es = some s' := by
        intro s'; simp [run, hs]
      have hI1 := ObsInv_step s e s1 hs hI
      rw [hobs, hsafe]
      rcases sim_step s e s1 o hR hI hs with ⟨hc, hok⟩ | ⟨hc, x, fl, hx, hst, hfl⟩
      · obtain ⟨o1, hst, hR1⟩ := hok
        rw [orun_append_ok _ _ o o1 i hst]
        obtain ⟨a, b, c⟩ := ih s1 o1 (i + (obsEv s e).length) hR1 hI1
        exact ⟨⟨fun h => ⟨hc, a.mp h⟩, fun h => a.mpr h.2⟩, b, fun o' s' h1 h2 => c o' s' h1 ((hrun s').mp h2)⟩
      · have hor : orun o ([x] ++ obsOf s1 es) i = .error (fl, i) := by
          simp only [List.cons_append, List.nil_append, orun, hst]
        rw [hx, hor]
        refine ⟨⟨(fun ⟨_, h⟩ => by cases h), fun h => absurd h.1 hc⟩, ?_, ?_⟩
        · intro fl' j h; cases h; exact hfl
        · intro o' s' h; cases h

/-! ### `SafeRun`, `SafeRunS` -/

theorem safeRunS_of_safeRun (es : List Ev) : ∀ s, SafeRun s es → SafeRunS s es := by
  induction es with
  | nil => intro _ _; trivial
  | cons e es ih =>
    intro s h s' hs
    obtain ⟨h1, h2⟩ := h s' hs
    exact ⟨fun he => .inl (h1 he), ih s' h2⟩

theorem safeRunS_prefix (es1 es2 : List Ev) : ∀ s, SafeRunS s (es1 ++ es2) → SafeRunS s es1 := by
  induction es1 with
  | nil => intro _ _; trivial
  | cons e es ih =>
    intro s h s' hs
    obtain ⟨h1, h2⟩ := h s' hs
    exact ⟨h1, ih s' h2⟩

/-- Up to and including the step at which the follower returns, `SafeRunS` is `SafeRun`. -/
theorem safeRun_of_safeRunS_until (es1 : List Ev) : ∀ (s s1 : Sys) (e : Ev), SafeRunS s (es1 ++ [e]) →
    run s es1 = some s1 → s1.pc ≠ .stopped → SafeRun s (es1 ++ [e]) := by
  induction es1 with
  | nil =>
    intro s s1 e h hr hpc s' hs
    simp only [run, Option.some.injEq] at hr; subst hr
    obtain ⟨h1, _⟩ := h s' hs
    refine ⟨fun he => ?_, trivial⟩
    rcases h1 he with h1 | h1
    · exact h1
    · exact absurd h1 hpc
  | cons e0 r ih =>
    intro s s1 e h hr hpc s' hs
    simp only [run, hs] at hr
    have hns : s.pc ≠ .stopped := fun hst => hpc (stopped_absorb_run hr (stopped_absorb s e0 s' hst hs))
    obtain ⟨h1, h2⟩ := h s' hs
    refine ⟨fun he => ?_, ih s' s1 e h2 hr hpc⟩
    rcases h1 he with h1 | h1
    · exact h1
    · exact absurd h1 hns

/-! ### Kernel-checked examples -/
open Obs

/-- The acceptor is started right for a follower entering at `enter insts ph`: same phase, no follower session
open, and — only if the build is already running — the current instance known. -/
def StartOk (insts : List (List Nat)) (ph : Phase) (o : OSt) : Prop :=
  o.phase = ph ∧ o.fol = none ∧ (ph = .building → insts ≠ [] → o.cur = some (insts.length - 1))

theorem Rel_of_StartOk {insts : List (List Nat)} {ph : Phase} {o : OSt} (h : StartOk insts ph o) :
    Rel (enter insts ph) o := Rel_enter insts ph o h.1 h.2.1 h.2.2

theorem StartOk_lockedNoLog (insts : List (List Nat)) : StartOk insts .lockedNoLog { phase := .lockedNoLog } :=
  ⟨rfl, rfl, (fun h => by cases h)⟩

/-- The acceptor's verdict on a trace: `none` = accepted, `some (flag, index of the flagged event)`. -/
def verdict (o : OSt) (evs : List OEv) : Option (Flag × Nat) :=
  match orun o evs 0 with
  | .ok _ => none
  | .error x => some x

theorem good_projection :
    obsOf (enter [[9], [1]] .building) goodRun =
      [.enter true, .opened 1, .unlock, .eof, .lock, .check true, .unlock, .eof, .check false, .eof, .stop] ∧
    verdict (obsStart [[9], [1]] .building) (obsOf (enter [[9], [1]] .building) goodRun) = none := by
  decide

theorem fresh_projection :
    obsOf (enter [] .lockedNoLog) freshRun = [.enter true, .eof, .create 0, .unlock, .check false, .opened 0, .eof, .stop] ∧
    verdict (obsStart [] .lockedNoLog) (obsOf (enter [] .lockedNoLog) freshRun) = none := by
  decide

/-- The corner of the equivalence: a second build after the follower has returned.  Accepted by the acceptor
(rightly: the follower's session is over), not `SafeRun`, and the log at the name differs from what was shown. -/
def afterStopRun : List Ev := [.fol, .fol, .fol, .fol, .fol] ++ [.lock, .create, .append 2, .unlock]

theorem afterStop_accepted :
    obsOf (enter [[1]] .idle) afterStopRun = [.enter false, .opened 0, .eof, .stop, .lock, .create 1, .unlock] ∧
    verdict {} (obsOf (enter [[1]] .idle) afterStopRun) = none ∧
    outcome (enter [[1]] .idle) afterStopRun = some (.stopped, [1], [2]) := by
  decide

theorem afterStop_not_safeRun : ¬ SafeRun (enter [[1]] .idle) afterStopRun := by
  intro h
  have := (complete_general [[1]] .idle afterStopRun _ h rfl rfl).1
  revert this; decide

/-! ### A follower that stops right at the probe that finds the lock free (seeded mutant of the real loop) -/
open Obs

/-- `step`, except that the `check` micro-step with the lock free goes straight to `stopped` (no further read). -/
def stepEarly (s : Sys) : Ev → Option Sys
  | .fol =>
    match s.pc with
    | .check =>
      if locked s then some { s with wasLocked := true, pc := .top }
      else some { s with wasLocked := false, pc := .stopped }
    | _ => step s .fol
  | e => step s e

def runEarly (s : Sys) : List Ev → Option Sys
  | [] => some s
  | e :: es =>
    match stepEarly s e with
    | none => none
    | some s' => runEarly s' es

/-- Entry during the build (its instance exists and is empty); end of file; the builder writes `1` and unlocks; probe. -/
def earlyRun : List Ev := [.fol, .fol, .fol, .append 1, .unlock, .fol]

/-- While the lock is held the two followers agree step by step. -/
theorem stepEarly_eq_step_of_locked (s : Sys) (e : Ev) (h : locked s = true) : stepEarly s e = step s e := by
  cases e with
  | fol =>
    cases hp : s.pc <;> simp [stepEarly, step, hp, h]
  | _ => rfl

end RedoModel.LogFollow
