import RedoModel.Lemmas.LogFollowInv
/-!
# `redo-log --follow` — the follower stops once the lock is free (bounded number of its own steps)

`remaining s`: lines of the open instance not shown yet (nothing open: the lines of the instance at the log name).
From ANY state with the lock free, `2 * remaining s + 5` follower steps in a row are enough to reach `stopped`; the
bound is attained (`pc = top`, `wasLocked = true`).
-/
namespace RedoModel.LogFollow

def remaining (s : Sys) : Nat :=
  match s.opened with
  | some g => (s.insts.getD g []).length - s.pos
  | none => (current s).length

/-- Exact number of follower steps still to go when the lock stays free (an upper bound in the odd case
"reading without a descriptor"). -/
def fuel (s : Sys) : Nat :=
  match s.pc with
  | .stopped => 0
  | .start => 2 * remaining s + 3
  | .check => 2 * remaining s + 3
  | .top => 2 * remaining s + (if s.wasLocked then 5 else 2)
  | .read => 2 * remaining s + (if s.wasLocked then 4 else 1)

theorem fuel_le (s : Sys) : fuel s ≤ 2 * remaining s + 5 := by
  unfold fuel; split <;> (try split) <;> omega

theorem fol_some (s : Sys) (hpc : s.pc ≠ .stopped) : ∃ s', step s .fol = some s' := by
  simp only [step]
  repeat' split
  all_goals simp_all

theorem fol_decr (s s' : Sys) (hph : s.phase = .idle) (h : step s .fol = some s') :
    s'.phase = .idle ∧ s'.insts = s.insts ∧ fuel s' + 1 ≤ fuel s := by
  cases step_Step h with
  | @line g l hpc ho hl =>
    refine ⟨hph, rfl, ?_⟩
    have hlt : s.pos < (s.insts.getD g []).length := (List.getElem?_eq_some_iff.mp hl).1
    simp only [fuel, hpc, remaining, ho]
    split <;> omega
  | topOpen hpc hop hin =>
    refine ⟨hph, rfl, ?_⟩
    simp only [fuel, hpc, remaining, hop, current, getD_last, Nat.sub_zero]
    split <;> omega
  | _ =>
    refine ⟨hph, rfl, ?_⟩
    simp_all [fuel, remaining, locked, current] <;> (try split) <;> omega

theorem fol_progress (s : Sys) (hph : s.phase = .idle) (hpc : s.pc ≠ .stopped) :
    ∃ s', step s .fol = some s' ∧ s'.phase = .idle ∧ s'.insts = s.insts ∧ fuel s' + 1 ≤ fuel s := by
  obtain ⟨s', hs⟩ := fol_some s hpc
  exact ⟨s', hs, fol_decr s s' hph hs⟩

theorem stops_within_fuel (s : Sys) (hph : s.phase = .idle) :
    ∃ n s', n ≤ fuel s ∧ run s (List.replicate n .fol) = some s' ∧ s'.pc = .stopped ∧
      s'.phase = .idle ∧ s'.insts = s.insts := by
  by_cases hpc : s.pc = .stopped
  · exact ⟨0, s, Nat.zero_le _, rfl, hpc, hph, rfl⟩
  · obtain ⟨s1, hs, hph1, hin1, hf⟩ := fol_progress s hph hpc
    obtain ⟨n, s', hn, hr, hst, hph', hin'⟩ := stops_within_fuel s1 hph1
    refine ⟨n + 1, s', by omega, ?_, hst, hph', hin'.trans hin1⟩
    simp only [List.replicate_succ, run, hs]; exact hr
termination_by fuel s
decreasing_by omega

theorem follow_stops_core (s : Sys) (hph : s.phase = .idle) :
    ∃ n s', n ≤ 2 * remaining s + 5 ∧ run s (List.replicate n .fol) = some s' ∧ s'.pc = .stopped ∧
      s'.phase = .idle ∧ s'.insts = s.insts := by
  obtain ⟨n, s', hn, h⟩ := stops_within_fuel s hph
  exact ⟨n, s', Nat.le_trans hn (fuel_le s), h⟩

theorem replicate_fol_no_create (n : Nat) : Ev.create ∉ List.replicate n Ev.fol := by
  intro h; cases (List.mem_replicate.mp h).2

/-- `follow_stops_core` as `Props/C18c.lean` states it, from a reachable state (reachability is not used). -/
theorem follow_stops_stmt (insts : List (List Nat)) (ph : Phase) (es : List Ev) (s : Sys)
    (_h : run (enter insts ph) es = some s) (hph : s.phase = .idle) :
    ∃ n s', n ≤ 2 * remaining s + 5 ∧ run s (List.replicate n .fol) = some s' ∧ s'.pc = .stopped := by
  obtain ⟨n, s', a, b, c, _⟩ := follow_stops_core s hph
  exact ⟨n, s', a, b, c⟩

end RedoModel.LogFollow
