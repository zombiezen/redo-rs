import RedoModel.LogRec
/-! The string functions of `RedoModel/LogRec.lean` on the inputs the proofs meet: `isPrefix`, `splitOn` and `findSub` on
strings free of the separator, the characters of what `canonI32` and `canonTs` accept, idempotence of `canonI32`.  For
the round trips below, Lemmas/Makeflags.lean and Lemmas/Pretty.lean. -/
namespace RedoModel.LogRec

theorem isPrefix_append (a b : List Char) : isPrefix a (a ++ b) = true := by
  induction a with
  | nil => simp [isPrefix]
  | cons x xs ih => simp [isPrefix, ih]

theorem isPrefix_cons_ne {p : Char} {ps : List Char} {c : Char} {cs : List Char} (h : c ≠ p) :
    isPrefix (p :: ps) (c :: cs) = false := by
  simp [isPrefix, Ne.symm h]

theorem splitOn_single (d : Char) (c : List Char) (h : d ∉ c) : splitOn d c = [c] := by
  induction c with
  | nil => rfl
  | cons a cs ih =>
    simp only [List.mem_cons, not_or] at h
    rw [splitOn, if_neg (fun e => h.1 e.symm), ih h.2]

theorem splitOn_append (d : Char) (c r : List Char) (h : d ∉ c) :
    splitOn d (c ++ d :: r) = c :: splitOn d r := by
  induction c with
  | nil => simp [splitOn]
  | cons a cs ih =>
    simp only [List.mem_cons, not_or] at h
    simp only [List.cons_append]
    rw [splitOn, if_neg (fun e => h.1 e.symm), ih h.2]

theorem findSub_skip (p : Char) (ps b rest : List Char) (h : p ∉ b) :
    findSub (p :: ps) (b ++ rest) = (findSub (p :: ps) rest).map (fun x => (b ++ x.1, x.2)) := by
  induction b with
  | nil => cases h : findSub (p :: ps) rest <;> simp [h]
  | cons c cs ih =>
    simp only [List.mem_cons, not_or] at h
    rw [List.cons_append, findSub, isPrefix_cons_ne (fun e => h.1 e.symm), ih h.2]
    cases findSub (p :: ps) rest <;> rfl

theorem findSub_after (p : Char) (ps b x : List Char) (h : p ∉ b) :
    findSub (p :: ps) (b ++ (p :: ps ++ x)) = some (b, x) := by
  have : findSub (p :: ps) (p :: ps ++ x) = some ([], x) := by
    rw [List.cons_append, findSub, ← List.cons_append, isPrefix_append]
    simp
  rw [findSub_skip p ps b _ h, this]
  simp

theorem findSub_sep (m text : List Char) (h : '@' ∉ m) :
    findSub sep (m ++ (sep ++ text)) = some (m, text) :=
  findSub_after '@' _ m text h

theorem findSub_space (a b : List Char) (h : ' ' ∉ a) :
    findSub [' '] (a ++ ' ' :: b) = some (a, b) :=
  findSub_after ' ' [] a b h

theorem mem_stripZeros {c : Char} {ds : List Char} (h : c ∈ stripZeros ds) : c ∈ ds := by
  fun_induction stripZeros ds <;> simp_all

theorem canonI32Core_some {neg : Bool} {ds p : List Char} (h : canonI32Core neg ds = some p) :
    ds ≠ [] ∧ (∀ x ∈ ds, isDigit x = true) ∧
      (neg = true ∧ digitsVal ds ≤ 2147483648 ∧
          (digitsVal ds = 0 ∧ p = ['0'] ∨ digitsVal ds ≠ 0 ∧ p = '-' :: stripZeros ds) ∨
       neg = false ∧ digitsVal ds ≤ 2147483647 ∧ p = stripZeros ds) := by
  unfold canonI32Core at h
  split at h
  · cases h
  · next hd =>
    simp only [Bool.or_eq_true, Bool.not_eq_true', not_or, Bool.not_eq_false, List.isEmpty_iff, List.all_eq_true] at hd
    refine ⟨hd.1, hd.2, ?_⟩
    repeat' split at h
    all_goals cases h
    · exact .inl ⟨‹_›, by omega, .inl ⟨‹_›, rfl⟩⟩
    · exact .inl ⟨‹_›, by omega, .inr ⟨‹_›, rfl⟩⟩
    · exact .inr ⟨by simpa using ‹¬ neg = true›, by omega, rfl⟩

theorem canonI32_chars {tok p : List Char} (h : canonI32 tok = some p) :
    ∀ c ∈ p, isDigit c = true ∨ c = '-' := by
  obtain ⟨-, hall, ⟨-, -, ⟨-, rfl⟩ | ⟨-, rfl⟩⟩ | ⟨-, -, rfl⟩⟩ := canonI32Core_some h
  · simp; decide
  · intro c hc
    rcases List.mem_cons.1 hc with e | e
    · exact .inr e
    · exact .inl (hall c (mem_stripZeros e))
  · exact fun c hc => .inl (hall c (mem_stripZeros hc))
theorem isDigit_ne {c : Char} (h : isDigit c = true) : c ≠ ':' ∧ c ≠ '@' ∧ c ≠ '\n' ∧ c ≠ ' ' := by
  unfold isDigit at h
  simp only [Bool.and_eq_true, decide_eq_true_eq] at h
  refine ⟨?_, ?_, ?_, ?_⟩ <;> (intro e; subst e; revert h; decide)

theorem mem_of_splitOn (d : Char) (l : List Char) (c : Char) (h : c ∈ l) : c = d ∨ ∃ p ∈ splitOn d l, c ∈ p := by
  fun_induction splitOn d l <;> simp_all <;> grind

theorem canonTs_chars {ts : List Char} (h : canonTs ts = true) : ∀ c ∈ ts, isDigit c = true ∨ c = '.' := by
  intro c hc
  unfold canonTs at h
  split at h
  · rename_i i f heq
    simp only [Bool.and_eq_true, List.all_eq_true] at h
    rcases mem_of_splitOn '.' ts c hc with e | ⟨p, hp, hcp⟩
    · right; exact e
    · left
      rw [heq] at hp
      simp only [List.mem_cons, List.not_mem_nil, or_false] at hp
      rcases hp with e | e
      · subst e; exact h.1.1.1.1.2 c hcp
      · subst e; exact h.1.1.2 c hcp
  · cases h

/-! ### `canonI32` is idempotent -/

theorem stripZeros_zero (d : Char) (ds : List Char) : stripZeros ('0' :: d :: ds) = stripZeros (d :: ds) := by
  rw [stripZeros]

theorem stripZeros_single (x : Char) : stripZeros [x] = [x] := by
  unfold stripZeros; split <;> simp_all

theorem stripZeros_ne {x : Char} (r : List Char) (h : x ≠ '0') : stripZeros (x :: r) = x :: r := by
  unfold stripZeros; split
  · rename_i heq; simp only [List.cons.injEq] at heq; exact absurd heq.1 h
  · rfl

theorem digitsVal_zero (ds : List Char) : digitsVal ('0' :: ds) = digitsVal ds := by
  simp [digitsVal]

/-- Everything the proofs need about `stripZeros`, by one induction. -/
theorem stripZeros_spec (ds : List Char) (hne : ds ≠ []) :
    stripZeros ds ≠ [] ∧ digitsVal (stripZeros ds) = digitsVal ds ∧
    stripZeros (stripZeros ds) = stripZeros ds ∧ (stripZeros ds).head? ∈ ds.map some := by
  fun_induction stripZeros ds with
  | case1 d ds ih => simp_all [digitsVal_zero]
  | case2 ds h =>
    have : stripZeros ds = ds := by unfold stripZeros; split <;> simp_all
    cases ds <;> simp_all

theorem signSplit_digit {c : Char} (t : List Char) (h : isDigit c = true) :
    signSplit (c :: t) = (false, c :: t) := by
  unfold signSplit; split
  · rename_i heq; simp only [List.cons.injEq] at heq; rw [heq.1] at h; exact absurd h (by decide)
  · rename_i heq; simp only [List.cons.injEq] at heq; rw [heq.1] at h; exact absurd h (by decide)
  · rfl

theorem canonI32Core_strip (neg : Bool) {ds : List Char} (hne : ds ≠ []) (hall : ds.all isDigit = true) :
    canonI32Core neg (stripZeros ds) =
      (if neg then
        if digitsVal ds > 2147483648 then none
        else if digitsVal ds = 0 then some ['0'] else some ('-' :: stripZeros ds)
      else if digitsVal ds > 2147483647 then none else some (stripZeros ds)) := by
  obtain ⟨h1, h2, h3, _⟩ := stripZeros_spec ds hne
  have hall' : (stripZeros ds).all isDigit = true := by
    rw [List.all_eq_true] at hall ⊢
    exact fun x hx => hall x (mem_stripZeros hx)
  unfold canonI32Core
  rw [h2, h3, hall']
  have : (stripZeros ds).isEmpty = false := by
    cases h : stripZeros ds with
    | nil => exact absurd h h1
    | cons _ _ => rfl
  simp [this]

theorem signSplit_strip {ds : List Char} (hne : ds ≠ []) (hall : ds.all isDigit = true) :
    signSplit (stripZeros ds) = (false, stripZeros ds) := by
  obtain ⟨h1, _, _, h4⟩ := stripZeros_spec ds hne
  cases h : stripZeros ds with
  | nil => exact absurd h h1
  | cons c t =>
    rw [h] at h4
    simp only [List.head?_cons, List.mem_map, Option.some.injEq] at h4
    obtain ⟨a, ha, rfl⟩ := h4
    exact signSplit_digit t ((List.all_eq_true.1 hall) a ha)

/-- `canonI32` is idempotent: its output is a fixed point (`Display` then `parse` then `Display`). -/
theorem canonI32_idem {tok p : List Char} (h : canonI32 tok = some p) : canonI32 p = some p := by
  obtain ⟨hne, hall, ⟨-, hle, ⟨-, rfl⟩ | ⟨h0, rfl⟩⟩ | ⟨-, hle, rfl⟩⟩ := canonI32Core_some h
  · decide
  · show canonI32Core true (stripZeros _) = _
    rw [canonI32Core_strip true hne (List.all_eq_true.2 hall)]
    simp [h0, Nat.not_lt.2 hle]
  · unfold canonI32
    rw [signSplit_strip hne (List.all_eq_true.2 hall)]
    show canonI32Core false (stripZeros _) = _
    rw [canonI32Core_strip false hne (List.all_eq_true.2 hall)]
    simp [Nat.not_lt.2 hle]

/-! The two round-trip theorems of C18 (`Props/C18.lean` states them; `Props/C18b.lean` and `C18e.lean` use them too). -/

/-- Structured records survive formatting and re-parsing unchanged: for every kind without
`:`, `@`, newline, every canonical pid and timestamp token and every text without newline. -/
theorem roundtrip_proof (r : Rec)
    (hk : ∀ c ∈ r.kind, c ≠ ':' ∧ c ≠ '@' ∧ c ≠ '\n')
    (hp : canonI32 r.pid = some r.pid) (ht : canonTs r.ts = true) (hx : '\n' ∉ r.text) :
    parse (format r) = .ok r := by
  have hpc := canonI32_chars hp
  have htc := canonTs_chars ht
  -- digits, `-` and `.` are none of the characters the syntax interprets
  have hsafe : ∀ {c d : Char}, d ≠ ':' ∧ d ≠ '@' ∧ d ≠ '\n' → isDigit c = true ∨ c = d → c ≠ ':' ∧ c ≠ '@' ∧ c ≠ '\n' :=
    fun hd h => h.elim (fun h => ⟨(isDigit_ne h).1, (isDigit_ne h).2.1, (isDigit_ne h).2.2.1⟩) (fun e => e ▸ hd)
  have hpid : ∀ c ∈ r.pid, c ≠ ':' ∧ c ≠ '@' ∧ c ≠ '\n' := fun c hc => hsafe (by decide) (hpc c hc)
  have hts : ∀ c ∈ r.ts, c ≠ ':' ∧ c ≠ '@' ∧ c ≠ '\n' := fun c hc => hsafe (by decide) (htc c hc)
  generalize hM : r.kind ++ ':' :: (r.pid ++ ':' :: r.ts) = M
  have hMat : '@' ∉ M := by
    subst hM
    simp only [List.mem_append, List.mem_cons, not_or]
    exact ⟨fun h => (hk _ h).2.1 rfl, by decide, fun h => (hpid _ h).2.1 rfl, by decide,
           fun h => (hts _ h).2.1 rfl⟩
  have hMnl : '\n' ∉ M := by
    subst hM
    simp only [List.mem_append, List.mem_cons, not_or]
    exact ⟨fun h => (hk _ h).2.2 rfl, by decide, fun h => (hpid _ h).2.2 rfl, by decide,
           fun h => (hts _ h).2.2 rfl⟩
  have hsplit : splitOn ':' M = [r.kind, r.pid, r.ts] := by
    subst hM
    rw [splitOn_append ':' r.kind _ (fun h => (hk _ h).1 rfl)]
    rw [splitOn_append ':' r.pid _ (fun h => (hpid _ h).1 rfl)]
    rw [splitOn_single ':' r.ts (fun h => (hts _ h).1 rfl)]
  have hfmt : format r = pre ++ (M ++ (sep ++ r.text)) := by
    unfold format; rw [hM]; simp
  unfold parse
  rw [hfmt, isPrefix_append]
  simp only [Bool.not_true, Bool.false_eq_true, if_false]
  have hnl : (pre ++ (M ++ (sep ++ r.text))).contains '\n' = false := by
    simp only [List.contains_eq_mem, List.mem_append, decide_eq_false_iff_not, not_or]
    exact ⟨by decide, hMnl, by decide, hx⟩
  rw [hnl]
  simp only [Bool.false_eq_true, if_false, List.drop_left]
  rw [findSub_sep M r.text hMat]
  simp only
  have : M.contains '@' = false := by simpa using hMat
  rw [this]
  simp only [Bool.false_eq_true, if_false, hsplit, hp, ht, Bool.true_or, if_true]

/-- `"<rv> <name>"` of a `done` record re-parses to the same status and name, for any name
(spaces included) and any canonical status. -/
theorem done_roundtrip_proof (rv name : List Char) (hrv : canonI32 rv = some rv) :
    parseDoneText (rv ++ ' ' :: name) = some (rv, name) := by
  have hsp : ' ' ∉ rv := by
    intro h
    rcases canonI32_chars hrv _ h with h' | h'
    · exact (isDigit_ne h').2.2.2 rfl
    · revert h'; decide
  unfold parseDoneText
  rw [findSub_space rv name hsp]
  simp [hrv]


end RedoModel.LogRec
