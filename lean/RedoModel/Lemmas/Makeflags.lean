import RedoModel.Makeflags
import RedoModel.Lemmas.LogRec
/-!
Helper lemmas for `RedoModel/Makeflags.lean`: the substring search `after`, `cutComma`, and the shape of what `format`
writes (idempotence of `canonI32`: Lemmas/LogRec.lean).
-/
namespace RedoModel.Makeflags
open RedoModel.LogRec

/-! ### `after` -/

theorem after_cons (pat : List Char) (c : Char) (cs : List Char) :
    after pat (c :: cs) =
      if pat <+: c :: cs then some ((c :: cs).drop pat.length) else after pat cs := by
  rw [after]; simp only [List.isPrefixOf_iff_prefix]

theorem after_eq_none_iff (pat : List Char) : ∀ s : List Char, after pat s = none ↔ ¬ pat <:+: s
  | [] => by
    cases pat <;> simp [after]
  | c :: cs => by
    rw [after_cons, List.infix_cons_iff]
    by_cases h : pat <+: c :: cs
    · simp [h]
    · simp [h, after_eq_none_iff pat cs]

/-- The first occurrence: if `pat` does not occur in `u ++ pat.dropLast` (no occurrence starting inside `u`)
then searching `u ++ pat ++ t` returns `t`. -/
theorem after_first (pat t : List Char) : ∀ u : List Char, ¬ pat <:+: u ++ pat.dropLast →
    after pat (u ++ pat ++ t) = some t
  | [], _ => by
    cases h : pat ++ t with
    | nil =>
      have := List.append_eq_nil_iff.1 h
      simp [this.1, this.2, after]
    | cons c cs =>
      simp only [List.nil_append, h, after_cons]
      rw [← h, if_pos (List.prefix_append _ _)]; simp
  | c :: u, h => by
    rw [List.cons_append, List.infix_cons_iff, not_or] at h
    have hsub : c :: (u ++ pat.dropLast) <+: c :: (u ++ pat ++ t) := by
      rw [List.append_assoc]
      exact (List.prefix_cons_inj c).2 ((List.prefix_append_right_inj u).2
        ((List.dropLast_prefix pat).trans (List.prefix_append _ _)))
    have hnp : ¬ pat <+: c :: (u ++ pat ++ t) := fun hp =>
      h.1 (List.prefix_of_prefix_length_le hp hsub
        (by simp only [List.length_cons, List.length_append, List.length_dropLast]; omega))
    rw [List.cons_append, List.cons_append, after_cons, if_neg hnp]
    exact after_first pat t u h.2

/-! ### the argument of the option -/

theorem cutComma_append (w : List Char) : ∀ r : List Char, ',' ∉ r → cutComma (r ++ ',' :: w) = some (r, w)
  | [], _ => by simp [cutComma]
  | c :: r, h => by
    simp only [List.mem_cons, not_or] at h
    have hc : c ≠ ',' := fun e => h.1 e.symm
    simp [cutComma, hc, cutComma_append w r h.2]

theorem canon_no_sep {r : List Char} (h : canonI32 r = some r) : ' ' ∉ r ∧ ',' ∉ r := by
  have hc := canonI32_chars h
  constructor <;> intro hm <;> rcases hc _ hm with e | e <;> revert e <;> decide

/-- What `parse_makeflags` makes of the text following the option name it found. -/
def decode (s : List Char) : Parsed :=
  match cutComma (s.takeWhile (· ≠ ' ')) with
  | none => .invalid
  | some (a, b) =>
    match canonI32 a, canonI32 b with
    | some a, some b => .fds a b
    | _, _ => .invalid

theorem parse_eq (flags : List Char) :
    parse flags =
      match after find1 (' ' :: (flags ++ [' '])) with
      | some s => decode s
      | none => match after find2 (' ' :: (flags ++ [' '])) with
        | some s => decode s
        | none => .absent := by
  unfold parse decode
  simp (config := { zeta := true, zetaHave := true }) only []
  generalize after find1 (' ' :: (flags ++ [' '])) = x
  generalize after find2 (' ' :: (flags ++ [' '])) = y
  cases x with
  | some s => rfl
  | none => cases y <;> rfl

theorem decode_ne_absent (s : List Char) : decode s ≠ .absent := by
  unfold decode
  split
  · simp
  · split <;> simp

theorem decode_fds {s a b : List Char} (h : decode s = .fds a b) :
    canonI32 a = some a ∧ canonI32 b = some b := by
  unfold decode at h
  split at h
  · cases h
  · split at h
    · rename_i ha hb
      cases h
      exact ⟨canonI32_idem ha, canonI32_idem hb⟩
    · cases h

theorem decode_token {r w : List Char} (hr : canonI32 r = some r) (hw : canonI32 w = some w)
    (rest : List Char) : decode (r ++ ',' :: w ++ ' ' :: rest) = .fds r w := by
  have h1 := canon_no_sep hr
  have h2 := canon_no_sep hw
  have ht : (r ++ ',' :: w ++ ' ' :: rest).takeWhile (· ≠ ' ') = r ++ ',' :: w := by
    rw [List.takeWhile_append_of_pos]
    · simp
    · intro a ha
      simp only [List.mem_append, List.mem_cons] at ha
      rcases ha with ha | rfl | ha
      · have : a ≠ ' ' := fun e => h1.1 (e ▸ ha)
        simpa using this
      · decide
      · have : a ≠ ' ' := fun e => h2.1 (e ▸ ha)
        simpa using this
  unfold decode
  rw [ht, cutComma_append w r h1.2]
  simp only [hr, hw]

/-! ### the option inside a longer `MAKEFLAGS` -/

theorem parse_at {flags : List Char} (u t : List Char) (hfl : ' ' :: (flags ++ [' ']) = u ++ find1 ++ t)
    (hno : ¬ find1 <:+: u ++ find1.dropLast) : parse flags = decode t := by
  rw [parse_eq, hfl, after_first find1 t u hno]

/-- `pre` can stand before `--jobserver-auth=…` without disturbing it: it is empty or ends with a blank (so the
option starts a word), and `" --jobserver-auth="` does not occur earlier, i.e. nowhere in
`" " ++ pre ++ "--jobserver-auth"`. -/
def CleanPrefix (pre : List Char) : Prop :=
  (pre = [] ∨ pre.getLast? = some ' ') ∧ after find1 (' ' :: pre ++ "--jobserver-auth".toList) = none

instance (pre : List Char) : Decidable (CleanPrefix pre) := by unfold CleanPrefix; infer_instance

/-- What may follow the option: nothing, or a blank and anything. -/
def CleanSuffix (post : List Char) : Prop := post = [] ∨ post.head? = some ' '

instance (post : List Char) : Decidable (CleanSuffix post) := by unfold CleanSuffix; infer_instance

theorem parse_inside (pre post r w : List Char) (hpre : CleanPrefix pre) (hpost : CleanSuffix post)
    (hr : canonI32 r = some r) (hw : canonI32 w = some w) :
    parse (pre ++ "--jobserver-auth=".toList ++ r ++ ',' :: w ++ post) = .fds r w := by
  obtain ⟨rest, hrest⟩ : ∃ rest, post ++ [' '] = ' ' :: rest := by
    rcases hpost with rfl | h
    · exact ⟨[], rfl⟩
    · cases post with
      | nil => simp at h
      | cons c cs => simp only [List.head?_cons, Option.some.injEq] at h; subst h; exact ⟨cs ++ [' '], rfl⟩
  obtain ⟨u, hu⟩ : ∃ u, ' ' :: pre = u ++ [' '] := by
    rcases hpre.1 with rfl | h
    · exact ⟨[], rfl⟩
    · obtain ⟨ys, rfl⟩ := List.getLast?_eq_some_iff.1 h
      exact ⟨' ' :: ys, rfl⟩
  have hno := (after_eq_none_iff _ _).1 hpre.2
  -- the literals are turned into their character lists by `String.toList_ofList`: evaluating `toList` on them is slow
  have hfind : find1 = [' '] ++ "--jobserver-auth=".toList := by
    unfold find1
    rw [String.toList_ofList, String.toList_ofList]
    rfl
  have hdl : find1.dropLast = [' '] ++ "--jobserver-auth".toList := by
    unfold find1
    rw [String.toList_ofList, String.toList_ofList]
    rfl
  rw [parse_at u (r ++ ',' :: w ++ ' ' :: rest), decode_token hr hw]
  · rw [hfind, ← List.append_assoc u, ← hu, ← hrest]; simp
  · rw [hdl, ← List.append_assoc u, ← hu]; exact hno

end RedoModel.Makeflags
