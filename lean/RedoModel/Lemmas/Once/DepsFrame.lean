import RedoModel.Lemmas.Once.DepsWF
/-!
What no command changes: the run counter, the rules, the meaning of scripts, and the files that have no
build rule.
-/
namespace RedoModel.Deps.Once
open RedoModel.Deps

/-- `w` is `w0` up to what a command may change. -/
def Keeps (w0 w : World) : Prop :=
  w.runCounter = w0.runCounter ∧ w.rules = w0.rules ∧ w.progs = w0.progs ∧
  ∀ z, w0.rules z = [] → w.fs z = w0.fs z

theorem Keeps.refl (w : World) : Keeps w w := ⟨rfl, rfl, rfl, fun _ _ => rfl⟩

theorem Keeps.of_eq {w0 w w' : World} (h : Keeps w0 w) (h1 : w'.runCounter = w.runCounter) (h2 : w'.rules = w.rules)
    (h3 : w'.progs = w.progs) (h4 : w'.fs = w.fs) : Keeps w0 w' :=
  ⟨h1.trans h.1, h2.trans h.2.1, h3.trans h.2.2.1, fun z hz => by rw [h4]; exact h.2.2.2 z hz⟩

theorem Keeps.trans {a b c : World} (h1 : Keeps a b) (h2 : Keeps b c) : Keeps a c :=
  ⟨h2.1.trans h1.1, h2.2.1.trans h1.2.1, h2.2.2.1.trans h1.2.2.1,
    fun z hz => (h2.2.2.2 z (by rw [h1.2.1]; exact hz)).trans (h1.2.2.2 z hz)⟩

theorem Keeps.of_same {w0 w w' : World} (h : Keeps w0 w) (s : SameButRecs w w') : Keeps w0 w' :=
  h.of_eq s.2.2.1 s.2.2.2.2.2.2 s.2.2.2.2.2.1 s.1

theorem Keeps.of_fields {w w' : World} (h1 : w'.runCounter = w.runCounter) (h2 : w'.rules = w.rules) (h3 : w'.progs = w.progs)
    (h4 : w'.fs = w.fs) : Keeps w w' :=
  (Keeps.refl w).of_eq h1 h2 h3 h4

theorem Keeps.addKnown (w : World) (f : Nat) : Keeps w (Deps.addKnown w f) := by
  unfold Deps.addKnown
  split
  · exact Keeps.refl w
  · exact Keeps.of_fields rfl rfl rfl rfl

theorem Keeps.addDep (w : World) (t s : Nat) (m : Bool) : Keeps w (Deps.addDep w t s m) :=
  (Keeps.addKnown w s).trans (Keeps.of_fields rfl rfl rfl rfl)

/-- The engine writes files only where a build rule exists, and never the run counter, the rules or the scripts. -/
theorem keeps_frame :
    EngineFrame (fun _ => True) (fun _ => True) (fun _ => True) (fun _ _ => True) (fun _ => True) Keeps where
  refl := Keeps.refl
  trans := Keeps.trans
  keepP := fun _ _ => trivial
  keepA := fun _ _ => trivial
  child := fun _ _ => trivial
  script := fun _ _ _ => trivial
  addKnown := Keeps.addKnown
  ownRec := fun _ _ _ => Keeps.of_fields rfl rfl rfl rfl
  dofRec := fun _ _ _ _ => Keeps.of_fields rfl rfl rfl rfl
  alwaysRec := fun _ _ _ _ => Keeps.of_fields rfl rfl rfl rfl
  evWarn := fun _ _ => Keeps.of_fields rfl rfl rfl rfl
  evRan := fun _ _ => Keeps.of_fields rfl rfl rfl rfl
  zapDeps1 := fun _ _ => Keeps.of_fields rfl rfl rfl rfl
  findDo := fun w _ _ => findDoFile_rel Keeps.refl Keeps.trans (fun w c m => Keeps.addDep w _ c m) _ w
  addDepM := fun w s _ => Keeps.addDep w _ s true
  addDepC := fun w f _ _ _ _ => Keeps.addDep w _ f false
  -- the only place a file is written: the target has a build rule, since a .do file was found for it
  record := @fun cx t sf rv out w0 w dof _ _ _ hdm _ h _ _ => by
    have hrt : w.rules t ≠ [] := by rw [h.2.1]; exact List.ne_nil_of_mem hdm
    have hfile : ∀ (w' : World) n, w'.rules = w.rules → Keeps w' (setFile w' t n) := fun w' n e =>
      ⟨rfl, rfl, rfl, fun z hz => by
        have : z ≠ t := fun e' => hrt (e ▸ e' ▸ hz)
        simp only [setFile, this, if_false]⟩
    refine h.trans ?_
    refine recordNewState_rel (Rel := Keeps) Keeps.trans ?_ (Keeps.of_fields rfl rfl rfl rfl) (Keeps.of_fields rfl rfl rfl rfl)
    cases out with
    | some c => exact (Keeps.of_fields (w' := (newNode w c).2) rfl rfl rfl rfl).trans (hfile _ _ rfl)
    | none => exact hfile w none rfl
  oob1 := fun _ _ _ => trivial
  oob2 := fun _ => trivial
  parent := fun _ _ => trivial
  dirty := fun fuel t w _ _ => shouldBuild_rel
    ⟨Keeps.refl, Keeps.trans, fun _ _ _ => Keeps.of_fields rfl rfl rfl rfl, fun _ _ => Keeps.of_fields rfl rfl rfl rfl⟩ _ fuel t w
  other := fun _ _ _ _ _ _ _ _ h => absurd trivial h

theorem Keeps.findDoFile {w0 : World} (t : Nat) : ∀ (cs : List Nat) {w : World}, Keeps w0 w →
    Keeps w0 (Deps.findDoFile t cs w).2 :=
  fun cs w h => h.trans (findDoFile_rel Keeps.refl Keeps.trans (fun w c m => Keeps.addDep w t c m) cs w)

/-- What the frame needs from the nested commands. -/
def EngineKeeps (E : Engine) : Prop :=
  ∀ (cx : Ctx) (ts : List Nat) (w0 w : World), Keeps w0 w → Keeps w0 (E.ifchangeCmd cx ts w).2

theorem runTargets_keeps {E : Engine} (hE : EngineKeeps E) (w0 : World) (d : Defects) (cx : Ctx)
    (fuel : Nat) : ∀ (ts seen : List Nat) (e : Bool) (w : World), Keeps w0 w →
      Keeps w0 (runTargets E d cx fuel ts seen e w).2 :=
  fun ts seen e w h => h.trans (keeps_frame.runTargets (fun cx' ts w _ _ => hE cx' ts w w (Keeps.refl w)) d trivial
    fuel ts seen e w trivial)

theorem engine_keeps (d : Defects) (n : Nat) : EngineKeeps (engine d n) :=
  fun cx ts _ w h => h.trans (keeps_frame.engine d n cx ts w trivial trivial)

end RedoModel.Deps.Once
