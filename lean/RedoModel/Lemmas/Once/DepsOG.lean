import RedoModel.Lemmas.Once.DepsWFOps
/-!
"Overridden implies generated": a record carries the override flag only while it is recorded as generated and its
recorded stamp is not that of a missing file.  Holds initially and is preserved by every user operation (whatever
the defect switches): the flag is only set by `setOverride` in `start_self`, whose guard requires `isGenerated` and an
existing file; `isGenerated` is only cleared by `setStatic` (which clears the flag), by `setFailed` when the recorded
stamp is that of a missing file, and by the vanished-target write of the dirtiness check (which clears the flag
since the repair).  Like `DepsWF.lean`, an instance of `recs_frame`; the run id parameter only serves that form.
-/
namespace RedoModel.Deps.Once
open RedoModel.Deps

def OGrec (_R : Nat) (r : Rec) : Prop :=
  r.isOverride = true → r.isGenerated = true ∧ r.stamp ≠ some .missing

def OGR (R : Nat) (w : World) : Prop := ∀ f, OGrec R (w.recs f)

/-- Between commands. -/
def OG (w : World) : Prop := ∀ f, (w.recs f).isOverride = true → (w.recs f).isGenerated = true ∧ (w.recs f).stamp ≠ some .missing

theorem OGrec.noOvr {R : Nat} {r : Rec} (h : r.isOverride = false) : OGrec R r := by
  intro h'; rw [h] at h'; cases h'

theorem OGrec.default (R : Nat) : OGrec R {} := OGrec.noOvr rfl

theorem OGrec.row {R : Nat} {r : Rec} (h : OGrec R r) (n : Nat) : OGrec R { r with row := n } := h

theorem OGrec.setChanged_stamp {R : Nat} {r : Rec} (s : Option DStamp) :
    OGrec R (Deps.setChanged { r with stamp := s } R) := OGrec.noOvr rfl

theorem OGrec.updateStamp {R : Nat} {r : Rec} (h : OGrec R r) (w : World) (f : Nat) :
    OGrec R (updateStamp w f r R) := by
  unfold Deps.updateStamp
  simp only
  split
  · exact h
  · exact OGrec.setChanged_stamp _

theorem OGrec.setFailed {R : Nat} {r : Rec} (h : OGrec R r) (w : World) (f : Nat) :
    OGrec R (setFailed w f r R) := by
  have h1 := h.updateStamp w f
  intro ho
  have h2 := h1 ho
  refine ⟨?_, h2.2⟩
  simp only [Deps.setFailed, bne_iff_ne, ne_eq]
  exact h2.2

theorem OGrec.setStatic {R : Nat} {r : Rec} (w : World) (f : Nat) :
    OGrec R (setStatic w f r R) := OGrec.noOvr rfl

theorem OGrec.setOverride {R : Nat} {r : Rec} (w : World) (f : Nat) (hg : r.isGenerated = true)
    (hs : readStamp w f ≠ .missing) : OGrec R (setOverride w f r R) := by
  intro _
  unfold Deps.setOverride Deps.updateStamp
  simp only
  split
  · rename_i e; exact ⟨hg, by rw [e]; intro h; exact hs (Option.some.inj h)⟩
  · exact ⟨hg, by simp only [Deps.setChanged]; intro h; exact hs (Option.some.inj h)⟩

theorem OGrec.stampRec {R : Nat} {r : Rec} (data : Content) : OGrec R (stampRec r R data) := by
  apply OGrec.noOvr
  unfold Deps.stampRec
  simp only
  split <;> rfl

theorem OGrec.checked {R : Nat} {r : Rec} (h : OGrec R r) : OGrec R { r with checked := some R } := h

theorem OGrec.unfail {R : Nat} {r : Rec} :
    OGrec R { r with isGenerated := false, isOverride := false, failed := some 0 } := OGrec.noOvr rfl

theorem OGrec.getRec {R : Nat} {w : World} (h : OGR R w) (f : Nat) : OGrec R (getRec w R f) := by
  unfold Deps.getRec
  simp only
  split
  · exact h f
  · exact h f

theorem OGR.setRec {R : Nat} {w : World} (h : OGR R w) (f : Nat) {r : Rec} (hr : OGrec R r) : OGR R (Deps.setRec w f r) := by
  intro x
  simp only [Deps.setRec]
  split
  · exact hr
  · exact h x

theorem OGR.of_recs {R : Nat} {w w' : World} (h : OGR R w) (e : w'.recs = w.recs) : OGR R w' := by
  intro x; rw [e]; exact h x

theorem OGR.setFile {R : Nat} {w : World} (h : OGR R w) (f : Nat) (n : Option FNode) : OGR R (Deps.setFile w f n) :=
  h.of_recs rfl

theorem OGrec.built {R : Nat} (w : World) (t : Nat) : OGrec R (builtRec w t R) := by
  apply OGrec.noOvr
  unfold builtRec
  dsimp only
  split <;> rfl

/-- The engine sets the override flag only on generated records of existing files, and clears it with `isGenerated`. -/
theorem og_frame (R : Nat) :
    EngineFrame (fun cx => cx.runid = R) (OGR R) (fun _ => True) (fun _ _ => True) (OGrec R) (KeepsRecs (OGrec R)) :=
  recs_frame (fun h n => h.row n) (fun h f => OGrec.getRec h f) (fun _ => OGrec.setChanged_stamp _) (fun _ data => OGrec.stampRec data)
    (fun _ => OGrec.unfail) (fun h _ => h.checked) (fun _ w f hg hs => OGrec.setOverride w f hg hs)
    (fun _ w f => OGrec.setStatic w f) (fun h w f => h.setFailed w f) (fun _ t => OGrec.built _ t)

theorem OGR.findDoFile {R : Nat} (t : Nat) : ∀ (cs : List Nat) {w : World}, OGR R w → OGR R (Deps.findDoFile t cs w).2 :=
  fun cs w h => KeepsRecs.findDoFile (Q := OGrec R) (fun h n => h.row n) t cs w h

/-! ### user operations -/

theorem og_init (rules : Nat → List Nat) : OG (initWorld rules) := by
  intro f h
  simp only [initWorld] at h
  split at h <;> cases h

theorem OG.toR {w : World} (h : OG w) (R : Nat) : OGR R w := h

theorem og_runTargets_top (d : Defects) (cx : Ctx) (n : Nat) (ts : List Nat) (w : World) (h : OG w) :
    OG (runTargets (engine d n) d cx n ts [] false w).2 :=
  (og_frame cx.runid).runTargets ((og_frame cx.runid).engine d n) d rfl n ts [] false w h h

theorem og_applyOp (d : Defects) (n : Nat) (op : UserOp) (w : World) (h : OG w) : OG (applyOp d n op w).2 := by
  rcases applyOp_shape d n op w with ⟨hrec, _⟩ | ⟨cx, ts, _, e⟩
  · intro f
    rw [hrec]
    exact h f
  · rw [e]
    exact og_runTargets_top d cx _ ts _ h

/-- In every world reached from the empty project, an overridden record is a generated one whose recorded stamp is
not that of a missing file. -/
theorem og_reachable (d : Defects) (n : Nat) (rules : Nat → List Nat) (ops : List UserOp) :
    OG (runOps d n ops (initWorld rules)) :=
  runOps_inv d n ops _ (og_init rules) fun op _ w h => og_applyOp d n op w h

end RedoModel.Deps.Once
