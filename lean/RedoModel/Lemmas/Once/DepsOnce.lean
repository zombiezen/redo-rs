import RedoModel.Lemmas.Once.DepsOnceEngine
import RedoModel.Lemmas.Once.DepsWFOps
import RedoModel.Lemmas.Once.DepsOG
/-!
# Within one `redo-ifchange` run no script is executed twice — for hygienic worlds

`ran_nodup_of_wf`: the list of executed scripts of a top-level `redo-ifchange` has no repetition, under three
hypotheses on the world.  It is well formed (`WF`, true of every reachable world).  It is *clean* (`Clean`): the
`//ALWAYS` pseudo file has no build rule, does not exist as a file and its record is not marked generated; .do
candidates, the files named by `redo-ifcreate` and the files a script tests before declaring them have no build rule.
And (`OvOK`, a hypothesis of its own, true of every reachable world) every overridden file that exists is still
recorded as generated, or carries no failure mark and is in step with its record (since the repair of `start_self` it
may have been edited again).  `Once/DepsOnceCex.lean` has reachable counterexamples for a file named like `//ALWAYS`, a
.do candidate with a build rule and a `redo-ifcreate` object with a build rule, and hand-made ones for `WF` and `OvOK`.
The defect switch `oobRebuildsDepsNotTarget` must be off; the other two switches are arbitrary.
-/
namespace RedoModel.Deps.Once
open RedoModel.Deps
open RedoModel.Generated

variable {R : Nat} {cyc : List Nat}

/-- One level of the engine satisfies the specification if the nested level does. -/
theorem ifchangeWith_spec (hR : 0 < R) {E : Engine} (hE : ESpec R E) (d : Defects) (hd : d.oobRebuildsDepsNotTarget = false)
    (fuel : Nat) : ESpec R { ifchangeCmd := fun cx ts w => ifchangeWith E d fuel cx ts w } := by
  intro cx cyc ts w hRid hredo hcr hsub hpar hunl hinv
  refine ifchangeWith_cases (P := fun r => RInv R cyc r.2 ∧ RStep R cyc (addFor cx.parent) w r.2 ∧
      (r.1 = 0 → NewGood R cyc w r.2 ∧ ∀ t ∈ ts, Settled R cyc r.2 t ∧ t ∉ cyc) ∧ r.1 ≠ CRASHED)
    (fun _ _ _ _ => ⟨hinv, RStep.refl _ _,
      fun h => absurd (show EXIT_CYCLIC_DEPENDENCY = (0 : Int) from h) (by decide), (by decide : EXIT_CYCLIC_DEPENDENCY ≠ CRASHED)⟩)
    fun w' hw' => ?_
  -- the invariant and the step relation travel along the parent's rows
  obtain ⟨f1, f2⟩ := hw' (fun a b => RInv R cyc a → RInv R cyc b ∧ RStep R cyc (addFor cx.parent) a b)
    (fun _ h => ⟨h, RStep.refl _ _⟩) (fun f g h => ⟨(g (f h).1).1, (f h).2.trans (g (f h).1).2⟩)
    (fun _ f h => h.addKnown f)
    (fun p hp _ t _ h => h.addDep p t true (.inl (hpar p hp)) (fun _ => hp)) hinv
  -- and the rows gained on the way are the parent's rows on the targets named
  have hrows := hw' (fun a b => ∀ row ∈ b.deps, row ∈ a.deps ∨ ∃ s ∈ ts, row.modeM = true ∧ row.source = s)
    (fun _ _ h => .inl h) (fun f g row h => (g row h).elim (f row) .inr)
    (fun w f row h => .inl (addKnown_deps w f ▸ h))
    (fun p _ w t ht row h => (addDep_mem' h).elim (fun e => .inr ⟨t, ht, e ▸ rfl, e ▸ rfl⟩) .inl)
  have h := runTargets_spec hR hE d hd cx hRid hredo hcr hsub hpar fuel ts [] false w' hunl f1 (fun _ s hs => by cases hs)
  refine ⟨h.inv, f2.trans h.step, fun e => ?_, h.ne⟩
  obtain ⟨_, g1, g2, _⟩ := h.ok e
  refine ⟨fun q hq row hrow htq => ?_, g2⟩
  rcases g1 q hq row hrow htq with h1 | h1
  · rcases hrows row h1 with h2 | ⟨s, hs, hm, rfl⟩
    · exact .inl h2
    · exact .inr ⟨hm, g2 _ hs⟩
  · exact .inr h1

theorem engine_spec (hR : 0 < R) (d : Defects) (hd : d.oobRebuildsDepsNotTarget = false) : ∀ n, ESpec R (engine d n)
  | 0 => by
    intro cx cyc ts w _ _ _ _ _ _ hinv
    refine ⟨hinv, RStep.refl _ _, (fun h => ?_), (by decide : EXIT_FAILURE ≠ CRASHED)⟩
    exact absurd (show EXIT_FAILURE = (0 : Int) from h) (by decide)
  | n + 1 => ifchangeWith_spec hR (engine_spec hR d hd n) d hd (n + 1)

/-- The cleanliness conditions under which the once-per-run property holds. -/
structure Clean (w : World) : Prop where
  /-- hygiene of the build rules: `//ALWAYS`, .do candidates and `redo-ifcreate` objects are not targets -/
  hyg : Hyg w
  /-- no file is named like the `//ALWAYS` pseudo file -/
  f0 : w.fs alwaysId = none
  g0 : (w.recs alwaysId).isGenerated = false

/-- Every overridden file that exists is still recorded as generated (then `start_self` refreshes its record when it
visits it), or carries no failure mark and is in step with its record.  Holds in every reachable world, where an
overridden record is always a generated one (`OG`, `ovOK_reachable`); only needed for hand-made worlds. -/
def OvOK (w : World) : Prop :=
  ∀ z, (w.recs z).isOverride = true → existsF w z = true →
    (w.recs z).isGenerated = true ∨ ((w.recs z).failed = none ∧ (w.recs z).stamp = some (readStamp w z))

theorem OvOK.of_og {w : World} (h : OG w) : OvOK w := fun z hz _ => .inl (h z hz).1

theorem ovOK_reachable (d : Defects) (n : Nat) (rules : Nat → List Nat) (ops : List UserOp) :
    OvOK (runOps d n ops (initWorld rules)) := OvOK.of_og (og_reachable d n rules ops)

/-- The statement: the scripts run by `redo-ifchange ts` from `w` are pairwise different. -/
def RanNodupFrom (d : Defects) (n : Nat) (w : World) (ts : List Nat) (kg : Bool) : Prop :=
  let w' := (runCmd d n (.ifchange ts kg) { w with trace := [] }).2
  (w'.trace.filterMap (fun e => match e with | .ran t => some t | _ => none)).Nodup

theorem rinv_start {w : World} (hwf : WF w) (hov : OvOK w) (hc : Clean w) :
    RInv (w.runCounter + 1) [] { w with trace := [], runCounter := w.runCounter + 1 } := by
  have hlt : ∀ z c, ((w.recs z).changed = some c ∨ (w.recs z).checked = some c) → c < w.runCounter + 1 := by
    intro z c h
    rcases h with h | h
    · exact Nat.lt_succ_of_le ((hwf z).1 c h)
    · exact Nat.lt_succ_of_le ((hwf z).2.1 c h)
  have hwfr : WFR (w.runCounter + 1) { w with trace := [], runCounter := w.runCounter + 1 } :=
    fun z => (hwf z).mono (Nat.le_succ _)
  have hnck : ∀ z, isCheckedR (getRec { w with trace := [], runCounter := w.runCounter + 1 } (w.runCounter + 1) z)
      (w.runCounter + 1) = false := by
    intro z
    obtain ⟨c, hc'⟩ := getRec_fields { w with trace := [], runCounter := w.runCounter + 1 } (w.runCounter + 1) z
    rw [hc']
    simp only [isCheckedR]
    cases hck : (w.recs z).checked with
    | none => rfl
    | some c' =>
      have := hlt z c' (.inr hck)
      simp only [Bool.and_eq_false_imp, bne_iff_ne, ne_eq, decide_eq_false_iff_not]
      intro _; omega
  have hchR : ∀ z, z ≠ alwaysId → (getRec { w with trace := [], runCounter := w.runCounter + 1 } (w.runCounter + 1) z).changed
      ≠ some (w.runCounter + 1) := by
    intro z hz h
    rw [getRec_of_ne hz] at h
    have := hlt z _ (.inl h)
    omega
  have hgen0 : (getRec { w with trace := [], runCounter := w.runCounter + 1 } (w.runCounter + 1) alwaysId).isGenerated
      = false := by rw [getRec_isGenerated]; exact hc.g0
  refine ⟨⟨hwfr, ?_, ?_, ?_, ?_⟩, ⟨hc.hyg.r0, hc.hyg.dofiles, hc.hyg.scripts⟩, hc.f0, hc.g0, ?_, ?_, ?_, ?_⟩
  · intro y _ hV hck hg ho
    exfalso
    obtain ⟨_, c, hcc, _, hor⟩ := hV
    by_cases hy : y = alwaysId
    · subst hy; rw [hgen0] at hg; cases hg
    · rcases hor with h | ⟨_, h | h | h⟩
      · rw [hck] at h; cases h
      · rw [hg] at h; cases h
      · rw [ho] at h; cases h
      · subst h; exact hchR y hy hcc
  · intro z hz hex
    obtain ⟨c, hc'⟩ := getRec_fields { w with trace := [], runCounter := w.runCounter + 1 } (w.runCounter + 1) z
    rw [hc'] at hz ⊢
    exact .inr (hov z hz hex)
  · intro z hz
    rw [hnck z] at hz; cases hz
  · intro z hz; cases hz
  · intro q hq; cases hq
  · intro t ht; simp [ranList] at ht
  · simp [ranList]
  · intro z hz _ hch
    by_cases hy : z = alwaysId
    · subst hy; exact absurd hc.hyg.r0 hz
    · exact absurd hch (hchR z hy)

/-- **Once per run.**  From a well-formed, clean world satisfying `OvOK`, a top-level `redo-ifchange` runs no script twice
(defect switch `oobRebuildsDepsNotTarget` off, the other switches arbitrary). -/
theorem ran_nodup_of_wf (d : Defects) (hd : d.oobRebuildsDepsNotTarget = false) (n : Nat) (w : World) (ts : List Nat)
    (kg : Bool) (hwf : WF w) (hov : OvOK w) (hc : Clean w) : RanNodupFrom d n w ts kg := by
  unfold RanNodupFrom
  simp only [runCmd, allocRun]
  have hinv := rinv_start hwf hov hc
  have hR : 0 < w.runCounter + 1 := Nat.succ_pos _
  have h := runTargets_spec (cyc := []) hR (engine_spec hR d hd (2 * n + 4)) d hd
    { runid := w.runCounter + 1, keepGoing := kg } rfl rfl rfl (fun x hx => by cases hx) (fun p hp => by cases hp) (2 * n + 4) ts [] false
    { w with trace := [], runCounter := w.runCounter + 1 } (fun h => by cases h) hinv (fun _ s hs => by cases hs)
  exact h.inv.nd

/-- The same for every world reachable from the initial one by user operations (any commands, any defect
switches while getting there), as long as the reached world is clean. -/
theorem ran_nodup_reachable (d0 d : Defects) (hd : d.oobRebuildsDepsNotTarget = false) (n0 n : Nat)
    (rules : Nat → List Nat) (ops : List UserOp) (ts : List Nat) (kg : Bool)
    (hc : Clean (runOps d0 n0 ops (initWorld rules))) :
    RanNodupFrom d n (runOps d0 n0 ops (initWorld rules)) ts kg :=
  ran_nodup_of_wf d hd n _ ts kg (wf_reachable d0 n0 rules ops) (ovOK_reachable d0 n0 rules ops) hc

end RedoModel.Deps.Once
