import RedoModel.Lemmas.Once.DepsOnce
import RedoModel.Lemmas.DepsEval
/-!
Counterexamples to "no script runs twice within one top-level `redo-ifchange`" (`C02.exact_full`), every defect switch
off.  On worlds reachable from `initWorld`: each cleanliness condition of `ran_nodup_of_wf` is necessary.  On hand-made,
unreachable worlds: so are the well-formedness of run ids and the condition `OvOK` on overridden records (both hold in
every reachable world).
-/
namespace RedoModel.Deps.Once
open RedoModel.Deps
open RedoModel.Generated

namespace Cex
def rules0 : Nat → List Nat := fun t => if t = 1 ∨ t = 2 ∨ t = 3 then [10 + t] else []

/-- 1 = `t` (`t.do` = 11: `redo-ifcreate f`), 2 = `f` (`f.do` = 12), 3 = `a` (`a.do` = 13: `redo-ifchange t`). -/
def histC : List UserOp :=
  [ .setProg (srcContent 1) { ifcreate := [2] },
    .setProg (srcContent 2) { },
    .setProg (srcContent 3) { ifchange := [[1]] },
    .write 11 1, .write 12 2, .write 13 3 ]

def wC : World := runOps {} 20 histC (initWorld rules0)


/-- The run from `wC`, and what of `wC` is not clean. -/
theorem wC_eval :
    ranList (runCmd {} 0 (.ifchange [1, 2, 3] false) { wC with trace := [] }).2 = [1, 3, 2, 1] ∧
    wC.progs (srcContent 1) = some { ifcreate := [2] } ∧ wC.rules 2 ≠ [] := by
  unfold wC histC rules0
  rw [runOps_eq_foldl]
  eval_model

/-- `t` declared `redo-ifcreate f`, was built, then `f` was built in the same run, then `a` asked for `t`
again: `t`'s script runs a second time (and fails, `f` exists now). Order of execution: t, f, a, t. -/
theorem ifcreate_twice :
    ranList (runCmd {} 0 (.ifchange [1, 2, 3] false) { wC with trace := [] }).2 = [1, 3, 2, 1] := wC_eval.1

/-- 3 = `q` (13: `redo-ifchange t`), 4 = `r` (14: `redo-ifchange q`); 1 = `t` is a hand-written file. -/
def rulesF : Nat → List Nat := fun t => if t = 3 ∨ t = 4 then [10 + t] else []

def histF : List UserOp :=
  [ .setProg (srcContent 3) { ifchange := [[1]] },
    .setProg (srcContent 4) { ifchange := [[3]] },
    .write 13 3, .write 14 4, .write 1 7,
    .cmd (.ifchange [3, 4] false) ]

/-- An unreachable world: the record of the source `t` carries the override flag without being recorded as
generated, and the failure mark 0.  (Before the vanished-target write of the dirtiness check was repaired to clear
the override flag, such a record was reachable: build `t`, override it, remove it, let a check find it missing,
write it again.  Since the repair an overridden record is always a generated one, `og_reachable`.) -/
def wF : World :=
  let w := runOps {} 0 histF (initWorld rulesF)
  { w with recs := fun z => if z = 1 then { w.recs 1 with isOverride := true, isGenerated := false, failed := some 0 }
      else w.recs z }

/-- The run from `wF`, and the record of `t` in `wF`. -/
theorem wF_eval :
    ranList (runCmd {} 0 (.ifchange [3, 4] false) { wF with trace := [] }).2 = [3, 4, 3] ∧
    (wF.recs 1).isOverride = true ∧ existsF wF 1 = true ∧
      (wF.recs 1).isGenerated ≠ true ∧ (wF.recs 1).failed ≠ none := by
  unfold wF histF rulesF
  rw [runOps_eq_foldl]
  eval_model

/-- Such a record is never repaired — `start_self` leaves an overridden non-target alone — so every request finds
`t` dirty and `q` is rebuilt for each of its two requests in the run.  Order of execution: q, r, q. -/
theorem ovOK_needed :
    ranList (runCmd {} 0 (.ifchange [3, 4] false) { wF with trace := [] }).2 = [3, 4, 3] := wF_eval.1

/-- 1 = `t` (11: `redo-always`), 3 = `a` (13: `redo-ifchange t`); a file named like the `//ALWAYS` pseudo file
exists. -/
def histA : List UserOp :=
  [ .setProg (srcContent 1) { always := true },
    .setProg (srcContent 3) { ifchange := [[1]] },
    .write 11 1, .write 13 3, .write 0 0 ]

def wA : World := runOps {} 0 histA (initWorld rules0)

/-- The run from `wA`, and what of `wA` is not clean. -/
theorem wA_eval :
    ranList (runCmd {} 0 (.ifchange [1, 3] false) { wA with trace := [] }).2 = [1, 3, 1] ∧ wA.fs alwaysId ≠ none := by
  unfold wA histA rules0
  rw [runOps_eq_foldl]
  eval_model

theorem always_twice :
    ranList (runCmd {} 0 (.ifchange [1, 3] false) { wA with trace := [] }).2 = [1, 3, 1] := wA_eval.1


/-- 1 = `t` with candidates 5 (missing at first) and 11; 5 is itself a target (`5.do` = 15); 3 = `a`
(13: `redo-ifchange t`). -/
def rulesD : Nat → List Nat := fun t => if t = 1 then [5, 11] else if t = 3 then [13] else if t = 5 then [15] else []

def histD : List UserOp :=
  [ .setProg (srcContent 1) { },
    .setProg (srcContent 3) { ifchange := [[1]] },
    .setProg (srcContent 5) { },
    .write 11 1, .write 13 3, .write 15 5 ]

def wD : World := runOps {} 0 histD (initWorld rulesD)

/-- The run from `wD`, and what of `wD` is not clean. -/
theorem wD_eval :
    ranList (runCmd {} 0 (.ifchange [1, 5, 3] false) { wD with trace := [] }).2 = [1, 3, 5, 1] ∧
    5 ∈ wD.rules 1 ∧ wD.rules 5 ≠ [] := by
  unfold wD histD rulesD
  rw [runOps_eq_foldl]
  eval_model

/-- `t` was built with its second .do candidate while the first did not exist; the first candidate is then
built in the same run, so the next request finds `t` dirty and runs it again.  Order: t, 5, a, t. -/
theorem dofile_twice :
    ranList (runCmd {} 0 (.ifchange [1, 5, 3] false) { wD with trace := [] }).2 = [1, 3, 5, 1] := wD_eval.1

/-- An unreachable world: the source file 4 carries a `changed` mark from the future (run 100). -/
def histW : List UserOp :=
  [ .setProg (srcContent 2) { ifchange := [[4]] },
    .setProg (srcContent 3) { ifchange := [[2]] },
    .write 12 2, .write 13 3, .write 4 0 ]

def wW : World :=
  let w := runOps {} 0 histW (initWorld rules0)
  { w with recs := fun z => if z = 4 then { row := 9, changed := some 100, stamp := some (.st 3 0) } else w.recs z }

/-- The run from `wW`, and the record of the source 4 in `wW`. -/
theorem wW_eval :
    ranList (runCmd {} 0 (.ifchange [2, 3] false) { wW with trace := [] }).2 = [2, 3, 2] ∧
    (wW.recs 4).changed = some 100 ∧ ¬ 100 ≤ wW.runCounter := by
  unfold wW histW rules0
  rw [runOps_eq_foldl]
  eval_model

/-- Without well-formed run ids the source 4 is dirty for every request, so `p` (2) is rebuilt for each of its
two requests.  Order: p, q, p. -/
theorem wf_needed :
    ranList (runCmd {} 0 (.ifchange [2, 3] false) { wW with trace := [] }).2 = [2, 3, 2] := wW_eval.1

theorem wW_not_wf : ¬ WF wW := fun h => wW_eval.2.2 ((h 4).1 100 wW_eval.2.1)

/-! In each reachable counterexample one condition of `Clean` fails. -/

theorem wC_not_clean : ¬ Clean wC :=
  fun h => wC_eval.2.2 (h.hyg.scripts _ _ wC_eval.2.1 2 (.inl (List.mem_singleton.2 rfl)))

theorem wA_not_clean : ¬ Clean wA := fun h => wA_eval.2 h.f0

theorem wD_not_clean : ¬ Clean wD := fun h => wD_eval.2.2 (h.hyg.dofiles 1 5 wD_eval.2.1)

/-- The hand-made world violates `OvOK` (and only that: it is well formed, `wF_wf`). -/
theorem wF_not_ovOK : ¬ OvOK wF := by
  have h1 := wF_eval.2
  intro h
  rcases h 1 h1.1 h1.2.1 with h3 | h3
  · exact h1.2.2.1 h3
  · exact h1.2.2.2 h3.1

theorem wF_wf : WF wF := by
  have h : WF (runOps {} 0 histF (initWorld rulesF)) := wf_reachable {} 0 rulesF histF
  intro f
  show WFrec (runOps {} 0 histF (initWorld rulesF)).runCounter (wF.recs f)
  simp only [wF]
  split
  · obtain ⟨a1, a2, _, a4⟩ := h 1
    exact ⟨a1, a2, fun c hc => by cases hc; exact Nat.zero_le _, a4⟩
  · exact h f

end Cex

end RedoModel.Deps.Once
