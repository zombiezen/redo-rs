import RedoModel.Lemmas.Once.DepsFrame
/-!
Vocabulary of the once-per-run proof: what it means for a file to be *verified* in run `R`, the relation between
the record copies the dirtiness check holds and the database, and the step relation of the dirtiness check.
-/
namespace RedoModel.Deps.Once
open RedoModel.Deps

/-- The list of targets whose script ran, most recent first. -/
def ranList (w : World) : List Nat :=
  w.trace.filterMap (fun e => match e with | .ran t => some t | _ => none)

/-- A record that the dirtiness check of run `R` answers `clean` for, as far as the record itself goes. -/
def OKrec (R : Nat) (cur : DStamp) (r : Rec) : Prop :=
  r.failed = none ∧ ∃ ch, r.changed = some ch ∧ ch ≤ R ∧
    (isCheckedR r R = true ∨ (r.stamp = some cur ∧ (r.isGenerated = false ∨ r.isOverride = true ∨ ch = R)))

def V0 (R : Nat) (w : World) (z : Nat) : Prop := OKrec R (readStamp w z) (getRec w R z)

/-- Verified; a target whose script is still running only counts if it carries the `checked` mark. -/
def Settled (R : Nat) (cyc : List Nat) (w : World) (z : Nat) : Prop :=
  V0 R w z ∧ (z ∈ cyc → isCheckedR (getRec w R z) R = true)

def Done (R : Nat) (w : World) (z : Nat) : Prop := isFailedR (getRec w R z) R = true ∨ V0 R w z

/-- A dependency row that the check of its target (with threshold `mx`) passes over. -/
def RowOK (R : Nat) (cyc : List Nat) (w : World) (row : Dep) (mx : Nat) : Prop :=
  (row.modeM = true → Settled R cyc w row.source ∧ ∀ ch, (getRec w R row.source).changed = some ch → ch ≤ mx) ∧
  (row.modeM = false → existsF w row.source = false)

/-- A dependency row that stays passed over for the rest of the run. -/
def GoodRow (R : Nat) (cyc : List Nat) (w : World) (row : Dep) : Prop :=
  (row.modeM = true → Settled R cyc w row.source ∧ row.source ∉ cyc) ∧
  (row.modeM = false → existsF w row.source = false ∧ w.rules row.source = [])

/-- Targets built in this run (and not yet marked checked) have only good rows. -/
def J (R : Nat) (cyc : List Nat) (w : World) : Prop :=
  ∀ y, y ∉ cyc → V0 R w y → isCheckedR (getRec w R y) R = false → (getRec w R y).isGenerated = true →
    (getRec w R y).isOverride = false → ∀ row ∈ w.deps, row.target = y → GoodRow R cyc w row

/-- An overridden file that exists either failed in this run, or is still recorded as generated (so that
`start_self` will record its new stamp and clear any failure mark when it visits it), or carries no failure mark
and is in step with its record. -/
def OV (R : Nat) (w : World) : Prop :=
  ∀ z, (getRec w R z).isOverride = true → existsF w z = true →
    isFailedR (getRec w R z) R = true ∨ (getRec w R z).isGenerated = true ∨
    ((getRec w R z).failed = none ∧ (getRec w R z).stamp = some (readStamp w z))

/-- A copy `s` of the record of `z` taken earlier in the same dirtiness check. -/
structure SnapRel (R : Nat) (cyc : List Nat) (w : World) (z : Nat) (s : Rec) : Prop where
  wf : WFrec R s
  stamp : s.stamp = (getRec w R z).stamp
  changed : s.changed = (getRec w R z).changed
  ovr : (getRec w R z).failed = none → s.isOverride = (getRec w R z).isOverride
  failed : s.failed = (getRec w R z).failed ∨
    (s.failed = none ∧ (getRec w R z).failed = some 0 ∧ s.stamp ≠ some (readStamp w z) ∧ isCheckedR s R = false)
  gen : (getRec w R z).failed = none → s.isGenerated = (getRec w R z).isGenerated
  unchecked : isCheckedR (getRec w R z) R = false → s.checked = (getRec w R z).checked
  late : isCheckedR (getRec w R z) R = true → isCheckedR s R = false →
    (getRec w R z).stamp = some (readStamp w z) ∧
    (s.isGenerated = true → s.isOverride = false → ∀ ch, s.changed = some ch → ∀ row ∈ w.deps, row.target = z →
      RowOK R cyc w row (max ch (s.checked.getD 0)))

/-- What one dirtiness check does to the world. -/
structure DStep (R : Nat) (cyc seen : List Nat) (w w' : World) : Prop where
  same : SameButRecs w w'
  settled : ∀ z, Settled R cyc w z → Settled R cyc w' z
  failedR : ∀ z, isFailedR (getRec w' R z) R = isFailedR (getRec w R z) R
  changed : ∀ z, (getRec w' R z).changed = (getRec w R z).changed
  snap : ∀ z s, SnapRel R cyc w z s → SnapRel R cyc w' z s
  seen : ∀ g ∈ seen, w'.recs g = w.recs g
  ran : ranList w' = ranList w
  genF : ∀ z, (getRec w R z).isGenerated = false → (getRec w' R z).isGenerated = false

structure DInv (R : Nat) (cyc : List Nat) (w : World) : Prop where
  wf : WFR R w
  j : J R cyc w
  ov : OV R w
  /-- a `checked` mark of this run is only carried by records without failure mark -/
  p1 : ∀ z, isCheckedR (getRec w R z) R = true → (getRec w R z).failed = none
  /-- a running target stamped in this run has no failure mark -/
  p2 : ∀ z ∈ cyc, (getRec w R z).changed = some R → (getRec w R z).failed = none

/-! ### `getRec`, `ranList`, a fresh copy -/

theorem getRec_setRec_self_of_changed {w : World} {R f : Nat} (r : Rec) (h : f = alwaysId → r.changed = some R) :
    getRec (setRec w f r) R f = r :=
  Deps.getRec_setRec_self w R f r fun h0 => ⟨R, h h0, Nat.le_refl R⟩

theorem ranList_ev_warn (w : World) (t : Nat) : ranList (ev w (.warnOverride t)) = ranList w := by
  simp [ranList, ev]

theorem ranList_congr {w w' : World} (h : w'.trace = w.trace) : ranList w' = ranList w := by
  simp [ranList, h]

/-- A fresh copy. -/
theorem SnapRel.fresh {R : Nat} {cyc : List Nat} {w : World} (h : WFR R w) (z : Nat) :
    SnapRel R cyc w z (getRec w R z) where
  wf := WFrec.getRec h z
  stamp := rfl
  changed := rfl
  ovr := fun _ => rfl
  failed := .inl rfl
  gen := fun _ => rfl
  unchecked := fun _ => rfl
  late := fun h1 h2 => by rw [h1] at h2; cases h2

end RedoModel.Deps.Once
