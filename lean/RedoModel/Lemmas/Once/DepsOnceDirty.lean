import RedoModel.Lemmas.Once.DepsOnceWrites
import RedoModel.Lemmas.DepsMemo
/-! Specification of the dirtiness check for the once-per-run proof. -/
namespace RedoModel.Deps.Once
open RedoModel.Deps

variable {R : Nat} {cyc : List Nat}

structure DSpec (R : Nat) (cyc seen : List Nat) (f mx : Nat) (w : World) (res : DR × World × List Nat) : Prop where
  inv : DInv R cyc res.2.1
  step : DStep R cyc seen w res.2.1
  clean : res.1 = .clean → V0 R res.2.1 f ∧ isCheckedR (getRec res.2.1 R f) R = true ∧
    ∀ ch, (getRec w R f).changed = some ch → ch ≤ mx
  ok : Settled R cyc w f → (∀ ch, (getRec w R f).changed = some ch → ch ≤ mx) → res.1 = .clean ∨ res.1 = .cyclic
  bad : f ∉ cyc → (∀ ch, (getRec w R f).changed = some ch → ch ≤ mx) → res.1 ≠ .clean → res.1 ≠ .cyclic →
    ¬ V0 R res.2.1 f
  needNe : ∀ ts, res.1 = .need ts → ts ≠ []

/-- The verdict on a file that has changed: not `clean`, and with a checksum it names the file. -/
theorem changed_verdict (hasCsum : Bool) (f : Nat) :
    (if hasCsum = true then DR.need [f] else DR.dirty) ≠ .clean ∧
    ∀ ts, (if hasCsum = true then DR.need [f] else DR.dirty) = .need ts → ts ≠ [] := by
  split
  · exact ⟨by simp, fun ts e => by cases e; simp⟩
  · exact ⟨by simp, fun ts e => by cases e⟩

theorem goDeps_some_shape (chk : World → List Nat → Nat → Rec → DR × World × List Nat) (hasCsum : Bool) (f : Nat) :
    ∀ (ds : List (Dep × Rec)) (w : World) (cache must : List Nat) (dr : DR) (w1 : World) (c1 : List Nat),
      goDeps chk hasCsum f ds w cache must = (some dr, w1, c1) → dr ≠ .clean ∧ ∀ ts, dr = .need ts → ts ≠ []
  | [], w, cache, must, dr, w1, c1, h => by
    rw [goDeps] at h
    split at h
    · cases h
    · rename_i hne
      simp only [Prod.mk.injEq, Option.some.injEq] at h
      rw [← h.1]
      refine ⟨by simp, ?_⟩
      intro ts e
      cases e
      intro e2; subst e2; simp at hne
  | (d, snap) :: ds, w, cache, must, dr, w1, c1, h => by
    have hd : ∀ dr', (if hasCsum = true then DR.need [f] else DR.dirty) = dr' →
        dr' ≠ .clean ∧ ∀ ts, dr' = .need ts → ts ≠ [] := fun dr' e => e ▸ changed_verdict hasCsum f
    revert h
    apply goDeps_cons_cases chk hasCsum f d snap ds w cache must
      (fun res => res = (some dr, w1, c1) → dr ≠ .clean ∧ ∀ ts, dr = .need ts → ts ≠ [])
    · intro _ _ h
      simp only [Prod.mk.injEq, Option.some.injEq] at h
      exact hd dr h.1
    · intro _ _ h
      exact goDeps_some_shape chk hasCsum f ds w cache must dr w1 c1 h
    · intro _ sub w2 c2 _
      cases sub with
      | cyclic =>
        intro h
        simp only [Prod.mk.injEq, Option.some.injEq] at h
        rw [← h.1]
        exact ⟨by simp, fun ts e => by cases e⟩
      | clean => exact goDeps_some_shape chk hasCsum f ds w2 c2 must dr w1 c1
      | dirty =>
        intro h
        simp only [Prod.mk.injEq, Option.some.injEq] at h
        exact hd dr h.1
      | need ts => exact goDeps_some_shape chk hasCsum f ds w2 c2 (must ++ ts) dr w1 c1

/-- The loop over the recorded dependencies: invariant and step, and every row was passed over if the loop finds nothing. -/
theorem goDeps_spec {seen : List Nat} {mx' : Nat} (chk : World → List Nat → Nat → Rec → DR × World × List Nat)
    (hchk : ∀ w2 c2 s snap, DInv R cyc w2 → SnapRel R cyc w2 s snap → (R ≤ mx' → s ∉ cyc ∨ Settled R cyc w2 s) →
      DSpec R cyc seen s mx' w2 (chk w2 c2 s snap))
    (hasCsum : Bool) (f : Nat) :
    ∀ (ds : List (Dep × Rec)) (w : World) (cache must : List Nat), DInv R cyc w →
      (∀ p ∈ ds, SnapRel R cyc w p.1.source p.2 ∧
        (p.1.modeM = true → R ≤ mx' → p.1.source ∉ cyc ∨ Settled R cyc w p.1.source)) →
      DInv R cyc (goDeps chk hasCsum f ds w cache must).2.1 ∧
      DStep R cyc seen w (goDeps chk hasCsum f ds w cache must).2.1 ∧
      ((goDeps chk hasCsum f ds w cache must).1 = none →
        must = [] ∧ ∀ p ∈ ds, RowOK R cyc (goDeps chk hasCsum f ds w cache must).2.1 p.1 mx')
  | [], w, cache, must, hinv, _ => by
    rw [goDeps]
    refine ⟨hinv, DStep.refl _ _, ?_⟩
    intro h
    simp only at h
    split at h
    · rename_i he
      exact ⟨by simpa using he, fun p hp => by cases hp⟩
    · cases h
  | (d, snap) :: ds, w, cache, must, hinv, hsn => by
    have hsnap : SnapRel R cyc w d.source snap := (hsn (d, snap) (by simp)).1
    have hpre := (hsn (d, snap) (by simp)).2
    have hrest : ∀ p ∈ ds, SnapRel R cyc w p.1.source p.2 ∧
        (p.1.modeM = true → R ≤ mx' → p.1.source ∉ cyc ∨ Settled R cyc w p.1.source) :=
      fun p hp => hsn p (by simp [hp])
    apply goDeps_cons_cases chk hasCsum f d snap ds w cache must
      (fun res => DInv R cyc res.2.1 ∧ DStep R cyc seen w res.2.1 ∧
        (res.1 = none → must = [] ∧ ∀ p ∈ (d, snap) :: ds, RowOK R cyc res.2.1 p.1 mx'))
    · -- a `c` row whose file exists
      exact fun _ _ => ⟨hinv, DStep.refl _ _, nofun⟩
    · -- a `c` row whose file does not exist
      intro hm he
      obtain ⟨i1, i2, i3⟩ := goDeps_spec chk hchk hasCsum f ds w cache must hinv hrest
      refine ⟨i1, i2, fun hn => ⟨(i3 hn).1, fun p hp => ?_⟩⟩
      rcases List.mem_cons.1 hp with rfl | hp
      · refine ⟨(fun h => by rw [hm] at h; cases h), fun _ => ?_⟩
        rw [existsF_congr (congrFun i2.same.1 _)]; exact he
      · exact (i3 hn).2 p hp
    · -- an `m` row
      intro hm sub w2 c2 hsub
      have hs := hchk w cache d.source snap hinv hsnap (hpre hm)
      rw [hsub] at hs
      have hrest2 : ∀ p ∈ ds, SnapRel R cyc w2 p.1.source p.2 ∧
          (p.1.modeM = true → R ≤ mx' → p.1.source ∉ cyc ∨ Settled R cyc w2 p.1.source) :=
        fun p hp => ⟨hs.step.snap _ _ (hrest p hp).1,
          fun h1 h2 => ((hrest p hp).2 h1 h2).imp id (hs.step.settled _)⟩
      cases sub with
      | cyclic => exact ⟨hs.inv, hs.step, nofun⟩
      | dirty => exact ⟨hs.inv, hs.step, nofun⟩
      | clean =>
        dsimp only
        obtain ⟨i1, i2, i3⟩ := goDeps_spec chk hchk hasCsum f ds w2 c2 must hs.inv hrest2
        refine ⟨i1, hs.step.trans i2, fun hn => ⟨(i3 hn).1, fun p hp => ?_⟩⟩
        rcases List.mem_cons.1 hp with rfl | hp
        · obtain ⟨c1, c2', c3⟩ := hs.clean rfl
          refine i2.rowOK ⟨fun _ => ⟨⟨c1, fun _ => c2'⟩, fun ch hch => ?_⟩, (fun h => by rw [hm] at h; cases h)⟩
          rw [hs.step.changed] at hch
          exact c3 ch hch
        · exact (i3 hn).2 p hp
      | need ts =>
        dsimp only
        obtain ⟨i1, i2, i3⟩ := goDeps_spec chk hchk hasCsum f ds w2 c2 (must ++ ts) hs.inv hrest2
        -- the loop cannot say `none` with `must ++ ts` to ask for
        exact ⟨i1, hs.step.trans i2, fun hn => absurd (List.append_eq_nil_iff.1 (i3 hn).1).2 (hs.needNe ts rfl)⟩

theorem depsWithRecs_snap {w : World} (hw : WFR R w) (r : Rec) (f : Nat) :
    ∀ p ∈ depsWithRecs w R r f, SnapRel R cyc w p.1.source p.2 := by
  intro p hp
  rw [(mem_depsWithRecs.1 hp).1]
  exact SnapRel.fresh hw _

theorem depsWithRecs_rows {w w1 : World} {r : Rec} {f mx' : Nat}
    (h : ∀ p ∈ depsWithRecs w R r f, RowOK R cyc w1 p.1 mx') (hg : r.isGenerated = true) (ho : r.isOverride = false)
    (row : Dep) (hrow : row ∈ w.deps) (ht : row.target = f) : RowOK R cyc w1 row mx' :=
  h (row, getRec w R row.source) (mem_depsWithRecs.2 ⟨rfl, hg, ho, hrow, ht⟩)

/-- All rows that the check of a verified file looks at are passed over. -/
theorem rows_ok_of_settled {w : World} (hinv : DInv R cyc w) {f : Nat} {r : Rec} {ch : Nat}
    (hsnap : SnapRel R cyc w f r) (hset : Settled R cyc w f) (hch : r.changed = some ch)
    (hck : isCheckedR r R = false) :
    ∀ p ∈ depsWithRecs w R r f, RowOK R cyc w p.1 (max ch (r.checked.getD 0)) := by
  intro p hp
  obtain ⟨_, hg, ho, hdw, hdt⟩ := mem_depsWithRecs.1 hp
  cases hcc : isCheckedR (getRec w R f) R with
  | true => exact (hsnap.late hcc hck).2 hg ho ch hch p.1 hdw hdt
  | false =>
    obtain ⟨hV, hcy⟩ := hset
    have hfc : f ∉ cyc := fun h => by rw [hcy h] at hcc; cases hcc
    obtain ⟨hf0, c, hc, hcR, hor⟩ := hV
    have hgen : (getRec w R f).isGenerated = true := by rw [← hsnap.gen hf0]; exact hg
    have hov : (getRec w R f).isOverride = false := by rw [← hsnap.ovr hf0]; exact ho
    have hcc' : c = ch := by
      have := hsnap.changed
      rw [hch, hc] at this
      exact (Option.some.inj this).symm
    subst hcc'
    rcases hor with h | ⟨_, h⟩
    · rw [hcc] at h; cases h
    · rcases h with h | h | h
      · rw [hgen] at h; cases h
      · rw [hov] at h; cases h
      · subst h
        have hgood := hinv.j f hfc ⟨hf0, c, hc, hcR, .inr ⟨by assumption, .inr (.inr rfl)⟩⟩ hcc hgen hov p.1 hdw hdt
        refine ⟨fun hm => ⟨(hgood.1 hm).1, ?_⟩, fun hm => (hgood.2 hm).1⟩
        intro c' hc'
        obtain ⟨_, c'', hc'', hle, _⟩ := (hgood.1 hm).1.1
        rw [hc''] at hc'
        cases hc'
        exact Nat.le_trans hle (Nat.le_max_left _ _)

/-- What the loop needs to know about each row before looking at it. -/
theorem depsWithRecs_pre (hR : 0 < R) {w : World} (hinv : DInv R cyc w) {f mx ch : Nat} {r : Rec}
    (hsnap : SnapRel R cyc w f r) (hf : r.failed = none) (hch : r.changed = some ch)
    (hck : isCheckedR r R = false) (hst : r.stamp = some (readStamp w f)) (hle : ch ≤ mx)
    (hmx : R ≤ mx → f ∉ cyc ∨ Settled R cyc w f) :
    ∀ p ∈ depsWithRecs w R r f, SnapRel R cyc w p.1.source p.2 ∧
      (p.1.modeM = true → R ≤ max ch (r.checked.getD 0) → p.1.source ∉ cyc ∨ Settled R cyc w p.1.source) := by
  intro p hp
  refine ⟨depsWithRecs_snap hinv.wf r f p hp, ?_⟩
  intro hm hge
  obtain ⟨_, hg, ho, hdw, hdt⟩ := mem_depsWithRecs.1 hp
  -- the threshold can only reach `R` through `changed`
  have hchR : ch ≤ R := hsnap.wf.1 ch hch
  have hckd : r.checked.getD 0 < R := by
    cases hcc : r.checked with
    | none => exact hR
    | some c =>
      simp only [isCheckedR, hcc, Bool.and_eq_false_iff, bne_eq_false_iff_eq, decide_eq_false_iff_not] at hck
      show c < R
      omega
  have hchR' : ch = R := by omega
  rw [hchR'] at hch hle
  cases hcc : isCheckedR (getRec w R f) R with
  | true =>
    exact .inr (((hsnap.late hcc hck).2 hg ho R hch p.1 hdw hdt).1 hm).1
  | false =>
    -- the database record is `changed = R`, unchecked, in step: verified
    have hcf : (getRec w R f).failed = none := by
      rcases hsnap.failed with h | h
      · rw [← h]; exact hf
      · exact absurd hst h.2.2.1
    have hV : V0 R w f := ⟨hcf, R, by rw [← hsnap.changed]; exact hch, Nat.le_refl _,
      .inr ⟨by rw [← hsnap.stamp]; exact hst, .inr (.inr rfl)⟩⟩
    have hfc : f ∉ cyc := by
      intro hfc
      rcases hmx hle with h | h
      · exact h hfc
      · rw [h.2 hfc] at hcc; cases hcc
    have hgen : (getRec w R f).isGenerated = true := by rw [← hsnap.gen hcf]; exact hg
    have hov : (getRec w R f).isOverride = false := by rw [← hsnap.ovr hcf]; exact ho
    exact .inl ((hinv.j f hfc hV hcc hgen hov p.1 hdw hdt).1 hm).2

theorem DSpec.cyclic {seen : List Nat} {f mx : Nat} {w : World} {cache : List Nat} (hinv : DInv R cyc w) :
    DSpec R cyc seen f mx w (.cyclic, w, cache) :=
  ⟨hinv, DStep.refl _ _, (fun h => by cases h), (fun _ _ => .inr rfl), (fun _ _ _ h => absurd rfl h),
    (fun ts h => by cases h)⟩

/-- The verdict `dirty`, with nothing written, on a file that is not verified. -/
theorem DSpec.dirty {seen : List Nat} {f mx : Nat} {w : World} {cache : List Nat} (hinv : DInv R cyc w)
    (hnV : ¬ V0 R w f) : DSpec R cyc seen f mx w (.dirty, w, cache) :=
  ⟨hinv, DStep.refl _ _, (fun h => by cases h), (fun hs _ => absurd hs.1 hnV), (fun _ _ _ _ => hnV),
    (fun ts h => by cases h)⟩

theorem isDirty_spec (hR : 0 < R) : ∀ (fuel : Nat) (w : World) (cache : List Nat) (f mx : Nat) (seen : List Nat)
    (pre : Option Rec), DInv R cyc w → (∀ s, pre = some s → SnapRel R cyc w f s) →
      (R ≤ mx → f ∉ cyc ∨ Settled R cyc w f) →
      DSpec R cyc seen f mx w (isDirty false R fuel w cache f mx seen pre)
  | 0, w, cache, f, mx, seen, pre, hinv, _, _ => by
    rw [isDirty]
    exact DSpec.cyclic hinv
  | fuel + 1, w, cache, f, mx, seen, pre, hinv, hpre, hmx => by
    have hsnap : SnapRel R cyc w f (pre.getD (getRec w R f)) := by
      cases pre with
      | none => exact SnapRel.fresh hinv.wf f
      | some s => exact hpre s rfl
    generalize hr : pre.getD (getRec w R f) = r at hsnap
    have hcurch : (getRec w R f).changed = r.changed := hsnap.changed.symm
    -- the loop over the recorded dependencies, for the two cases that reach it
    have hloop := fun (ch : Nat) (hf : r.failed = none) (hc : r.changed = some ch) (hle : ch ≤ mx)
        (hck : isCheckedR r R = false) (hst : r.stamp = some (readStamp w f)) =>
      goDeps_spec (R := R) (cyc := cyc) (seen := f :: seen) (mx' := max ch (r.checked.getD 0))
        (fun w2 c2 s snap => isDirty false R fuel w2 c2 s (max ch (r.checked.getD 0)) (f :: seen) (some snap))
        (fun w2 c2 s snap hi hsn hm2 => isDirty_spec hR fuel w2 c2 s _ (f :: seen) (some snap) hi
          (fun s' e => by cases e; exact hsn) hm2)
        r.csum.isSome f (depsWithRecs w R r f) w cache [] hinv
        (depsWithRecs_pre hR hinv hsnap hf hc hck hst hle hmx)
    rw [isDirty_succ]
    refine isDirtyStep_cases (P := DSpec R cyc seen f mx w) hr.symm (fun _ => DSpec.cyclic hinv) ?_ ?_ ?_ ?_ ?_
    · -- `dirty` on the record alone: the file is not verified, or it is newer than the threshold
      rintro _ (hf | hc | ⟨ch, hc, hgt⟩ | ⟨hck, hst⟩)
      · refine DSpec.dirty hinv ?_
        rintro ⟨h0, _⟩
        rcases hsnap.failed with h | h
        · rw [h, h0] at hf; cases hf
        · rw [h.1] at hf; cases hf
      · refine DSpec.dirty hinv ?_
        rintro ⟨_, c, h, _⟩
        rw [hcurch, hc] at h; cases h
      · have hno : ¬ ∀ c, (getRec w R f).changed = some c → c ≤ mx := fun h => by
          have := h ch (by rw [hcurch]; exact hc)
          omega
        exact ⟨hinv, DStep.refl _ _, nofun, (fun _ h => absurd h hno), (fun _ h => absurd h hno), nofun⟩
      · exact DSpec.dirty hinv (notV0_of_stamp hsnap hck (by rw [hst]; simp))
    · -- memoised
      intro ch _ hf hc hle hck
      replace hck : isCheckedR r R = true := hck
      have hcurck : isCheckedR (getRec w R f) R = true := by
        cases hcc : isCheckedR (getRec w R f) R with
        | true => rfl
        | false =>
          have := hsnap.unchecked hcc
          simp only [isCheckedR, this] at hck
          simp only [isCheckedR] at hcc
          rw [hcc] at hck; cases hck
      have hcurf : (getRec w R f).failed = none := by
        rcases hsnap.failed with h | h
        · rw [← h]; exact hf
        · rw [h.2.2.2] at hck; cases hck
      have hV : V0 R w f := ⟨hcurf, ch, by rw [hcurch]; exact hc, hsnap.wf.1 ch hc, .inl hcurck⟩
      refine ⟨hinv, DStep.refl _ _, (fun _ => ⟨hV, hcurck, ?_⟩), (fun _ _ => .inl rfl), (fun _ _ h => absurd rfl h),
        (fun ts h => by cases h)⟩
      intro c hc'
      rw [hcurch, hc] at hc'; cases hc'; exact hle
    · -- stamp mismatch
      intro ch old hs hf hc hle hck hst hne
      replace hck : isCheckedR r R = false := hck
      have hstne : r.stamp ≠ some (readStamp w f) := by
        rw [hst]; intro e; exact hne (Option.some.inj e)
      have hnV : ¬ V0 R w f := notV0_of_stamp hsnap hck hstne
      have hdr := changed_verdict r.csum.isSome f
      generalize (if r.csum.isSome = true then DR.need [f] else DR.dirty) = dr0 at hdr
      by_cases hcond : readStamp w f = .missing ∧ r.isGenerated = true
      · rw [if_pos hcond]
        have hp2 : f ∈ cyc → ch ≠ R := by
          intro hfc e
          subst e
          rcases hmx hle with h | h
          · exact h hfc
          · exact hnV h.1
        obtain ⟨st, iv, hnV'⟩ := unfailWrite (seen := seen) hinv f r ch old hsnap hf hc hck hst hne hs hp2
        exact ⟨iv, st, (fun h => absurd h hdr.1), (fun hs' _ => absurd hs'.1 hnV), (fun _ _ _ _ => hnV'), hdr.2⟩
      · rw [if_neg hcond]
        exact ⟨hinv, DStep.refl _ _, (fun h => absurd h hdr.1), (fun hs' _ => absurd hs'.1 hnV), (fun _ _ _ _ => hnV),
          hdr.2⟩
    · -- some dependency is not clean
      rintro ch dr ⟨o, w1, c1⟩ hs hf hc hle hck hst hg rfl
      replace hg := hg.symm
      have hgs := hloop ch hf hc hle hck hst
      rw [hg] at hgs
      obtain ⟨i1, i2, _⟩ := hgs
      have hshape := goDeps_some_shape _ _ _ _ _ _ _ dr w1 c1 hg
      -- the rows of a settled file are passed over, and stay so (with the copies held of their sources) across a check that
      -- answers `clean`: the walk finds nothing, or gives up
      have hok : Settled R cyc w f → dr = .cyclic := by
        intro hset
        obtain ⟨h, -⟩ := goDeps_passed (hasCsum := r.csum.isSome) (f := f) (I := DInv R cyc) (G := fun _ => True)
          (chk := fun w2 c2 s snap => isDirty false R fuel w2 c2 s (max ch (r.checked.getD 0)) (f :: seen) (some snap))
          (B := fun w2 p => SnapRel R cyc w2 p.1.source p.2 ∧ RowOK R cyc w2 p.1 (max ch (r.checked.getD 0)))
          (fun p w2 c2 hi hb hm => by
            have hs' := isDirty_spec hR fuel w2 c2 p.1.source (max ch (r.checked.getD 0)) (f :: seen) (some p.2) hi
              (fun s' e => by cases e; exact hb.1) (fun _ => .inr (hb.2.1 hm).1)
            exact ⟨(hs'.ok (hb.2.1 hm).1 (hb.2.1 hm).2).imp
              (fun h => ⟨h, fun q hq => ⟨hs'.step.snap _ _ hq.1, hs'.step.rowOK hq.2⟩⟩) (fun h => ⟨h, trivial⟩), hs'.inv⟩)
          (fun p w2 _ hb hm => hb.2.2 hm) (depsWithRecs w R r f) w cache hinv
          (fun p hp => ⟨depsWithRecs_snap hinv.wf r f p hp, rows_ok_of_settled hinv hsnap hset hc hck p hp⟩)
        rw [hg] at h
        rcases h with h | ⟨h, -⟩
        · cases h
        · exact Option.some.inj h
      refine ⟨i1, i2.weaken (fun g hg => List.mem_cons_of_mem _ hg), (fun h => absurd h hshape.1),
        (fun hset _ => .inr (hok hset)), ?_, hshape.2⟩
      intro hfc _ _ hncyc hV
      apply hncyc
      apply hok
      have hrec : w1.recs f = w.recs f := i2.seen f (by simp)
      have : V0 R w f := by
        unfold V0 at hV ⊢
        rw [getRec_congr hrec, readStamp_congr (congrFun i2.same.1 _)] at hV
        exact hV
      exact ⟨this, fun h => absurd h hfc⟩
    · -- every dependency is clean
      rintro ch ⟨o, w1, c1⟩ hs hf hc hle hck hst hg rfl
      replace hg := hg.symm
      have hgs := hloop ch hf hc hle hck hst
      rw [hg] at hgs
      obtain ⟨i1, i2, i3⟩ := hgs
      have hrows := (i3 rfl).2
      have hsnap1 : SnapRel R cyc w1 f r := i2.snap f r hsnap
      have hst1 : r.stamp = some (readStamp w1 f) := by rw [readStamp_congr (congrFun i2.same.1 _)]; exact hst
      have hrows1 : r.isGenerated = true → r.isOverride = false → ∀ row ∈ w1.deps, row.target = f →
          RowOK R cyc w1 row (max ch (r.checked.getD 0)) := by
        intro hg' ho' row hrow ht
        rw [i2.same.2.1] at hrow
        exact depsWithRecs_rows hrows hg' ho' row hrow ht
      have hE : SameButRecs w1 (if r.isOverride = true then ev w1 (.warnOverride f) else w1) ∧
          (if r.isOverride = true then ev w1 (.warnOverride f) else w1).recs = w1.recs ∧
          ranList (if r.isOverride = true then ev w1 (.warnOverride f) else w1) = ranList w1 := by
        split
        · exact ⟨SameButRecs.ev _ _, rfl, ranList_ev_warn _ _⟩
        · exact ⟨SameButRecs.refl _, rfl, rfl⟩
      obtain ⟨st, iv, hV, hchk⟩ := cleanWrite (seen := seen) hR i1 f r ch hsnap1 hf hc hst1 hrows1 hs
        hE.1 hE.2.1 hE.2.2
      refine ⟨iv, (i2.weaken (fun g hg => List.mem_cons_of_mem _ hg)).trans st, (fun _ => ⟨hV, hchk, ?_⟩),
        (fun _ _ => .inl rfl), (fun _ _ h => absurd rfl h), (fun ts h => by cases h)⟩
      intro c hc'
      rw [hcurch, hc] at hc'; cases hc'; exact hle

end RedoModel.Deps.Once
