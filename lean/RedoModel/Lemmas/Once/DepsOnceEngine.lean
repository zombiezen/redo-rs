import RedoModel.Lemmas.Once.DepsOnceJob
/-! A build job, a target list, a command, the engine: the once-per-run proof. -/
namespace RedoModel.Deps.Once
open RedoModel.Deps
open RedoModel.Generated

variable {R : Nat} {cyc : List Nat}

theorem NewGood.ofNoAdd {w w' : World} (h : RStep R cyc noAdd w w') : NewGood R cyc w w' := by
  intro q hq row hrow ht
  rcases h.rows q hq row hrow ht with h1 | h1
  · exact .inl h1
  · exact h1.elim

theorem NewGood.trans {add : Nat → Dep → Prop} {a b c : World} (h1 : NewGood R cyc a b) (h2 : NewGood R cyc b c)
    (hs : RStep R cyc add b c) : NewGood R cyc a c := by
  intro q hq row hrow ht
  rcases h2 q hq row hrow ht with h | h
  · rcases h1 q hq row h ht with h' | h'
    · exact .inl h'
    · exact .inr ⟨h'.1, hs.settled _ h'.2.1, h'.2.2⟩
  · exact .inr h

theorem shouldBuild_spec (hR : 0 < R) (cx : Ctx) (hRid : cx.runid = R) (hredo : cx.isRedo = false) (fuel : Nat)
    {t : Nat} (ht : t ∉ cyc) (w : World) (hinv : RInv R cyc w) :
    RInv R cyc (shouldBuild cx fuel t w).2 ∧ RStep R cyc noAdd w (shouldBuild cx fuel t w).2 ∧
    ((shouldBuild cx fuel t w).1 = none → (shouldBuild cx fuel t w).2 = w) ∧
    ((shouldBuild cx fuel t w).1 = some .clean → Settled R cyc (shouldBuild cx fuel t w).2 t) ∧
    (∀ dr, (shouldBuild cx fuel t w).1 = some dr → dr ≠ .clean → dr ≠ .cyclic →
      Open R (shouldBuild cx fuel t w).2 t ∧
      ((w.recs t).isOverride = true → existsF (shouldBuild cx fuel t w).2 t = true → (w.recs t).isGenerated = true) ∧
      isCheckedR (w.recs t) R = false) := by
  unfold shouldBuild
  simp only [hredo, Bool.false_eq_true, if_false, hRid]
  cases hfl : isFailedR (getRec w R t) R with
  | true =>
    simp only [if_true]
    exact ⟨hinv, RStep.refl _ _, fun _ => trivial, (fun h => by cases h), (fun dr h => by cases h)⟩
  | false =>
    simp only [Bool.false_eq_true, if_false]
    have hchR : ∀ ch, (getRec w R t).changed = some ch → ch ≤ R := (WFrec.getRec hinv.d.wf t).1
    have hs := isDirty_spec (cyc := cyc) hR fuel w [] t R [] none hinv.d (fun s h => by cases h) (fun _ => .inl ht)
    generalize isDirty false R fuel w [] t R [] none = res at hs
    obtain ⟨dr, w1, c1⟩ := res
    have hinv1 : RInv R cyc w1 := hinv.ofDStep hs.step hs.inv
    have hbad : dr ≠ .clean → dr ≠ .cyclic →
        Open R w1 t ∧ ((w.recs t).isOverride = true → existsF w1 t = true → (w.recs t).isGenerated = true) ∧
        isCheckedR (w.recs t) R = false := by
      intro h1 h2
      have hnV := hs.bad ht hchR h1 h2
      have hop : Open R w1 t := ⟨hnV, by rw [hs.step.failedR]; exact hfl⟩
      have hnS : ¬ Settled R cyc w t := by
        intro hset
        rcases hs.ok hset hchR with h | h
        · exact h1 h
        · exact h2 h
      refine ⟨hop, ?_, ?_⟩
      · -- an overridden file in step with its record is verified: this one is out of step, so still generated
        intro hov hex1
        have hex0 : existsF w t = true := by rw [← existsF_congr (congrFun hs.step.same.1 _)]; exact hex1
        have h1' : (getRec w R t).isOverride = true := by rw [getRec_isOverride]; exact hov
        rcases hinv.d.ov t h1' hex0 with hfr | o2 | ⟨o1, o2⟩
        · rw [hfl] at hfr; cases hfr
        · rw [getRec_isGenerated] at o2; exact o2
        · exact absurd ⟨V0_of_wf hinv.d.wf t o1 (.inr ⟨o2, .inr h1'⟩), fun h => absurd h ht⟩ hnS
      · cases hck : isCheckedR (w.recs t) R with
        | false => rfl
        | true =>
          have hck' : isCheckedR (getRec w R t) R = true := by
            obtain ⟨c, hc⟩ := getRec_fields w R t
            rw [hc]; exact hck
          exact absurd ⟨V0_of_wf hinv.d.wf t (hinv.d.p1 t hck') (.inl hck'), fun h => absurd h ht⟩ hnS
    dsimp only
    refine ⟨hinv1, RStep.ofDStep hs.step, (fun h => by cases h), ?_, ?_⟩
    · intro h
      have hdr : dr = .clean := by
        simp only [Option.some.injEq] at h
        split at h
        · split at h <;> cases h
        · exact h
      obtain ⟨a, b, _⟩ := hs.clean hdr
      exact ⟨a, fun _ => b⟩
    · intro dr' h h1 h2
      simp only [Option.some.injEq] at h
      apply hbad
      · intro e
        subst e
        simp at h
        exact h1 h.symm
      · intro e
        subst e
        simp at h
        exact h2 h.symm

/-- What a build job on `t` guarantees. -/
structure BJPost (R : Nat) (cyc : List Nat) (p : Option Nat) (t : Nat) (w : World) (res : JobResult × World) : Prop where
  inv : RInv R cyc res.2
  step : RStep R cyc (addFor p) w res.2
  ne : res.1.st ≠ CRASHED
  done : ∀ rv, res.1 = .done rv → rv = 0 → NewGood R cyc w res.2 ∧ Settled R cyc res.2 t
  abort : ∀ code, res.1 = .abort code → code ≠ 0

theorem BJPost.ofJob {p : Option Nat} {t : Nat} {w0 w : World} {res : Status × World}
    (h0 : RStep R cyc noAdd w0 w) (h : JobPost R cyc t w res) :
    BJPost R cyc p t w0 (.done res.1, res.2) where
  inv := h.inv
  step := (h0.trans h.step).ofNoAdd
  ne := h.ne
  done := fun rv e e0 => by
    cases e
    exact ⟨NewGood.ofNoAdd (h0.trans h.step), h.ok e0⟩
  abort := fun code e => by cases e

theorem addFor_oob (d : Defects) (cx : Ctx) (q : Nat) (row : Dep)
    (h : addFor (if d.oobRecordsDepsOnCaller = true then cx.parent else none) q row) : addFor cx.parent q row := by
  unfold addFor at h ⊢
  split at h
  · exact h
  · cases h

theorem buildJob_spec (hR : 0 < R) {E : Engine} (hE : ESpec R E) (d : Defects) (hd : d.oobRebuildsDepsNotTarget = false)
    (cx : Ctx) (hRid : cx.runid = R) (hredo : cx.isRedo = false) (hcr : cx.crash = none) (hcyc : ∀ x ∈ cyc, x ∈ cx.cycles)
    (hpar : ∀ p, cx.parent = some p → p ∈ cyc) (fuel : Nat) {t : Nat} (ht : t ∉ cyc) (w : World)
    (hinv : RInv R cyc w) : BJPost R cyc cx.parent t w (buildJob E d cx fuel t w) := by
  obtain ⟨s1, s2, s3, s4, s5⟩ := shouldBuild_spec hR cx hRid hredo fuel ht w hinv
  have hstart : ∀ dr w1 rv w2, shouldBuild cx fuel t w = (some dr, w1) → dr ≠ .clean → dr ≠ .cyclic →
      startSelf E d cx t (w.recs t) w1 = (rv, w2) → BJPost R cyc cx.parent t w (.done rv, w2) := by
    intro dr w1 rv w2 e h1 h2 e2
    rw [e] at s1 s2 s5
    obtain ⟨a1, a2, a3⟩ := s5 dr rfl h1 h2
    have := BJPost.ofJob (p := cx.parent) s2
      (startSelf_spec hR hE d cx hRid hcr hcyc ht (w.recs t) (hinv.d.wf t) w1 a2 a3 s1 a1)
    rwa [e2] at this
  -- the first command of `redo-unlocked`
  have first := fun ts w1 (h : RInv R cyc w1) => hE (oobCtx1 d cx t) cyc ts w1 hRid rfl hcr
    (fun x hx => List.mem_cons_of_mem _ (hcyc x hx))
    (fun p hp => by simp only [oobCtx1] at hp; split at hp; exact hpar p hp; cases hp) nofun h
  fun_cases buildJob E d cx fuel t w with
  | case1 w1 hsb =>
    rw [hsb] at s1 s2
    refine ⟨s1, s2.ofNoAdd, by split <;> exact (by decide : EXIT_TARGET_FAILED ≠ CRASHED), fun rv e => ?_, fun code e => ?_⟩
    · split at e
      · cases e
      · cases e; exact fun h => absurd h (by decide)
    · split at e
      · cases e; decide
      · cases e
  | case2 w1 hsb =>
    rw [hsb] at s1 s2
    exact ⟨s1, s2.ofNoAdd, (by decide : EXIT_CYCLIC_DEPENDENCY ≠ CRASHED), nofun, fun code e => by cases e; decide⟩
  | case3 w1 hsb =>
    rw [hsb] at s1 s2 s4
    exact ⟨s1, s2.ofNoAdd, zero_ne_crashed, fun rv e _ => by cases e; exact ⟨NewGood.ofNoAdd s2, s4 rfl⟩, nofun⟩
  | case4 sf0 w1 hsb rv w2 hss => exact hstart _ _ _ _ hsb nofun nofun hss
  | case5 sf0 ts w1 hsb hno rv w2 hss => exact hstart _ _ _ _ hsb nofun nofun hss
  | case6 ts w1 hsb hno ts' w2 h1 second rv w3 h2 =>
    -- `redo-unlocked`: both commands succeed or the second fails
    rw [hsb] at s1 s2
    have a := first ts' w1 s1
    rw [show E.ifchangeCmd (oobCtx1 d cx t) ts' w1 = (0, w2) from h1] at a
    obtain ⟨i1, i2, i3, -⟩ := a
    have b := hE (oobCtx2 cx) cyc [t] w2 hRid rfl hcr hcyc hpar
      (fun _ t' ht' => by rw [List.mem_singleton.1 ht']; exact ht) i1
    have hsec : second = [t] := by simp only [second, hd, Bool.false_eq_true, if_false]
    rw [show E.ifchangeCmd (oobCtx2 cx) [t] w2 = (rv, w3) from hsec ▸ h2] at b
    obtain ⟨j1, j2, j3, j4⟩ := b
    refine ⟨j1, s2.ofNoAdd.trans ((i2.mono (addFor_oob d cx)).trans j2), j4, fun rv' e e0 => ?_, nofun⟩
    cases e
    obtain ⟨k1, k2⟩ := j3 e0
    exact ⟨((NewGood.ofNoAdd s2).trans (i3 rfl).1 i2).trans k1 j2, (k2 t (by simp)).1⟩
  | case7 ts w1 hsb hno ts' rv w2 hrv h1 =>
    -- the first command of `redo-unlocked` fails
    rw [hsb] at s1 s2
    have a := first ts' w1 s1
    rw [show E.ifchangeCmd (oobCtx1 d cx t) ts' w1 = (rv, w2) from h1] at a
    obtain ⟨i1, i2, -, i4⟩ := a
    exact ⟨i1, s2.ofNoAdd.trans (i2.mono (addFor_oob d cx)), i4, fun rv' e h => by cases e; exact absurd h hrv, nofun⟩

/-- What a target list guarantees. -/
structure RTPost (R : Nat) (cyc : List Nat) (p : Option Nat) (ts seen : List Nat) (e : Bool) (w : World)
    (res : Status × World) : Prop where
  inv : RInv R cyc res.2
  step : RStep R cyc (addFor p) w res.2
  ne : res.1 ≠ CRASHED
  ok : res.1 = 0 → e = false ∧ NewGood R cyc w res.2 ∧ (∀ t ∈ ts, Settled R cyc res.2 t ∧ t ∉ cyc) ∧
    (∀ s ∈ seen, Settled R cyc res.2 s ∧ s ∉ cyc)

/-- The loop of `DepsLoops.lean` with the run invariant, the step relation, "settled and not running" as what is good of
a target, and "every row a running target has gained since `w` is good" as what successful jobs keep. -/
theorem runTargets_spec (hR : 0 < R) {E : Engine} (hE : ESpec R E) (d : Defects) (hd : d.oobRebuildsDepsNotTarget = false)
    (cx : Ctx) (hRid : cx.runid = R) (hredo : cx.isRedo = false) (hcr : cx.crash = none) (hcyc : ∀ x ∈ cyc, x ∈ cx.cycles)
    (hpar : ∀ p, cx.parent = some p → p ∈ cyc) (fuel : Nat) (ts seen : List Nat) (e : Bool) (w : World)
    (hunl : cx.unlocked = true → ∀ t ∈ ts, t ∉ cyc) (hinv : RInv R cyc w)
    (hseen : e = false → ∀ s ∈ seen, Settled R cyc w s ∧ s ∉ cyc) :
    RTPost R cyc cx.parent ts seen e w (runTargets E d cx fuel ts seen e w) := by
  have hK0 : NewGood R cyc w w := NewGood.ofNoAdd (RStep.refl _ _)
  obtain h | ⟨a1, a2, a3, a4, a5⟩ := runTargets_loopC (E := E) (d := d) (cx := cx) (fuel := fuel) (P := True)
    (I := RInv R cyc) (Rel := RStep R cyc (addFor cx.parent)) (G := fun w t => Settled R cyc w t ∧ t ∉ cyc)
    (K := NewGood R cyc w) (Kd := fun _ _ => False) (A := fun t => cx.unlocked = true → t ∉ cyc)
    (RStep.refl _) (fun _ _ _ => RStep.trans) (fun _ _ s h g => ⟨h.settled s g.1, g.2⟩)
    (fun w1 t hi => ⟨(hi.addKnown (add := addFor cx.parent) t).1, (hi.addKnown t).2,
      fun hk => hk.trans (NewGood.ofNoAdd (hi.addKnown (add := noAdd) t).2) (hi.addKnown (add := noAdd) t).2⟩)
    (fun _ _ h => h.elim) (fun _ _ _ _ h => h)
    (fun t w1 _ hi hu hcc _ _ => by
      -- a target that passed the cycle test is not running
      have htc : t ∉ cyc := by
        cases hu' : cx.unlocked with
        | true => exact hu hu'
        | false => exact fun h => by simp [hu', hcyc t h] at hcc
      have hj := buildJob_spec hR hE d hd cx hRid hredo hcr hcyc hpar fuel htc w1 hi
      refine .inr ⟨hj.inv, hj.step, hj.ne, fun hk hz => ?_⟩
      generalize buildJob E d cx fuel t w1 = res at hj hz
      obtain ⟨jr, w2⟩ := res
      cases jr with
      | abort code => exact absurd hz (hj.abort code rfl)
      | done rv =>
        obtain ⟨n1, n2⟩ := hj.done rv rfl hz
        exact ⟨⟨n2, htc⟩, hk.trans n1 hj.step⟩)
    ts seen e w hinv (fun t ht hu => hunl hu t ht) (fun _ _ => hK0)
  · exact h.elim
  · refine ⟨a1, a2, a3, fun hz => ?_⟩
    obtain ⟨k, g⟩ := a5 hK0 (hseen (a4 hz)) hz
    exact ⟨a4 hz, k, g, fun s hs => ⟨a2.settled s (hseen (a4 hz) s hs).1, (hseen (a4 hz) s hs).2⟩⟩

end RedoModel.Deps.Once
