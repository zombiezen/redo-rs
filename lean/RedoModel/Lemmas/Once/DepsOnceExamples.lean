import RedoModel.Lemmas.Once.DepsOnceCex
/-! Non-vacuity of `ran_nodup_of_wf` / `ran_nodup_reachable`: a clean reachable world with a non-trivial run. -/
namespace RedoModel.Deps.Once
open RedoModel.Deps
namespace Ex

def rulesN : Nat → List Nat := fun t => if t = 1 ∨ t = 2 ∨ t = 3 then [10 + t] else []

/-- 1 = `t` (11: reads the source 4), 2 = `p` (12: `redo-ifchange t`), 3 = `q`
(13: `redo-ifchange p; redo-ifchange t`, output stamped). -/
def histN : List UserOp :=
  [ .setProg (srcContent 1) { reads := [4] },
    .setProg (srcContent 2) { ifchange := [[1]] },
    .setProg (srcContent 3) { ifchange := [[2], [1]], stamp := 1 },
    .write 11 1, .write 12 2, .write 13 3, .write 4 0 ]

def wN : World := runOps {} 0 histN (initWorld rulesN)

/-- The scripts a history installs. -/
def scriptsOf (ops : List UserOp) : List Script :=
  ops.filterMap fun
    | .setProg _ s => some s
    | _ => none

/-- A history under the rules `rulesN` whose scripts declare no `redo-ifcreate` and no conditional request ends in a
clean world, provided nothing is named like `//ALWAYS`: commands change neither the rules nor the scripts. -/
theorem clean_rulesN (ops : List UserOp) (hs : ∀ s ∈ scriptsOf ops, s.ifcreate = [] ∧ s.cond = [])
    (h0 : (runOps {} 0 ops (initWorld rulesN)).fs alwaysId = none ∧
      ((runOps {} 0 ops (initWorld rulesN)).recs alwaysId).isGenerated = false) :
    Clean (runOps {} 0 ops (initWorld rulesN)) := by
  refine ⟨⟨?_, ?_, ?_⟩, h0.1, h0.2⟩
  · rw [runOps_rules]
    rfl
  · rw [runOps_rules]
    intro t c hc
    simp only [initWorld, rulesN] at hc ⊢
    split at hc
    · simp only [List.mem_singleton] at hc
      subst hc
      rw [if_neg (by omega)]
    · cases hc
  · intro c sc h f hf
    obtain ⟨h1, h2⟩ := runOps_progs {} 0 ops _ (fun _ _ h => nomatch h)
      (fun c s hc => hs s (List.mem_filterMap.2 ⟨_, hc, rfl⟩)) c sc h
    rw [h1, h2] at hf
    simp at hf

/-- What is evaluated of `wN`: nothing is named like `//ALWAYS`, and the run of all three targets. -/
theorem wN_eval :
    (wN.fs alwaysId = none ∧ (wN.recs alwaysId).isGenerated = false) ∧
    ranList (runCmd {} 0 (.ifchange [3, 2, 1] false) { wN with trace := [] }).2 = [1, 2, 3] := by
  unfold wN histN rulesN
  rw [runOps_eq_foldl]
  eval_model

theorem clean_wN : Clean wN := clean_rulesN histN (by decide) wN_eval.1

/-- The theorem applies ... -/
example : RanNodupFrom {} 0 wN [3, 2, 1] false :=
  ran_nodup_reachable {} {} rfl 0 0 rulesN histN [3, 2, 1] false clean_wN

/-- ... to a run that executes all three scripts (`q` asks for `p`, which asks for `t`; `q`'s second request of
`t` and the two later top-level requests run nothing). -/
example : ranList (runCmd {} 0 (.ifchange [3, 2, 1] false) { wN with trace := [] }).2 = [1, 2, 3] := wN_eval.2

/-- It also applies with the two admissible defect switches on. -/
example : RanNodupFrom { failedTargetAbortsRun := true, oobRecordsDepsOnCaller := true } 7 wN [2, 3] true :=
  ran_nodup_of_wf _ rfl 7 wN [2, 3] true (wf_reachable {} 0 rulesN histN) (ovOK_reachable {} 0 rulesN histN) clean_wN


/-- A world with history: everything was built once, then the source 4 was edited. -/
def histN2 : List UserOp := histN ++ [.cmd (.ifchange [3] false), .write 4 1]

def wN2 : World := runOps {} 0 histN2 (initWorld rulesN)

example : WF wN2 := wf_reachable {} 0 rulesN histN2

theorem clean_wN2 : Clean wN2 := by
  refine clean_rulesN histN2 (by decide) ?_
  unfold histN2 histN rulesN
  rw [runOps_eq_foldl]
  eval_model

example : RanNodupFrom {} 0 wN2 [2, 3, 1] false :=
  ran_nodup_reachable {} {} rfl 0 0 rulesN histN2 [2, 3, 1] false clean_wN2

/-! ### An overridden file that was edited a second time -/

/-- 1 = `t` (11), 2 = `p` (12: `redo-ifchange t`), 3 = `q` (13: `redo-ifchange p`).  `t` is built, then
overwritten by hand and accepted as overridden; then it is edited by hand again. -/
def histO : List UserOp :=
  [ .setProg (srcContent 1) { },
    .setProg (srcContent 2) { ifchange := [[1]] },
    .setProg (srcContent 3) { ifchange := [[2]] },
    .write 11 1, .write 12 2, .write 13 3,
    .cmd (.ifchange [1] false),
    .write 1 7, .cmd (.ifchange [1] false),
    .write 1 8 ]

def wO : World := runOps {} 0 histO (initWorld rulesN)

/-- What is evaluated of `wO`: the record of `t`, that nothing is named like `//ALWAYS`, and the run. -/
theorem wO_eval :
    ((wO.recs 1).isOverride = true ∧ (wO.recs 1).stamp ≠ some (readStamp wO 1)) ∧
    (wO.fs alwaysId = none ∧ (wO.recs alwaysId).isGenerated = false) ∧
    ranList (runCmd {} 0 (.ifchange [2, 3] false) { wO with trace := [] }).2 = [3, 2] := by
  unfold wO histO rulesN
  rw [runOps_eq_foldl]
  eval_model

/-- The record of `t` is overridden and out of step with the file ... -/
theorem wO_out_of_step : (wO.recs 1).isOverride = true ∧ (wO.recs 1).stamp ≠ some (readStamp wO 1) := wO_eval.1

/-- ... and the world is clean all the same. -/
theorem clean_wO : Clean wO := clean_rulesN histO (by decide) wO_eval.2.1

example : RanNodupFrom {} 0 wO [2, 3] false :=
  ran_nodup_reachable {} {} rfl 0 0 rulesN histO [2, 3] false clean_wO

/-- The first request of `p` finds `t` dirty and rebuilds `p`; on the way `start_self` records the new stamp of `t`
(flag kept), so the second request of `p` finds everything clean.  Order of execution: p, q (the defect repaired
in /repo as 1e88355 made it p, q, p). -/
theorem override_edited_again_once :
    ranList (runCmd {} 0 (.ifchange [2, 3] false) { wO with trace := [] }).2 = [3, 2] := wO_eval.2.2

/-! ### An overridden file that vanished and was written again -/

/-- 1 = `t` (11), 2 = `p` (12: `redo-ifchange t`, later edited to declare nothing), 3 = `q` (13: `redo-ifchange t`),
4 = `r` (14: `redo-ifchange q`). -/
def rulesV : Nat → List Nat := fun t => if t = 1 ∨ t = 2 ∨ t = 3 ∨ t = 4 then [10 + t] else []

/-- `t` is built, overwritten by hand and accepted as overridden, `p` and `q` are brought up to date, then `t` is
removed; the check of `p` (whose .do no longer asks for `t`) turns the record of `t` into a source with failure
mark 0 — and, since the repair, without the override flag; then `t` is written by hand again. -/
def histV : List UserOp :=
  [ .setProg (srcContent 1) { },
    .setProg (srcContent 2) { ifchange := [[1]] },
    .setProg (srcContent 3) { ifchange := [[1]] },
    .setProg (srcContent 4) { ifchange := [[3]] },
    .setProg (srcContent 5) { },
    .write 11 1, .write 12 2, .write 13 3, .write 14 4,
    .cmd (.ifchange [1] false), .cmd (.ifchange [2] false),
    .write 1 7, .cmd (.ifchange [1] false), .cmd (.ifchange [2] false),
    .remove 1, .write 12 5, .cmd (.ifchange [2] false),
    .write 1 9 ]

def wV : World := runOps {} 0 histV (initWorld rulesV)

/-- What is evaluated of `wV`: the record of `t`, and the run. -/
theorem wV_eval :
    ((wV.recs 1).isOverride = false ∧ (wV.recs 1).isGenerated = false ∧ (wV.recs 1).failed = some 0) ∧
    ranList (runCmd {} 0 (.ifchange [3, 4] false) { wV with trace := [] }).2 = [4, 3] := by
  unfold wV histV rulesV
  rw [runOps_eq_foldl]
  eval_model

/-- The record of `t`: a plain source with failure mark 0 (with the defect repaired in /repo as 8b59377 the flag stayed,
`isOverride = true`, and `start_self` never touched the record again). -/
theorem wV_forgotten : (wV.recs 1).isOverride = false ∧ (wV.recs 1).isGenerated = false ∧
    (wV.recs 1).failed = some 0 := wV_eval.1

/-- `q` is rebuilt once (its source `t` changed), `r` once; the second request of `q` finds `t` repaired by
`start_self`.  Order of execution: q, r (with that defect: q, r, q). -/
theorem vanished_override_recreated_once :
    ranList (runCmd {} 0 (.ifchange [3, 4] false) { wV with trace := [] }).2 = [4, 3] := wV_eval.2

end Ex
end RedoModel.Deps.Once
