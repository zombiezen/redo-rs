import RedoModel.Lemmas.Once.DepsOnceScript
/-! `record_new_state` and `start_self`: the once-per-run proof. -/
namespace RedoModel.Deps.Once
open RedoModel.Deps
open RedoModel.Generated

variable {R : Nat} {cyc : List Nat}

/-- What the end of the script of `t` establishes. -/
structure LeavePost (R : Nat) (cyc : List Nat) (t : Nat) (w4 w5 : World) : Prop where
  inv : RInv R cyc w5
  settled : ∀ z, z ≠ t → Settled R (t :: cyc) w4 z → Settled R cyc w5 z
  done : ∀ z, z ∉ t :: cyc → Done R w4 z → Done R w5 z
  doneT : Done R w5 t
  rows : ∀ q ∈ cyc, ∀ row ∈ w5.deps, row.target = q → row ∈ w4.deps
  keeps : Keeps w4 w5

theorem leave_core {t : Nat} (ht : t ∉ cyc) {w4 wF : World} (hinv : RInv R (t :: cyc) w4)
    (hrecs : wF.recs = w4.recs) (hdeps : wF.deps = w4.deps) (hrules : wF.rules = w4.rules)
    (hprogs : wF.progs = w4.progs) (hrc : wF.runCounter = w4.runCounter) (htrace : wF.trace = w4.trace)
    (hfs : ∀ z, z ≠ t → wF.fs z = w4.fs z)
    (r5 : Rec) (hwf : WFrec R r5) (hov : r5.isOverride = true → isFailedR r5 R = true)
    (hdone : isFailedR r5 R = true ∨ OKrec R (readStamp wF t) r5)
    (hp1 : isCheckedR r5 R = true → r5.failed = none)
    (hK : OKrec R (readStamp wF t) r5 → K R (t :: cyc) w4 t) :
    LeavePost R cyc t w4 (setRec (zapDeps2 wF t) t r5) ∧
    (OKrec R (readStamp wF t) r5 → Settled R cyc (setRec (zapDeps2 wF t) t r5) t) := by
  have htr : w4.rules t ≠ [] := hinv.cy t (by simp)
  have ht0 : t ≠ alwaysId := fun e => htr (e ▸ hinv.hyg.r0)
  have hself : getRec (setRec (zapDeps2 wF t) t r5) R t = r5 := by
    rw [getRec_of_ne ht0]; simp [setRec]
  have hne : ∀ z, z ≠ t → getRec (setRec (zapDeps2 wF t) t r5) R z = getRec w4 R z := by
    intro z hz
    rw [getRec_setRec_ne _ _ _ _ _ hz]
    exact getRec_congr (by show wF.recs z = w4.recs z; rw [hrecs])
  have hrs : ∀ z, z ≠ t → readStamp (setRec (zapDeps2 wF t) t r5) z = readStamp w4 z :=
    fun z hz => readStamp_congr (hfs z hz)
  have hrst : readStamp (setRec (zapDeps2 wF t) t r5) t = readStamp wF t := rfl
  have hex : ∀ z, z ≠ t → existsF (setRec (zapDeps2 wF t) t r5) z = existsF w4 z :=
    fun z hz => existsF_congr (hfs z hz)
  have hmem : ∀ row, row ∈ (setRec (zapDeps2 wF t) t r5).deps → row ∈ w4.deps ∧ ¬ (row.target = t ∧ row.deleteMe = true) := by
    intro row hrow
    have hrow' : row ∈ (wF.deps.filter (fun d => !(d.target = t && d.deleteMe))) := hrow
    rw [List.mem_filter, hdeps] at hrow'
    refine ⟨hrow'.1, ?_⟩
    rintro ⟨a, b⟩
    simp [a, b] at hrow'
  have hV0 : ∀ z, z ≠ t → (V0 R (setRec (zapDeps2 wF t) t r5) z ↔ V0 R w4 z) := by
    intro z hz
    unfold V0
    rw [hne z hz, hrs z hz]
  have hVt : V0 R (setRec (zapDeps2 wF t) t r5) t ↔ OKrec R (readStamp wF t) r5 := by
    unfold V0
    rw [hself, hrst]
  have hsettled : ∀ z, z ≠ t → Settled R (t :: cyc) w4 z → Settled R cyc (setRec (zapDeps2 wF t) t r5) z := by
    intro z hz hs
    refine ⟨(hV0 z hz).2 hs.1, fun hc => ?_⟩
    rw [hne z hz]
    exact hs.2 (List.mem_cons_of_mem _ hc)
  have hdoneZ : ∀ z, z ≠ t → Done R w4 z → Done R (setRec (zapDeps2 wF t) t r5) z := by
    intro z hz hd
    unfold Done at hd ⊢
    rw [hne z hz, hV0 z hz]
    exact hd
  have hdoneT : Done R (setRec (zapDeps2 wF t) t r5) t := by
    unfold Done
    rw [hself, hVt]
    exact hdone
  have hgood : ∀ row, GoodRow R (t :: cyc) w4 row → GoodRow R cyc (setRec (zapDeps2 wF t) t r5) row := by
    intro row hg
    refine ⟨fun hm => ?_, fun hm => ?_⟩
    · obtain ⟨hs, hnc⟩ := hg.1 hm
      have hst : row.source ≠ t := fun e => hnc (e ▸ List.mem_cons_self)
      exact ⟨hsettled _ hst hs, fun hc => hnc (List.mem_cons_of_mem _ hc)⟩
    · obtain ⟨he, hr⟩ := hg.2 hm
      have hst : row.source ≠ t := fun e => htr (e ▸ hr)
      refine ⟨by rw [hex _ hst]; exact he, ?_⟩
      show wF.rules row.source = []
      rw [hrules]; exact hr
  have hkeeps : Keeps w4 (setRec (zapDeps2 wF t) t r5) :=
    ⟨hrc, hrules, hprogs, fun z hz => hfs z fun e => htr (e ▸ hz)⟩
  refine ⟨⟨⟨⟨?_, ?_, ?_, ?_, ?_⟩, ?_, ?_, ?_, ?_, ?_, ?_, ?_⟩, hsettled, ?_, hdoneT, ?_, ?_⟩, ?_⟩
  · exact WFR.setRec (hinv.d.wf.of_recs (by show wF.recs = w4.recs; exact hrecs)) t hwf
  · -- J
    intro y hy hV hck hg ho row hrow hty
    obtain ⟨hrow4, hnd⟩ := hmem row hrow
    by_cases hyt : y = t
    · subst hyt
      have hdm : row.deleteMe = false := by
        cases hd : row.deleteMe with
        | false => rfl
        | true => exact absurd ⟨hty, hd⟩ hnd
      exact hgood row (hK (hVt.1 hV) row hrow4 hty hdm)
    · rw [hne y hyt] at hck hg ho
      have hy' : y ∉ t :: cyc := List.not_mem_cons_of_ne_of_not_mem hyt hy
      exact hgood row (hinv.d.j y hy' ((hV0 y hyt).1 hV) hck hg ho row hrow4 hty)
  · -- OV
    intro z hz hexz
    by_cases hzt : z = t
    · subst hzt; rw [hself] at hz ⊢; exact .inl (hov hz)
    · rw [hne z hzt] at hz ⊢
      rw [hrs z hzt]
      rw [hex z hzt] at hexz
      exact hinv.d.ov z hz hexz
  · intro z hz
    by_cases hzt : z = t
    · subst hzt; rw [hself] at hz ⊢; exact hp1 hz
    · rw [hne z hzt] at hz ⊢; exact hinv.d.p1 z hz
  · intro z hzc hz
    have hzt : z ≠ t := fun e => ht (e ▸ hzc)
    rw [hne z hzt] at hz ⊢
    exact hinv.d.p2 z (List.mem_cons_of_mem _ hzc) hz
  · exact hinv.hyg.of_keeps hkeeps
  · show wF.fs alwaysId = none
    rw [hfs _ (fun e => ht0 e.symm)]; exact hinv.f0
  · show ((setRec (zapDeps2 wF t) t r5).recs alwaysId).isGenerated = false
    have : (setRec (zapDeps2 wF t) t r5).recs alwaysId = w4.recs alwaysId := by
      simp only [setRec]
      rw [if_neg (fun e => ht0 e.symm)]
      show wF.recs alwaysId = _
      rw [hrecs]
    rw [this]; exact hinv.g0
  · intro q hq
    show wF.rules q ≠ []
    rw [hrules]; exact hinv.cy q (List.mem_cons_of_mem _ hq)
  · have hran : ranList (setRec (zapDeps2 wF t) t r5) = ranList w4 := ranList_congr htrace
    rw [hran]
    intro z hz
    by_cases hzt : z = t
    · subst hzt; exact .inr hdoneT
    · rcases hinv.i1 z hz with h | h
      · rcases List.mem_cons.1 h with e | h
        · exact absurd e hzt
        · exact .inl h
      · exact .inr (hdoneZ z hzt h)
  · have hran : ranList (setRec (zapDeps2 wF t) t r5) = ranList w4 := ranList_congr htrace
    rw [hran]; exact hinv.nd
  · intro z hz hzc hch
    by_cases hzt : z = t
    · subst hzt; exact hdoneT
    · rw [hne z hzt] at hch
      have hz' : w4.rules z ≠ [] := by rw [← hrules]; exact hz
      have hzc' : z ∉ t :: cyc := List.not_mem_cons_of_ne_of_not_mem hzt hzc
      exact hdoneZ z hzt (hinv.p3 z hz' hzc' hch)
  · intro z hz hd
    have hzt : z ≠ t := fun e => hz (e ▸ List.mem_cons_self)
    exact hdoneZ z hzt hd
  · intro q _ row hrow _
    exact (hmem row hrow).1
  · exact hkeeps
  · intro hok
    exact ⟨hVt.2 hok, fun h => absurd h ht⟩

/-- The record written after a successful script. -/
theorem success_rec {t : Nat} {w4 wF : World} (hinv : RInv R (t :: cyc) w4) (hrecs : wF.recs = w4.recs) :
    (builtRec wF t R).isOverride = false ∧ OKrec R (readStamp wF t) (builtRec wF t R) ∧
    (isCheckedR (builtRec wF t R) R = true → (builtRec wF t R).failed = none) := by
  have htr : w4.rules t ≠ [] := hinv.cy t (by simp)
  have ht0 : t ≠ alwaysId := fun e => htr (e ▸ hinv.hyg.r0)
  have hg : getRec w4 R t = wF.recs t := by rw [getRec_of_ne ht0, hrecs]
  have hwf : WFrec R (wF.recs t) := by rw [hrecs]; exact hinv.d.wf t
  obtain ⟨w1, _, _, w4'⟩ := hwf
  unfold builtRec
  dsimp only
  by_cases hc : (isCheckedR { (wF.recs t) with isGenerated := true, isOverride := false } R ||
      isChangedR { (wF.recs t) with isGenerated := true, isOverride := false } R) = true
  · rw [if_pos hc]
    have hck : isCheckedR (wF.recs t) R = true ∨ isChangedR (wF.recs t) R = true := by
      simpa [isCheckedR, isChangedR] using hc
    have hfail : (wF.recs t).failed = none := by
      rcases hck with h | h
      · have := hinv.d.p1 t (by rw [hg]; exact h)
        rw [hg] at this; exact this
      · have hch : (wF.recs t).changed = some R := by
          simp only [isChangedR] at h
          cases hcc : (wF.recs t).changed with
          | none => rw [hcc] at h; cases h
          | some c =>
            rw [hcc] at h
            have := w1 c hcc
            simp at h
            have : c = R := by omega
            rw [this]
        have := hinv.d.p2 t (by simp) (by rw [hg]; exact hch)
        rw [hg] at this; exact this
    have hchs : ∃ c, (wF.recs t).changed = some c ∧ c ≤ R := by
      cases hcc : (wF.recs t).changed with
      | none =>
        exfalso
        have h4 := w4' hcc
        rcases hck with h | h
        · simp [isCheckedR, h4.2.1] at h
        · simp [isChangedR, hcc] at h
      | some c => exact ⟨c, rfl, w1 c hcc⟩
    obtain ⟨c, hcc, hcR⟩ := hchs
    refine ⟨rfl, ⟨hfail, c, hcc, hcR, ?_⟩, fun _ => hfail⟩
    rcases hck with h | h
    · left; simpa [isCheckedR] using h
    · right
      refine ⟨rfl, .inr (.inr ?_)⟩
      simp only [isChangedR, hcc] at h
      simp at h
      omega
  · rw [if_neg hc]
    refine ⟨rfl, ⟨rfl, R, rfl, Nat.le_refl _, .inr ⟨?_, .inr (.inr rfl)⟩⟩, fun _ => rfl⟩
    exact updateStamp_stamp _ _ _ _

theorem setFailed_props (hR : 0 < R) (w : World) (t : Nat) (sf : Rec)
    (hck : isCheckedR sf R = false) :
    (setFailed w t sf R).failed = some R ∧
    isCheckedR (setFailed w t sf R) R = false ∧ (setFailed w t sf R).stamp = some (readStamp w t) ∧
    isFailedR (setFailed w t sf R) R = true := by
  have h1 : isCheckedR (updateStamp w t sf R) R = false := by
    unfold updateStamp
    simp only
    split
    · exact hck
    · simpa [isCheckedR, setChanged] using hck
  refine ⟨rfl, ?_, updateStamp_stamp _ _ _ _, isFailedR_self hR rfl⟩
  simpa [isCheckedR, setFailed] using h1

theorem recordNewState_spec (hR : 0 < R) (cx : Ctx) (hRid : cx.runid = R) {t : Nat} (ht : t ∉ cyc) {w4 : World}
    (hinv : RInv R (t :: cyc) w4) (sf : Rec) (hsf : WFrec R sf)
    (hck : isCheckedR sf R = false) (rv : Status) (out : Option Content) (hK : rv = 0 → K R (t :: cyc) w4 t) :
    (recordNewState cx t sf rv out w4).1 = rv ∧
    LeavePost R cyc t w4 (recordNewState cx t sf rv out w4).2 ∧
    (rv = 0 → Settled R cyc (recordNewState cx t sf rv out w4).2 t) := by
  have htr : w4.rules t ≠ [] := hinv.cy t (by simp)
  unfold recordNewState
  simp only
  rw [hRid]
  by_cases hrv : rv = 0
  · rw [if_pos hrv]
    have key : ∀ wF : World, wF.recs = w4.recs → wF.deps = w4.deps → wF.rules = w4.rules → wF.progs = w4.progs →
        wF.runCounter = w4.runCounter → wF.trace = w4.trace → (∀ z, z ≠ t → wF.fs z = w4.fs z) →
        LeavePost R cyc t w4 (setRec (zapDeps2 wF t) t (builtRec wF t R)) ∧
          Settled R cyc (setRec (zapDeps2 wF t) t (builtRec wF t R)) t := by
      intro wF h1 h2 h3 h4 h5 h6 h7
      obtain ⟨a2, a3, a4⟩ := success_rec hinv h1
      obtain ⟨b1, b2⟩ := leave_core ht hinv h1 h2 h3 h4 h5 h6 h7 _ (WFrec.built (hinv.d.wf.of_recs h1) t)
        (fun h => by rw [a2] at h; cases h) (.inr a3) a4 (fun _ => hK hrv)
      exact ⟨b1, b2 a3⟩
    have hsf' : ∀ (n : Option FNode) (w' : World), w'.fs = w4.fs → ∀ z, z ≠ t → (setFile w' t n).fs z = w4.fs z := by
      intro n w' e z hz
      simp [setFile, hz, e]
    cases out with
    | some c =>
      obtain ⟨k1, k2⟩ := key (setFile (newNode w4 c).2 t (some (newNode w4 c).1)) rfl rfl rfl rfl rfl rfl
        (hsf' _ _ rfl)
      exact ⟨hrv.symm, k1, fun _ => k2⟩
    | none =>
      obtain ⟨k1, k2⟩ := key (setFile w4 t none) rfl rfl rfl rfl rfl rfl (hsf' _ _ rfl)
      exact ⟨hrv.symm, k1, fun _ => k2⟩
  · rw [if_neg hrv]
    obtain ⟨f1, f3, f4, f5⟩ := setFailed_props hR w4 t sf hck
    obtain ⟨b1, _⟩ := leave_core ht hinv (wF := w4) rfl rfl rfl rfl rfl rfl (fun _ _ => rfl)
      (setFailed w4 t sf R) (hsf.setFailed _ _) (fun _ => f5) (.inl f5)
      (fun h => by rw [f3] at h; cases h)
      (fun h => by rw [h.1] at f1; cases f1)
    exact ⟨rfl, b1, fun h => absurd h hrv⟩

/-- What a job on `t` guarantees. -/
structure JobPost (R : Nat) (cyc : List Nat) (t : Nat) (w : World) (res : Status × World) : Prop where
  inv : RInv R cyc res.2
  step : RStep R cyc noAdd w res.2
  done : Done R res.2 t
  ok : res.1 = 0 → Settled R cyc res.2 t
  ne : res.1 ≠ CRASHED

theorem JobPost.after {t : Nat} {w0 w : World} {res : Status × World} (h0 : RStep R cyc noAdd w0 w)
    (h : JobPost R cyc t w res) : JobPost R cyc t w0 res :=
  { h with step := h0.trans h.step }

theorem Open.setRec_ne {w : World} {t f : Nat} (ho : Open R w t) (hne : t ≠ f) (r : Rec) : Open R (setRec w f r) t := by
  unfold Open V0 at ho ⊢
  rw [getRec_setRec_ne _ _ _ _ _ hne]
  exact ho

theorem RInv.evWarn {w : World} (hinv : RInv R cyc w) (t : Nat) : RInv R cyc (ev w (.warnOverride t)) where
  d := ⟨hinv.d.wf.of_recs rfl, hinv.d.j, hinv.d.ov, hinv.d.p1, hinv.d.p2⟩
  hyg := ⟨hinv.hyg.r0, hinv.hyg.dofiles, hinv.hyg.scripts⟩
  f0 := hinv.f0
  g0 := hinv.g0
  cy := hinv.cy
  i1 := by rw [ranList_ev_warn]; exact hinv.i1
  nd := by rw [ranList_ev_warn]; exact hinv.nd
  p3 := hinv.p3

theorem RStep.evWarn (w : World) (t : Nat) : RStep R cyc noAdd w (ev w (.warnOverride t)) :=
  ⟨fun _ h => h, fun _ _ h => h, fun _ _ _ h _ => .inl h, ⟨rfl, rfl, rfl, fun _ _ => rfl⟩⟩

/-- From the chosen .do file to the recorded result. -/
theorem script_phase (hR : 0 < R) {E : Engine} (hE : ESpec R E) (d : Defects) (cx : Ctx) (hRid : cx.runid = R)
    (hcr : cx.crash = none) (hcyc : ∀ x ∈ cyc, x ∈ cx.cycles) {t : Nat} (ht : t ∉ cyc) (sf : Rec) (hsf : WFrec R sf)
    (hck : isCheckedR sf R = false) (w3 : World) (dof : Nat)
    (hinv : RInv R cyc w3) (ho : Open R w3 t) (hdr : dof ∈ w3.rules t)
    (hrows : ∀ row ∈ w3.deps, row.target = t → row.deleteMe = false →
      GoodRow R cyc w3 row ∨ (row.modeM = true ∧ row.source = dof))
    (sc : Script) (hsc : ∀ f, (f ∈ sc.ifcreate ∨ f ∈ sc.cond) → w3.rules f = []) :
    JobPost R cyc t w3 (ssRun E d cx t sf sc (ev (setRec w3 dof (setStatic w3 dof (w3.recs dof) R)) (.ran t))) := by
  have htr : w3.rules t ≠ [] := by intro e; rw [e] at hdr; cases hdr
  have hdof0 : w3.rules dof = [] := hinv.hyg.dofiles t dof hdr
  have hdc : dof ∉ cyc := fun h => hinv.cy dof h hdof0
  have hdt : t ≠ dof := fun e => htr (e ▸ hdof0)
  -- the .do file becomes a source
  have hstamp : (setStatic w3 dof (w3.recs dof) R).stamp = some (readStamp w3 dof) := updateStamp_stamp _ _ _ _
  obtain ⟨a1, a2, a3⟩ := hinv.settleWrite dof hdc (setStatic w3 dof (w3.recs dof) R)
    ((hinv.d.wf dof).setStatic _ _) rfl hstamp (.inl rfl) (fun _ => rfl)
  have ho4 : Open R (setRec w3 dof (setStatic w3 dof (w3.recs dof) R)) t := ho.setRec_ne hdt _
  have hK4 : K R cyc (setRec w3 dof (setStatic w3 dof (w3.recs dof) R)) t := by
    intro row hrow htg hdm
    rcases hrows row hrow htg hdm with h | h
    · exact a2.goodRow h
    · refine ⟨fun _ => ?_, fun hm => by rw [h.1] at hm; cases hm⟩
      rw [h.2]; exact ⟨a3, hdc⟩
  -- the script starts
  have b1 := a1.enter ht ho4 htr
  have hK5 : K R (t :: cyc) (ev (setRec w3 dof (setStatic w3 dof (w3.recs dof) R)) (.ran t)) t := by
    intro row hrow htg hdm
    exact (hK4 row hrow htg hdm).enter ho4.1
  have hs := runScript_spec hR hE d cx hRid hcr hcyc t sc
    (ev (setRec w3 dof (setStatic w3 dof (w3.recs dof) R)) (.ran t)) hsc b1 hK5
  unfold ssRun
  generalize runScript E d cx t sc _ = r at hs ⊢
  obtain ⟨rv, out, w6⟩ := r
  obtain ⟨c1, c2, c3, c4⟩ := hs
  dsimp only at c1 c2 c3 c4 ⊢
  obtain ⟨e1, e2, e3⟩ := recordNewState_spec hR cx hRid ht c1 sf hsf hck rv out c3
  rw [if_neg c4]
  refine ⟨e2.inv, ⟨?_, ?_, ?_, ?_⟩, e2.doneT, ?_, ?_⟩
  · intro z hz
    have h4 := a2.settled z hz
    have hzt : z ≠ t := fun e => ho4.1 (e ▸ h4.1)
    exact e2.settled z hzt (c2.settled z (h4.enter ho4.1))
  · intro z hzc hz
    have h4 := a2.done z hzc hz
    have hzt : z ≠ t := fun e => ho4.not_done (e ▸ h4)
    have hzc' : z ∉ t :: cyc := List.not_mem_cons_of_ne_of_not_mem hzt hzc
    exact e2.done z hzc' (c2.done z hzc' h4)
  · intro q hq row hrow htg
    have h6 := e2.rows q hq row hrow htg
    rcases c2.rows q (List.mem_cons_of_mem _ hq) row h6 htg with h | h
    · exact .inl h
    · exact absurd (h ▸ hq) ht
  · exact a2.keeps.trans ((Keeps.of_eq (Keeps.refl _) rfl rfl rfl rfl).trans (c2.keeps.trans e2.keeps))
  · rw [e1]; exact e3
  · rw [e1]; exact c4

theorem Open.rowEq' {w w' : World} {t : Nat} (ho : Open R w t) (h : RowEq w w') : Open R w' t := ho.rowEq h

/-- The files a script found at a .do file names in `redo-ifcreate`, or tests before declaring them, have no build rule. -/
theorem Hyg.scriptAt {w : World} (h : Hyg w) (o : Option FNode) (f : Nat)
    (hf : f ∈ (match o with | some n => (w.progs n.content).getD {} | none => {}).ifcreate ∨
      f ∈ (match o with | some n => (w.progs n.content).getD {} | none => {}).cond) : w.rules f = [] := by
  cases o with
  | none => simp at hf
  | some n =>
    cases hp : w.progs n.content with
    | none => simp [hp] at hf
    | some sc => exact h.scripts _ sc hp f (by simpa [hp] using hf)

/-- The part of `start_self` that looks for a .do file, on an open target. -/
theorem ssBuild_spec (hR : 0 < R) {E : Engine} (hE : ESpec R E) (d : Defects) (cx : Ctx) (hRid : cx.runid = R)
    (hcr : cx.crash = none) (hcyc : ∀ x ∈ cyc, x ∈ cx.cycles) {t : Nat} (ht : t ∉ cyc) (sf : Rec) (hsf : WFrec R sf)
    (hck : isCheckedR sf R = false) (w1 : World) (hinv : RInv R cyc w1) (ho : Open R w1 t) :
    JobPost R cyc t w1 (ssBuild E d cx t sf w1) := by
  subst hRid
  rw [ssBuild_eq]
  obtain ⟨z1, z2, z3⟩ := hinv.zapDeps1 t ht ho.1
  have hoz : Open cx.runid (zapDeps1 w1 t) t := ho.rowEq (RowEq.zapDeps1 w1 t)
  have hfd := findDoFile_spec (R := cx.runid) (cyc := cyc) ht ((zapDeps1 w1 t).rules t) (zapDeps1 w1 t) z1 hoz.1
    (fun c hc => z1.hyg.dofiles t c hc) z3
  have hne := findDoFile_some_mem t ((zapDeps1 w1 t).rules t) (zapDeps1 w1 t)
  generalize findDoFile t ((zapDeps1 w1 t).rules t) (zapDeps1 w1 t) = res at hfd hne
  obtain ⟨o, w3⟩ := res
  obtain ⟨f1, f2, f3, f4⟩ := hfd
  have ho3 : Open cx.runid w3 t := hoz.rowEq f3
  cases o with
  | none =>
    dsimp only
    split
    · -- no .do file, the file exists: a source
      obtain ⟨a1, a2, a3⟩ := f1.settleWrite t ht (setStatic w3 t sf cx.runid) (hsf.setStatic _ _) rfl
        (updateStamp_stamp _ _ _ _) (.inl rfl) (fun _ => rfl)
      exact ⟨a1, z2.trans (f2.trans a2), .inr a3.1, fun _ => a3, zero_ne_crashed⟩
    · -- no .do file, no file: the target fails
      rename_i hex
      replace hex : existsF w3 t = false := by simpa using hex
      obtain ⟨p1, p3, p4, p5⟩ := setFailed_props (R := cx.runid) hR w3 t sf hck
      have hg0 : t = alwaysId → (setFailed w3 t sf cx.runid).isGenerated = false := by
        intro _
        show ((updateStamp w3 t sf cx.runid).stamp != some DStamp.missing) = false
        rw [updateStamp_stamp]
        rw [readStamp_missing.2 (existsF_eq_false.1 hex)]; rfl
      obtain ⟨a1, a2, a3⟩ := f1.failWrite hR t ht ho3 (setFailed w3 t sf cx.runid) (hsf.setFailed _ _) p1 p3 hg0
      exact ⟨a1, z2.trans (f2.trans a2), a3, fun h => absurd (show (1 : Int) = 0 from h) (by decide),
        one_ne_crashed⟩
  | some dof =>
    exact (script_phase hR hE d cx rfl hcr hcyc ht sf hsf hck w3 dof f1 ho3
      (by rw [f3.rules]; exact (hne dof rfl).1)
      (fun row hrow htg hdm => (f4 row hrow htg hdm).imp id fun h => ⟨h.1, (Option.some.inj h.2).symm⟩)
      _ (fun f hf => f1.hyg.scriptAt (w3.fs dof) f hf)).after (z2.trans f2)

theorem startSelf_spec (hR : 0 < R) {E : Engine} (hE : ESpec R E) (d : Defects) (cx : Ctx) (hRid : cx.runid = R)
    (hcr : cx.crash = none) (hcyc : ∀ x ∈ cyc, x ∈ cx.cycles) {t : Nat} (ht : t ∉ cyc) (sf0 : Rec) (hsf : WFrec R sf0)
    (w1 : World) (hov0 : sf0.isOverride = true → existsF w1 t = true → sf0.isGenerated = true)
    (hck0 : isCheckedR sf0 R = false) (hinv : RInv R cyc w1)
    (ho : Open R w1 t) : JobPost R cyc t w1 (startSelf E d cx t sf0 w1) := by
  subst hRid
  rw [startSelf_eq]
  fun_cases ssGuard cx t sf0 w1 with
  | case1 hb wE sfE =>
    -- the file was modified by hand (maybe once more): it becomes or stays overridden, with its new stamp
    dsimp only [sfE, wE]
    have hns : (readStamp w1 t != .missing) = true := by
      simp only [Bool.and_eq_true] at hb; exact hb.1.2
    have hex : existsF w1 t = true := existsF_of_readStamp_ne hns
    have ht0 : t ≠ alwaysId := by
      intro e
      rw [e] at hex
      simp [existsF, hinv.f0] at hex
    obtain ⟨a1, a2, a3⟩ := (hinv.evWarn t).settleWrite t ht (setOverride (ev w1 (.warnOverride t)) t sf0 cx.runid)
      (hsf.setOverride _ _) rfl (updateStamp_stamp _ _ _ _) (.inr rfl) (fun e => absurd e ht0)
    obtain ⟨b1, b2, b3⟩ := a1.settleWrite t ht (setOverride (ev w1 (.warnOverride t)) t sf0 cx.runid)
      (hsf.setOverride _ _) rfl (updateStamp_stamp _ _ _ _) (.inr rfl) (fun e => absurd e ht0)
    have hcond : (existsF (setRec (ev w1 (.warnOverride t)) t (setOverride (ev w1 (.warnOverride t)) t sf0 cx.runid)) t &&
        ((setOverride (ev w1 (.warnOverride t)) t sf0 cx.runid).isOverride ||
          !(setOverride (ev w1 (.warnOverride t)) t sf0 cx.runid).isGenerated)) = true := by
      have : existsF (setRec (ev w1 (.warnOverride t)) t (setOverride (ev w1 (.warnOverride t)) t sf0 cx.runid)) t = true := hex
      rw [this]; rfl
    rw [if_pos hcond]
    exact ⟨b1, (RStep.evWarn w1 t).trans (a2.trans b2), .inr b3.1, fun _ => b3, zero_ne_crashed⟩
  | case2 hb =>
    dsimp only
    -- an overridden copy that gets here belongs to a file that has disappeared
    have hovex : sf0.isOverride = true → existsF w1 t = false := by
      intro ho'
      cases hex : existsF w1 t with
      | false => rfl
      | true =>
        exfalso
        have hg := hov0 ho' hex
        have hns : (readStamp w1 t != .missing) = true := bne_iff_ne.2 (readStamp_ne_missing hex)
        rw [hg, hns, ho'] at hb
        simp at hb
    split
    · -- an existing file that is not redo's
      rename_i hst
      have hov' : sf0.isOverride = false := by
        cases ho' : sf0.isOverride with
        | false => rfl
        | true => rw [hovex ho'] at hst; simp at hst
      simp only [hov', Bool.not_false, if_true]
      obtain ⟨a1, a2, a3⟩ := hinv.settleWrite t ht (setStatic w1 t sf0 cx.runid) (hsf.setStatic _ _) rfl
        (updateStamp_stamp _ _ _ _) (.inl rfl) (fun _ => rfl)
      exact ⟨a1, a2, .inr a3.1, fun _ => a3, zero_ne_crashed⟩
    · exact ssBuild_spec hR hE d cx rfl hcr hcyc ht sf0 hsf hck0 w1 hinv ho

end RedoModel.Deps.Once
