import RedoModel.Lemmas.Once.DepsOnceDirty
/-! Run-level invariant of the once-per-run proof and what the elementary updates do to it. -/
namespace RedoModel.Deps.Once
open RedoModel.Deps

/-- Hygiene of the project: the `//ALWAYS` pseudo file, .do candidates and the files named in
`redo-ifcreate` (or tested before being declared) have no build rule. -/
structure Hyg (w : World) : Prop where
  r0 : w.rules alwaysId = []
  dofiles : ∀ t c, c ∈ w.rules t → w.rules c = []
  scripts : ∀ c sc, w.progs c = some sc → ∀ f, (f ∈ sc.ifcreate ∨ f ∈ sc.cond) → w.rules f = []

structure RInv (R : Nat) (cyc : List Nat) (w : World) : Prop where
  d : DInv R cyc w
  hyg : Hyg w
  f0 : w.fs alwaysId = none
  g0 : (w.recs alwaysId).isGenerated = false
  cy : ∀ q ∈ cyc, w.rules q ≠ []
  i1 : ∀ t ∈ ranList w, t ∈ cyc ∨ Done R w t
  nd : (ranList w).Nodup
  /-- a target with a build rule that is not running and carries `changed = R` is done -/
  p3 : ∀ z, w.rules z ≠ [] → z ∉ cyc → (getRec w R z).changed = some R → Done R w z

structure RStep (R : Nat) (cyc : List Nat) (add : Nat → Dep → Prop) (w w' : World) : Prop where
  settled : ∀ z, Settled R cyc w z → Settled R cyc w' z
  done : ∀ z, z ∉ cyc → Done R w z → Done R w' z
  rows : ∀ q ∈ cyc, ∀ row ∈ w'.deps, row.target = q → row ∈ w.deps ∨ add q row
  keeps : Keeps w w'

def noAdd : Nat → Dep → Prop := fun _ _ => False

variable {R : Nat} {cyc : List Nat}

theorem RStep.refl (add : Nat → Dep → Prop) (w : World) : RStep R cyc add w w :=
  ⟨fun _ h => h, fun _ _ h => h, fun _ _ _ h _ => .inl h, Keeps.refl w⟩

theorem RStep.trans {add : Nat → Dep → Prop} {a b c : World} (h1 : RStep R cyc add a b) (h2 : RStep R cyc add b c) :
    RStep R cyc add a c where
  settled := fun z h => h2.settled z (h1.settled z h)
  done := fun z hz h => h2.done z hz (h1.done z hz h)
  rows := fun q hq row hrow ht => by
    rcases h2.rows q hq row hrow ht with h | h
    · exact h1.rows q hq row h ht
    · exact .inr h
  keeps := h1.keeps.trans h2.keeps

theorem RStep.mono {add add' : Nat → Dep → Prop} {a b : World} (h : RStep R cyc add a b)
    (ha : ∀ q row, add q row → add' q row) : RStep R cyc add' a b :=
  { h with rows := fun q hq row hrow ht => (h.rows q hq row hrow ht).imp id (ha q row) }

theorem RStep.ofNoAdd {add : Nat → Dep → Prop} {a b : World} (h : RStep R cyc noAdd a b) : RStep R cyc add a b :=
  h.mono (fun _ _ h => h.elim)

theorem RStep.ofDStep {seen : List Nat} {w w' : World} (h : DStep R cyc seen w w') : RStep R cyc noAdd w w' where
  settled := h.settled
  done := fun z hz hd => by
    rcases hd with hd | hd
    · left; rw [h.failedR]; exact hd
    · right; exact (h.settled z ⟨hd, fun hc => absurd hc hz⟩).1
  rows := fun q _ row hrow _ => by rw [h.same.2.1] at hrow; exact .inl hrow
  keeps := (Keeps.refl w).of_same h.same

theorem Hyg.of_keeps {w w' : World} (h : Hyg w) (k : Keeps w w') : Hyg w' := by
  obtain ⟨_, k2, k3, _⟩ := k
  refine ⟨?_, ?_, ?_⟩
  · rw [k2]; exact h.r0
  · rw [k2]; exact h.dofiles
  · rw [k2, k3]; exact h.scripts

theorem RInv.ofDStep {seen : List Nat} {w w' : World} (hinv : RInv R cyc w) (h : DStep R cyc seen w w')
    (hd : DInv R cyc w') : RInv R cyc w' where
  d := hd
  hyg := hinv.hyg.of_keeps (RStep.ofDStep h).keeps
  f0 := by rw [h.same.1]; exact hinv.f0
  g0 := by
    have := h.genF alwaysId (by rw [getRec_isGenerated]; exact hinv.g0)
    rw [getRec_isGenerated] at this; exact this
  cy := by rw [h.same.2.2.2.2.2.2]; exact hinv.cy
  i1 := by
    rw [h.ran]
    intro t ht
    rcases hinv.i1 t ht with hc | hdn
    · exact .inl hc
    · by_cases hc : t ∈ cyc
      · exact .inl hc
      · exact .inr ((RStep.ofDStep h).done t hc hdn)
  nd := by rw [h.ran]; exact hinv.nd
  p3 := by
    intro z hz hzc hch
    rw [h.same.2.2.2.2.2.2] at hz
    rw [h.changed] at hch
    exact (RStep.ofDStep h).done z hzc (hinv.p3 z hz hzc hch)

/-! ### updates that touch no record field but `row`, and dependency rows of unverified or running targets -/

/-- `w'` is `w` up to row ids, dependency rows and the row counter. -/
structure RowEq (w w' : World) : Prop where
  recs : ∀ z, ∃ n, w'.recs z = { (w.recs z) with row := n }
  fs : w'.fs = w.fs
  rules : w'.rules = w.rules
  progs : w'.progs = w.progs
  trace : w'.trace = w.trace
  rc : w'.runCounter = w.runCounter

theorem RowEq.refl (w : World) : RowEq w w := ⟨fun z => ⟨(w.recs z).row, rfl⟩, rfl, rfl, rfl, rfl, rfl⟩

theorem RowEq.trans {a b c : World} (h1 : RowEq a b) (h2 : RowEq b c) : RowEq a c where
  recs := fun z => by
    obtain ⟨n, hn⟩ := h1.recs z
    obtain ⟨m, hm⟩ := h2.recs z
    exact ⟨m, by rw [hm, hn]⟩
  fs := h2.fs.trans h1.fs
  rules := h2.rules.trans h1.rules
  progs := h2.progs.trans h1.progs
  trace := h2.trace.trans h1.trace
  rc := h2.rc.trans h1.rc

theorem RowEq.getRec' {w w' : World} (h : RowEq w w') (R z : Nat) :
    ∃ n, Deps.getRec w' R z = { (Deps.getRec w R z) with row := n } := by
  obtain ⟨n, hn⟩ := h.recs z
  refine ⟨n, ?_⟩
  unfold Deps.getRec
  simp only [hn]
  split <;> rfl

theorem RowEq.keeps {w w' : World} (h : RowEq w w') : Keeps w w' :=
  ⟨h.rc, h.rules, h.progs, fun z _ => by rw [h.fs]⟩

theorem RowEq.v0 {w w' : World} (h : RowEq w w') (z : Nat) : V0 R w' z ↔ V0 R w z := by
  obtain ⟨n, hn⟩ := h.getRec' R z
  unfold V0
  rw [hn, readStamp_congr (congrFun h.fs _)]
  exact Iff.rfl

theorem RowEq.checked {w w' : World} (h : RowEq w w') (z : Nat) :
    isCheckedR (getRec w' R z) R = isCheckedR (getRec w R z) R := by
  obtain ⟨n, hn⟩ := h.getRec' R z
  rw [hn]; rfl

theorem RowEq.settled {w w' : World} (h : RowEq w w') (z : Nat) : Settled R cyc w' z ↔ Settled R cyc w z := by
  unfold Settled
  rw [h.v0, h.checked]

theorem RowEq.done {w w' : World} (h : RowEq w w') (z : Nat) : Done R w' z ↔ Done R w z := by
  obtain ⟨n, hn⟩ := h.getRec' R z
  unfold Done
  rw [h.v0, hn]
  exact Iff.rfl

theorem RowEq.goodRow {w w' : World} (h : RowEq w w') (row : Dep) : GoodRow R cyc w' row ↔ GoodRow R cyc w row := by
  unfold GoodRow
  rw [h.settled, existsF_congr (congrFun h.fs _), h.rules]

theorem RowEq.wfr {w w' : World} (h : RowEq w w') (hw : WFR R w) : WFR R w' := by
  intro z
  obtain ⟨n, hn⟩ := h.recs z
  rw [hn]
  exact (hw z).row n

/-- Updating dependency rows (of targets that are running or not verified) and row ids. -/
theorem RInv.depsUpdate {add : Nat → Dep → Prop} {w w' : World} (hinv : RInv R cyc w) (h : RowEq w w')
    (hdeps : ∀ y, y ∉ cyc → V0 R w y → ∀ row ∈ w'.deps, row.target = y → row ∈ w.deps)
    (hrows : ∀ q ∈ cyc, ∀ row ∈ w'.deps, row.target = q → row ∈ w.deps ∨ add q row) :
    RInv R cyc w' ∧ RStep R cyc add w w' := by
  refine ⟨⟨⟨h.wfr hinv.d.wf, ?_, ?_, ?_, ?_⟩, hinv.hyg.of_keeps h.keeps, by rw [h.fs]; exact hinv.f0, ?_, ?_, ?_, ?_, ?_⟩,
    ⟨fun z hz => (h.settled z).2 hz, fun z _ hz => (h.done z).2 hz, hrows, h.keeps⟩⟩
  · intro y hy hV hck hg ho row hrow ht
    obtain ⟨n, hn⟩ := h.getRec' R y
    rw [hn] at hck hg ho
    have hV' := (h.v0 y).1 hV
    exact (h.goodRow row).2 (hinv.d.j y hy hV' hck hg ho row (hdeps y hy hV' row hrow ht) ht)
  · intro z hz hex
    obtain ⟨n, hn⟩ := h.getRec' R z
    rw [hn] at hz ⊢
    rw [readStamp_congr (congrFun h.fs _)]
    rw [existsF_congr (congrFun h.fs _)] at hex
    exact hinv.d.ov z hz hex
  · intro z hz
    obtain ⟨n, hn⟩ := h.getRec' R z
    rw [hn] at hz ⊢
    exact hinv.d.p1 z hz
  · intro z hzc hz
    obtain ⟨n, hn⟩ := h.getRec' R z
    rw [hn] at hz ⊢
    exact hinv.d.p2 z hzc hz
  · obtain ⟨n, hn⟩ := h.recs alwaysId
    rw [hn]; exact hinv.g0
  · rw [h.rules]; exact hinv.cy
  · rw [ranList_congr h.trace]
    intro t ht
    exact (hinv.i1 t ht).imp id (h.done t).2
  · rw [ranList_congr h.trace]; exact hinv.nd
  · intro z hz hzc hch
    obtain ⟨n, hn⟩ := h.getRec' R z
    rw [hn] at hch
    rw [h.rules] at hz
    exact (h.done z).2 (hinv.p3 z hz hzc hch)

theorem RowEq.addKnown (w : World) (z : Nat) : RowEq w (Deps.addKnown w z) := by
  unfold Deps.addKnown
  split
  · exact RowEq.refl w
  · refine ⟨fun y => ?_, rfl, rfl, rfl, rfl, rfl⟩
    simp only [setRec]
    split
    · rename_i e; subst e; exact ⟨_, rfl⟩
    · exact ⟨_, rfl⟩

theorem RowEq.addDep (w : World) (t s : Nat) (m : Bool) : RowEq w (Deps.addDep w t s m) := by
  have := RowEq.addKnown w s
  exact ⟨this.recs, this.fs, this.rules, this.progs, this.trace, this.rc⟩

/-- Declaring a dependency of a target that is running or not verified. -/
theorem RInv.addDep {add : Nat → Dep → Prop} {w : World} (hinv : RInv R cyc w) (p s : Nat) (m : Bool)
    (hp : p ∈ cyc ∨ ¬ V0 R w p)
    (hadd : p ∈ cyc → add p { target := p, source := s, modeM := m, deleteMe := false }) :
    RInv R cyc (Deps.addDep w p s m) ∧ RStep R cyc add w (Deps.addDep w p s m) := by
  apply hinv.depsUpdate (RowEq.addDep w p s m)
  · intro y hy hV row hrow ht
    rcases addDep_mem' hrow with h | h
    · subst h
      simp only at ht
      subst ht
      rcases hp with hp | hp
      · exact absurd hp hy
      · exact absurd hV hp
    · exact h
  · intro q hq row hrow ht
    rcases addDep_mem' hrow with h | h
    · subst h
      simp only at ht
      subst ht
      exact .inr (hadd hq)
    · exact .inl h

theorem RInv.addKnown {add : Nat → Dep → Prop} {w : World} (hinv : RInv R cyc w) (z : Nat) :
    RInv R cyc (Deps.addKnown w z) ∧ RStep R cyc add w (Deps.addKnown w z) := by
  apply hinv.depsUpdate (RowEq.addKnown w z)
  · intro y _ _ row hrow _
    rw [addKnown_deps] at hrow; exact hrow
  · intro q _ row hrow _
    rw [addKnown_deps] at hrow; exact .inl hrow

/-! ### writing one record -/

/-- Writing the record of `f` at run level; `r0` is the new record as run `R` reads it. -/
theorem RInv.recWrite {w : World} (hinv : RInv R cyc w) (f : Nat) (r' : Rec) (hwf : WFrec R r') {r0 : Rec}
    (hself : getRec (setRec w f r') R f = r0)
    (hS : Settled R cyc w f → Settled R cyc (setRec w f r') f)
    (hD : f ∉ cyc → Done R w f → Done R (setRec w f r') f)
    (hJ : f ∉ cyc → V0 R (setRec w f r') f → isCheckedR r0 R = false → r0.isGenerated = true → r0.isOverride = false →
      ∀ row ∈ w.deps, row.target = f → GoodRow R cyc w row)
    (hOV : r0.isOverride = true → existsF w f = true →
      isFailedR r0 R = true ∨ r0.isGenerated = true ∨ (r0.failed = none ∧ r0.stamp = some (readStamp w f)))
    (hg0 : f = alwaysId → r'.isGenerated = false)
    (hP1 : isCheckedR r0 R = true → r0.failed = none)
    (hP2 : f ∈ cyc → r0.changed = some R → r0.failed = none)
    (hP3 : f ∉ cyc → r0.changed = some R → Done R (setRec w f r') f) :
    RInv R cyc (setRec w f r') ∧ RStep R cyc noAdd w (setRec w f r') := by
  have hne : ∀ z, z ≠ f → getRec (setRec w f r') R z = getRec w R z := fun z hz => getRec_setRec_ne _ _ _ _ _ hz
  obtain ⟨iv, hsettled⟩ := hinv.d.write f (SameButRecs.setRec _ _ _) (fun z hz => setRec_recs_other _ _ _ hz) hself
    (by rw [setRec_recs_self]; exact hwf) hS hJ hOV hP1 hP2
  have hdone : ∀ z, z ∉ cyc → Done R w z → Done R (setRec w f r') z := by
    intro z hzc hz
    by_cases hzf : z = f
    · subst hzf; exact hD hzc hz
    · unfold Done V0 at hz ⊢
      rw [hne z hzf]; exact hz
  refine ⟨⟨iv, ⟨hinv.hyg.r0, hinv.hyg.dofiles, hinv.hyg.scripts⟩, hinv.f0, ?_, hinv.cy, ?_, hinv.nd, ?_⟩,
    ⟨hsettled, hdone, fun _ _ _ h _ => .inl h, Keeps.refl _⟩⟩
  · simp only [setRec]
    split
    · rename_i e; exact hg0 e.symm
    · exact hinv.g0
  · intro t ht
    rcases hinv.i1 t ht with hc | hd
    · exact .inl hc
    · by_cases hc : t ∈ cyc
      · exact .inl hc
      · exact .inr (hdone t hc hd)
  · intro z hz hzc hch
    by_cases hzf : z = f
    · subst hzf; exact hP3 hzc (hself ▸ hch)
    · rw [hne z hzf] at hch
      exact hdone z hzc (hinv.p3 z hz hzc hch)

/-- A file that is neither verified nor failed in this run. -/
def Open (R : Nat) (w : World) (t : Nat) : Prop := ¬ V0 R w t ∧ isFailedR (getRec w R t) R = false

theorem Open.not_done {w : World} {t : Nat} (h : Open R w t) : ¬ Done R w t := by
  rintro (hd | hd)
  · rw [h.2] at hd; cases hd
  · exact h.1 hd

theorem Open.not_settled {w : World} {t : Nat} (h : Open R w t) : ¬ Settled R cyc w t := fun hs => h.1 hs.1

theorem RInv.not_ran_of_open {w : World} (hinv : RInv R cyc w) {t : Nat} (ht : t ∉ cyc) (ho : Open R w t) :
    t ∉ ranList w := by
  intro h
  rcases hinv.i1 t h with hc | hd
  · exact ht hc
  · exact ho.not_done hd

theorem GoodRow.source_ne_of_open {w : World} {row : Dep} {t : Nat} (h : GoodRow R cyc w row) (ho : ¬ V0 R w t)
    (hr : w.rules t ≠ []) : row.source ≠ t := by
  intro e
  cases hm : row.modeM with
  | true => exact ho (e ▸ (h.1 hm).1.1)
  | false => exact hr (e ▸ (h.2 hm).2)

/-- With well-formed run ids, a record without failure mark is verified once it is checked, or in step with the file
and not redo's own. -/
theorem V0_of_wf {w : World} (hw : WFR R w) (t : Nat) (hf : (getRec w R t).failed = none)
    (h : isCheckedR (getRec w R t) R = true ∨ ((getRec w R t).stamp = some (readStamp w t) ∧
      ((getRec w R t).isGenerated = false ∨ (getRec w R t).isOverride = true))) : V0 R w t := by
  have hwf := WFrec.getRec hw t
  cases hcc : (getRec w R t).changed with
  | none =>
    obtain ⟨hs, hk, _⟩ := hwf.2.2.2 hcc
    rcases h with h | h
    · simp [isCheckedR, hk] at h
    · rw [hs] at h; cases h.1
  | some c => exact ⟨hf, c, hcc, hwf.1 c hcc, h.imp id fun h => ⟨h.1, h.2.imp id .inl⟩⟩

/-- Recording a file as a source (or as overridden), with a fresh stamp. -/
theorem RInv.settleWrite {w : World} (hinv : RInv R cyc w) (t : Nat) (ht : t ∉ cyc) (r' : Rec) (hwf : WFrec R r')
    (hf : r'.failed = none) (hs : r'.stamp = some (readStamp w t))
    (hg : r'.isGenerated = false ∨ r'.isOverride = true) (hg0 : t = alwaysId → r'.isGenerated = false) :
    RInv R cyc (setRec w t r') ∧ RStep R cyc noAdd w (setRec w t r') ∧ Settled R cyc (setRec w t r') t := by
  obtain ⟨c, hc⟩ := getRec_fields (setRec w t r') R t
  rw [setRec_recs_self] at hc
  have hV : V0 R (setRec w t r') t :=
    V0_of_wf (hinv.d.wf.setRec t hwf) t (by rw [hc]; exact hf) (.inr ⟨by rw [hc]; exact hs, by rw [hc]; exact hg⟩)
  have hS : Settled R cyc (setRec w t r') t := ⟨hV, fun h => absurd h ht⟩
  obtain ⟨i1, i2⟩ := hinv.recWrite t r' hwf hc (fun _ => hS) (fun _ _ => .inr hV)
    (fun _ _ _ hgen hov => (hg.elim (fun h => by cases hgen.symm.trans h) fun h => by cases hov.symm.trans h))
    (fun _ _ => .inr (.inr ⟨hf, hs⟩)) hg0 (fun _ => hf) (fun _ _ => hf) (fun _ _ => .inr hV)
  exact ⟨i1, i2, hS⟩

/-- Recording a failure of an open target. -/
theorem RInv.failWrite {w : World} (hR : 0 < R) (hinv : RInv R cyc w) (t : Nat) (ht : t ∉ cyc) (ho : Open R w t)
    (r' : Rec) (hwf : WFrec R r') (hf : r'.failed = some R)
    (hck : isCheckedR r' R = false) (hg0 : t = alwaysId → r'.isGenerated = false) :
    RInv R cyc (setRec w t r') ∧ RStep R cyc noAdd w (setRec w t r') ∧ Done R (setRec w t r') t := by
  obtain ⟨c, hc⟩ := getRec_fields (setRec w t r') R t
  rw [setRec_recs_self] at hc
  have hfr : isFailedR ({ r' with changed := c } : Rec) R = true := isFailedR_self hR hf
  have hD : Done R (setRec w t r') t := .inl (hc ▸ hfr)
  have hnV : ¬ V0 R (setRec w t r') t := by
    rintro ⟨h0, _⟩
    rw [hc] at h0
    cases hf.symm.trans h0
  obtain ⟨i1, i2⟩ := hinv.recWrite t r' hwf hc (fun h => absurd h ho.not_settled) (fun _ _ => hD)
    (fun _ hV => absurd hV hnV) (fun _ _ => .inl hfr) hg0 (fun h => by cases hck.symm.trans h)
    (fun h => absurd h ht) (fun _ _ => hD)
  exact ⟨i1, i2, hD⟩

end RedoModel.Deps.Once
