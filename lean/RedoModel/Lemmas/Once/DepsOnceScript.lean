import RedoModel.Lemmas.Once.DepsOnceStart
/-! The script of a target, for the once-per-run proof. -/
namespace RedoModel.Deps.Once
open RedoModel.Deps
open RedoModel.Generated

variable {R : Nat} {cyc : List Nat}

/-- The rows a `redo-ifchange` run by the script of `p` may add to `p`. -/
def addFor (p : Option Nat) : Nat → Dep → Prop := fun q _ => p = some q

/-- Every row a running target has gained is good. -/
def NewGood (R : Nat) (cyc : List Nat) (w w' : World) : Prop :=
  ∀ q ∈ cyc, ∀ row ∈ w'.deps, row.target = q →
    row ∈ w.deps ∨ (row.modeM = true ∧ Settled R cyc w' row.source ∧ row.source ∉ cyc)

/-- Specification of the nested `redo-ifchange` commands. -/
def ESpec (R : Nat) (E : Engine) : Prop :=
  ∀ (cx : Ctx) (cyc : List Nat) (ts : List Nat) (w : World), cx.runid = R → cx.isRedo = false → cx.crash = none →
    (∀ x ∈ cyc, x ∈ cx.cycles) →
    (∀ p, cx.parent = some p → p ∈ cyc) →
    (cx.unlocked = true → ∀ t ∈ ts, t ∉ cyc) →
    RInv R cyc w →
    RInv R cyc (E.ifchangeCmd cx ts w).2 ∧
    RStep R cyc (addFor cx.parent) w (E.ifchangeCmd cx ts w).2 ∧
    ((E.ifchangeCmd cx ts w).1 = 0 → NewGood R cyc w (E.ifchangeCmd cx ts w).2 ∧
      ∀ t ∈ ts, Settled R cyc (E.ifchangeCmd cx ts w).2 t ∧ t ∉ cyc) ∧
    (E.ifchangeCmd cx ts w).1 ≠ CRASHED

theorem RStep.goodRow {add : Nat → Dep → Prop} {w w' : World} (h : RStep R cyc add w w') {row : Dep}
    (hg : GoodRow R cyc w row) : GoodRow R cyc w' row := by
  refine ⟨fun hm => ⟨h.settled _ (hg.1 hm).1, (hg.1 hm).2⟩, fun hm => ?_⟩
  obtain ⟨h1, h2⟩ := hg.2 hm
  refine ⟨?_, by rw [h.keeps.2.1]; exact h2⟩
  simp only [existsF] at h1 ⊢
  rw [h.keeps.2.2.2 _ h2]; exact h1

/-- Additions to `t` only. -/
def addT (t : Nat) : Nat → Dep → Prop := fun q _ => q = t

/-- What a part of the script of `t` guarantees, from the invariant with the rows of `t` good: the invariant again, and
the rows of `t` good again if the part succeeded. -/
def ScriptPost (R : Nat) (cyc : List Nat) (t : Nat) (w : World) (res : Status × Option Content × World) : Prop :=
  RInv R (t :: cyc) res.2.2 ∧ RStep R (t :: cyc) (addT t) w res.2.2 ∧
  (res.1 = 0 → K R (t :: cyc) res.2.2 t) ∧ res.1 ≠ CRASHED

/-- What came before a part of the script of `t`. -/
theorem ScriptPost.after {t : Nat} {w0 w : World} {res : Status × Option Content × World}
    (h0 : RStep R (t :: cyc) (addT t) w0 w) (h : ScriptPost R cyc t w res) : ScriptPost R cyc t w0 res :=
  ⟨h.1, h0.trans h.2.1, h.2.2⟩

/-- `sh -e`: a part of the script that may fail, then (if it did not) the rest. -/
theorem ScriptPost.seq {t : Nat} {w w1 : World} {rv : Status} {o : Option Content} {rest : Status × Option Content × World}
    (h1 : ScriptPost R cyc t w (rv, o, w1))
    (h2 : RInv R (t :: cyc) w1 → K R (t :: cyc) w1 t → ScriptPost R cyc t w1 rest) :
    ScriptPost R cyc t w (if rv ≠ 0 then (rv, none, w1) else rest) := by
  split
  · rename_i hrv; exact ⟨h1.1, h1.2.1, fun h => absurd h hrv, h1.2.2.2⟩
  · rename_i hrv; exact (h2 h1.1 (h1.2.2.1 (Decidable.of_not_not hrv))).after h1.2.1

theorem script_call {E : Engine} (hE : ESpec R E) (cx : Ctx) (hR : cx.runid = R) (hcr : cx.crash = none)
    (hcyc : ∀ x ∈ cyc, x ∈ cx.cycles) (t : Nat) (c : List Nat) (w : World) (hinv : RInv R (t :: cyc) w)
    (hK : K R (t :: cyc) w t) :
    ScriptPost R cyc t w ((E.ifchangeCmd (scriptCtx cx t) c w).1, none, (E.ifchangeCmd (scriptCtx cx t) c w).2) := by
  have hcy' : ∀ x ∈ t :: cyc, x ∈ (scriptCtx cx t).cycles := by
    intro x hx
    rcases List.mem_cons.1 hx with e | hx
    · simp [scriptCtx, e]
    · exact List.mem_cons_of_mem _ (hcyc x hx)
  have := hE (scriptCtx cx t) (t :: cyc) c w hR rfl hcr hcy'
    (by intro p hp; simp only [scriptCtx] at hp; cases hp; simp)
    (by intro h; cases h) hinv
  obtain ⟨i1, i2, i3, i4⟩ := this
  refine ⟨i1, i2.mono (fun q row h => ?_), ?_, i4⟩
  · have : some t = some q := h
    exact (Option.some.inj this).symm
  · intro hrv row hrow ht hdm
    rcases (i3 hrv).1 t (by simp) row hrow ht with h | h
    · exact i2.goodRow (hK row h ht hdm)
    · exact ⟨fun _ => ⟨h.2.1, h.2.2⟩, (fun hm => by rw [h.1] at hm; cases hm)⟩

/-- The `redo-ifchange` commands of the script, up to the first that fails. -/
theorem cmds_spec {E : Engine} (hE : ESpec R E) (cx : Ctx) (hR : cx.runid = R) (hcr : cx.crash = none)
    (hcyc : ∀ x ∈ cyc, x ∈ cx.cycles) (t : Nat) (cs : List (List Nat)) (k : Nat) (w : World)
    (hinv : RInv R (t :: cyc) w) (hK : K R (t :: cyc) w t) :
    ScriptPost R cyc t w
      ((runScript.cmds E cx t (scriptCtx cx t) cs k w).1, none, (runScript.cmds E cx t (scriptCtx cx t) cs k w).2) := by
  fun_induction runScript.cmds E cx t (scriptCtx cx t) cs k w with
  | case1 k w => simp only [hcr]; exact ⟨hinv, RStep.refl _ _, fun _ => hK, zero_ne_crashed⟩
  | case2 c cs k w hk => rw [hcr] at hk; cases hk
  | case3 c cs k w hk w1 hc ih =>
    obtain ⟨i1, i2, i3, -⟩ := script_call hE cx hR hcr hcyc t c w hinv hK
    rw [hc] at i1 i2 i3
    exact (ih i1 (i3 rfl)).after i2
  | case4 c cs k w hk rv w1 hrv hc =>
    have h := script_call hE cx hR hcr hcyc t c w hinv hK
    rwa [hc] at h

theorem K.step {add : Nat → Dep → Prop} {w w' : World} {t : Nat} (h : RStep R (t :: cyc) add w w')
    (hK : K R (t :: cyc) w t)
    (hadd : ∀ row ∈ w'.deps, row.target = t → add t row → row.deleteMe = false → GoodRow R (t :: cyc) w' row) :
    K R (t :: cyc) w' t := by
  intro row hrow ht hdm
  rcases h.rows t (by simp) row hrow ht with h1 | h1
  · exact h.goodRow (hK row h1 ht hdm)
  · exact hadd row hrow ht h1 hdm

theorem script_addDep {w : World} {t : Nat} (hinv : RInv R (t :: cyc) w) (hK : K R (t :: cyc) w t) (s : Nat) (m : Bool)
    (hgood : GoodRow R (t :: cyc) w { target := t, source := s, modeM := m, deleteMe := false }) :
    RInv R (t :: cyc) (addDep w t s m) ∧ RStep R (t :: cyc) (addT t) w (addDep w t s m) ∧
    K R (t :: cyc) (addDep w t s m) t := by
  obtain ⟨i1, i2⟩ := hinv.addDep (add := addT t) t s m (.inl (by simp)) (fun _ => rfl)
  refine ⟨i1, i2, ?_⟩
  intro row hrow ht hdm
  rcases addDep_mem' hrow with h | h
  · subst h; exact hgood.rowEq (RowEq.addDep _ _ _ _)
  · exact (hK row h ht hdm).rowEq (RowEq.addDep _ _ _ _)

/-- The conditional declarations of the script: a nested command for a file that exists, a `c` row for one that does
not; up to the first command that fails. -/
theorem conds_spec {E : Engine} (hE : ESpec R E) (cx : Ctx) (hR : cx.runid = R) (hcr : cx.crash = none)
    (hcyc : ∀ x ∈ cyc, x ∈ cx.cycles) (t : Nat) (fs : List Nat) (w : World)
    (hinv : RInv R (t :: cyc) w) (hK : K R (t :: cyc) w t) (hru : ∀ f ∈ fs, w.rules f = []) :
    ScriptPost R cyc t w
      ((runScript.conds E t (scriptCtx cx t) fs w).1, none, (runScript.conds E t (scriptCtx cx t) fs w).2) := by
  fun_induction runScript.conds E t (scriptCtx cx t) fs w with
  | case1 w => exact ⟨hinv, RStep.refl _ _, fun _ => hK, zero_ne_crashed⟩
  | case2 f fs w he w1 hc ih =>
    obtain ⟨i1, i2, i3, -⟩ := script_call hE cx hR hcr hcyc t [f] w hinv hK
    rw [hc] at i1 i2 i3
    exact (ih i1 (i3 rfl) fun f' hf' => by rw [i2.keeps.2.1]; exact hru f' (List.mem_cons_of_mem _ hf')).after i2
  | case3 f fs w he rv w1 hrv hc =>
    have h := script_call hE cx hR hcr hcyc t [f] w hinv hK
    rwa [hc] at h
  | case4 f fs w he ih =>
    obtain ⟨i1, i2, i3⟩ := script_addDep hinv hK f false
      ⟨nofun, fun _ => ⟨by simpa using he, hru f List.mem_cons_self⟩⟩
    exact (ih i1 i3 fun f' hf' => by rw [i2.keeps.2.1]; exact hru f' (List.mem_cons_of_mem _ hf')).after i2

theorem ifcreate_spec {t : Nat} : ∀ (fs : List Nat) (w : World), RInv R (t :: cyc) w → K R (t :: cyc) w t →
    (∀ f ∈ fs, w.rules f = []) → (∀ f ∈ fs, existsF w f = false) →
    RInv R (t :: cyc) (fs.foldl (fun w f => addDep w t f false) w) ∧
    RStep R (t :: cyc) (addT t) w (fs.foldl (fun w f => addDep w t f false) w) ∧
    K R (t :: cyc) (fs.foldl (fun w f => addDep w t f false) w) t
  | [], w, hinv, hK, _, _ => ⟨hinv, RStep.refl _ _, hK⟩
  | f :: fs, w, hinv, hK, hru, hex => by
    simp only [List.foldl_cons]
    obtain ⟨i1, i2, i3⟩ := script_addDep hinv hK f false
      ⟨(fun h => by cases h), fun _ => ⟨hex f (by simp), hru f (by simp)⟩⟩
    have hre := RowEq.addDep w t f false
    obtain ⟨j1, j2, j3⟩ := ifcreate_spec fs _ i1 i3
      (fun f' hf' => by rw [hre.rules]; exact hru f' (by simp [hf']))
      (fun f' hf' => by rw [existsF_congr (congrFun hre.fs _)]; exact hex f' (by simp [hf']))
    exact ⟨j1, i2.trans j2, j3⟩

theorem stampRec_props (hR : 0 < R) (r : Rec) (data : Content) :
    (stampRec r R data).failed = none ∧ (stampRec r R data).isOverride = false ∧
    (isCheckedR r R = true → isCheckedR (stampRec r R data) R = true) ∧
    (∀ c, r.changed = some c → c ≤ R → ∃ c', (stampRec r R data).changed = some c' ∧ c' ≤ R) := by
  unfold stampRec
  simp only
  split
  · refine ⟨rfl, rfl, ?_, fun _ _ _ => ⟨R, rfl, Nat.le_refl _⟩⟩
    intro h; simpa [isCheckedR, setChanged] using h
  · refine ⟨rfl, rfl, fun _ => ?_, fun c hc hle => ⟨c, hc, hle⟩⟩
    simp [isCheckedR]; omega

theorem stampWrite (hR : 0 < R) {w : World} {t : Nat} (hinv : RInv R (t :: cyc) w) (data : Content) :
    RInv R (t :: cyc) (setRec w t (stampRec (w.recs t) R data)) ∧
    RStep R (t :: cyc) noAdd w (setRec w t (stampRec (w.recs t) R data)) := by
  have ht0 : t ≠ alwaysId := fun e => hinv.cy t (by simp) (e ▸ hinv.hyg.r0)
  have hself : getRec (setRec w t (stampRec (w.recs t) R data)) R t = stampRec (w.recs t) R data := by
    rw [getRec_of_ne ht0, setRec_recs_self]
  have hold : getRec w R t = w.recs t := getRec_of_ne ht0
  obtain ⟨p1, p2, p3, p4⟩ := stampRec_props hR (w.recs t) data
  have hin : t ∈ t :: cyc := List.mem_cons_self
  refine hinv.recWrite t _ ((hinv.d.wf t).stampRec data) hself ?_ (fun h => absurd hin h) (fun h => absurd hin h)
    (fun h => by cases p2.symm.trans h) (fun e => absurd e ht0) (fun _ => p1) (fun _ _ => p1) (fun h => absurd hin h)
  rintro ⟨⟨hf, c, hc, hcR, _⟩, hck⟩
  have hck' := hck hin
  rw [hold] at hf hc hck'
  obtain ⟨c', hc', hle'⟩ := p4 c hc hcR
  unfold Settled V0
  rw [hself]
  exact ⟨⟨p1, c', hc', hle', .inl (p3 hck')⟩, fun _ => p3 hck'⟩

theorem always_spec {w : World} {t : Nat} (hinv : RInv R (t :: cyc) w) (hK : K R (t :: cyc) w t) :
    RInv R (t :: cyc) (setRec (addDep w t alwaysId true) alwaysId
      (setChanged { ((addDep w t alwaysId true).recs alwaysId) with stamp := some .missing } R)) ∧
    RStep R (t :: cyc) (addT t) w (setRec (addDep w t alwaysId true) alwaysId
      (setChanged { ((addDep w t alwaysId true).recs alwaysId) with stamp := some .missing } R)) ∧
    K R (t :: cyc) (setRec (addDep w t alwaysId true) alwaysId
      (setChanged { ((addDep w t alwaysId true).recs alwaysId) with stamp := some .missing } R)) t := by
  obtain ⟨i1, i2⟩ := hinv.addDep (add := addT t) t alwaysId true (.inl (by simp)) (fun _ => rfl)
  have h0 : alwaysId ∉ t :: cyc := fun h => i1.cy _ h i1.hyg.r0
  have hrs : readStamp (addDep w t alwaysId true) alwaysId = .missing := by
    simp [readStamp, i1.f0]
  obtain ⟨j1, j2, j3⟩ := i1.settleWrite alwaysId h0
    (setChanged { ((addDep w t alwaysId true).recs alwaysId) with stamp := some .missing } R)
    ((i1.d.wf alwaysId).setChanged_stamp _) rfl (by rw [hrs]; rfl) (.inl i1.g0) (fun _ => i1.g0)
  refine ⟨j1, i2.trans j2.ofNoAdd, ?_⟩
  intro row hrow ht hdm
  have hrow' : row ∈ (addDep w t alwaysId true).deps := hrow
  rcases addDep_mem' hrow' with h | h
  · subst h
    exact ⟨fun _ => ⟨j3, h0⟩, (fun hm => by cases hm)⟩
  · exact j2.goodRow ((hK row h ht hdm).rowEq (RowEq.addDep _ _ _ _))

theorem rsStampW_spec (hR : 0 < R) (cx : Ctx) (hRid : cx.runid = R) (t : Nat) (sc : Script) (w : World)
    (hinv : RInv R (t :: cyc) w) (hK : K R (t :: cyc) w t) :
    RInv R (t :: cyc) (rsStampW cx t sc w) ∧ RStep R (t :: cyc) (addT t) w (rsStampW cx t sc w) ∧
      K R (t :: cyc) (rsStampW cx t sc w) t := by
  unfold rsStampW
  dsimp only
  split
  · exact ⟨hinv, RStep.refl _ _, hK⟩
  · obtain ⟨k1, k2⟩ := hinv.addKnown (add := addT t) t
    have hK4 : K R (t :: cyc) (addKnown w t) t := fun row hrow ht hdm =>
      (hK row (addKnown_deps w t ▸ hrow) ht hdm).rowEq (RowEq.addKnown _ _)
    rw [hRid]
    obtain ⟨s1, s2⟩ := stampWrite hR k1 (if sc.stamp = 1 then outContent sc.tag _ else [sc.stamp - 2])
    exact ⟨s1, k2.trans s2.ofNoAdd, K.step s2 hK4 (fun _ _ _ h => False.elim h)⟩

theorem rsFinish_spec (hR : 0 < R) (cx : Ctx) (hRid : cx.runid = R) (hcr : cx.crash = none) (t : Nat) (sc : Script)
    (w : World) (hinv : RInv R (t :: cyc) w) (hK : K R (t :: cyc) w t) : ScriptPost R cyc t w (rsFinish cx t sc w) := by
  rw [rsFinish_eq, rsKill_of_nocrash cx t sc hcr]
  split
  · exact ⟨hinv, RStep.refl _ _, nofun, one_ne_crashed⟩
  · obtain ⟨s1, s2, s3⟩ := rsStampW_spec hR cx hRid t sc w hinv hK
    exact ⟨s1, s2, fun _ => s3, by show (sc.exit : Int) ≠ -9; omega⟩

theorem runScript_spec (hR : 0 < R) {E : Engine} (hE : ESpec R E) (d : Defects) (cx : Ctx) (hRid : cx.runid = R)
    (hcr : cx.crash = none) (hcyc : ∀ x ∈ cyc, x ∈ cx.cycles) (t : Nat) (sc : Script) (w : World)
    (hsc : ∀ f, (f ∈ sc.ifcreate ∨ f ∈ sc.cond) → w.rules f = [])
    (hinv : RInv R (t :: cyc) w) (hK : K R (t :: cyc) w t) :
    ScriptPost R cyc t w (runScript E d cx t sc w) := by
  rw [runScript_eq]
  obtain ⟨a1, a2, a3⟩ : RInv R (t :: cyc) (rsAlways cx t sc w) ∧ RStep R (t :: cyc) (addT t) w (rsAlways cx t sc w) ∧
      K R (t :: cyc) (rsAlways cx t sc w) t := by
    unfold rsAlways
    split
    · rw [hRid]; exact always_spec hinv hK
    · exact ⟨hinv, RStep.refl _ _, hK⟩
  have hsc0 : ∀ f, (f ∈ sc.ifcreate ∨ f ∈ sc.cond) → (rsAlways cx t sc w).rules f = [] := fun f hf => by
    rw [a2.keeps.2.1]; exact hsc f hf
  split
  · exact ⟨a1, a2, nofun, one_ne_crashed⟩
  · rename_i hic
    obtain ⟨b1, b2, b3⟩ := ifcreate_spec sc.ifcreate _ a1 a3 (fun f hf => hsc0 f (.inl hf))
      (fun f hf => by simpa using fun he => hic (List.any_eq_true.2 ⟨f, hf, he⟩))
    refine ScriptPost.after (a2.trans b2) ?_
    exact (conds_spec hE cx hRid hcr hcyc t sc.cond _ b1 b3
        (fun f hf => by rw [b2.keeps.2.1]; exact hsc0 f (.inr hf))).seq fun c1 c3 =>
      (cmds_spec hE cx hRid hcr hcyc t sc.ifchange 0 _ c1 c3).seq fun m1 m3 =>
        rsFinish_spec hR cx hRid hcr t sc _ m1 m3

end RedoModel.Deps.Once
