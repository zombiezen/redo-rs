import RedoModel.Lemmas.Once.DepsOnceRun
/-! The steps of `start_self` before and after the script, for the once-per-run proof. -/
namespace RedoModel.Deps.Once
open RedoModel.Deps

variable {R : Nat} {cyc : List Nat}

/-- The rows a running target has (re)declared so far are good. -/
def K (R : Nat) (cyc : List Nat) (w : World) (t : Nat) : Prop :=
  ∀ row ∈ w.deps, row.target = t → row.deleteMe = false → GoodRow R cyc w row

theorem Open.rowEq {w w' : World} {t : Nat} (ho : Open R w t) (h : RowEq w w') : Open R w' t := by
  obtain ⟨n, hn⟩ := h.getRec' R t
  refine ⟨fun hV => ho.1 ((h.v0 t).1 hV), ?_⟩
  rw [hn]; exact ho.2

theorem mem_zapDeps1 {w : World} {t : Nat} {row : Dep} (h : row ∈ (zapDeps1 w t).deps) :
    (row.target ≠ t ∧ row ∈ w.deps) ∨ (row.target = t ∧ row.deleteMe = true) := by
  simp only [zapDeps1, List.mem_map] at h
  obtain ⟨d, hd, rfl⟩ := h
  by_cases ht : d.target = t
  · right; simp [ht]
  · left; simp [ht, hd]

theorem RowEq.zapDeps1 (w : World) (t : Nat) : RowEq w (Deps.zapDeps1 w t) :=
  ⟨fun z => ⟨(w.recs z).row, rfl⟩, rfl, rfl, rfl, rfl, rfl⟩

theorem RInv.zapDeps1 {w : World} (hinv : RInv R cyc w) (t : Nat) (ht : t ∉ cyc) (ho : ¬ V0 R w t) :
    RInv R cyc (Deps.zapDeps1 w t) ∧ RStep R cyc noAdd w (Deps.zapDeps1 w t) ∧ K R cyc (Deps.zapDeps1 w t) t := by
  obtain ⟨i1, i2⟩ := hinv.depsUpdate (add := noAdd) (RowEq.zapDeps1 w t)
    (by
      intro y _ hV row hrow hty
      rcases mem_zapDeps1 hrow with h | h
      · exact h.2
      · rw [h.1] at hty; subst hty; exact absurd hV ho)
    (by
      intro q hq row hrow htq
      rcases mem_zapDeps1 hrow with h | h
      · exact .inl h.2
      · rw [h.1] at htq; subst htq; exact absurd hq ht)
  refine ⟨i1, i2, ?_⟩
  intro row hrow htr hdm
  rcases mem_zapDeps1 hrow with h | h
  · exact absurd htr h.1
  · rw [h.2] at hdm; cases hdm

theorem GoodRow.rowEq {w w' : World} (h : RowEq w w') {row : Dep} (hg : GoodRow R cyc w row) :
    GoodRow R cyc w' row := (h.goodRow row).2 hg

/-- Rows of the running target after one more declaration. -/
theorem K.addDep {w : World} {t s : Nat} {m : Bool} {P : Dep → Prop}
    (hK : ∀ row ∈ w.deps, row.target = t → row.deleteMe = false → P row)
    (hnew : P { target := t, source := s, modeM := m, deleteMe := false }) :
    ∀ row ∈ (Deps.addDep w t s m).deps, row.target = t → row.deleteMe = false → P row := by
  intro row hrow ht hd
  rcases addDep_mem' hrow with h | h
  · subst h; exact hnew
  · exact hK row h ht hd

/-- The search for the .do file: earlier candidates are declared `c`, the chosen one `m`. -/
theorem findDoFile_spec {t : Nat} (ht : t ∉ cyc) (cs : List Nat) (w : World) (hinv : RInv R cyc w) (ho : ¬ V0 R w t)
    (hcs : ∀ c ∈ cs, w.rules c = [])
    (hK : ∀ row ∈ w.deps, row.target = t → row.deleteMe = false → GoodRow R cyc w row) :
    RInv R cyc (findDoFile t cs w).2 ∧ RStep R cyc noAdd w (findDoFile t cs w).2 ∧ RowEq w (findDoFile t cs w).2 ∧
    (∀ row ∈ (findDoFile t cs w).2.deps, row.target = t → row.deleteMe = false →
      GoodRow R cyc (findDoFile t cs w).2 row ∨
      (row.modeM = true ∧ (findDoFile t cs w).1 = some row.source)) := by
  fun_induction findDoFile t cs w with
  | case1 w => exact ⟨hinv, RStep.refl _ _, RowEq.refl _, fun row hrow h1 h2 => .inl (hK row hrow h1 h2)⟩
  | case2 c cs w hex =>
    -- the candidate exists: its `m` row is the one row that is not good yet
    obtain ⟨i1, i2⟩ := hinv.addDep (add := noAdd) t c true (.inr ho) (fun h => absurd h ht)
    refine ⟨i1, i2, RowEq.addDep _ _ _ _, ?_⟩
    apply K.addDep (P := fun row => GoodRow R cyc (addDep w t c true) row ∨ (row.modeM = true ∧ some c = some row.source))
    · exact fun row hrow h1 h2 => .inl ((hK row hrow h1 h2).rowEq (RowEq.addDep _ _ _ _))
    · exact .inr ⟨rfl, rfl⟩
  | case3 c cs w hex ih =>
    -- the candidate is missing and has no build rule: a good `c` row
    obtain ⟨i1, i2⟩ := hinv.addDep (add := noAdd) t c false (.inr ho) (fun h => absurd h ht)
    have hre := RowEq.addDep w t c false
    obtain ⟨j1, j2, j3, j4⟩ := ih i1 (fun h => ho ((hre.v0 t).1 h))
      (fun c' hc' => by rw [hre.rules]; exact hcs c' (List.mem_cons_of_mem _ hc'))
      (K.addDep (fun row hrow h1 h2 => (hK row hrow h1 h2).rowEq hre)
        ⟨nofun, fun _ => ⟨by rw [existsF_congr (congrFun hre.fs _)]; simpa using hex, by rw [hre.rules]; exact hcs c List.mem_cons_self⟩⟩)
    exact ⟨j1, i2.trans j2, hre.trans j3, j4⟩

theorem GoodRow.enter {w : World} {row : Dep} {t : Nat} (h : GoodRow R cyc w row) (ho : ¬ V0 R w t) :
    GoodRow R (t :: cyc) w row := by
  refine ⟨fun hm => ?_, h.2⟩
  obtain ⟨⟨hV, hc⟩, hnc⟩ := h.1 hm
  have hne : row.source ≠ t := fun e => ho (e ▸ hV)
  refine ⟨⟨hV, fun hmem => ?_⟩, fun hmem => ?_⟩
  · rcases List.mem_cons.1 hmem with e | hmem
    · exact absurd e hne
    · exact hc hmem
  · rcases List.mem_cons.1 hmem with e | hmem
    · exact hne e
    · exact hnc hmem

theorem Settled.enter {w : World} {z t : Nat} (h : Settled R cyc w z) (ho : ¬ V0 R w t) :
    Settled R (t :: cyc) w z := by
  refine ⟨h.1, fun hmem => ?_⟩
  rcases List.mem_cons.1 hmem with e | hmem
  · exact absurd (e ▸ h.1) ho
  · exact h.2 hmem

theorem Settled.leave {w : World} {z t : Nat} (h : Settled R (t :: cyc) w z) : Settled R cyc w z :=
  ⟨h.1, fun hmem => h.2 (List.mem_cons_of_mem _ hmem)⟩

theorem GoodRow.leave {w : World} {row : Dep} {t : Nat} (h : GoodRow R (t :: cyc) w row) : GoodRow R cyc w row :=
  ⟨fun hm => ⟨(h.1 hm).1.leave, fun hmem => (h.1 hm).2 (List.mem_cons_of_mem _ hmem)⟩, h.2⟩

/-- The script of the open target `t` starts: `t` joins the running targets. -/
theorem RInv.enter {w : World} (hinv : RInv R cyc w) {t : Nat} (ht : t ∉ cyc) (ho : Open R w t)
    (hr : w.rules t ≠ []) : RInv R (t :: cyc) (ev w (.ran t)) := by
  have hran : ranList (ev w (.ran t)) = t :: ranList w := by simp [ranList, ev]
  refine ⟨⟨hinv.d.wf.of_recs rfl, ?_, hinv.d.ov, hinv.d.p1, ?_⟩, ⟨hinv.hyg.r0, hinv.hyg.dofiles, hinv.hyg.scripts⟩,
    hinv.f0, hinv.g0, ?_, ?_, ?_, ?_⟩
  · intro y hy hV hck hg hov row hrow hty
    have hy' : y ∉ cyc := fun h => hy (List.mem_cons_of_mem _ h)
    exact (hinv.d.j y hy' hV hck hg hov row hrow hty).enter ho.1
  · intro z hz hch
    rcases List.mem_cons.1 hz with e | hz
    · subst e
      exact absurd (hinv.p3 z hr ht hch) ho.not_done
    · exact hinv.d.p2 z hz hch
  · intro q hq
    rcases List.mem_cons.1 hq with e | hq
    · subst e; exact hr
    · exact hinv.cy q hq
  · rw [hran]
    intro z hz
    rcases List.mem_cons.1 hz with e | hz
    · subst e; left; simp
    · exact (hinv.i1 z hz).imp (List.mem_cons_of_mem _) id
  · rw [hran]
    exact List.nodup_cons.2 ⟨hinv.not_ran_of_open ht ho, hinv.nd⟩
  · intro z hz hzc hch
    exact hinv.p3 z hz (fun h => hzc (List.mem_cons_of_mem _ h)) hch

end RedoModel.Deps.Once
