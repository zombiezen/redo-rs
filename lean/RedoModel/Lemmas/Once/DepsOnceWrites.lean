import RedoModel.Lemmas.Once.DepsOnceDefs
/-! Writing the record of one file under the invariant and the step relation of the dirtiness check (`DInv.write`,
`DStep.write`), and the two writes of the check as instances. -/
namespace RedoModel.Deps.Once
open RedoModel.Deps

variable {R : Nat} {cyc : List Nat}

theorem DStep.refl (seen : List Nat) (w : World) : DStep R cyc seen w w where
  same := SameButRecs.refl w
  settled := fun _ h => h
  failedR := fun _ => rfl
  changed := fun _ => rfl
  snap := fun _ _ h => h
  seen := fun _ _ => rfl
  ran := rfl
  genF := fun _ h => h

theorem DStep.trans {seen : List Nat} {a b c : World} (h1 : DStep R cyc seen a b) (h2 : DStep R cyc seen b c) :
    DStep R cyc seen a c where
  same := h1.same.trans h2.same
  settled := fun z h => h2.settled z (h1.settled z h)
  failedR := fun z => (h2.failedR z).trans (h1.failedR z)
  changed := fun z => (h2.changed z).trans (h1.changed z)
  snap := fun z s h => h2.snap z s (h1.snap z s h)
  seen := fun g hg => (h2.seen g hg).trans (h1.seen g hg)
  ran := h2.ran.trans h1.ran
  genF := fun z h => h2.genF z (h1.genF z h)

theorem DStep.weaken {seen seen' : List Nat} {a b : World} (h : DStep R cyc seen' a b) (hs : ∀ g ∈ seen, g ∈ seen') :
    DStep R cyc seen a b :=
  { h with seen := fun g hg => h.seen g (hs g hg) }

theorem RowOK.mono {w w' : World} {row : Dep} {mx : Nat}
    (hs : ∀ z, Settled R cyc w z → Settled R cyc w' z)
    (hc : ∀ z, (getRec w' R z).changed = (getRec w R z).changed) (hfs : w'.fs = w.fs)
    (h : RowOK R cyc w row mx) : RowOK R cyc w' row mx := by
  refine ⟨fun hm => ⟨hs _ (h.1 hm).1, ?_⟩, fun hm => ?_⟩
  · intro ch hch
    rw [hc] at hch
    exact (h.1 hm).2 ch hch
  · rw [existsF_congr (congrFun hfs _)]; exact h.2 hm

theorem GoodRow.mono {w w' : World} {row : Dep}
    (hs : ∀ z, Settled R cyc w z → Settled R cyc w' z) (hfs : w'.fs = w.fs) (hrules : w'.rules = w.rules)
    (h : GoodRow R cyc w row) : GoodRow R cyc w' row := by
  refine ⟨fun hm => ⟨hs _ (h.1 hm).1, (h.1 hm).2⟩, fun hm => ?_⟩
  rw [existsF_congr (congrFun hfs _), hrules]; exact h.2 hm

theorem DStep.rowOK {seen : List Nat} {w w' : World} (h : DStep R cyc seen w w') {row : Dep} {mx : Nat}
    (hr : RowOK R cyc w row mx) : RowOK R cyc w' row mx :=
  hr.mono h.settled h.changed h.same.1

theorem DStep.goodRow {seen : List Nat} {w w' : World} (h : DStep R cyc seen w w') {row : Dep}
    (hr : GoodRow R cyc w row) : GoodRow R cyc w' row :=
  hr.mono h.settled h.same.1 h.same.2.2.2.2.2.2

theorem SnapRel.of_ne {w w' : World} {z : Nat} {s : Rec}
    (hs : ∀ z, Settled R cyc w z → Settled R cyc w' z)
    (hc : ∀ z, (getRec w' R z).changed = (getRec w R z).changed) (hfs : w'.fs = w.fs) (hdeps : w'.deps = w.deps)
    (hrec : getRec w' R z = getRec w R z) (h : SnapRel R cyc w z s) : SnapRel R cyc w' z s where
  wf := h.wf
  stamp := by rw [hrec]; exact h.stamp
  changed := by rw [hrec]; exact h.changed
  ovr := by rw [hrec]; exact h.ovr
  failed := by rw [hrec, readStamp_congr (congrFun hfs _)]; exact h.failed
  gen := by rw [hrec]; exact h.gen
  unchecked := by rw [hrec]; exact h.unchecked
  late := by
    rw [hrec, readStamp_congr (congrFun hfs _), hdeps]
    intro h1 h2
    refine ⟨(h.late h1 h2).1, ?_⟩
    intro hg ho ch hch row hrow ht
    exact ((h.late h1 h2).2 hg ho ch hch row hrow ht).mono hs hc hfs

/-- Writing back a copy of the record of `f` with its `changed` mark kept: that is what the next reader gets. -/
theorem SnapRel.getRec_setRec {w : World} {f : Nat} {r : Rec} (hsnap : SnapRel R cyc w f r) (hw : WFR R w)
    (wE : World) (r' : Rec) (hch : r'.changed = r.changed) : getRec (setRec wE f r') R f = r' := by
  apply getRec_setRec_self_of_changed
  intro h0
  subst h0
  rw [hch, hsnap.changed, getRec_always_of_le (hw alwaysId).1]

theorem notV0_of_stamp {w : World} {f : Nat} {r : Rec} (hsnap : SnapRel R cyc w f r)
    (hck : isCheckedR r R = false) (hst : r.stamp ≠ some (readStamp w f)) : ¬ V0 R w f := by
  rintro ⟨_, c, _, _, h | h⟩
  · have := (hsnap.late h hck).1
    rw [← hsnap.stamp] at this
    exact hst this
  · rw [← hsnap.stamp] at h; exact hst h.1

/-- The record of one file `f` is written (`w'` is `w` but for that record and the trace).  Every clause of `DInv` speaks of the record
of one file, and of other files only through `GoodRow`, which lasts as long as settled files stay settled: so the invariant
holds again if its clauses hold of the new record `r'` of `f` and `f` stays settled if it was. -/
theorem DInv.write {w w' : World} (hinv : DInv R cyc w) (f : Nat) {r' : Rec} (hsame : SameButRecs w w')
    (hrecs : ∀ z, z ≠ f → w'.recs z = w.recs z) (hself : getRec w' R f = r') (hwf : WFrec R (w'.recs f))
    (hS : Settled R cyc w f → Settled R cyc w' f)
    (hJ : f ∉ cyc → V0 R w' f → isCheckedR r' R = false → r'.isGenerated = true → r'.isOverride = false →
      ∀ row ∈ w.deps, row.target = f → GoodRow R cyc w row)
    (hOV : r'.isOverride = true → existsF w f = true →
      isFailedR r' R = true ∨ r'.isGenerated = true ∨ (r'.failed = none ∧ r'.stamp = some (readStamp w f)))
    (hP1 : isCheckedR r' R = true → r'.failed = none)
    (hP2 : f ∈ cyc → r'.changed = some R → r'.failed = none) :
    DInv R cyc w' ∧ ∀ z, Settled R cyc w z → Settled R cyc w' z := by
  have hne : ∀ z, z ≠ f → getRec w' R z = getRec w R z := fun z hz => getRec_congr (hrecs z hz)
  have hfs : w'.fs = w.fs := hsame.1
  have hsettled : ∀ z, Settled R cyc w z → Settled R cyc w' z := by
    intro z hz
    by_cases hzf : z = f
    · exact hzf ▸ hS (hzf ▸ hz)
    · unfold Settled V0 at hz ⊢
      rwa [hne z hzf, readStamp_congr (congrFun hfs _)]
  refine ⟨⟨fun z => ?_, fun y hy hV hck hg ho row hrow ht => ?_, fun z hz hex => ?_, fun z hz => ?_, fun z hzc hz => ?_⟩,
    hsettled⟩
  · by_cases hzf : z = f
    · exact hzf ▸ hwf
    · exact hrecs z hzf ▸ hinv.wf z
  · rw [hsame.2.1] at hrow
    refine GoodRow.mono hsettled hfs hsame.2.2.2.2.2.2 ?_
    by_cases hyf : y = f
    · subst hyf; rw [hself] at hck hg ho; exact hJ hy hV hck hg ho row hrow ht
    · unfold V0 at hV
      rw [hne y hyf, readStamp_congr (congrFun hfs _)] at hV
      rw [hne y hyf] at hck hg ho
      exact hinv.j y hy hV hck hg ho row hrow ht
  · rw [existsF_congr (congrFun hfs _)] at hex
    rw [readStamp_congr (congrFun hfs _)]
    by_cases hzf : z = f
    · subst hzf; rw [hself] at hz ⊢; exact hOV hz hex
    · rw [hne z hzf] at hz ⊢; exact hinv.ov z hz hex
  · by_cases hzf : z = f
    · subst hzf; rw [hself] at hz ⊢; exact hP1 hz
    · rw [hne z hzf] at hz ⊢; exact hinv.p1 z hz
  · by_cases hzf : z = f
    · subst hzf; rw [hself] at hz ⊢; exact hP2 hzc hz
    · rw [hne z hzf] at hz ⊢; exact hinv.p2 z hzc hz

/-- The same for the step relation of the check: what is asked of the record of `f`, and of the copies of it that are held. -/
theorem DStep.write {seen : List Nat} {w w' : World} (f : Nat) (hsame : SameButRecs w w')
    (hrecs : ∀ z, z ≠ f → w'.recs z = w.recs z) (hran : ranList w' = ranList w) (hseen : f ∉ seen)
    (hS : ∀ z, Settled R cyc w z → Settled R cyc w' z)
    (hF : isFailedR (getRec w' R f) R = isFailedR (getRec w R f) R)
    (hC : (getRec w' R f).changed = (getRec w R f).changed)
    (hG : (getRec w R f).isGenerated = false → (getRec w' R f).isGenerated = false)
    (hsnap : (∀ z, (getRec w' R z).changed = (getRec w R z).changed) → ∀ s, SnapRel R cyc w f s → SnapRel R cyc w' f s) :
    DStep R cyc seen w w' := by
  have hne : ∀ z, z ≠ f → getRec w' R z = getRec w R z := fun z hz => getRec_congr (hrecs z hz)
  have hchanged : ∀ z, (getRec w' R z).changed = (getRec w R z).changed := by
    intro z
    by_cases hzf : z = f
    · exact hzf ▸ hC
    · rw [hne z hzf]
  refine ⟨hsame, hS, fun z => ?_, hchanged, fun z s hs => ?_, fun g hg => hrecs g fun e => hseen (e ▸ hg), hran, fun z hz => ?_⟩
  · by_cases hzf : z = f
    · exact hzf ▸ hF
    · rw [hne z hzf]
  · by_cases hzf : z = f
    · subst hzf; exact hsnap hchanged s hs
    · exact hs.of_ne hS hchanged hsame.1 hsame.2.1 (hne z hzf)
  · by_cases hzf : z = f
    · subst hzf; exact hG hz
    · rw [hne z hzf]; exact hz

/-- The `checked` mark written after a clean verdict. -/
theorem cleanWrite (hR : 0 < R) {seen : List Nat} {w1 wE : World} (hinv : DInv R cyc w1) (f : Nat) (r : Rec) (ch : Nat)
    (hsnap : SnapRel R cyc w1 f r) (hfail : r.failed = none) (hch : r.changed = some ch)
    (hst : r.stamp = some (readStamp w1 f))
    (hrows : r.isGenerated = true → r.isOverride = false → ∀ row ∈ w1.deps, row.target = f →
      RowOK R cyc w1 row (max ch (r.checked.getD 0)))
    (hseen : f ∉ seen) (hsame : SameButRecs w1 wE) (hrecs : wE.recs = w1.recs) (hran : ranList wE = ranList w1) :
    DStep R cyc seen w1 (setRec wE f { r with checked := some R }) ∧
    DInv R cyc (setRec wE f { r with checked := some R }) ∧
    V0 R (setRec wE f { r with checked := some R }) f ∧
    isCheckedR (getRec (setRec wE f { r with checked := some R }) R f) R = true := by
  have hsame' : SameButRecs w1 (setRec wE f { r with checked := some R }) := hsame.trans (SameButRecs.setRec _ _ _)
  have hfs : (setRec wE f { r with checked := some R }).fs = w1.fs := hsame.1
  have hne : ∀ z, z ≠ f → (setRec wE f { r with checked := some R }).recs z = w1.recs z :=
    fun z hz => (setRec_recs_other _ _ _ hz).trans (congrFun hrecs z)
  have hself : getRec (setRec wE f { r with checked := some R }) R f = { r with checked := some R } :=
    hsnap.getRec_setRec hinv.wf wE _ rfl
  have hchk' : isCheckedR ({ r with checked := some R } : Rec) R = true := isCheckedR_some_self hR rfl
  have hV : V0 R (setRec wE f { r with checked := some R }) f := by
    unfold V0
    rw [hself]
    exact ⟨hfail, ch, hch, hsnap.wf.1 ch hch, .inl hchk'⟩
  -- the record in the database before the write carries no failure mark either
  have hcurfail : (getRec w1 R f).failed = none := by
    rcases hsnap.failed with h | h
    · rw [← h]; exact hfail
    · exact absurd hst h.2.2.1
  obtain ⟨iv, hsettled⟩ := hinv.write f hsame' hne hself
    (by rw [setRec_recs_self]; exact hsnap.wf.checked (by rw [hch]; simp))
    (fun _ => ⟨hV, fun _ => by rw [hself]; exact hchk'⟩)
    (fun _ _ hck => by rw [hchk'] at hck; cases hck)
    (fun _ _ => .inr (.inr ⟨hfail, hst⟩)) (fun _ => hfail) (fun _ _ => hfail)
  refine ⟨DStep.write f hsame' hne (by rw [← hran]; rfl) hseen hsettled ?_ ?_ ?_ ?_, iv, hV, by rw [hself]; exact hchk'⟩
  · rw [hself, isFailedR_none (r := { r with checked := some R }) hfail, isFailedR_none hcurfail]
  · rw [hself]; exact hsnap.changed
  · rw [hself, ← hsnap.gen hcurfail]; exact id
  · -- the copies of the record of `f` that are still held
    intro hchanged s hs
    have hsfail : s.failed = none := by
      rcases hs.failed with h | h
      · rw [h]; exact hcurfail
      · exact h.1
    refine ⟨hs.wf, ?_, ?_, ?_, ?_, ?_, ?_, ?_⟩ <;> rw [hself]
    · exact hs.stamp.trans hsnap.stamp.symm
    · exact hs.changed.trans hsnap.changed.symm
    · intro _; exact (hs.ovr hcurfail).trans (hsnap.ovr hcurfail).symm
    · left; exact hsfail.trans hfail.symm
    · intro _; exact (hs.gen hcurfail).trans (hsnap.gen hcurfail).symm
    · rw [hchk']; intro h; cases h
    · intro _ hsck
      refine ⟨by rw [readStamp_congr (congrFun hfs _)]; exact hst, ?_⟩
      intro hg ho c hc row hrow ht
      rw [hsame'.2.1] at hrow
      have hc' : c = ch := Option.some.inj (hc.symm.trans ((hs.changed.trans hsnap.changed.symm).trans hch))
      subst hc'
      refine RowOK.mono hsettled hchanged hfs ?_
      cases hcc : isCheckedR (getRec w1 R f) R with
      | true => exact (hs.late hcc hsck).2 hg ho c hc row hrow ht
      | false =>
        rw [hs.unchecked hcc, ← hsnap.unchecked hcc]
        exact hrows (hg ▸ (hsnap.gen hcurfail).trans (hs.gen hcurfail).symm)
          (ho ▸ (hsnap.ovr hcurfail).trans (hs.ovr hcurfail).symm) row hrow ht

/-- The target-to-source conversion written when a generated file has disappeared. -/
theorem unfailWrite {seen : List Nat} {w : World} (hinv : DInv R cyc w) (f : Nat) (r : Rec) (ch : Nat) (old : DStamp)
    (hsnap : SnapRel R cyc w f r) (hfail : r.failed = none) (hch : r.changed = some ch)
    (hck : isCheckedR r R = false) (hst : r.stamp = some old) (hne : old ≠ readStamp w f)
    (hseen : f ∉ seen) (hp2 : f ∈ cyc → ch ≠ R) :
    DStep R cyc seen w (setRec w f { r with isGenerated := false, isOverride := false, failed := some 0 }) ∧
    DInv R cyc (setRec w f { r with isGenerated := false, isOverride := false, failed := some 0 }) ∧
    ¬ V0 R (setRec w f { r with isGenerated := false, isOverride := false, failed := some 0 }) f := by
  have hself : getRec (setRec w f { r with isGenerated := false, isOverride := false, failed := some 0 }) R f =
      { r with isGenerated := false, isOverride := false, failed := some 0 } :=
    hsnap.getRec_setRec hinv.wf w _ rfl
  have hnez : ∀ z, z ≠ f → (setRec w f { r with isGenerated := false, isOverride := false, failed := some 0 }).recs z = w.recs z :=
    fun z hz => setRec_recs_other _ _ _ hz
  have hstne : r.stamp ≠ some (readStamp w f) := by
    rw [hst]; intro e; exact hne (Option.some.inj e)
  -- the database record is not checked either, and is not verified
  have hcurck : isCheckedR (getRec w R f) R = false := by
    cases hcc : isCheckedR (getRec w R f) R with
    | false => rfl
    | true => exact absurd (hsnap.stamp ▸ (hsnap.late hcc hck).1) hstne
  have hnotV : ¬ V0 R w f := notV0_of_stamp hsnap hck hstne
  have hckw : isCheckedR ({ r with isGenerated := false, isOverride := false, failed := some 0 } : Rec) R = false := hck
  obtain ⟨iv, hsettled⟩ := hinv.write f (SameButRecs.setRec _ _ _) hnez hself
    (by rw [setRec_recs_self]; exact hsnap.wf.unfail)
    (fun h => absurd h.1 hnotV) (fun _ _ _ hg => by cases hg) (fun ho => by cases ho)
    (fun h => by rw [hckw] at h; cases h)
    (fun hc h => absurd (Option.some.inj (hch.symm.trans h)) (hp2 hc))
  refine ⟨DStep.write f (SameButRecs.setRec _ _ _) hnez rfl hseen hsettled ?_ ?_ ?_ ?_, iv, fun hV => ?_⟩
  · rw [hself, isFailedR_zero (r := { r with isGenerated := false, isOverride := false, failed := some 0 }) rfl]
    rcases hsnap.failed with h | h
    · rw [isFailedR_none (h ▸ hfail)]
    · rw [isFailedR_zero h.2.1]
  · rw [hself]; exact hsnap.changed
  · rw [hself]; exact fun _ => rfl
  · intro _ s hs
    have hsck : s.checked = r.checked := (hs.unchecked hcurck).trans (hsnap.unchecked hcurck).symm
    refine ⟨hs.wf, ?_, ?_, ?_, ?_, ?_, ?_, ?_⟩ <;> rw [hself]
    · exact hs.stamp.trans hsnap.stamp.symm
    · exact hs.changed.trans hsnap.changed.symm
    · intro h; cases h
    · cases hsf : s.failed with
      | none => exact .inr ⟨rfl, rfl, hs.stamp ▸ hsnap.stamp ▸ hstne, by simp only [isCheckedR, hsck] at hck ⊢; exact hck⟩
      | some x =>
        left
        rcases hs.failed with h | h
        · rcases hsnap.failed with h' | h'
          · rw [hsf, ← h', hfail] at h; cases h
          · rw [hsf, h'.2.1] at h; exact h
        · rw [hsf] at h; cases h.1
    · intro h; cases h
    · intro _; exact hsck
    · intro h; rw [hckw] at h; cases h
  · have h0 := hV.1
    rw [hself] at h0
    cases h0

end RedoModel.Deps.Once
