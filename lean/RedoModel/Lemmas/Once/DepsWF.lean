import RedoModel.Lemmas.DepsEngineFrame
/-!
Well-formedness of run ids in records: no record carries a run id larger than the allocated one, and a
record without a `changed` mark has no stamp, checksum or `checked` mark.  Holds initially (`wf_init`) and is kept by the
engine of a run, whatever the defect switches (`wf_frame`); user operations and histories are in `DepsWFOps.lean`.
-/
namespace RedoModel.Deps.Once
open RedoModel.Deps

def WFrec (R : Nat) (r : Rec) : Prop :=
  (∀ c, r.changed = some c → c ≤ R) ∧ (∀ c, r.checked = some c → c ≤ R) ∧ (∀ c, r.failed = some c → c ≤ R) ∧
  (r.changed = none → r.stamp = none ∧ r.checked = none ∧ r.csum = none)

def WFR (R : Nat) (w : World) : Prop := ∀ f, WFrec R (w.recs f)

/-- The well-formedness of a world between commands. -/
def WF (w : World) : Prop := WFR w.runCounter w

theorem WFrec.mono {R R' : Nat} {r : Rec} (h : WFrec R r) (hle : R ≤ R') : WFrec R' r := by
  obtain ⟨h1, h2, h3, h4⟩ := h
  exact ⟨fun c hc => Nat.le_trans (h1 c hc) hle, fun c hc => Nat.le_trans (h2 c hc) hle,
    fun c hc => Nat.le_trans (h3 c hc) hle, h4⟩

theorem WFrec.default (R : Nat) : WFrec R {} := by
  refine ⟨?_, ?_, ?_, ?_⟩ <;> simp

theorem WFrec.row {R : Nat} {r : Rec} (h : WFrec R r) (n : Nat) : WFrec R { r with row := n } := h

theorem WFrec.setChanged {R : Nat} {r : Rec} (h : WFrec R r) : WFrec R (setChanged r R) := by
  obtain ⟨h1, h2, h3, h4⟩ := h
  refine ⟨?_, h2, ?_, ?_⟩ <;> simp [Deps.setChanged]

theorem WFrec.setChanged_stamp {R : Nat} {r : Rec} (h : WFrec R r) (s : Option DStamp) :
    WFrec R (Deps.setChanged { r with stamp := s } R) := by
  obtain ⟨h1, h2, h3, h4⟩ := h
  refine ⟨?_, h2, ?_, ?_⟩ <;> simp [Deps.setChanged]

theorem WFrec.updateStamp {R : Nat} {r : Rec} (h : WFrec R r) (w : World) (f : Nat) :
    WFrec R (updateStamp w f r R) := by
  unfold Deps.updateStamp
  simp only
  split
  · exact h
  · exact h.setChanged_stamp _

theorem WFrec.setFailed {R : Nat} {r : Rec} (h : WFrec R r) (w : World) (f : Nat) :
    WFrec R (setFailed w f r R) := by
  obtain ⟨h1, h2, h3, h4⟩ := h.updateStamp w f
  refine ⟨h1, h2, ?_, h4⟩
  simp [Deps.setFailed]

theorem WFrec.setStatic {R : Nat} {r : Rec} (h : WFrec R r) (w : World) (f : Nat) :
    WFrec R (setStatic w f r R) := by
  obtain ⟨h1, h2, h3, h4⟩ := h.updateStamp w f
  refine ⟨h1, h2, ?_, ?_⟩
  · simp [Deps.setStatic]
  · intro hc
    exact ⟨(h4 hc).1, (h4 hc).2.1, rfl⟩

theorem WFrec.setOverride {R : Nat} {r : Rec} (h : WFrec R r) (w : World) (f : Nat) :
    WFrec R (setOverride w f r R) := by
  obtain ⟨h1, h2, h3, h4⟩ := h.updateStamp w f
  refine ⟨h1, h2, ?_, ?_⟩
  · simp [Deps.setOverride]
  · intro hc
    exact ⟨(h4 hc).1, (h4 hc).2.1, rfl⟩

theorem WFrec.stampRec {R : Nat} {r : Rec} (h : WFrec R r) (data : Content) : WFrec R (stampRec r R data) := by
  obtain ⟨h1, h2, h3, h4⟩ := h
  unfold Deps.stampRec
  simp only
  split
  · refine ⟨?_, h2, ?_, ?_⟩ <;> simp [Deps.setChanged]
  · rename_i hc
    refine ⟨h1, ?_, ?_, ?_⟩
    · simp
    · simp
    · intro hn
      have := (h4 hn).2.2
      simp at hc hn
      rw [this] at hc
      cases hc

theorem WFrec.checked {R : Nat} {r : Rec} (h : WFrec R r) (hc : r.changed ≠ none) :
    WFrec R { r with checked := some R } := by
  obtain ⟨h1, h2, h3, h4⟩ := h
  refine ⟨h1, ?_, h3, ?_⟩
  · simp
  · intro hn; exact absurd hn hc

theorem WFrec.unfail {R : Nat} {r : Rec} (h : WFrec R r) :
    WFrec R { r with isGenerated := false, isOverride := false, failed := some 0 } := by
  obtain ⟨h1, h2, h3, h4⟩ := h
  refine ⟨h1, h2, ?_, h4⟩
  simp

theorem WFrec.gen {R : Nat} {r : Rec} (h : WFrec R r) (g o : Bool) :
    WFrec R { r with isGenerated := g, isOverride := o } := h

theorem WFrec.getRec {R : Nat} {w : World} (h : WFR R w) (f : Nat) : WFrec R (getRec w R f) := by
  unfold Deps.getRec
  simp only
  split
  · obtain ⟨h1, h2, h3, h4⟩ := h f
    refine ⟨?_, h2, h3, ?_⟩
    · intro c hc
      simp only [Option.some.injEq] at hc
      subst hc
      split
      · rename_i c' hc'; have := h1 c' hc'; omega
      · omega
    · intro hn; simp at hn
  · exact h f

theorem WFR.setRec {R : Nat} {w : World} (h : WFR R w) (f : Nat) {r : Rec} (hr : WFrec R r) : WFR R (Deps.setRec w f r) := by
  intro x
  simp only [Deps.setRec]
  split
  · exact hr
  · exact h x

theorem WFR.of_recs {R : Nat} {w w' : World} (h : WFR R w) (e : w'.recs = w.recs) : WFR R w' := by
  intro x; rw [e]; exact h x

theorem WFR.setFile {R : Nat} {w : World} (h : WFR R w) (f : Nat) (n : Option FNode) : WFR R (Deps.setFile w f n) :=
  h.of_recs rfl

theorem WFrec.built {R : Nat} {w : World} (h : WFR R w) (t : Nat) : WFrec R (builtRec w t R) := by
  obtain ⟨h1, h2, h3, h4⟩ := h t
  unfold builtRec
  dsimp only
  split
  · rename_i hc
    refine ⟨h1, h2, h3, fun hn => ?_⟩
    have := h4 hn
    simp [isCheckedR, isChangedR, show (w.recs t).changed = none from hn, this.2.1] at hc
  · refine WFrec.setChanged (WFrec.updateStamp ?_ _ _)
    exact ⟨h1, h2, h3, fun hn => ⟨(h4 hn).1, (h4 hn).2.1, rfl⟩⟩

/-- The engine of run `R` keeps run ids well formed. -/
theorem wf_frame (R : Nat) :
    EngineFrame (fun cx => cx.runid = R) (WFR R) (fun _ => True) (fun _ _ => True) (WFrec R) (KeepsRecs (WFrec R)) :=
  recs_frame (fun h n => h.row n) (fun h f => WFrec.getRec h f) (fun h => h.setChanged_stamp _) (fun h data => h.stampRec data)
    (fun h => h.unfail) (fun h hc => h.checked hc) (fun h w f _ _ => h.setOverride w f) (fun h w f => h.setStatic w f)
    (fun h w f => h.setFailed w f) (fun h t => WFrec.built h t)

theorem WFR.findDoFile {R : Nat} (t : Nat) : ∀ (cs : List Nat) {w : World}, WFR R w → WFR R (Deps.findDoFile t cs w).2 :=
  fun cs w h => KeepsRecs.findDoFile (Q := WFrec R) (fun h n => h.row n) t cs w h

/-! ### The initial world -/

theorem wf_init (rules : Nat → List Nat) : WF (initWorld rules) := by
  intro f
  simp only [initWorld]
  split
  · refine ⟨?_, ?_, ?_, ?_⟩ <;> simp
  · exact WFrec.default _

theorem WFR.mono {R R' : Nat} {w : World} (h : WFR R w) (hle : R ≤ R') : WFR R' w := fun f => (h f).mono hle

theorem wf_of_wfr {w : World} (h : WFR w.runCounter w) : WF w := h

end RedoModel.Deps.Once
