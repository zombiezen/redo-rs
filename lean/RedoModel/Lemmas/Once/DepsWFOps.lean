import RedoModel.Lemmas.Once.DepsFrame
/-! User operations and histories: what a history preserves, and that run ids stay well formed. -/
namespace RedoModel.Deps.Once
open RedoModel.Deps

theorem runTargets_top_wf (d : Defects) (cx : Ctx) (n : Nat) (ts : List Nat) (w : World)
    (hR : cx.runid = w.runCounter) (h : WFR w.runCounter w) :
    WF (runTargets (engine d n) d cx n ts [] false w).2 := by
  have h1 := (wf_frame w.runCounter).runTargets ((wf_frame w.runCounter).engine d n) d hR n ts [] false w h h
  have h2 := runTargets_keeps (engine_keeps d n) w d cx n ts [] false w (Keeps.refl w)
  unfold WF
  rw [h2.1]
  exact h1

theorem wf_allocRun {w : World} (h : WF w) : WFR (allocRun w).2.runCounter (allocRun w).2 := by
  intro f
  exact (h f).mono (Nat.le_succ _)

theorem wf_applyOp (d : Defects) (n : Nat) (op : UserOp) (w : World) (h : WF w) : WF (applyOp d n op w).2 := by
  rcases applyOp_shape d n op w with ⟨hrec, hle, _⟩ | ⟨cx, ts, hR, e⟩
  · exact (h.mono hle).of_recs hrec
  · rw [e]
    exact runTargets_top_wf d cx _ ts _ hR (wf_allocRun h)

/-- Replay a history of user operations. -/
def runOps (d : Defects) (n : Nat) : List UserOp → World → World
  | [], w => w
  | op :: ops, w => runOps d n ops (applyOp d n op w).2

theorem runOps_eq_foldl (d : Defects) (n : Nat) : ∀ (ops : List UserOp) (w : World),
    runOps d n ops w = ops.foldl (fun w op => (applyOp d n op w).2) w
  | [], _ => rfl
  | op :: ops, w => runOps_eq_foldl d n ops (applyOp d n op w).2

theorem runOps_inv {P : World → Prop} (d : Defects) (n : Nat) (ops : List UserOp) (w : World) (h : P w)
    (hops : ∀ op ∈ ops, ∀ w, P w → P (applyOp d n op w).2) : P (runOps d n ops w) :=
  runOps_eq_foldl d n ops w ▸ history_inv d n ops w h hops

theorem runOps_rules (d : Defects) (n : Nat) (ops : List UserOp) (w : World) : (runOps d n ops w).rules = w.rules :=
  runOps_inv (P := fun w' => w'.rules = w.rules) d n ops w rfl fun op _ w' h => by
    rcases applyOp_shape d n op w' with ⟨_, _, hr, _⟩ | ⟨cx, ts, _, e⟩
    · exact hr.trans h
    · rw [e]
      exact (runTargets_keeps (engine_keeps d _) _ d cx _ ts [] false _ (Keeps.refl _)).2.1.trans h

/-- Every script in force at the end of a history was there at the start or was installed by one of its
operations. -/
theorem runOps_progs {P : Script → Prop} (d : Defects) (n : Nat) (ops : List UserOp) (w : World)
    (h : ∀ c sc, w.progs c = some sc → P sc) (hops : ∀ c s, UserOp.setProg c s ∈ ops → P s) :
    ∀ c sc, (runOps d n ops w).progs c = some sc → P sc :=
  runOps_inv (P := fun w' => ∀ c sc, w'.progs c = some sc → P sc) d n ops w h fun op hop w' h' => by
    rcases applyOp_shape d n op w' with ⟨_, _, _, hp⟩ | ⟨cx, ts, _, e⟩
    · cases op with
      | setProg c s =>
        intro c' sc hc
        simp only [applyOp] at hc
        split at hc
        · cases hc
          exact hops c s hop
        · exact h' c' sc hc
      | _ =>
        rw [hp (fun _ _ e => UserOp.noConfusion e)]
        exact h'
    · rw [e, (runTargets_keeps (engine_keeps d _) _ d cx _ ts [] false _ (Keeps.refl _)).2.2.1]
      exact h'

theorem wf_reachable (d : Defects) (n : Nat) (rules : Nat → List Nat) (ops : List UserOp) :
    WF (runOps d n ops (initWorld rules)) :=
  runOps_inv d n ops _ (wf_init rules) fun op _ w h => wf_applyOp d n op w h

end RedoModel.Deps.Once
