import RedoModel.Lemmas.ParInv
/-!
Consequences of the invariant of `RedoModel.Par`: at most one start per target, a settled target holds the
from-scratch content, that content is unique, hence any two accepted schedules agree.  `startsOf`, the start events of a
schedule, is defined here (for `ParF`: in ParFMain.lean).
-/
namespace RedoModel.Par

/-- `out` is NOT injective in the list of inputs: the brackets `0 … 1` can be imitated by the contents themselves.
Nothing below depends on injectivity. -/
theorem out_not_injective : out 0 [[1, 0]] = out 0 [[], []] ∧ ([[1, 0]] : List Content) ≠ [[], []] := by
  decide

theorem spec_unique {g : Graph} {t : Nat} {c₁ c₂ : Content} (h₁ : Spec g t c₁) (h₂ : Spec g t c₂) :
    c₁ = c₂ := by
  induction h₁ generalizing c₂ with
  | src hs =>
    cases h₂ with
    | src _ => rfl
    | tgt cs hsc _ _ => rw [hs] at hsc; cases hsc
  | tgt cs hsc hlen hp ih =>
    cases h₂ with
    | src hs => rw [hs] at hsc; cases hsc
    | tgt cs' hsc' hlen' hp' =>
      rw [hsc] at hsc'; cases hsc'
      have : cs = cs' := by
        apply List.ext_getElem (by omega)
        intro i h1 h2
        exact ih i (by omega) h1 (hp' i (by omega) h2)
      rw [this]

def evStart : Ev → List Nat
  | .start t _ => [t]
  | _ => []

/-- The targets of the `start` events of a schedule, in order. -/
def startsOf (es : List Ev) : List Nat := es.flatMap evStart

theorem evStart_reverse (e : Ev) : (evStart e).reverse = evStart e := by cases e <;> rfl

theorem step_starts {g : Graph} {s s' : State} {e : Ev} (h : step g s e = some s') :
    s'.starts = evStart e ++ s.starts := by
  cases e with
  | start t b => obtain ⟨_, _, _, rfl⟩ := step_start h; rfl
  | clean t => obtain ⟨_, _, rfl⟩ := step_clean h; rfl
  | ret t => obtain ⟨_, _, _, _, _, _, _, rfl⟩ := step_ret h; rfl
  | finish t => obtain ⟨_, _, _, rfl⟩ := step_finish h; rfl

theorem run_starts {g : Graph} {es : List Ev} {s s' : State} (h : run g s es = some s') :
    s'.starts = (startsOf es).reverse ++ s.starts := by
  have hr := run_iff.1 h; clear h
  induction hr with
  | nil => simp [startsOf]
  | cons hs _ ih => rw [ih, step_starts hs]; simp [startsOf, List.flatMap_cons, evStart_reverse]

/-- Every event is about one target: it has a script, is not settled before the event and not idle after it; the
status and content of every other file stay. -/
theorem step_frame {g : Graph} {s s' : State} {e : Ev} (h : step g s e = some s') :
    ∃ t, (∃ sc, g.script t = some sc) ∧ s.st t ≠ .done ∧ s'.st t ≠ .idle ∧
      ∀ x, x ≠ t → s'.st x = s.st x ∧ s'.content x = s.content x := by
  cases e with
  | start t b =>
    obtain ⟨hsc, hidle, _, rfl⟩ := step_start h
    exact ⟨t, hsc, by rw [hidle]; nofun, by simp only [upd_same]; nofun, fun x hx => ⟨upd_other _ _ _ _ hx, rfl⟩⟩
  | clean t =>
    obtain ⟨hsc, hidle, rfl⟩ := step_clean h
    exact ⟨t, hsc, by rw [hidle]; nofun, by simp only [upd_same]; nofun, fun x hx => ⟨upd_other _ _ _ _ hx, rfl⟩⟩
  | ret t =>
    obtain ⟨sc, _, _, hsc, hst, _, _, rfl⟩ := step_ret h
    exact ⟨t, ⟨sc, hsc⟩, by rw [hst]; nofun, by simp only [upd_same]; nofun, fun x hx => ⟨upd_other _ _ _ _ hx, rfl⟩⟩
  | finish t =>
    obtain ⟨sc, hsc, hst, rfl⟩ := step_finish h
    exact ⟨t, ⟨sc, hsc⟩, by rw [hst]; nofun, by simp only [upd_same]; nofun,
      fun x hx => ⟨upd_other _ _ _ _ hx, upd_other _ _ _ _ hx⟩⟩

theorem run_content_src {g : Graph} (es : List Ev) (s s' : State) (h : run g s es = some s') (t : Nat)
    (ht : g.script t = none) : s'.content t = s.content t := by
  refine (run_iff.1 h).inv (I := fun x => x.content t = s.content t) (fun _ _ _ hs hi => ?_) rfl
  obtain ⟨u, ⟨sc, hsc⟩, _, _, hx⟩ := step_frame hs
  exact (hx t (by rintro rfl; rw [ht] at hsc; cases hsc)).2.trans hi

/-- The content of a target changes only at its `finish`, which leaves it settled; so a target that is
(still) idle holds what it held before. -/
theorem step_content_idle {g : Graph} {s s' : State} {e : Ev} (h : step g s e = some s') {t : Nat}
    (ht : s'.st t = .idle) : s.st t = .idle ∧ s'.content t = s.content t := by
  obtain ⟨u, _, _, hne, hx⟩ := step_frame h
  obtain ⟨h1, h2⟩ := hx t (by rintro rfl; exact hne ht)
  exact ⟨h1 ▸ ht, h2⟩

theorem run_done_stable {g : Graph} (es : List Ev) (s s' : State) (h : run g s es = some s') (t : Nat)
    (ht : s.st t = .done) : s'.st t = .done ∧ s'.content t = s.content t := by
  refine (run_iff.1 h).inv (I := fun x => x.st t = .done ∧ x.content t = s.content t) (fun _ _ _ hs hi => ?_) ⟨ht, rfl⟩
  obtain ⟨u, _, hnd, _, hx⟩ := step_frame hs
  obtain ⟨h1, h2⟩ := hx t (by rintro rfl; exact hnd hi.1)
  exact ⟨h1 ▸ hi.1, h2.trans hi.2⟩

theorem par_at_most_once {g : Graph} {s0 s : State} {es : List Ev} (h0 : Init g s0)
    (h : run g s0 es = some s) :
    s.starts.Nodup ∧ (∀ t ∈ s.starts, s.st t ≠ .idle) ∧ s.starts = (startsOf es).reverse ∧
    (startsOf es).Nodup := by
  have hs : s.starts = (startsOf es).reverse := by rw [run_starts h, h0.1, List.append_nil]
  have hi := run_invB (init_invB h0) h
  exact ⟨hi.nodup, hi.started, hs, (List.reverse_perm _).nodup_iff.1 (hs ▸ hi.nodup)⟩

/-- Without a hypothesis on clean targets a settled target need not hold the from-scratch content: `clean` settles any
idle target whatever it holds. -/
theorem done_is_spec_false :
    ∃ (g : Graph) (s0 s : State) (es : List Ev), WellFormed g ∧ Init g s0 ∧ run g s0 es = some s ∧
      ∃ t sc, g.script t = some sc ∧ s.st t = .done ∧ ¬ Spec g t (s.content t) := by
  let g : Graph := { script := fun t => if t = 0 then some { cmds := [], reads := [], tag := 0 } else none,
                     src := fun _ => [] }
  let s0 : State := { st := fun _ => .idle, content := fun _ => [] }
  refine ⟨g, s0, { s0 with st := upd s0.st 0 .done }, [.clean 0], ?_, ?_, rfl, 0, _, rfl, rfl, ?_⟩
  · intro t sc hsc f hf
    by_cases ht : t = 0
    · simp only [g, ht, if_true, Option.some.injEq] at hsc
      subst hsc; cases hf
    · simp [g, ht] at hsc
  · exact ⟨rfl, fun _ => Or.inl rfl, fun t sc _ h => by cases h⟩
  · intro h
    have h2 : Spec g 0 (out 0 []) :=
      Spec.tgt (g := g) (t := 0) (sc := { cmds := [], reads := [], tag := 0 }) [] rfl rfl
        (fun i h _ => absurd h (Nat.not_lt_zero _))
    have := spec_unique h h2
    revert this
    decide

theorem done_is_spec_partial {g : Graph} {s0 s : State} {es : List Ev} (hw : WellFormed g)
    (h0 : Init g s0) (hc : CleanOk g s0 es) (h : run g s0 es = some s) :
    ∀ t sc, g.script t = some sc → s.st t = .done → Spec g t (s.content t) :=
  (run_inv hw (fun _ ht => ht) (init_inv h0 hc) h).doneSpec

theorem cleanOk_of_no_clean {g : Graph} {s0 : State} {es : List Ev} (h : ∀ t, Ev.clean t ∉ es) :
    CleanOk g s0 es := fun t _ ht => absurd ht (h t)

theorem no_clean_after {g : Graph} {t : Nat} {es : List Ev} {s s' : State} (h : run g s es = some s')
    (hne : s.st t ≠ .idle) : Ev.clean t ∉ es := fun hm =>
  (run_iff.1 h).forall_mem (I := fun x => x.st t ≠ .idle) (P := fun e => e ≠ .clean t)
    (fun _ _ _ hs hi h1 => hi (step_content_idle hs h1).1)
    (fun _ _ _ hs hi he => hi (by subst he; exact (step_clean hs).2.1)) hne _ hm rfl

/-- `CleanOk` is necessary: in an accepted run whose settled targets all hold the from-scratch
content, every target declared clean held it at the start. -/
theorem cleanOk_necessary {g : Graph} : ∀ (es : List Ev) (s0 s : State), run g s0 es = some s →
    (∀ t sc, g.script t = some sc → s.st t = .done → Spec g t (s.content t)) → CleanOk g s0 es
  | [], _, _, _, _ => fun t _ ht => by cases ht
  | e :: es, s0, s, h, hspec => by
    obtain ⟨s1, hs, hr⟩ := Reach.cons_iff.1 (run_iff.1 h)
    have h := run_iff.2 hr
    intro t sc ht hsc hidle
    rcases List.mem_cons.1 ht with rfl | ht
    · obtain ⟨_, _, rfl⟩ := step_clean hs
      obtain ⟨h1, h2⟩ := run_done_stable es _ s h t (upd_same _ _ _)
      have := hspec t sc hsc h1
      rw [h2] at this
      exact this
    · by_cases hi1 : s1.st t = .idle
      · have := cleanOk_necessary es s1 s h hspec t sc ht hsc hi1
        rw [(step_content_idle hs hi1).2] at this
        exact this
      · -- `t` left the idle state at `e`; the later `clean t` cannot have been accepted
        exact absurd ht (no_clean_after h hi1)

theorem confluent {g : Graph} {s0 s₁ s₂ : State} {es₁ es₂ : List Ev} (hw : WellFormed g)
    (h0 : Init g s0) (hc₁ : CleanOk g s0 es₁) (hc₂ : CleanOk g s0 es₂)
    (h₁ : run g s0 es₁ = some s₁) (h₂ : run g s0 es₂ = some s₂) (t : Nat)
    (hd₁ : s₁.st t = .done) (hd₂ : s₂.st t = .done) : s₁.content t = s₂.content t := by
  cases hsc : g.script t with
  | none => rw [run_content_src es₁ s0 s₁ h₁ t hsc, run_content_src es₂ s0 s₂ h₂ t hsc]
  | some sc =>
    exact spec_unique (done_is_spec_partial hw h0 hc₁ h₁ t sc hsc hd₁)
      (done_is_spec_partial hw h0 hc₂ h₂ t sc hsc hd₂)

/-- `finish` is accepted only when everything the script asked for is settled. -/
theorem order_respected {g : Graph} {s s' : State} {t : Nat} {sc : Script}
    (h : step g s (.finish t) = some s') (hi : InvB g s) (hsc : g.script t = some sc) :
    ∀ f ∈ sc.cmds.flatten, settled g s f = true := by
  obtain ⟨sc', hsc', hst, _⟩ := step_finish h
  rw [hsc] at hsc'; cases hsc'
  exact flatten_settled hi hsc hst

/-- The same about a run: whenever a `finish t` is accepted after any accepted prefix, everything the
script of `t` asked for is settled at that moment (no hypothesis on the graph or on clean targets). -/
theorem order_respected_run {g : Graph} {s0 s s' : State} {es : List Ev} {t : Nat} {sc : Script}
    (h0 : Init g s0) (h : run g s0 es = some s) (hf : step g s (.finish t) = some s')
    (hsc : g.script t = some sc) : ∀ f ∈ sc.cmds.flatten, settled g s f = true :=
  order_respected hf (run_invB (init_invB h0) h) hsc

end RedoModel.Par
