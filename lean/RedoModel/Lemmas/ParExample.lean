import RedoModel.Lemmas.ParSerial
/-!
A concrete instance of `RedoModel.Par`: a diamond with a shared dependency.

    3 (top)  asks for 1 and 2 in one command
    1 (a)    asks for 4
    2 (b)    asks for 4 and the source 0 in one command
    4        asks for the source 0; it is requested twice (by 1 and by 2)

The schedules are checked by evaluation in the kernel (`rfl` / `decide`).
-/
namespace RedoModel.Par.Ex

def g : Graph where
  script
    | 1 => some { cmds := [[4]], reads := [4], tag := 1 }
    | 2 => some { cmds := [[4, 0]], reads := [4, 0], tag := 2 }
    | 3 => some { cmds := [[1, 2]], reads := [1, 2], tag := 3 }
    | 4 => some { cmds := [[0]], reads := [0], tag := 4 }
    | _ => none
  src := fun _ => [7]

def rank : Nat → Nat
  | 3 => 3
  | 1 => 2
  | 2 => 2
  | 4 => 1
  | _ => 0

/-- Nothing is built yet; 4 happens to hold already what a build would give it. -/
def s0 : State := { st := fun _ => .idle, content := fun t => if t = 4 then [10, 0, 7, 1] else [] }

/-- The depth-first -j1 schedule. -/
def esSerial : List Ev :=
  [.start 3 none, .start 1 (some 3), .start 4 (some 1), .ret 4, .finish 4, .ret 1, .finish 1,
   .start 2 (some 3), .ret 2, .finish 2, .ret 3, .finish 3]

/-- A -j3 interleaving: 2 starts before 1, and it is 2 (not 1) that builds the shared 4. -/
def esPar : List Ev :=
  [.start 3 none, .start 2 (some 3), .start 1 (some 3), .start 4 (some 2), .ret 4, .finish 4,
   .ret 2, .ret 1, .finish 2, .finish 1, .ret 3, .finish 3]

/-- A run in which the dirtiness check finds 4 clean. -/
def esClean : List Ev :=
  [.start 3 none, .start 1 (some 3), .clean 4, .ret 1, .start 2 (some 3), .finish 1, .ret 2, .finish 2,
   .ret 3, .finish 3]

theorem wellFormed : WellFormed g := by
  intro t sc hsc
  unfold g at hsc
  simp only at hsc
  split at hsc <;> cases hsc <;> decide

theorem ranked : Ranked g rank := by
  intro t sc hsc
  unfold g at hsc
  simp only at hsc
  split at hsc <;> cases hsc <;> decide

theorem init : Init g s0 := ⟨rfl, fun _ => Or.inl rfl, fun _ _ _ h => by cases h⟩

theorem spec4 : Spec g 4 [10, 0, 7, 1] :=
  Spec.tgt (g := g) (t := 4) (sc := { cmds := [[0]], reads := [0], tag := 4 }) [[7]] rfl rfl
    (fun i h _ => by
      have : i = 0 := by simpa using h
      subst this
      exact Spec.src (g := g) (f := 0) rfl)

theorem cleanOk : CleanOk g s0 esClean := by
  intro t sc ht _ _
  have : t = 4 := by simpa [esClean] using ht
  subst this
  exact spec4

theorem serial_schedule : (serialOne g 4 3 none s0).1 = esSerial := rfl

theorem serial_accepted : (run g s0 esSerial).isSome = true := rfl
theorem par_accepted : (run g s0 esPar).isSome = true := rfl
theorem clean_accepted : (run g s0 esClean).isSome = true := rfl

/-- Each script ran once in the parallel run although 4 was asked for twice. -/
theorem par_starts : (run g s0 esPar).map (·.starts) = some [4, 1, 2, 3] := by decide

/-- `ret` before the dependencies are settled is rejected. -/
theorem early_ret_rejected : (run g s0 [.start 3 none, .ret 3]).isNone = true := rfl

/-- A second start of the same script is rejected, whoever asks. -/
theorem second_start_rejected :
    (run g s0 [.start 3 none, .start 1 (some 3), .start 2 (some 3), .start 4 (some 1),
               .start 4 (some 2)]).isNone = true := rfl

/-- A start that nobody asked for is rejected (3 is not executing a command that names 4). -/
theorem unasked_start_rejected : (run g s0 [.start 3 none, .start 4 (some 3)]).isNone = true := rfl

/-- `finish` before the last command has returned is rejected. -/
theorem early_finish_rejected : (run g s0 [.start 3 none, .finish 3]).isNone = true := rfl

/-- Starting a target the dirtiness check has declared clean is rejected. -/
theorem start_after_clean_rejected :
    (run g s0 [.start 3 none, .start 1 (some 3), .clean 4, .start 4 (some 1)]).isNone = true := rfl

end RedoModel.Par.Ex
