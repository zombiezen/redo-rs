import RedoModel.Lemmas.ParFSerial
/-!
A concrete instance of `RedoModel.ParF`: one failing leaf shared by two branches.

    5 (top)  asks for 1 and 2 in one command
    1 (a)    asks for 3
    2 (b)    asks for 4, then (second command) for 3
    3        asks for the source 0, then fails          (requested by 1 and by 2)
    4        asks for the source 0

The schedules are checked by evaluation in the kernel (`rfl` / `decide`).
-/
namespace RedoModel.ParF.Ex

def g : Graph where
  script
    | 1 => some { cmds := [[3]], reads := [3], tag := 1 }
    | 2 => some { cmds := [[4], [3]], reads := [4, 3], tag := 2 }
    | 3 => some { cmds := [[0]], reads := [0], tag := 3, fails := true }
    | 4 => some { cmds := [[0]], reads := [0], tag := 4 }
    | 5 => some { cmds := [[1, 2]], reads := [1, 2], tag := 5 }
    | _ => none
  src := fun _ => [7]

/-- The same project built with `--keep-going`. -/
def gK : Graph := { g with keepGoing := true }

def rank : Nat → Nat
  | 5 => 3
  | 1 => 2
  | 2 => 2
  | 3 => 1
  | 4 => 1
  | _ => 0

def s0 : State := { st := fun _ => .idle, content := fun _ => [] }

/-- Branch 1 meets the failure: the serial schedule without `--keep-going`; 2 and 4 are never started. -/
def esA : List Ev :=
  [.start 5 none, .start 1 (some 5), .start 3 (some 1), .ret 3 true, .fail 3, .ret 1 false, .fail 1,
   .ret 5 false, .fail 5]

/-- Branch 2 meets the failure (it is 2 that runs the script of 3); 1 only learns of it. -/
def esB : List Ev :=
  [.start 5 none, .start 2 (some 5), .start 1 (some 5), .start 4 (some 2), .ret 4 true, .finish 4,
   .ret 2 true, .start 3 (some 2), .ret 3 true, .fail 3, .ret 2 false, .fail 2, .ret 1 false, .fail 1,
   .ret 5 false, .fail 5]

/-- The serial schedule with `--keep-going`: after 1 has failed, 2 is still tried. -/
def esK : List Ev :=
  [.start 5 none, .start 1 (some 5), .start 3 (some 1), .ret 3 true, .fail 3, .ret 1 false, .fail 1,
   .start 2 (some 5), .start 4 (some 2), .ret 4 true, .finish 4, .ret 2 true, .ret 2 false, .fail 2,
   .ret 5 false, .fail 5]

theorem wellFormed : WellFormed g := by
  intro t sc hsc
  unfold g at hsc
  simp only at hsc
  split at hsc <;> cases hsc <;> decide

theorem ranked : Ranked g rank := by
  intro t sc hsc
  unfold g at hsc
  simp only at hsc
  split at hsc <;> cases hsc <;> decide

theorem rankedK : Ranked gK rank := ranked

theorem allIdle : AllIdle s0 := ⟨rfl, fun _ => rfl⟩

theorem bad3 : Bad g 3 :=
  Bad.self (g := g) (t := 3) (sc := { cmds := [[0]], reads := [0], tag := 3, fails := true }) rfl rfl

theorem bad2 : Bad g 2 :=
  Bad.dep (g := g) (t := 2) (sc := { cmds := [[4], [3]], reads := [4, 3], tag := 2 }) (d := 3) rfl
    (by decide) bad3

theorem bad5 : Bad g 5 :=
  Bad.dep (g := g) (t := 5) (sc := { cmds := [[1, 2]], reads := [1, 2], tag := 5 }) (d := 1) rfl (by decide)
    (Bad.dep (g := g) (t := 1) (sc := { cmds := [[3]], reads := [3], tag := 1 }) (d := 3) rfl (by decide)
      bad3)

theorem serial_schedule : (serialTop g 4 [5] s0).1 = esA := rfl
theorem serial_schedule_keepGoing : (serialTop gK 4 [5] s0).1 = esK := rfl

theorem a_accepted : (run g s0 esA).isSome = true := rfl
theorem b_accepted : (run g s0 esB).isSome = true := rfl
theorem k_accepted : (run gK s0 esK).isSome = true := rfl

/-- Both schedules end where the top level returns, with the same (non-zero) status; which targets were
attempted differs: in A the (unbuildable) 2 and the buildable 4 stay idle, in B all are settled. -/
theorem same_status :
    (run g s0 esA).map (fun s => (topReturns g s [5], status g s [5])) = some (true, 1) ∧
    (run g s0 esB).map (fun s => (topReturns g s [5], status g s [5])) = some (true, 1) ∧
    (run gK s0 esK).map (fun s => (topReturns gK s [5], status gK s [5])) = some (true, 1) ∧
    (run g s0 esA).map (fun s => [1, 2, 3, 4, 5].map s.st)
      = some [.failed, .idle, .failed, .idle, .failed] ∧
    (run g s0 esB).map (fun s => [1, 2, 3, 4, 5].map s.st)
      = some [.failed, .failed, .failed, .done, .failed] := by
  decide

/-- The failing script ran once in each although 3 was asked for twice. -/
theorem starts : (run g s0 esA).map (·.starts) = some [3, 1, 5] ∧
    (run g s0 esB).map (·.starts) = some [3, 4, 1, 2, 5] := by decide

/-- Asking for the buildable 4 at the top gives status 0. -/
theorem good_status :
    (run g s0 [.start 4 none, .ret 4 true, .finish 4]).map (fun s => (topReturns g s [4], status g s [4]))
      = some (true, 0) := by decide

/-- A failing script cannot `finish`. -/
theorem finish_of_failing_rejected :
    (run g s0 [.start 3 none, .ret 3 true, .finish 3]).isNone = true := rfl

/-- A command naming a failed target cannot return zero. -/
theorem ok_after_failure_rejected :
    (run g s0 [.start 5 none, .start 1 (some 5), .start 3 (some 1), .ret 3 true, .fail 3,
               .ret 1 true]).isNone = true := rfl

/-- A command cannot return non-zero while nothing it names has failed. -/
theorem bad_return_without_failure_rejected :
    (run g s0 [.start 5 none, .start 1 (some 5), .start 3 (some 1), .ret 1 false]).isNone = true := rfl

/-- After a non-zero return the script cannot go on (`sh -e`): no `finish`, no further `ret`. -/
theorem continue_after_bad_return_rejected :
    (run g s0 [.start 5 none, .start 1 (some 5), .start 3 (some 1), .ret 3 true, .fail 3, .ret 1 false,
               .finish 1]).isNone = true ∧
    (run g s0 [.start 5 none, .start 1 (some 5), .start 3 (some 1), .ret 3 true, .fail 3, .ret 1 false,
               .ret 1 true]).isNone = true := ⟨rfl, rfl⟩

/-- A failed target is not run again for the second requester. -/
theorem restart_of_failed_rejected :
    (run g s0 [.start 5 none, .start 1 (some 5), .start 2 (some 5), .start 3 (some 1), .ret 3 true,
               .fail 3, .start 4 (some 2), .ret 4 true, .finish 4, .ret 2 true,
               .start 3 (some 2)]).isNone = true := rfl

/-- With `--keep-going` the top level may not return while 2 has no answer: schedule A is rejected at
its `ret 5 false`, although accepted without `--keep-going`. -/
theorem early_return_rejected_with_keepGoing : (run gK s0 esA).isNone = true := rfl

end RedoModel.ParF.Ex
