import RedoModel.ParF
import RedoModel.Lemmas.Reach
/-!
Invariants of the acceptor with failures `RedoModel.ParF`: every accepted run, whatever its event order,
keeps `InvB` (at most one start per target; a running script has all the files of its completed commands
built; a failed or aborting target cannot be built) and, under a hypothesis on the clean targets, `Inv`
(a built target can be built and holds the from-scratch content).
-/
namespace RedoModel.ParF

theorem upd_same {α : Type} (f : Nat → α) (t : Nat) (v : α) : upd f t v t = v := by simp [upd]

theorem upd_other {α : Type} (f : Nat → α) (t x : Nat) (v : α) (h : x ≠ t) : upd f t v x = f x := by
  simp [upd, h]

theorem run_nil (g : Graph) (s : State) : run g s [] = some s := rfl

theorem run_iff {g : Graph} {s s' : State} {es : List Ev} :
    run g s es = some s' ↔ Reach (fun s e s1 => step g s e = some s1) s es s' := by
  induction es generalizing s with
  | nil => simp [run, eq_comm]
  | cons e es ih => simp only [run, Reach.cons_iff]; cases step g s e <;> simp [ih]

theorem step_start {g : Graph} {s s' : State} {t : Nat} {b : Option Nat}
    (h : step g s (.start t b) = some s') :
    (∃ sc, g.script t = some sc) ∧ s.st t = .idle ∧
    (∀ p, b = some p → askedBy g s t p = true) ∧
    s' = { s with st := upd s.st t (.running 0), starts := t :: s.starts } := by
  simp only [step] at h
  repeat' split at h
  all_goals cases h
  all_goals exact ⟨⟨_, ‹_›⟩, Decidable.not_not.1 ‹_›, by rintro p ⟨⟩ <;> assumption, rfl⟩

theorem step_clean {g : Graph} {s s' : State} {t : Nat} (h : step g s (.clean t) = some s') :
    (∃ sc, g.script t = some sc) ∧ s.st t = .idle ∧ s' = { s with st := upd s.st t .done } := by
  simp only [step] at h
  repeat' split at h
  all_goals cases h
  exact ⟨⟨_, ‹_›⟩, Decidable.not_not.1 ‹_›, rfl⟩

theorem step_ret_ok {g : Graph} {s s' : State} {t : Nat} (h : step g s (.ret t true) = some s') :
    ∃ sc k ds, g.script t = some sc ∧ s.st t = .running k ∧ sc.cmds[k]? = some ds ∧
      (∀ d ∈ ds, okSettled g s d = true) ∧ s' = { s with st := upd s.st t (.running (k + 1)) } := by
  simp only [step, if_true] at h
  repeat' split at h
  all_goals cases h
  exact ⟨_, _, _, ‹_›, ‹_›, ‹_›, List.all_eq_true.1 ‹_›, rfl⟩

theorem step_ret_bad {g : Graph} {s s' : State} {t : Nat} (h : step g s (.ret t false) = some s') :
    ∃ sc k ds, g.script t = some sc ∧ s.st t = .running k ∧ sc.cmds[k]? = some ds ∧
      mayReturnBad g s ds = true ∧ s' = { s with st := upd s.st t .aborting } := by
  simp only [step, Bool.false_eq_true, if_false] at h
  repeat' split at h
  all_goals cases h
  exact ⟨_, _, _, ‹_›, ‹_›, ‹_›, ‹_›, rfl⟩

theorem step_finish {g : Graph} {s s' : State} {t : Nat} (h : step g s (.finish t) = some s') :
    ∃ sc, g.script t = some sc ∧ s.st t = .running sc.cmds.length ∧ sc.fails = false ∧
      s' = { s with st := upd s.st t .done,
                    content := upd s.content t (out sc.tag (sc.reads.map (val g s))) } := by
  simp only [step] at h
  repeat' split at h
  all_goals cases h
  obtain ⟨hk, hf⟩ := ‹_ ∧ _›
  subst hk
  exact ⟨_, ‹_›, ‹_›, hf, rfl⟩

theorem step_fail {g : Graph} {s s' : State} {t : Nat} (h : step g s (.fail t) = some s') :
    ∃ sc, g.script t = some sc ∧
      ((s.st t = .running sc.cmds.length ∧ sc.fails = true) ∨ s.st t = .aborting) ∧
      s' = { s with st := upd s.st t .failed } := by
  simp only [step] at h
  repeat' split at h
  all_goals cases h
  · obtain ⟨hk, hf⟩ := ‹_ ∧ _›
    subst hk
    exact ⟨_, ‹_›, .inl ⟨‹_›, hf⟩, rfl⟩
  · exact ⟨_, ‹_›, .inr ‹_›, rfl⟩

/-- Returning non-zero needs a failed target among those named. -/
theorem mayReturnBad_failed {g : Graph} {s : State} {ds : List Nat} (h : mayReturnBad g s ds = true) :
    ∃ d ∈ ds, s.st d = .failed := by
  simp only [mayReturnBad, Bool.and_eq_true, List.any_eq_true, isFailed, beq_iff_eq] at h
  exact h.1

theorem okSettled_mono {g : Graph} {s s' : State} (h : ∀ x, s.st x = .done → s'.st x = .done) {f : Nat}
    (hf : okSettled g s f = true) : okSettled g s' f = true := by
  unfold okSettled at *
  split
  · rfl
  · rename_i sc hsc
    simp only [hsc, beq_iff_eq] at hf
    simp [h f hf]

theorem okSettled_src {g : Graph} {s : State} {f : Nat} (h : g.script f = none) : okSettled g s f = true := by
  simp [okSettled, h]

theorem okSettled_tgt {g : Graph} {s : State} {f : Nat} {sc : Script} (h : g.script f = some sc) :
    okSettled g s f = true ↔ s.st f = .done := by
  simp [okSettled, h]

theorem Bad.hasScript {g : Graph} {t : Nat} (h : Bad g t) : ∃ sc, g.script t = some sc := by
  cases h with
  | self hsc _ => exact ⟨_, hsc⟩
  | dep hsc _ _ => exact ⟨_, hsc⟩

structure InvB (g : Graph) (s : State) : Prop where
  /-- no script was started twice -/
  nodup : s.starts.Nodup
  /-- a started target is no longer idle -/
  started : ∀ t ∈ s.starts, s.st t ≠ .idle
  /-- a running script is inside its command list, and every file named by a command that has
  returned (zero) is a source or built -/
  before : ∀ t sc k, g.script t = some sc → s.st t = .running k →
    k ≤ sc.cmds.length ∧ ∀ j, j < k → ∀ ds, sc.cmds[j]? = some ds → ∀ f ∈ ds, okSettled g s f = true
  /-- only what cannot be built is recorded as failed -/
  failedBad : ∀ t, s.st t = .failed → Bad g t
  /-- or is about to be -/
  abortBad : ∀ t, s.st t = .aborting → Bad g t

/-- One event changes the status of one target `t` to `v`; what has to be checked about `v`. -/
theorem InvB.update {g : Graph} {s s' : State} {t : Nat} {v : St} (hi : InvB g s)
    (hst : s'.st = upd s.st t v) (hv : v ≠ .idle) (hnd : s.st t ≠ .done)
    (hstarts : s'.starts = s.starts ∨ (s'.starts = t :: s.starts ∧ s.st t = .idle))
    (hrun : ∀ sc k, g.script t = some sc → v = .running k →
      k ≤ sc.cmds.length ∧ ∀ j, j < k → ∀ ds, sc.cmds[j]? = some ds → ∀ f ∈ ds, okSettled g s f = true)
    (hfail : v = .failed → Bad g t) (habort : v = .aborting → Bad g t) : InvB g s' := by
  have hmono : ∀ x, s.st x = .done → s'.st x = .done := by
    intro x hx
    have : x ≠ t := by rintro rfl; exact hnd hx
    rw [hst, upd_other _ _ _ _ this]; exact hx
  have hother : ∀ x, x ≠ t → s'.st x = s.st x := fun x hx => by rw [hst, upd_other _ _ _ _ hx]
  have hself : s'.st t = v := by rw [hst, upd_same]
  refine ⟨?_, ?_, ?_, ?_, ?_⟩
  · rcases hstarts with h | ⟨h, hidle⟩
    · rw [h]; exact hi.nodup
    · rw [h]; exact List.nodup_cons.2 ⟨fun hm => hi.started t hm hidle, hi.nodup⟩
  · intro x hx
    by_cases hxt : x = t
    · subst hxt; rw [hself]; exact hv
    · rw [hother x hxt]
      rcases hstarts with h | ⟨h, _⟩
      · rw [h] at hx; exact hi.started x hx
      · rw [h] at hx
        exact hi.started x ((List.mem_cons.1 hx).resolve_left hxt)
  · intro x scx k hscx hx
    have : k ≤ scx.cmds.length ∧ ∀ j, j < k → ∀ ds, scx.cmds[j]? = some ds → ∀ f ∈ ds,
        okSettled g s f = true := by
      by_cases hxt : x = t
      · subst hxt; rw [hself] at hx; exact hrun scx k hscx hx
      · rw [hother x hxt] at hx; exact hi.before x scx k hscx hx
    exact ⟨this.1, fun j hj ds hds f hf => okSettled_mono hmono (this.2 j hj ds hds f hf)⟩
  · intro x hx
    by_cases hxt : x = t
    · subst hxt; rw [hself] at hx; exact hfail hx
    · rw [hother x hxt] at hx; exact hi.failedBad x hx
  · intro x hx
    by_cases hxt : x = t
    · subst hxt; rw [hself] at hx; exact habort hx
    · rw [hother x hxt] at hx; exact hi.abortBad x hx

theorem step_invB {g : Graph} (s : State) (e : Ev) (s' : State) (h : step g s e = some s') (hi : InvB g s) :
    InvB g s' := by
  cases e with
  | start t b =>
    obtain ⟨_, hidle, _, rfl⟩ := step_start h
    refine hi.update (t := t) (v := .running 0) rfl nofun (by rw [hidle]; nofun)
      (Or.inr ⟨rfl, hidle⟩) ?_ nofun nofun
    rintro sc k _ ⟨⟩
    exact ⟨Nat.zero_le _, fun j hj => absurd hj (Nat.not_lt_zero _)⟩
  | clean t =>
    obtain ⟨_, hidle, rfl⟩ := step_clean h
    exact hi.update (t := t) (v := .done) rfl nofun (by rw [hidle]; nofun)
      (Or.inl rfl) nofun nofun nofun
  | ret t ok =>
    cases ok with
    | true =>
      obtain ⟨sc, k, ds, hsc, hst, hds, hall, rfl⟩ := step_ret_ok h
      refine hi.update (t := t) (v := .running (k + 1)) rfl nofun
        (by rw [hst]; nofun) (Or.inl rfl) ?_ nofun nofun
      rintro sc' k' hsc' ⟨⟩
      rw [hsc] at hsc'; cases hsc'
      obtain ⟨_, h2⟩ := hi.before t sc k hsc hst
      refine ⟨(List.getElem?_eq_some_iff.1 hds).1, fun j hj ds' hds' f hf => ?_⟩
      by_cases hjk : j = k
      · subst hjk
        rw [hds] at hds'; cases hds'
        exact hall f hf
      · exact h2 j (by omega) ds' hds' f hf
    | false =>
      obtain ⟨sc, k, ds, hsc, hst, hds, hbad, rfl⟩ := step_ret_bad h
      refine hi.update (t := t) (v := .aborting) rfl nofun
        (by rw [hst]; nofun) (Or.inl rfl) nofun
        nofun ?_
      intro _
      obtain ⟨d, hd, hdf⟩ := mayReturnBad_failed hbad
      exact Bad.dep hsc (List.mem_flatten.2 ⟨ds, List.mem_of_getElem? hds, hd⟩) (hi.failedBad d hdf)
  | finish t =>
    obtain ⟨sc, hsc, hst, _, rfl⟩ := step_finish h
    exact hi.update (t := t) (v := .done) rfl nofun (by rw [hst]; nofun)
      (Or.inl rfl) nofun nofun nofun
  | fail t =>
    obtain ⟨sc, hsc, hor, rfl⟩ := step_fail h
    refine hi.update (t := t) (v := .failed) rfl nofun ?_
      (Or.inl rfl) nofun ?_ nofun
    · rcases hor with ⟨h1, _⟩ | h1 <;> rw [h1] <;> nofun
    · intro _
      rcases hor with ⟨_, hf⟩ | h1
      · exact Bad.self hsc hf
      · exact hi.abortBad t h1

theorem run_invB {g : Graph} {es : List Ev} {s s' : State} (hi : InvB g s) (h : run g s es = some s') : InvB g s' :=
  (run_iff.1 h).inv step_invB hi

theorem flatten_okSettled {g : Graph} {s : State} (hi : InvB g s) {t : Nat} {sc : Script}
    (hsc : g.script t = some sc) (hst : s.st t = .running sc.cmds.length) :
    ∀ f ∈ sc.cmds.flatten, okSettled g s f = true := by
  intro f hf
  obtain ⟨ds, hds, hfd⟩ := List.mem_flatten.1 hf
  obtain ⟨j, hj, rfl⟩ := List.getElem_of_mem hds
  exact (hi.before t sc _ hsc hst).2 j hj _ (List.getElem?_eq_getElem hj) f hfd

/-- `Q` holds of the output of a non-failing script whenever it holds of every target the script asked
for (with the content found there). -/
def FinishClosed (g : Graph) (Q : Nat → Content → Prop) : Prop :=
  ∀ (s : State) t sc, g.script t = some sc → sc.fails = false →
    (∀ f ∈ sc.cmds.flatten, ∀ scf, g.script f = some scf → Q f (s.content f)) →
    Q t (out sc.tag (sc.reads.map (val g s)))

/-- `K` is the set of targets the dirtiness check may declare clean. -/
structure Inv (g : Graph) (Q : Nat → Content → Prop) (K : Nat → Prop) (s : State) : Prop
    extends InvB g s where
  doneQ : ∀ t sc, g.script t = some sc → s.st t = .done → Q t (s.content t)
  cleanQ : ∀ t sc, K t → g.script t = some sc → s.st t = .idle → Q t (s.content t)

theorem Inv.update {g : Graph} {Q : Nat → Content → Prop} {K : Nat → Prop} {s s' : State} {t : Nat} {v : St}
    (hi : Inv g Q K s) (hb : InvB g s') (hst : s'.st = upd s.st t v) (hv : v ≠ .idle)
    (hcont : ∀ x, x ≠ t → s'.content x = s.content x)
    (hdone : ∀ sc, g.script t = some sc → v = .done → Q t (s'.content t)) : Inv g Q K s' := by
  have hother : ∀ x, x ≠ t → s'.st x = s.st x := fun x hx => by rw [hst, upd_other _ _ _ _ hx]
  have hself : s'.st t = v := by rw [hst, upd_same]
  refine ⟨hb, ?_, ?_⟩
  · intro x scx hscx hx
    by_cases hxt : x = t
    · subst hxt; rw [hself] at hx; exact hdone scx hscx hx
    · rw [hother x hxt] at hx; rw [hcont x hxt]; exact hi.doneQ x scx hscx hx
  · intro x scx hk hscx hx
    by_cases hxt : x = t
    · subst hxt; rw [hself] at hx; exact absurd hx hv
    · rw [hother x hxt] at hx; rw [hcont x hxt]; exact hi.cleanQ x scx hk hscx hx

theorem step_inv {g : Graph} {Q : Nat → Content → Prop} {K : Nat → Prop} {s s' : State} {e : Ev}
    (hQ : FinishClosed g Q) (hK : ∀ t, e = .clean t → K t) (h : step g s e = some s')
    (hi : Inv g Q K s) : Inv g Q K s' := by
  have hb := step_invB _ _ _ h hi.toInvB
  cases e with
  | start t b =>
    obtain ⟨_, _, _, rfl⟩ := step_start h
    exact hi.update (t := t) (v := .running 0) hb rfl nofun (fun _ _ => rfl)
      nofun
  | clean t =>
    obtain ⟨_, hidle, rfl⟩ := step_clean h
    exact hi.update (t := t) (v := .done) hb rfl nofun (fun _ _ => rfl)
      (fun sc hsc _ => hi.cleanQ t sc (hK t rfl) hsc hidle)
  | ret t ok =>
    cases ok with
    | true =>
      obtain ⟨_, k, _, _, _, _, _, rfl⟩ := step_ret_ok h
      exact hi.update (t := t) (v := .running (k + 1)) hb rfl nofun (fun _ _ => rfl)
        nofun
    | false =>
      obtain ⟨_, _, _, _, _, _, _, rfl⟩ := step_ret_bad h
      exact hi.update (t := t) (v := .aborting) hb rfl nofun (fun _ _ => rfl)
        nofun
  | finish t =>
    obtain ⟨sc, hsc, hst, hnf, rfl⟩ := step_finish h
    refine hi.update (t := t) (v := .done) hb rfl nofun
      (fun x hx => upd_other _ _ _ _ hx) ?_
    intro sc' hsc' _
    rw [hsc] at hsc'; cases hsc'
    show Q t (upd s.content t _ t)
    rw [upd_same]
    refine hQ s t sc hsc hnf ?_
    intro f hf scf hscf
    exact hi.doneQ f scf hscf ((okSettled_tgt hscf).1 (flatten_okSettled hi.toInvB hsc hst f hf))
  | fail t =>
    obtain ⟨_, _, _, rfl⟩ := step_fail h
    exact hi.update (t := t) (v := .failed) hb rfl nofun (fun _ _ => rfl)
      nofun

theorem run_inv {g : Graph} {Q : Nat → Content → Prop} {K : Nat → Prop} (hQ : FinishClosed g Q) {es : List Ev}
    {s s' : State} (hK : ∀ t, Ev.clean t ∈ es → K t) (hi : Inv g Q K s) (h : run g s es = some s') : Inv g Q K s' :=
  (run_iff.1 h).inv_of_mem (fun _ _ _ he hs => step_inv hQ (fun t ht => hK t (ht ▸ he)) hs) hi

end RedoModel.ParF
