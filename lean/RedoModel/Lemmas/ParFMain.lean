import RedoModel.Lemmas.ParFInv
/-!
Consequences of the invariants of `RedoModel.ParF`: at most one start per target; a target recorded as
failed cannot be built, a target recorded as built can (so the status class of a settled target, and of the
invocation once it returns, is the same in every schedule); built targets hold the from-scratch content;
no dependent of a failed target is recorded as built.  `startsOf`, `CleanOk` and the invariants at the start of a run
are defined here (for `Par`: in ParConfl.lean and ParInv.lean).
-/
namespace RedoModel.ParF

def evStart : Ev → List Nat
  | .start t _ => [t]
  | _ => []

/-- The targets of the `start` events of a schedule, in order. -/
def startsOf (es : List Ev) : List Nat := es.flatMap evStart

theorem evStart_reverse (e : Ev) : (evStart e).reverse = evStart e := by cases e <;> rfl

theorem step_starts {g : Graph} {s s' : State} {e : Ev} (h : step g s e = some s') :
    s'.starts = evStart e ++ s.starts := by
  cases e with
  | start t b => obtain ⟨_, _, _, rfl⟩ := step_start h; rfl
  | clean t => obtain ⟨_, _, rfl⟩ := step_clean h; rfl
  | ret t ok =>
    cases ok with
    | true => obtain ⟨_, _, _, _, _, _, _, rfl⟩ := step_ret_ok h; rfl
    | false => obtain ⟨_, _, _, _, _, _, _, rfl⟩ := step_ret_bad h; rfl
  | finish t => obtain ⟨_, _, _, _, rfl⟩ := step_finish h; rfl
  | fail t => obtain ⟨_, _, _, rfl⟩ := step_fail h; rfl

theorem run_starts {g : Graph} {es : List Ev} {s s' : State} (h : run g s es = some s') :
    s'.starts = (startsOf es).reverse ++ s.starts := by
  have hr := run_iff.1 h; clear h
  induction hr with
  | nil => simp [startsOf]
  | cons hs _ ih => rw [ih, step_starts hs]; simp [startsOf, List.flatMap_cons, evStart_reverse]

theorem init_invB {g : Graph} {s0 : State} (h0 : Init g s0) : InvB g s0 := by
  obtain ⟨h1, h2, _⟩ := h0
  refine ⟨(by rw [h1]; exact List.nodup_nil), (by rw [h1]; intro t ht; cases ht), ?_, ?_, ?_⟩
  · intro t sc k _ hst
    rcases h2 t with h | h <;> rw [h] at hst <;> cases hst
  · intro t hst
    rcases h2 t with h | h <;> rw [h] at hst <;> cases hst
  · intro t hst
    rcases h2 t with h | h <;> rw [h] at hst <;> cases hst

theorem allIdle_init {g : Graph} {s0 : State} (h : AllIdle s0) : Init g s0 :=
  ⟨h.1, fun t => Or.inl (h.2 t), fun t _ _ hd => by rw [h.2 t] at hd; cases hd⟩

/-- The targets the dirtiness check declares clean in `es` can be built and hold, at the start, what a
from-scratch build would give them.  (As in `Par.lean` the `clean` event has no such guard of its own.) -/
def CleanOk (g : Graph) (s0 : State) (es : List Ev) : Prop :=
  ∀ t sc, Ev.clean t ∈ es → g.script t = some sc → s0.st t = .idle → ¬ Bad g t ∧ Spec g t (s0.content t)

theorem cleanOk_of_no_clean {g : Graph} {s0 : State} {es : List Ev} (h : ∀ t, Ev.clean t ∉ es) :
    CleanOk g s0 es := fun t _ ht => absurd ht (h t)

/-- The two instances of `Q`. -/
def QBad (g : Graph) : Nat → Content → Prop := fun t _ => ¬ Bad g t

def QSpec (g : Graph) : Nat → Content → Prop := fun t c => ¬ Bad g t ∧ Spec g t c

theorem not_bad_of_deps {g : Graph} {t : Nat} {sc : Script} (hsc : g.script t = some sc)
    (hnf : sc.fails = false) (hd : ∀ f ∈ sc.cmds.flatten, ∀ scf, g.script f = some scf → ¬ Bad g f) :
    ¬ Bad g t := by
  intro hb
  cases hb with
  | self hsc' hf => rw [hsc] at hsc'; cases hsc'; rw [hnf] at hf; cases hf
  | dep hsc' hmem hbd =>
    rw [hsc] at hsc'; cases hsc'
    obtain ⟨scd, hscd⟩ := hbd.hasScript
    exact hd _ hmem scd hscd hbd

theorem finishClosed_QBad (g : Graph) : FinishClosed g (QBad g) :=
  fun _ _ _ hsc hnf hd => not_bad_of_deps hsc hnf hd

theorem finishClosed_QSpec {g : Graph} (hw : WellFormed g) : FinishClosed g (QSpec g) := by
  intro s t sc hsc hnf hd
  refine ⟨not_bad_of_deps hsc hnf (fun f hf scf hscf => (hd f hf scf hscf).1), ?_⟩
  refine Spec.tgt (sc.reads.map (val g s)) hsc hnf (by simp) ?_
  intro i h h'
  simp only [List.getElem_map]
  have hmem := hw t sc hsc _ (List.getElem_mem h)
  unfold val
  cases hscf : g.script sc.reads[i] with
  | none => exact Spec.src hscf
  | some scf => exact (hd _ hmem scf hscf).2

theorem init_inv_QBad {g : Graph} {s0 : State} {es : List Ev} (h0 : Init g s0) (hc : CleanOk g s0 es) :
    Inv g (QBad g) (fun t => Ev.clean t ∈ es) s0 :=
  ⟨init_invB h0, fun t sc hsc hd => (h0.2.2 t sc hsc hd).1, fun t sc hk hsc hidle => (hc t sc hk hsc hidle).1⟩

theorem init_inv_QSpec {g : Graph} {s0 : State} {es : List Ev} (h0 : Init g s0) (hc : CleanOk g s0 es) :
    Inv g (QSpec g) (fun t => Ev.clean t ∈ es) s0 :=
  ⟨init_invB h0, h0.2.2, fun t sc hk hsc hidle => hc t sc hk hsc hidle⟩

theorem parf_at_most_once {g : Graph} {s0 s : State} {es : List Ev} (h0 : Init g s0)
    (h : run g s0 es = some s) :
    s.starts.Nodup ∧ (∀ t ∈ s.starts, s.st t ≠ .idle) ∧ s.starts = (startsOf es).reverse ∧
    (startsOf es).Nodup := by
  have hs : s.starts = (startsOf es).reverse := by rw [run_starts h, h0.1, List.append_nil]
  have hi := run_invB (init_invB h0) h
  exact ⟨hi.nodup, hi.started, hs, (List.reverse_perm _).nodup_iff.1 (hs ▸ hi.nodup)⟩

/-- Only what cannot be built is ever recorded as failed (no hypothesis on clean targets). -/
theorem failed_bad {g : Graph} {s0 s : State} {es : List Ev} (h0 : Init g s0) (h : run g s0 es = some s)
    {t : Nat} (ht : s.st t = .failed) : Bad g t :=
  (run_invB (init_invB h0) h).failedBad t ht

/-- What cannot be built is never recorded as built. -/
theorem done_not_bad {g : Graph} {s0 s : State} {es : List Ev} (h0 : Init g s0) (hc : CleanOk g s0 es)
    (h : run g s0 es = some s) {t : Nat} (ht : s.st t = .done) : ¬ Bad g t := by
  intro hb
  obtain ⟨sc, hsc⟩ := hb.hasScript
  exact (run_inv (finishClosed_QBad g) (fun _ ht => ht) (init_inv_QBad h0 hc) h).doneQ t sc hsc ht hb

theorem status_zero_iff {g : Graph} {s : State} {ts : List Nat} :
    status g s ts = 0 ↔ ∀ t ∈ ts, okSettled g s t = true := by
  unfold status
  by_cases h : ts.all (okSettled g s) = true
  · simp only [h, if_true, true_iff]; simpa using h
  · simp only [h]
    constructor
    · intro hh; cases hh
    · intro hh; exact absurd (by simpa using hh) h

/-- Once the top-level command may return, its status is 0 exactly when every top target can be built. -/
theorem exit_class {g : Graph} {s0 s : State} {es : List Ev} {ts : List Nat} (h0 : Init g s0)
    (hc : CleanOk g s0 es) (h : run g s0 es = some s) (hret : topReturns g s ts = true) :
    status g s ts = 0 ↔ ∀ t ∈ ts, ¬ Bad g t := by
  rw [status_zero_iff]
  constructor
  · intro hall t ht hb
    obtain ⟨sc, hsc⟩ := hb.hasScript
    exact done_not_bad h0 hc h ((okSettled_tgt hsc).1 (hall t ht)) hb
  · intro hnb
    simp only [topReturns, Bool.or_eq_true] at hret
    rcases hret with hall | hbad
    · simpa using hall
    · obtain ⟨d, hd, hdf⟩ := mayReturnBad_failed hbad
      exact absurd (failed_bad h0 h hdf) (hnb d hd)

theorem done_is_spec {g : Graph} {s0 s : State} {es : List Ev} (hw : WellFormed g) (h0 : Init g s0)
    (hc : CleanOk g s0 es) (h : run g s0 es = some s) :
    ∀ t sc, g.script t = some sc → s.st t = .done → Spec g t (s.content t) :=
  fun t sc hsc hd =>
    ((run_inv (finishClosed_QSpec hw) (fun _ ht => ht) (init_inv_QSpec h0 hc) h).doneQ t sc hsc hd).2

theorem spec_unique {g : Graph} {t : Nat} {c₁ c₂ : Content} (h₁ : Spec g t c₁) (h₂ : Spec g t c₂) :
    c₁ = c₂ := by
  induction h₁ generalizing c₂ with
  | src hs =>
    cases h₂ with
    | src _ => rfl
    | tgt cs hsc _ _ _ => rw [hs] at hsc; cases hsc
  | tgt cs hsc hnf hlen hp ih =>
    cases h₂ with
    | src hs => rw [hs] at hsc; cases hsc
    | tgt cs' hsc' hnf' hlen' hp' =>
      rw [hsc] at hsc'; cases hsc'
      have : cs = cs' := by
        apply List.ext_getElem (by omega)
        intro i h1 h2
        exact ih i (by omega) h1 (hp' i (by omega) h2)
      rw [this]

theorem confluent {g : Graph} {s0 s₁ s₂ : State} {es₁ es₂ : List Ev} (hw : WellFormed g)
    (h0 : Init g s0) (hc₁ : CleanOk g s0 es₁) (hc₂ : CleanOk g s0 es₂)
    (h₁ : run g s0 es₁ = some s₁) (h₂ : run g s0 es₂ = some s₂) (t : Nat) {sc : Script}
    (hsc : g.script t = some sc) (hd₁ : s₁.st t = .done) (hd₂ : s₂.st t = .done) :
    s₁.content t = s₂.content t :=
  spec_unique (done_is_spec hw h0 hc₁ h₁ t sc hsc hd₁) (done_is_spec hw h0 hc₂ h₂ t sc hsc hd₂)

theorem step_keepGoing_weaken {g : Graph} {s s' : State} {e : Ev} (h : step g s e = some s') :
    step { g with keepGoing := false } s e = some s' := by
  cases e with
  | start t b => exact h
  | clean t => exact h
  | finish t => exact h
  | fail t => exact h
  | ret t ok =>
    cases ok with
    | true => exact h
    | false =>
      obtain ⟨sc, k, ds, hsc, hst, hds, hbad, rfl⟩ := step_ret_bad h
      obtain ⟨d, hd, hdf⟩ := mayReturnBad_failed hbad
      have hb' : mayReturnBad { g with keepGoing := false } s ds = true := by
        simp only [mayReturnBad, Bool.not_false, Bool.true_or, Bool.and_true, List.any_eq_true, isFailed,
          beq_iff_eq]
        exact ⟨d, hd, hdf⟩
      simp [step, hsc, hst, hds, hb']

end RedoModel.ParF
