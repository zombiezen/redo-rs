import RedoModel.Lemmas.ParFMain
/-!
The serial (-j1, depth-first) schedule of `RedoModel.ParF` — stopping at the first failure unless
`--keep-going` — is one of the accepted runs, and it ends at a point where the top level returns.  Hence
"same exit status as the serial build" is a special case of `C07.parf_exit_schedule_independent`.
-/
namespace RedoModel.ParF

/-- The guards of an event, read the other way round (likewise for the other events below). -/
theorem step_start_mk {g : Graph} {s : State} {t : Nat} {b : Option Nat} {sc : Script}
    (hsc : g.script t = some sc) (hidle : s.st t = .idle) (hby : ∀ p, b = some p → askedBy g s t p = true) :
    step g s (.start t b) = some { s with st := upd s.st t (.running 0), starts := t :: s.starts } := by
  cases b with
  | none => simp [step, hsc, hidle]
  | some p => simp [step, hsc, hidle, hby p rfl]

theorem step_ret_ok_mk {g : Graph} {s : State} {t k : Nat} {sc : Script} {ds : List Nat}
    (hsc : g.script t = some sc) (hst : s.st t = .running k) (hds : sc.cmds[k]? = some ds)
    (hall : ds.all (okSettled g s) = true) :
    step g s (.ret t true) = some { s with st := upd s.st t (.running (k + 1)) } := by
  simp [step, hsc, hst, hds, hall]

theorem step_ret_bad_mk {g : Graph} {s : State} {t k : Nat} {sc : Script} {ds : List Nat}
    (hsc : g.script t = some sc) (hst : s.st t = .running k) (hds : sc.cmds[k]? = some ds)
    (hbad : mayReturnBad g s ds = true) :
    step g s (.ret t false) = some { s with st := upd s.st t .aborting } := by
  simp [step, hsc, hst, hds, hbad]

theorem step_finish_mk {g : Graph} {s : State} {t : Nat} {sc : Script}
    (hsc : g.script t = some sc) (hst : s.st t = .running sc.cmds.length) (hnf : sc.fails = false) :
    step g s (.finish t) =
      some { s with st := upd s.st t .done,
                    content := upd s.content t (out sc.tag (sc.reads.map (val g s))) } := by
  simp [step, hsc, hst, hnf]

theorem step_fail_mk {g : Graph} {s : State} {t : Nat} {sc : Script} (hsc : g.script t = some sc)
    (hst : s.st t = .aborting ∨ (s.st t = .running sc.cmds.length ∧ sc.fails = true)) :
    step g s (.fail t) = some { s with st := upd s.st t .failed } := by
  rcases hst with hst | ⟨hst, hf⟩
  · simp [step, hsc, hst]
  · simp [step, hsc, hst, hf]

theorem askedBy_mk {g : Graph} {s : State} {t d k : Nat} {sc : Script} {ds : List Nat}
    (hsc : g.script t = some sc) (hst : s.st t = .running k) (hds : sc.cmds[k]? = some ds) (hd : d ∈ ds) :
    askedBy g s d t = true := by
  simp [askedBy, hsc, hst, hds, hd]

def Rest (v : St) : Prop := v = .idle ∨ v = .done ∨ v = .failed

/-- Target `x` is untouched unless it was idle, and an idle one at most becomes settled. -/
def FrameAt (s s' : State) (x : Nat) : Prop :=
  (s.st x ≠ .idle → s'.st x = s.st x) ∧ (s.st x = .idle → Rest (s'.st x))

def Frame (s s' : State) : Prop := ∀ x, FrameAt s s' x

def FrameX (t : Nat) (s s' : State) : Prop := ∀ x, x ≠ t → FrameAt s s' x

theorem FrameAt.refl (s : State) (x : Nat) : FrameAt s s x := ⟨fun _ => rfl, fun h => Or.inl h⟩

theorem FrameAt.trans {s s1 s2 : State} {x : Nat} (h1 : FrameAt s s1 x) (h2 : FrameAt s1 s2 x) :
    FrameAt s s2 x := by
  constructor
  · intro hne
    have e1 := h1.1 hne
    rw [h2.1 (by rw [e1]; exact hne), e1]
  · intro hidle
    rcases h1.2 hidle with h | h | h
    · exact h2.2 h
    · right; left; rw [h2.1 (by rw [h]; nofun), h]
    · right; right; rw [h2.1 (by rw [h]; nofun), h]

theorem FrameAt.of_st_eq {s s' : State} {x : Nat} (h : s'.st x = s.st x) : FrameAt s s' x :=
  ⟨fun _ => h, fun hi => Or.inl (h.trans hi)⟩

theorem Frame.keep {s s' : State} (h : Frame s s') {x : Nat} {v : St} (hx : s.st x = v) (hv : v ≠ .idle) :
    s'.st x = v := by rw [(h x).1 (by rw [hx]; exact hv), hx]

theorem Frame.okSettled {g : Graph} {s s' : State} (h : Frame s s') {f : Nat}
    (hf : okSettled g s f = true) : okSettled g s' f = true :=
  okSettled_mono (fun _ hx => h.keep hx nofun) hf

theorem Frame.settled {g : Graph} {s s' : State} (h : Frame s s') {f : Nat}
    (hf : settled g s f = true) : settled g s' f = true := by
  simp only [RedoModel.ParF.settled, Bool.or_eq_true, isFailed, beq_iff_eq] at hf ⊢
  rcases hf with hf | hf
  · exact Or.inl (h.okSettled hf)
  · exact Or.inr (h.keep hf nofun)

/-- Everything of rank below `b` is at rest (nothing of that rank is in progress). -/
def Below (rank : Nat → Nat) (b : Nat) (s : State) : Prop := ∀ x, rank x < b → Rest (s.st x)

theorem FrameAt.rest {s s' : State} {x : Nat} (h : FrameAt s s' x) (hx : Rest (s.st x)) :
    Rest (s'.st x) := by
  rcases hx with hx | hx | hx
  · exact h.2 hx
  · right; left; rw [h.1 (by rw [hx]; nofun), hx]
  · right; right; rw [h.1 (by rw [hx]; nofun), hx]

theorem Below.frame {rank : Nat → Nat} {b : Nat} {s s' : State} (hb : Below rank b s) (h : Frame s s') :
    Below rank b s' := fun x hx => (h x).rest (hb x hx)

/-- The result `r` of a schedule generator started in `s`: the events are accepted from `s` and lead to
the state returned; no target is declared clean. -/
structure Good (g : Graph) (s : State) (r : List Ev × State) : Prop where
  runs : Reach (fun s e s1 => step g s e = some s1) s r.1 r.2
  noClean : ∀ t, Ev.clean t ∉ r.1

theorem Good.nil {g : Graph} {s : State} : Good g s ([], s) := ⟨.nil s, fun _ => nofun⟩

theorem Good.cons {g : Graph} {s s1 : State} {e : Ev} {r : List Ev × State} (hs : step g s e = some s1)
    (he : ∀ t, e ≠ .clean t) (h : Good g s1 r) : Good g s (e :: r.1, r.2) :=
  ⟨.cons hs h.runs, fun t ht => (List.mem_cons.1 ht).elim (fun h' => he t h'.symm) (h.noClean t)⟩

theorem Good.append {g : Graph} {s : State} {r1 r2 : List Ev × State} (h1 : Good g s r1) (h2 : Good g r1.2 r2) :
    Good g s (r1.1 ++ r2.1, r2.2) :=
  ⟨Reach.append_iff.2 ⟨_, h1.runs, h2.runs⟩,
    fun t ht => (List.mem_append.1 ht).elim (h1.noClean t) (h2.noClean t)⟩

/-- After the files `ds` of a command have been tried: all answer zero, or one has failed and (with
`--keep-going`) all have an answer. -/
def DepsPost (g : Graph) (s : State) (ds : List Nat) : Prop :=
  (∀ d ∈ ds, okSettled g s d = true) ∨
  ((∃ d ∈ ds, s.st d = .failed) ∧ (g.keepGoing = true → ∀ d ∈ ds, settled g s d = true))

theorem DepsPost.bad {g : Graph} {s : State} {ds : List Nat} (h : DepsPost g s ds)
    (hn : ¬ ds.all (okSettled g s) = true) : mayReturnBad g s ds = true := by
  rcases h with h | ⟨⟨d, hd, hf⟩, hk⟩
  · exact absurd (by simpa using h) hn
  · simp only [mayReturnBad, Bool.and_eq_true, List.any_eq_true, isFailed, beq_iff_eq, Bool.or_eq_true,
      Bool.not_eq_true', List.all_eq_true]
    refine ⟨⟨d, hd, hf⟩, ?_⟩
    cases hkg : g.keepGoing with
    | false => exact Or.inl rfl
    | true => exact Or.inr (hk hkg)

theorem DepsPost.top {g : Graph} {s : State} {ts : List Nat} (h : DepsPost g s ts) :
    topReturns g s ts = true := by
  by_cases hall : ts.all (okSettled g s) = true
  · simp [topReturns, hall]
  · simp [topReturns, h.bad hall]

theorem serialDeps_ok {g : Graph} {rec : Nat → State → List Ev × State} (P : State → Prop)
    (hP : ∀ s s', P s → Frame s s' → P s') :
    ∀ (ds : List Nat),
      (∀ d ∈ ds, ∀ s, P s → Good g s (rec d s) ∧ Frame s (rec d s).2 ∧ settled g (rec d s).2 d = true) →
      ∀ s, P s → Good g s (serialDeps g rec ds s) ∧ Frame s (serialDeps g rec ds s).2 ∧
        DepsPost g (serialDeps g rec ds s).2 ds
  | [], _, s, _ =>
    ⟨.nil, fun x => FrameAt.refl s x, Or.inl (fun d hd => by cases hd)⟩
  | d :: ds, hrec, s, hs => by
    obtain ⟨g1, f1, st1⟩ := hrec d List.mem_cons_self s hs
    obtain ⟨g2, f2, st2⟩ := serialDeps_ok P hP ds (fun d' hd' => hrec d' (List.mem_cons_of_mem _ hd'))
      (rec d s).2 (hP _ _ hs f1)
    simp only [serialDeps]
    by_cases hstop : (!g.keepGoing && isFailed (rec d s).2 d) = true
    · rw [if_pos hstop]
      simp only [Bool.and_eq_true, Bool.not_eq_true', isFailed, beq_iff_eq] at hstop
      refine ⟨g1, f1, Or.inr ⟨⟨d, List.mem_cons_self, hstop.2⟩, ?_⟩⟩
      intro hk; rw [hstop.1] at hk; cases hk
    · rw [if_neg hstop]
      refine ⟨g1.append g2, fun x => (f1 x).trans (f2 x), ?_⟩
      · show DepsPost g (serialDeps g rec ds (rec d s).2).2 (d :: ds)
        have hd2 : settled g (serialDeps g rec ds (rec d s).2).2 d = true := f2.settled st1
        have hset : ∀ d' ∈ ds, DepsPost g (serialDeps g rec ds (rec d s).2).2 ds →
            g.keepGoing = true → settled g (serialDeps g rec ds (rec d s).2).2 d' = true := by
          intro d' hd' hpost hk
          rcases hpost with h | ⟨_, h⟩
          · simp only [settled, Bool.or_eq_true]; exact Or.inl (h d' hd')
          · exact h hk d' hd'
        simp only [settled, Bool.or_eq_true, isFailed, beq_iff_eq] at hd2
        rcases hd2 with hok | hfl
        · rcases st2 with h | ⟨⟨d', hd', hf'⟩, hk⟩
          · left
            intro d' hd'
            rcases List.mem_cons.1 hd' with rfl | hd'
            · exact hok
            · exact h d' hd'
          · right
            refine ⟨⟨d', List.mem_cons_of_mem _ hd', hf'⟩, ?_⟩
            intro hkg d'' hd''
            rcases List.mem_cons.1 hd'' with rfl | hd''
            · simp only [settled, Bool.or_eq_true]; exact Or.inl hok
            · exact hk hkg d'' hd''
        · right
          refine ⟨⟨d, List.mem_cons_self, hfl⟩, ?_⟩
          intro hkg d'' hd''
          rcases List.mem_cons.1 hd'' with rfl | hd''
          · simp only [settled, Bool.or_eq_true, isFailed, beq_iff_eq]; exact Or.inr hfl
          · exact hset d'' hd'' st2 hkg

theorem serialCmds_ok {g : Graph} {rank : Nat → Nat} {rec : Nat → State → List Ev × State} {t : Nat}
    {sc : Script} (hsc : g.script t = some sc)
    (hrec : ∀ k ds, sc.cmds[k]? = some ds → ∀ d ∈ ds, ∀ s, Below rank (rank t) s → s.st t = .running k →
      Good g s (rec d s) ∧ Frame s (rec d s).2 ∧ settled g (rec d s).2 d = true) :
    ∀ (cmds : List (List Nat)) (k : Nat) (s : State), (∀ j, cmds[j]? = sc.cmds[k + j]?) →
      Below rank (rank t) s → s.st t = .running k →
      Good g s (serialCmds g rec t cmds k s) ∧ FrameX t s (serialCmds g rec t cmds k s).2 ∧
        ((serialCmds g rec t cmds k s).2.st t = .running (k + cmds.length) ∨
         (serialCmds g rec t cmds k s).2.st t = .aborting)
  | [], k, s, _, _, hst =>
    ⟨.nil, fun x _ => FrameAt.refl s x, Or.inl (by simpa [serialCmds] using hst)⟩
  | ds :: rest, k, s, hcm, hb, hst => by
    have hk : sc.cmds[k]? = some ds := by simpa using (hcm 0).symm
    have hne : ∀ x, rank x < rank t → x ≠ t := fun x hx hxt => by rw [hxt] at hx; exact Nat.lt_irrefl _ hx
    obtain ⟨g1, f1, st1⟩ := serialDeps_ok (g := g) (rec := rec)
      (fun s => Below rank (rank t) s ∧ s.st t = .running k)
      (fun s s' hs hf => ⟨hs.1.frame hf, hf.keep hs.2 nofun⟩)
      ds (fun d hd s hs => hrec k ds hk d hd s hs.1 hs.2) s ⟨hb, hst⟩
    generalize hr1 : serialDeps g rec ds s = r1 at g1 f1 st1
    have hst1 : r1.2.st t = .running k := f1.keep hst nofun
    simp only [serialCmds, hr1]
    by_cases hall : ds.all (okSettled g r1.2) = true
    · rw [if_pos hall]
      have hstep := step_ret_ok_mk hsc hst1 hk hall
      generalize hs2 : ({ r1.2 with st := upd r1.2.st t (.running (k + 1)) } : State) = s2 at hstep
      have hs2st : ∀ x, x ≠ t → s2.st x = r1.2.st x := by
        intro x hx; rw [← hs2]; exact upd_other _ _ _ _ hx
      have hb2 : Below rank (rank t) s2 := by
        intro x hx
        rw [hs2st x (hne x hx)]
        exact (hb.frame f1) x hx
      have hst2 : s2.st t = .running (k + 1) := by rw [← hs2]; exact upd_same _ _ _
      obtain ⟨g3, f3, st3⟩ := serialCmds_ok hsc hrec rest (k + 1) s2
        (fun j => by
          have := hcm (j + 1)
          simp only [List.getElem?_cons_succ] at this
          rw [this]; congr 1; omega) hb2 hst2
      refine ⟨g1.append (.cons hstep nofun g3),
        fun x hx => ((f1 x).trans (FrameAt.of_st_eq (hs2st x hx))).trans (f3 x hx), ?_⟩
      · rcases st3 with h | h
        · left; rw [h]; congr 1; simp only [List.length_cons]; omega
        · exact Or.inr h
    · rw [if_neg hall]
      have hstep := step_ret_bad_mk hsc hst1 hk (st1.bad hall)
      exact ⟨g1.append (.cons hstep nofun .nil),
        fun x hx => (f1 x).trans (FrameAt.of_st_eq (upd_other _ _ _ _ hx)), Or.inr (upd_same _ _ _)⟩

theorem settled_of_rest {g : Graph} {s : State} {t : Nat} (hr : Rest (s.st t)) (hne : s.st t ≠ .idle)
    {sc : Script} (hsc : g.script t = some sc) : settled g s t = true := by
  simp only [settled, Bool.or_eq_true, isFailed, beq_iff_eq, okSettled_tgt hsc]
  rcases hr with h | h | h
  · exact absurd h hne
  · exact Or.inl h
  · exact Or.inr h

theorem serialOne_ok {g : Graph} {rank : Nat → Nat} (hr : Ranked g rank) :
    ∀ (fuel t : Nat) (b : Option Nat) (s : State), rank t < fuel → Below rank (rank t + 1) s →
      (∀ p, b = some p → askedBy g s t p = true) →
      Good g s (serialOne g fuel t b s) ∧ Frame s (serialOne g fuel t b s).2 ∧
        settled g (serialOne g fuel t b s).2 t = true
  | 0, _, _, _, h, _, _ => absurd h (Nat.not_lt_zero _)
  | fuel + 1, t, b, s, hfuel, hb, hby => by
    cases hsc : g.script t with
    | none =>
      simp only [serialOne, hsc]
      exact ⟨.nil, fun x => FrameAt.refl s x, by simp [settled, okSettled_src hsc]⟩
    | some sc =>
      by_cases hidle : s.st t = .idle
      · have hne : ∀ x, rank x < rank t → x ≠ t := fun x hx hxt => by
          rw [hxt] at hx; exact Nat.lt_irrefl _ hx
        have hstart := step_start_mk hsc hidle hby
        generalize hs0 : ({ s with st := upd s.st t (.running 0), starts := t :: s.starts } : State) = s0
          at hstart
        have hs0st : ∀ x, x ≠ t → s0.st x = s.st x := by
          intro x hx; rw [← hs0]; exact upd_other _ _ _ _ hx
        have hb0 : Below rank (rank t) s0 := by
          intro x hx
          rw [hs0st x (hne x hx)]
          exact hb x (by omega)
        have hst0 : s0.st t = .running 0 := by rw [← hs0]; exact upd_same _ _ _
        obtain ⟨g1, f1, st1⟩ := serialCmds_ok (rank := rank)
          (rec := fun d s' => serialOne g fuel d (some t) s') hsc
          (fun k ds hk d hd s' hb' hst' => by
            have hrd : rank d < rank t :=
              hr t sc hsc d (List.mem_flatten.2 ⟨ds, List.mem_of_getElem? hk, hd⟩)
            exact serialOne_ok hr fuel d (some t) s' (by omega)
              (fun x hx => hb' x (by omega))
              (fun p hp => by cases hp; exact askedBy_mk hsc hst' hk hd))
          sc.cmds 0 s0 (fun j => by simp) hb0 hst0
        simp only [serialOne, hsc, hidle, ne_eq, not_true_eq_false, if_false, hs0]
        generalize hr1 : serialCmds g (fun d s' => serialOne g fuel d (some t) s') t sc.cmds 0 s0 = r1
          at g1 f1 st1
        simp only [Nat.zero_add] at st1
        -- the last event `e` of `t` (its `fail` or its `finish`) closes the schedule and leaves `t` at rest
        have close : ∀ (e : Ev) (s' : State), step g r1.2 e = some s' → (∀ u, e ≠ .clean u) →
            (∀ x, x ≠ t → s'.st x = r1.2.st x) → Rest (s'.st t) →
            Good g s (Ev.start t b :: r1.1 ++ [e], s') ∧ Frame s s' := by
          intro e s' hfin he hother hrest
          refine ⟨.cons hstart nofun (g1.append (.cons hfin he .nil)), fun x => ?_⟩
          by_cases hx : x = t
          · subst hx
            exact ⟨fun h => absurd hidle h, fun _ => hrest⟩
          · exact ((FrameAt.of_st_eq (hs0st x hx)).trans (f1 x hx)).trans (FrameAt.of_st_eq (hother x hx))
        by_cases hfl : r1.2.st t = .aborting ∨ sc.fails = true
        · rw [if_pos hfl]
          have hfin : step g r1.2 (.fail t) = some { r1.2 with st := upd r1.2.st t .failed } := by
            refine step_fail_mk hsc ?_
            rcases hfl with h | h
            · exact Or.inl h
            · rcases st1 with h1 | h1
              · exact Or.inr ⟨h1, h⟩
              · exact Or.inl h1
          obtain ⟨h1, h2⟩ := close _ _ hfin nofun (fun x hx => upd_other _ _ _ _ hx)
            (.inr (.inr (upd_same _ _ _)))
          refine ⟨h1, h2, ?_⟩
          simp only [settled, Bool.or_eq_true, isFailed, beq_iff_eq]
          exact Or.inr (upd_same _ _ _)
        · rw [if_neg hfl]
          have hna : r1.2.st t ≠ .aborting := fun h => hfl (Or.inl h)
          have hnf : sc.fails = false := by
            cases hf : sc.fails with
            | false => rfl
            | true => exact absurd (Or.inr hf) hfl
          have hfin := step_finish_mk hsc (st1.resolve_right hna) hnf
          obtain ⟨h1, h2⟩ := close _ _ hfin nofun (fun x hx => upd_other _ _ _ _ hx)
            (.inr (.inl (upd_same _ _ _)))
          refine ⟨h1, h2, ?_⟩
          simp only [settled, Bool.or_eq_true, okSettled_tgt hsc]
          exact Or.inl (upd_same _ _ _)
      · simp only [serialOne, hsc, hidle, ne_eq, not_false_eq_true, if_true]
        exact ⟨.nil, fun x => FrameAt.refl s x, settled_of_rest (hb t (Nat.lt_succ_self _)) hidle hsc⟩

theorem init_below {g : Graph} {s0 : State} (h0 : Init g s0) (rank : Nat → Nat) (b : Nat) :
    Below rank b s0 := fun x _ => (h0.2.1 x).elim Or.inl (fun h => Or.inr (Or.inl h))

/-- The serial invocation `redo ts` is an accepted run that ends where the top level returns. -/
theorem serial_is_a_run {g : Graph} {rank : Nat → Nat} {s0 : State} {fuel : Nat} {ts : List Nat}
    (hr : Ranked g rank) (h0 : Init g s0) (hfuel : ∀ t ∈ ts, rank t < fuel) :
    run g s0 (serialTop g fuel ts s0).1 = some (serialTop g fuel ts s0).2 ∧
    topReturns g (serialTop g fuel ts s0).2 ts = true ∧
    (∀ u, Ev.clean u ∉ (serialTop g fuel ts s0).1) := by
  obtain ⟨g1, _, st1⟩ := serialDeps_ok (g := g) (rec := fun d s' => serialOne g fuel d none s')
    (fun s => ∀ b, Below rank b s) (fun s s' hs hf b => (hs b).frame hf) ts
    (fun d hd s hs => serialOne_ok hr fuel d none s (hfuel d hd) (hs _) (fun p hp => by cases hp))
    s0 (fun b => init_below h0 rank b)
  exact ⟨run_iff.2 g1.runs, st1.top, g1.noClean⟩

end RedoModel.ParF
