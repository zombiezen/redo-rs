import RedoModel.Par
import RedoModel.Lemmas.Reach
/-!
Invariants of the parallel acceptor `RedoModel.Par`: every accepted run, whatever its event order,
keeps `Inv` (at most one start per target; settled targets hold the from-scratch content; a running
script has all the files of its completed commands settled).  At the end: the hypothesis `CleanOk` on the targets a
run declares clean, and the invariants at the start of a run (for `ParF`: in ParFMain.lean).
-/
namespace RedoModel.Par

theorem upd_same {α : Type} (f : Nat → α) (t : Nat) (v : α) : upd f t v t = v := by simp [upd]

theorem upd_other {α : Type} (f : Nat → α) (t x : Nat) (v : α) (h : x ≠ t) : upd f t v x = f x := by
  simp [upd, h]

theorem run_nil (g : Graph) (s : State) : run g s [] = some s := rfl

theorem run_iff {g : Graph} {s s' : State} {es : List Ev} :
    run g s es = some s' ↔ Reach (fun s e s1 => step g s e = some s1) s es s' := by
  induction es generalizing s with
  | nil => simp [run, eq_comm]
  | cons e es ih => simp only [run, Reach.cons_iff]; cases step g s e <;> simp [ih]

theorem step_start {g : Graph} {s s' : State} {t : Nat} {b : Option Nat}
    (h : step g s (.start t b) = some s') :
    (∃ sc, g.script t = some sc) ∧ s.st t = .idle ∧
    (∀ p, b = some p → askedBy g s t p = true) ∧
    s' = { s with st := upd s.st t (.running 0), starts := t :: s.starts } := by
  simp only [step] at h
  repeat' split at h
  all_goals cases h
  all_goals exact ⟨⟨_, ‹_›⟩, Decidable.not_not.1 ‹_›, by rintro p ⟨⟩ <;> assumption, rfl⟩

theorem step_clean {g : Graph} {s s' : State} {t : Nat} (h : step g s (.clean t) = some s') :
    (∃ sc, g.script t = some sc) ∧ s.st t = .idle ∧ s' = { s with st := upd s.st t .done } := by
  simp only [step] at h
  repeat' split at h
  all_goals cases h
  exact ⟨⟨_, ‹_›⟩, Decidable.not_not.1 ‹_›, rfl⟩

theorem step_ret {g : Graph} {s s' : State} {t : Nat} (h : step g s (.ret t) = some s') :
    ∃ sc k ds, g.script t = some sc ∧ s.st t = .running k ∧ sc.cmds[k]? = some ds ∧
      (∀ d ∈ ds, settled g s d = true) ∧ s' = { s with st := upd s.st t (.running (k + 1)) } := by
  simp only [step] at h
  repeat' split at h
  all_goals cases h
  exact ⟨_, _, _, ‹_›, ‹_›, ‹_›, List.all_eq_true.1 ‹_›, rfl⟩

theorem step_finish {g : Graph} {s s' : State} {t : Nat} (h : step g s (.finish t) = some s') :
    ∃ sc, g.script t = some sc ∧ s.st t = .running sc.cmds.length ∧
      s' = { s with st := upd s.st t .done,
                    content := upd s.content t (out sc.tag (sc.reads.map (val g s))) } := by
  simp only [step] at h
  repeat' split at h
  all_goals cases h
  rename_i hk; subst hk
  exact ⟨_, ‹_›, ‹_›, rfl⟩

theorem settled_mono {g : Graph} {s s' : State} (h : ∀ x, s.st x = .done → s'.st x = .done) {f : Nat}
    (hf : settled g s f = true) : settled g s' f = true := by
  unfold settled at *
  split
  · rfl
  · rename_i sc hsc
    simp only [hsc, beq_iff_eq] at hf
    simp [h f hf]

theorem settled_src {g : Graph} {s : State} {f : Nat} (h : g.script f = none) : settled g s f = true := by
  simp [settled, h]

theorem settled_tgt {g : Graph} {s : State} {f : Nat} {sc : Script} (h : g.script f = some sc) :
    settled g s f = true ↔ s.st f = .done := by
  simp [settled, h]

/-- The part of the invariant that does not speak about contents. -/
structure InvB (g : Graph) (s : State) : Prop where
  /-- no script was started twice -/
  nodup : s.starts.Nodup
  /-- a started target is no longer idle -/
  started : ∀ t ∈ s.starts, s.st t ≠ .idle
  /-- a running script is inside its command list, and every file named by a command that has
  returned is settled -/
  before : ∀ t sc k, g.script t = some sc → s.st t = .running k →
    k ≤ sc.cmds.length ∧ ∀ j, j < k → ∀ ds, sc.cmds[j]? = some ds → ∀ f ∈ ds, settled g s f = true

/-- What every accepted run keeps.  `K` is the set of targets the dirtiness check may declare clean. -/
structure Inv (g : Graph) (K : Nat → Prop) (s : State) : Prop extends InvB g s where
  /-- a settled target holds what a from-scratch build gives it -/
  doneSpec : ∀ t sc, g.script t = some sc → s.st t = .done → Spec g t (s.content t)
  /-- so does an untouched target that the dirtiness check may find clean -/
  cleanSpec : ∀ t sc, K t → g.script t = some sc → s.st t = .idle → Spec g t (s.content t)

theorem val_spec {g : Graph} {K : Nat → Prop} {s : State} (hi : Inv g K s) {f : Nat}
    (hf : settled g s f = true) : Spec g f (val g s f) := by
  unfold val
  cases hsc : g.script f with
  | none => exact Spec.src hsc
  | some sc => exact hi.doneSpec f sc hsc ((settled_tgt hsc).1 hf)

theorem flatten_settled {g : Graph} {s : State} (hi : InvB g s) {t : Nat} {sc : Script}
    (hsc : g.script t = some sc) (hst : s.st t = .running sc.cmds.length) :
    ∀ f ∈ sc.cmds.flatten, settled g s f = true := by
  intro f hf
  obtain ⟨ds, hds, hfd⟩ := List.mem_flatten.1 hf
  obtain ⟨j, hj, rfl⟩ := List.getElem_of_mem hds
  exact (hi.before t sc _ hsc hst).2 j hj _ (List.getElem?_eq_getElem hj) f hfd

theorem finish_spec {g : Graph} {K : Nat → Prop} {s : State} (hw : WellFormed g) (hi : Inv g K s) {t : Nat}
    {sc : Script} (hsc : g.script t = some sc) (hst : s.st t = .running sc.cmds.length) :
    Spec g t (out sc.tag (sc.reads.map (val g s))) := by
  refine Spec.tgt (sc.reads.map (val g s)) hsc (by simp) ?_
  intro i h h'
  simp only [List.getElem_map]
  exact val_spec hi (flatten_settled hi.toInvB hsc hst _ (hw t sc hsc _ (List.getElem_mem h)))

/-- One event changes the status of one target `t` to `v`; what has to be checked about `v`. -/
theorem InvB.update {g : Graph} {s s' : State} {t : Nat} {v : St} (hi : InvB g s)
    (hst : s'.st = upd s.st t v) (hv : v ≠ .idle) (hnd : s.st t ≠ .done)
    (hstarts : s'.starts = s.starts ∨ (s'.starts = t :: s.starts ∧ s.st t = .idle))
    (hrun : ∀ sc k, g.script t = some sc → v = .running k →
      k ≤ sc.cmds.length ∧ ∀ j, j < k → ∀ ds, sc.cmds[j]? = some ds → ∀ f ∈ ds, settled g s f = true) :
    InvB g s' := by
  have hmono : ∀ x, s.st x = .done → s'.st x = .done := by
    intro x hx
    have : x ≠ t := by rintro rfl; exact hnd hx
    rw [hst, upd_other _ _ _ _ this]; exact hx
  have hother : ∀ x, x ≠ t → s'.st x = s.st x := fun x hx => by rw [hst, upd_other _ _ _ _ hx]
  have hself : s'.st t = v := by rw [hst, upd_same]
  refine ⟨?_, ?_, ?_⟩
  · rcases hstarts with h | ⟨h, hidle⟩
    · rw [h]; exact hi.nodup
    · rw [h]; exact List.nodup_cons.2 ⟨fun hm => hi.started t hm hidle, hi.nodup⟩
  · intro x hx
    by_cases hxt : x = t
    · subst hxt; rw [hself]; exact hv
    · rw [hother x hxt]
      rcases hstarts with h | ⟨h, _⟩
      · rw [h] at hx; exact hi.started x hx
      · rw [h] at hx
        exact hi.started x ((List.mem_cons.1 hx).resolve_left hxt)
  · intro x scx k hscx hx
    have : k ≤ scx.cmds.length ∧ ∀ j, j < k → ∀ ds, scx.cmds[j]? = some ds → ∀ f ∈ ds,
        settled g s f = true := by
      by_cases hxt : x = t
      · subst hxt; rw [hself] at hx; exact hrun scx k hscx hx
      · rw [hother x hxt] at hx; exact hi.before x scx k hscx hx
    exact ⟨this.1, fun j hj ds hds f hf => settled_mono hmono (this.2 j hj ds hds f hf)⟩

theorem step_invB {g : Graph} (s : State) (e : Ev) (s' : State) (h : step g s e = some s') (hi : InvB g s) :
    InvB g s' := by
  cases e with
  | start t b =>
    obtain ⟨_, hidle, _, rfl⟩ := step_start h
    refine hi.update (t := t) (v := .running 0) rfl nofun (by rw [hidle]; nofun) (.inr ⟨rfl, hidle⟩) ?_
    rintro sc k _ ⟨⟩
    exact ⟨Nat.zero_le _, fun j hj => absurd hj (Nat.not_lt_zero _)⟩
  | clean t =>
    obtain ⟨_, hidle, rfl⟩ := step_clean h
    exact hi.update (t := t) (v := .done) rfl nofun (by rw [hidle]; nofun) (.inl rfl) nofun
  | ret t =>
    obtain ⟨sc, k, ds, hsc, hst, hds, hall, rfl⟩ := step_ret h
    refine hi.update (t := t) (v := .running (k + 1)) rfl nofun (by rw [hst]; nofun) (.inl rfl) ?_
    rintro sc' k' hsc' ⟨⟩
    rw [hsc] at hsc'; cases hsc'
    obtain ⟨_, h2⟩ := hi.before t sc k hsc hst
    refine ⟨(List.getElem?_eq_some_iff.1 hds).1, fun j hj ds' hds' f hf => ?_⟩
    by_cases hjk : j = k
    · subst hjk
      rw [hds] at hds'; cases hds'
      exact hall f hf
    · exact h2 j (by omega) ds' hds' f hf
  | finish t =>
    obtain ⟨sc, hsc, hst, rfl⟩ := step_finish h
    exact hi.update (t := t) (v := .done) rfl nofun (by rw [hst]; nofun) (.inl rfl) nofun

theorem Inv.update {g : Graph} {K : Nat → Prop} {s s' : State} {t : Nat} {v : St}
    (hi : Inv g K s) (hb : InvB g s') (hst : s'.st = upd s.st t v) (hv : v ≠ .idle)
    (hcont : ∀ x, x ≠ t → s'.content x = s.content x)
    (hdone : ∀ sc, g.script t = some sc → v = .done → Spec g t (s'.content t)) : Inv g K s' := by
  have hother : ∀ x, x ≠ t → s'.st x = s.st x := fun x hx => by rw [hst, upd_other _ _ _ _ hx]
  have hself : s'.st t = v := by rw [hst, upd_same]
  refine ⟨hb, ?_, ?_⟩
  · intro x scx hscx hx
    by_cases hxt : x = t
    · subst hxt; rw [hself] at hx; exact hdone scx hscx hx
    · rw [hother x hxt] at hx; rw [hcont x hxt]; exact hi.doneSpec x scx hscx hx
  · intro x scx hk hscx hx
    by_cases hxt : x = t
    · subst hxt; rw [hself] at hx; exact absurd hx hv
    · rw [hother x hxt] at hx; rw [hcont x hxt]; exact hi.cleanSpec x scx hk hscx hx

theorem step_inv {g : Graph} {K : Nat → Prop} {s s' : State} {e : Ev} (hw : WellFormed g)
    (hK : ∀ t, e = .clean t → K t) (h : step g s e = some s') (hi : Inv g K s) : Inv g K s' := by
  have hb := step_invB _ _ _ h hi.toInvB
  cases e with
  | start t b =>
    obtain ⟨_, _, _, rfl⟩ := step_start h
    exact hi.update (t := t) (v := .running 0) hb rfl nofun (fun _ _ => rfl) nofun
  | clean t =>
    obtain ⟨_, hidle, rfl⟩ := step_clean h
    exact hi.update (t := t) (v := .done) hb rfl nofun (fun _ _ => rfl)
      (fun sc hsc _ => hi.cleanSpec t sc (hK t rfl) hsc hidle)
  | ret t =>
    obtain ⟨_, k, _, _, _, _, _, rfl⟩ := step_ret h
    exact hi.update (t := t) (v := .running (k + 1)) hb rfl nofun (fun _ _ => rfl) nofun
  | finish t =>
    obtain ⟨sc, hsc, hst, rfl⟩ := step_finish h
    refine hi.update (t := t) (v := .done) hb rfl nofun (fun x hx => upd_other _ _ _ _ hx) ?_
    intro sc' hsc' _
    rw [hsc] at hsc'; cases hsc'
    show Spec g t (upd s.content t _ t)
    rw [upd_same]
    exact finish_spec hw hi hsc hst

theorem run_invB {g : Graph} {es : List Ev} {s s' : State} (hi : InvB g s) (h : run g s es = some s') : InvB g s' :=
  (run_iff.1 h).inv step_invB hi

theorem run_inv {g : Graph} {K : Nat → Prop} (hw : WellFormed g) {es : List Ev} {s s' : State}
    (hK : ∀ t, Ev.clean t ∈ es → K t) (hi : Inv g K s) (h : run g s es = some s') : Inv g K s' :=
  (run_iff.1 h).inv_of_mem (fun _ _ _ he hs => step_inv hw (fun t ht => hK t (ht ▸ he)) hs) hi

/-- The targets the dirtiness check declares clean in `es` hold, at the start, what a from-scratch build
would give them.  (`Init` says this only of the targets that start out settled; the model's `clean`
event has no such guard, so the hypothesis has to be made about the run.) -/
def CleanOk (g : Graph) (s0 : State) (es : List Ev) : Prop :=
  ∀ t sc, Ev.clean t ∈ es → g.script t = some sc → s0.st t = .idle → Spec g t (s0.content t)

theorem init_invB {g : Graph} {s0 : State} (h0 : Init g s0) : InvB g s0 := by
  obtain ⟨h1, h2, _⟩ := h0
  refine ⟨(by rw [h1]; exact List.nodup_nil), (by rw [h1]; intro t ht; cases ht), ?_⟩
  intro t sc k _ hst
  rcases h2 t with h | h <;> rw [h] at hst <;> cases hst

theorem init_inv {g : Graph} {s0 : State} {es : List Ev} (h0 : Init g s0) (hc : CleanOk g s0 es) :
    Inv g (fun t => Ev.clean t ∈ es) s0 :=
  ⟨init_invB h0, h0.2.2, fun t sc hk hsc hidle => hc t sc hk hsc hidle⟩

end RedoModel.Par
