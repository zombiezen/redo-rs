import RedoModel.Lemmas.ParConfl
/-!
The serial (-j1, depth-first) schedule `serialOne` is one of the accepted runs of `RedoModel.Par`, and it
settles the target it is asked for.  Hence "equal to the serial build" is a special case of confluence.
-/
namespace RedoModel.Par

/-- The guards of an event, read the other way round (likewise for `ret` and `finish` below). -/
theorem step_start_mk {g : Graph} {s : State} {t : Nat} {b : Option Nat} {sc : Script}
    (hsc : g.script t = some sc) (hidle : s.st t = .idle) (hby : ∀ p, b = some p → askedBy g s t p = true) :
    step g s (.start t b) = some { s with st := upd s.st t (.running 0), starts := t :: s.starts } := by
  cases b with
  | none => simp [step, hsc, hidle]
  | some p => simp [step, hsc, hidle, hby p rfl]

theorem step_ret_mk {g : Graph} {s : State} {t k : Nat} {sc : Script} {ds : List Nat}
    (hsc : g.script t = some sc) (hst : s.st t = .running k) (hds : sc.cmds[k]? = some ds)
    (hall : ∀ d ∈ ds, settled g s d = true) :
    step g s (.ret t) = some { s with st := upd s.st t (.running (k + 1)) } := by
  have : ds.all (settled g s) = true := by simpa using hall
  simp [step, hsc, hst, hds, this]

theorem step_finish_mk {g : Graph} {s : State} {t : Nat} {sc : Script}
    (hsc : g.script t = some sc) (hst : s.st t = .running sc.cmds.length) :
    step g s (.finish t) =
      some { s with st := upd s.st t .done,
                    content := upd s.content t (out sc.tag (sc.reads.map (val g s))) } := by
  simp [step, hsc, hst]

theorem askedBy_mk {g : Graph} {s : State} {t d k : Nat} {sc : Script} {ds : List Nat}
    (hsc : g.script t = some sc) (hst : s.st t = .running k) (hds : sc.cmds[k]? = some ds) (hd : d ∈ ds) :
    askedBy g s d t = true := by
  simp [askedBy, hsc, hst, hds, hd]

/-- Target `x` is untouched unless it was idle, and an idle one at most becomes settled. -/
def FrameAt (s s' : State) (x : Nat) : Prop :=
  (s.st x ≠ .idle → s'.st x = s.st x) ∧ (s.st x = .idle → s'.st x = .idle ∨ s'.st x = .done)

def Frame (s s' : State) : Prop := ∀ x, FrameAt s s' x

def FrameX (t : Nat) (s s' : State) : Prop := ∀ x, x ≠ t → FrameAt s s' x

theorem FrameAt.refl (s : State) (x : Nat) : FrameAt s s x := ⟨fun _ => rfl, fun h => Or.inl h⟩

theorem FrameAt.trans {s s1 s2 : State} {x : Nat} (h1 : FrameAt s s1 x) (h2 : FrameAt s1 s2 x) :
    FrameAt s s2 x := by
  constructor
  · intro hne
    have e1 := h1.1 hne
    rw [h2.1 (by rw [e1]; exact hne), e1]
  · intro hidle
    rcases h1.2 hidle with h | h
    · exact h2.2 h
    · right; rw [h2.1 (by rw [h]; nofun), h]

theorem FrameAt.of_st_eq {s s' : State} {x : Nat} (h : s'.st x = s.st x) : FrameAt s s' x :=
  ⟨fun _ => h, fun hi => Or.inl (h.trans hi)⟩

theorem Frame.toX {s s' : State} (h : Frame s s') (t : Nat) : FrameX t s s' := fun x _ => h x

theorem Frame.settled {g : Graph} {s s' : State} (h : Frame s s') {f : Nat} (hf : settled g s f = true) :
    settled g s' f = true :=
  settled_mono (fun x hx => by rw [(h x).1 (by rw [hx]; nofun), hx]) hf

/-- Everything of rank below `b` is idle or settled (nothing of that rank is in progress). -/
def Below (rank : Nat → Nat) (b : Nat) (s : State) : Prop :=
  ∀ x, rank x < b → s.st x = .idle ∨ s.st x = .done

theorem FrameAt.idleOrDone {s s' : State} {x : Nat} (h : FrameAt s s' x)
    (hx : s.st x = .idle ∨ s.st x = .done) : s'.st x = .idle ∨ s'.st x = .done := by
  rcases hx with hx | hx
  · exact h.2 hx
  · right; rw [h.1 (by rw [hx]; nofun), hx]

theorem Below.frame {rank : Nat → Nat} {b : Nat} {s s' : State} (hb : Below rank b s) (h : Frame s s') :
    Below rank b s' := fun x hx => (h x).idleOrDone (hb x hx)

/-- The result `r` of a schedule generator started in `s`: the events are accepted from `s` and lead to
the state returned; no target is declared clean. -/
structure Good (g : Graph) (s : State) (r : List Ev × State) : Prop where
  runs : Reach (fun s e s1 => step g s e = some s1) s r.1 r.2
  noClean : ∀ t, Ev.clean t ∉ r.1

theorem Good.nil {g : Graph} {s : State} : Good g s ([], s) := ⟨.nil s, fun _ => nofun⟩

theorem Good.cons {g : Graph} {s s1 : State} {e : Ev} {r : List Ev × State} (hs : step g s e = some s1)
    (he : ∀ t, e ≠ .clean t) (h : Good g s1 r) : Good g s (e :: r.1, r.2) :=
  ⟨.cons hs h.runs, fun t ht => (List.mem_cons.1 ht).elim (fun h' => he t h'.symm) (h.noClean t)⟩

theorem Good.append {g : Graph} {s : State} {r1 r2 : List Ev × State} (h1 : Good g s r1) (h2 : Good g r1.2 r2) :
    Good g s (r1.1 ++ r2.1, r2.2) :=
  ⟨Reach.append_iff.2 ⟨_, h1.runs, h2.runs⟩,
    fun t ht => (List.mem_append.1 ht).elim (h1.noClean t) (h2.noClean t)⟩

theorem serialDeps_ok {g : Graph} {rec : Nat → State → List Ev × State} (P : State → Prop)
    (hP : ∀ s s', P s → Frame s s' → P s') :
    ∀ (ds : List Nat),
      (∀ d ∈ ds, ∀ s, P s → Good g s (rec d s) ∧ Frame s (rec d s).2 ∧ settled g (rec d s).2 d = true) →
      ∀ s, P s → Good g s (serialDeps rec ds s) ∧ Frame s (serialDeps rec ds s).2 ∧
        ∀ d ∈ ds, settled g (serialDeps rec ds s).2 d = true
  | [], _, s, _ => ⟨.nil, fun x => FrameAt.refl s x, fun d hd => by cases hd⟩
  | d :: ds, hrec, s, hs => by
    obtain ⟨g1, f1, st1⟩ := hrec d List.mem_cons_self s hs
    obtain ⟨g2, f2, st2⟩ := serialDeps_ok P hP ds (fun d' hd' => hrec d' (List.mem_cons_of_mem _ hd'))
      (rec d s).2 (hP _ _ hs f1)
    refine ⟨g1.append g2, fun x => (f1 x).trans (f2 x), fun d' hd' => ?_⟩
    rcases List.mem_cons.1 hd' with rfl | hd'
    · exact f2.settled st1
    · exact st2 d' hd'

theorem serialCmds_ok {g : Graph} {rank : Nat → Nat} {rec : Nat → State → List Ev × State} {t : Nat}
    {sc : Script} (hsc : g.script t = some sc) (hrk : ∀ f ∈ sc.cmds.flatten, rank f < rank t)
    (hrec : ∀ k ds, sc.cmds[k]? = some ds → ∀ d ∈ ds, ∀ s, Below rank (rank t) s → s.st t = .running k →
      Good g s (rec d s) ∧ Frame s (rec d s).2 ∧ settled g (rec d s).2 d = true) :
    ∀ (cmds : List (List Nat)) (k : Nat) (s : State), (∀ j, cmds[j]? = sc.cmds[k + j]?) →
      Below rank (rank t) s → s.st t = .running k →
      Good g s (serialCmds rec t cmds k s) ∧ FrameX t s (serialCmds rec t cmds k s).2 ∧
        (serialCmds rec t cmds k s).2.st t = .running (k + cmds.length)
  | [], k, s, _, _, hst =>
    ⟨.nil, fun x _ => FrameAt.refl s x, by simpa [serialCmds] using hst⟩
  | ds :: rest, k, s, hcm, hb, hst => by
    have hk : sc.cmds[k]? = some ds := by simpa using (hcm 0).symm
    have hne : ∀ x, rank x < rank t → x ≠ t := fun x hx hxt => by rw [hxt] at hx; exact Nat.lt_irrefl _ hx
    obtain ⟨g1, f1, st1⟩ := serialDeps_ok (g := g) (rec := rec)
      (fun s => Below rank (rank t) s ∧ s.st t = .running k)
      (fun s s' hs hf => ⟨hs.1.frame hf, by rw [(hf t).1 (by rw [hs.2]; nofun), hs.2]⟩)
      ds (fun d hd s hs => hrec k ds hk d hd s hs.1 hs.2) s ⟨hb, hst⟩
    generalize hr1 : serialDeps rec ds s = r1 at g1 f1 st1
    have hst1 : r1.2.st t = .running k := by rw [(f1 t).1 (by rw [hst]; nofun), hst]
    have hstep := step_ret_mk hsc hst1 hk st1
    generalize hs2 : ({ r1.2 with st := upd r1.2.st t (.running (k + 1)) } : State) = s2 at hstep
    have hs2st : ∀ x, x ≠ t → s2.st x = r1.2.st x := by
      intro x hx; rw [← hs2]; exact upd_other _ _ _ _ hx
    have hb2 : Below rank (rank t) s2 := by
      intro x hx
      rw [hs2st x (hne x hx)]
      exact (hb.frame f1) x hx
    have hst2 : s2.st t = .running (k + 1) := by rw [← hs2]; exact upd_same _ _ _
    obtain ⟨g3, f3, st3⟩ := serialCmds_ok hsc hrk hrec rest (k + 1) s2
      (fun j => by
        have := hcm (j + 1)
        simp only [List.getElem?_cons_succ] at this
        rw [this]; congr 1; omega) hb2 hst2
    simp only [serialCmds, hr1, hs2]
    refine ⟨g1.append (.cons hstep nofun g3),
      fun x hx => ((f1 x).trans (FrameAt.of_st_eq (hs2st x hx))).trans (f3 x hx), ?_⟩
    rw [st3]; congr 1; simp only [List.length_cons]; omega

theorem serialOne_ok {g : Graph} {rank : Nat → Nat} (hr : Ranked g rank) :
    ∀ (fuel t : Nat) (b : Option Nat) (s : State), rank t < fuel → Below rank (rank t + 1) s →
      (∀ p, b = some p → askedBy g s t p = true) →
      Good g s (serialOne g fuel t b s) ∧ Frame s (serialOne g fuel t b s).2 ∧
        settled g (serialOne g fuel t b s).2 t = true
  | 0, _, _, _, h, _, _ => absurd h (Nat.not_lt_zero _)
  | fuel + 1, t, b, s, hfuel, hb, hby => by
    cases hsc : g.script t with
    | none =>
      simp only [serialOne, hsc]
      exact ⟨.nil, fun x => FrameAt.refl s x, settled_src hsc⟩
    | some sc =>
      by_cases hidle : s.st t = .idle
      · have hne : ∀ x, rank x < rank t → x ≠ t := fun x hx hxt => by
          rw [hxt] at hx; exact Nat.lt_irrefl _ hx
        have hstart := step_start_mk hsc hidle hby
        generalize hs0 : ({ s with st := upd s.st t (.running 0), starts := t :: s.starts } : State) = s0
          at hstart
        have hs0st : ∀ x, x ≠ t → s0.st x = s.st x := by
          intro x hx; rw [← hs0]; exact upd_other _ _ _ _ hx
        have hb0 : Below rank (rank t) s0 := by
          intro x hx
          rw [hs0st x (hne x hx)]
          exact hb x (by omega)
        have hst0 : s0.st t = .running 0 := by rw [← hs0]; exact upd_same _ _ _
        obtain ⟨g1, f1, st1⟩ := serialCmds_ok (rank := rank)
          (rec := fun d s' => serialOne g fuel d (some t) s') hsc (hr t sc hsc)
          (fun k ds hk d hd s' hb' hst' => by
            have hrd : rank d < rank t :=
              hr t sc hsc d (List.mem_flatten.2 ⟨ds, List.mem_of_getElem? hk, hd⟩)
            exact serialOne_ok hr fuel d (some t) s' (by omega)
              (fun x hx => hb' x (by omega))
              (fun p hp => by cases hp; exact askedBy_mk hsc hst' hk hd))
          sc.cmds 0 s0 (fun j => by simp) hb0 hst0
        simp only [serialOne, hsc, hidle, ne_eq, not_true_eq_false, if_false, hs0]
        generalize hr1 : serialCmds (fun d s' => serialOne g fuel d (some t) s') t sc.cmds 0 s0 = r1
          at g1 f1 st1
        simp only [Nat.zero_add] at st1
        have hfin := step_finish_mk hsc st1
        refine ⟨.cons hstart nofun (g1.append (.cons hfin nofun .nil)), ?_, ?_⟩
        · intro x
          by_cases hx : x = t
          · subst hx
            exact ⟨fun h => absurd hidle h, fun _ => Or.inr (upd_same _ _ _)⟩
          · refine ((FrameAt.of_st_eq (hs0st x hx)).trans (f1 x hx)).trans (FrameAt.of_st_eq ?_)
            exact upd_other _ _ _ _ hx
        · rw [settled_tgt hsc]; exact upd_same _ _ _
      · simp only [serialOne, hsc, hidle, ne_eq, not_false_eq_true, if_true]
        refine ⟨.nil, fun x => FrameAt.refl s x, ?_⟩
        rw [settled_tgt hsc]
        exact (hb t (Nat.lt_succ_self _)).resolve_left hidle

theorem init_below {g : Graph} {s0 : State} (h0 : Init g s0) (rank : Nat → Nat) (b : Nat) :
    Below rank b s0 := fun x _ => h0.2.1 x

theorem serial_is_a_run {g : Graph} {rank : Nat → Nat} {s0 : State} {fuel t : Nat} (hr : Ranked g rank)
    (h0 : Init g s0) (hfuel : rank t < fuel) :
    run g s0 (serialOne g fuel t none s0).1 = some (serialOne g fuel t none s0).2 ∧
    (g.script t ≠ none → (serialOne g fuel t none s0).2.st t = .done) ∧
    (∀ u, Ev.clean u ∉ (serialOne g fuel t none s0).1) := by
  obtain ⟨g1, _, st1⟩ := serialOne_ok hr fuel t none s0 hfuel (init_below h0 rank _)
    (fun p hp => by cases hp)
  refine ⟨run_iff.2 g1.runs, ?_, g1.noClean⟩
  intro hne
  cases hsc : g.script t with
  | none => exact absurd hsc hne
  | some sc => exact (settled_tgt hsc).1 st1

theorem equals_serial {g : Graph} {rank : Nat → Nat} {s0 s : State} {es : List Ev} {fuel t : Nat}
    (hw : WellFormed g) (hr : Ranked g rank) (h0 : Init g s0) (hc : CleanOk g s0 es)
    (h : run g s0 es = some s) (hd : s.st t = .done) (hfuel : rank t < fuel) :
    s.content t = (serialOne g fuel t none s0).2.content t := by
  obtain ⟨h1, h2, h3⟩ := serial_is_a_run (t := t) hr h0 hfuel
  cases hsc : g.script t with
  | none => rw [run_content_src _ _ _ h t hsc, run_content_src _ _ _ h1 t hsc]
  | some sc =>
    exact confluent hw h0 hc (cleanOk_of_no_clean h3) h h1 t hd (h2 (by rw [hsc]; nofun))

/-- The serial build gives the target it is asked for the from-scratch content. -/
theorem serial_is_spec {g : Graph} {rank : Nat → Nat} {s0 : State} {fuel t : Nat} {sc : Script}
    (hw : WellFormed g) (hr : Ranked g rank) (h0 : Init g s0) (hfuel : rank t < fuel)
    (hsc : g.script t = some sc) : Spec g t ((serialOne g fuel t none s0).2.content t) := by
  obtain ⟨h1, h2, h3⟩ := serial_is_a_run (t := t) hr h0 hfuel
  exact done_is_spec_partial hw h0 (cleanOk_of_no_clean h3) h1 t sc hsc
    (h2 (by rw [hsc]; nofun))

/-- In a well-formed graph without cycles every file has a from-scratch content. -/
theorem spec_exists {g : Graph} {rank : Nat → Nat} (hw : WellFormed g) (hr : Ranked g rank) (t : Nat) :
    ∃ c, Spec g t c := by
  cases hsc : g.script t with
  | none => exact ⟨_, Spec.src hsc⟩
  | some sc =>
    exact ⟨_, serial_is_spec (s0 := { st := fun _ => .idle, content := fun _ => [] }) hw hr
      ⟨rfl, fun _ => Or.inl rfl, fun _ _ _ h => by cases h⟩ (Nat.lt_succ_self _) hsc⟩

end RedoModel.Par
