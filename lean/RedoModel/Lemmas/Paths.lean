import RedoModel.Paths

/-! Lemmas about the lexical path model: splitting and joining at `/`, the output stack of the clean-up loop and its normal
form, and what `render` writes (`comps_render`: the rendered normal forms are what `normpath` returns and leaves alone). -/
namespace RedoModel.Paths

/-- A component as produced by `comps`: non-empty and free of `/`. -/
def GoodComp (c : List Char) : Prop := c ≠ [] ∧ '/' ∉ c

theorem splitSlash_ne_nil (p : List Char) : splitSlash p ≠ [] := by
  fun_induction splitSlash p <;> simp_all

theorem splitSlash_noslash (p : List Char) : ∀ c ∈ splitSlash p, '/' ∉ c := by
  fun_induction splitSlash p with
  | case1 => simp
  | case2 cs ih => simpa using ih
  | case3 c cs hc h ih => simpa using Ne.symm hc
  | case4 c cs hc h t heq ih =>
    rw [heq] at ih
    simp only [List.mem_cons, forall_eq_or_imp, not_or] at ih ⊢
    exact ⟨⟨Ne.symm hc, ih.1⟩, ih.2⟩

theorem comps_good (p : List Char) : ∀ c ∈ comps p, GoodComp c := by
  intro c hc
  unfold comps at hc
  rw [List.mem_filter] at hc
  refine ⟨?_, splitSlash_noslash p c hc.1⟩
  intro h; subst h; simp at hc

theorem splitSlash_single (c : List Char) (h : '/' ∉ c) : splitSlash c = [c] := by
  induction c with
  | nil => rfl
  | cons a cs ih =>
    simp only [List.mem_cons, not_or] at h
    unfold splitSlash
    rw [if_neg (fun e => h.1 e.symm), ih h.2]

theorem splitSlash_append (c r : List Char) (h : '/' ∉ c) :
    splitSlash (c ++ '/' :: r) = c :: splitSlash r := by
  induction c with
  | nil => simp [splitSlash]
  | cons a cs ih =>
    simp only [List.mem_cons, not_or] at h
    simp only [List.cons_append]
    rw [splitSlash, if_neg (fun e => h.1 e.symm), ih h.2]

theorem splitSlash_joinSlash (cs : List (List Char)) (hne : cs ≠ [])
    (h : ∀ c ∈ cs, '/' ∉ c) : splitSlash (joinSlash cs) = cs := by
  induction cs with
  | nil => exact absurd rfl hne
  | cons c cs ih =>
    cases cs with
    | nil => simpa [joinSlash] using splitSlash_single c (h c (by simp))
    | cons d ds =>
      simp only [joinSlash]
      rw [splitSlash_append c _ (h c (by simp))]
      rw [ih (by simp) (fun x hx => h x (by simp [hx]))]

theorem filter_good (cs : List (List Char)) (h : ∀ c ∈ cs, GoodComp c) :
    cs.filter (fun c => !c.isEmpty) = cs := by
  rw [List.filter_eq_self]
  intro c hc
  have := (h c hc).1
  cases c <;> simp_all

theorem comps_joinSlash (cs : List (List Char)) (h : ∀ c ∈ cs, GoodComp c) : comps (joinSlash cs) = cs := by
  cases cs with
  | nil => decide
  | cons c cs =>
    unfold comps
    rw [splitSlash_joinSlash _ (by simp) (fun c hc => (h c hc).2), filter_good _ h]

theorem comps_slash_joinSlash (cs : List (List Char))
    (h : ∀ c ∈ cs, GoodComp c) : comps ('/' :: joinSlash cs) = cs := by
  cases cs with
  | nil => simp [comps, joinSlash, splitSlash]
  | cons c cs =>
    unfold comps
    unfold splitSlash
    simp only [if_true]
    rw [splitSlash_joinSlash _ (by simp) (fun c hc => (h c hc).2)]
    rw [List.filter_cons]
    simp only [List.isEmpty_nil, Bool.not_true]
    exact filter_good _ h

theorem rooted_joinSlash (cs : List (List Char)) (h : ∀ c ∈ cs, GoodComp c) : rooted (joinSlash cs) = false := by
  cases cs with
  | nil => rfl
  | cons c cs =>
    have hc := h c (by simp)
    cases c with
    | nil => exact absurd rfl hc.1
    | cons a as =>
      have : a ≠ '/' := fun e => hc.2 (by simp [e])
      cases cs <;> simp [joinSlash, rooted, this]

theorem normpath_def (q : List Char) :
    normpath q = render (rooted q) (cleanComps (rooted q) (comps q)) := rfl

theorem joinSlash_ne_nil (cs : List (List Char)) (hne : cs ≠ [])
    (h : ∀ c ∈ cs, GoodComp c) : joinSlash cs ≠ [] := by
  cases cs with
  | nil => exact absurd rfl hne
  | cons c cs =>
    have hc := (h c (by simp)).1
    cases cs with
    | nil => simpa [joinSlash] using hc
    | cons d ds => simp [joinSlash, hc]

theorem joinSlash_append (ds es : List (List Char)) (hd : ds ≠ []) (he : es ≠ []) :
    joinSlash (ds ++ es) = joinSlash ds ++ '/' :: joinSlash es := by
  induction ds with
  | nil => exact absurd rfl hd
  | cons c cs ih =>
    cases cs with
    | nil =>
      cases es with
      | nil => exact absurd rfl he
      | cons e es => simp [joinSlash]
    | cons d ds =>
      have := ih (by simp)
      simp only [List.cons_append] at this ⊢
      simp only [joinSlash, this, List.append_assoc, List.cons_append]

/-- Joined components do not end in `/`: the last character is the last one of the last component. -/
theorem getLast?_joinSlash (cs : List (List Char)) (h : ∀ c ∈ cs, GoodComp c) :
    (joinSlash cs).getLast? ≠ some '/' := by
  rcases List.eq_nil_or_concat cs with rfl | ⟨xs, f, rfl⟩
  · simp [joinSlash]
  · rw [List.concat_eq_append] at h ⊢
    obtain ⟨hne, hns⟩ := h f (by simp)
    obtain ⟨a, as, rfl⟩ := List.exists_cons_of_ne_nil hne
    have : (joinSlash (xs ++ [a :: as])).getLast? = (a :: as).getLast? := by
      cases xs with
      | nil => rfl
      | cons x xs => rw [joinSlash_append _ _ (by simp) (by simp), List.getLast?_append]; simp [joinSlash, List.getLast?_cons]
    exact fun hl => hns (List.mem_of_getLast? (this ▸ hl))

/-! ### The output stack of the clean-up loop -/

def AllDD (st : List (List Char)) : Prop := ∀ c ∈ st, c = dotdot

/-- Shape of the reversed output stack: a (possibly empty, and empty when rooted)
bottom block of `..`, then real components. -/
inductive NStack (root : Bool) : List (List Char) → Prop
  | dds {st} : AllDD st → (root = true → st = []) → NStack root st
  | real {c st} : c ≠ dot → c ≠ dotdot → NStack root st → NStack root (c :: st)

theorem NStack.tail {root c st} (h : NStack root (c :: st)) : NStack root st := by
  cases h with
  | dds ha hr =>
    refine .dds (fun x hx => ha x (by simp [hx])) ?_
    intro r; have := hr r; simp at this
  | real _ _ h => exact h

theorem NStack.suffix {root} (xs ys : List (List Char)) (h : NStack root (xs ++ ys)) :
    NStack root ys := by
  induction xs with
  | nil => simpa using h
  | cons x xs ih => exact ih (NStack.tail (by simpa using h))

def Plain (cs : List (List Char)) : Prop := ∀ c ∈ cs, c ≠ dot ∧ c ≠ dotdot

theorem Plain.tail {c cs} (h : Plain (c :: cs)) : Plain cs :=
  fun x hx => h x (by simp [hx])

theorem Plain.reverse {cs} (h : Plain cs) : Plain cs.reverse :=
  fun c hc => h c (List.mem_reverse.1 hc)

theorem NStack.plain {st : List (List Char)} (h : NStack true st) : Plain st := by
  induction h with
  | dds ha hr => rw [hr rfl]; intro c hc; simp at hc
  | real h1 h2 _ ih =>
    intro x hx
    rcases List.mem_cons.1 hx with e | e
    · subst e; exact ⟨h1, h2⟩
    · exact ih x e

theorem NStack.of_plain (root : Bool) : ∀ {st : List (List Char)}, Plain st → NStack root st
  | [], _ => .dds (by intro x hx; simp at hx) (fun _ => rfl)
  | c :: _, h => .real (h c (by simp)).1 (h c (by simp)).2 (NStack.of_plain root h.tail)

theorem push_NStack {root st} (c : List Char) (h : NStack root st) : NStack root (push root st c) := by
  unfold push
  split
  · exact h
  · split
    · rename_i hdd
      cases st with
      | nil =>
        cases root
        · exact .dds (by intro x hx; simp at hx; exact hx) (by simp)
        · exact .dds (by intro x hx; simp at hx) (by simp)
      | cons top rest =>
        simp only
        split
        · rename_i htop
          cases h with
          | dds ha hr =>
            refine .dds ?_ ?_
            · intro x hx
              rcases List.mem_cons.1 hx with e | e
              · exact e
              · exact ha x e
            · intro r; have := hr r; simp at this
          | real _ hndd _ => exact absurd htop hndd
        · exact h.tail
    · rename_i h1 h2
      exact .real h1 h2 h

theorem foldl_push_NStack {root} (cs st : List (List Char)) (h : NStack root st) :
    NStack root (cs.foldl (push root) st) := by
  induction cs generalizing st with
  | nil => simpa
  | cons c cs ih => exact ih _ (push_NStack c h)

theorem push_plain {root st c} (h1 : c ≠ dot) (h2 : c ≠ dotdot) : push root st c = c :: st := by
  unfold push; rw [if_neg h1, if_neg h2]

theorem push_of_NStack {root c st} (h : NStack root (c :: st)) : push root st c = c :: st := by
  cases h with
  | dds ha hr =>
    have hc : c = dotdot := ha c (by simp)
    have hroot : root = false := by
      cases root
      · rfl
      · have := hr rfl; simp at this
    subst hc hroot
    unfold push
    rw [if_neg (by decide), if_pos rfl]
    cases st with
    | nil => rfl
    | cons top rest =>
      have : top = dotdot := ha top (by simp)
      simp [this]
  | real h1 h2 _ => exact push_plain h1 h2

theorem foldl_push_id {root} (cs st : List (List Char)) (h : NStack root (cs.reverse ++ st)) :
    cs.foldl (push root) st = cs.reverse ++ st := by
  induction cs generalizing st with
  | nil => simp
  | cons c cs ih =>
    simp only [List.reverse_cons, List.append_assoc, List.singleton_append] at h
    simp only [List.foldl_cons]
    rw [push_of_NStack (NStack.suffix _ _ h)]
    rw [ih _ h]
    simp

def NormalComps (root : Bool) (cs : List (List Char)) : Prop := NStack root cs.reverse

theorem cleanComps_normal (root : Bool) (cs : List (List Char)) :
    NormalComps root (cleanComps root cs) := by
  unfold NormalComps cleanComps
  rw [List.reverse_reverse]
  exact foldl_push_NStack cs [] (.dds (by intro x hx; simp at hx) (by simp))

theorem cleanComps_id {root cs} (h : NormalComps root cs) : cleanComps root cs = cs := by
  unfold cleanComps
  rw [foldl_push_id cs [] (by simpa [NormalComps] using h)]
  simp

theorem cleanComps_true_plain (cs : List (List Char)) : Plain (cleanComps true cs) := by
  simpa using (NStack.plain (cleanComps_normal true cs)).reverse

theorem mem_push {root st c x} (h : x ∈ push root st c) : x ∈ st ∨ x = c ∨ x = dotdot := by
  unfold push at h
  repeat' split at h
  all_goals simp_all
  grind

theorem mem_foldl_push {root} (cs st : List (List Char)) {x} (h : x ∈ cs.foldl (push root) st) :
    x ∈ st ∨ x ∈ cs ∨ x = dotdot := by
  induction cs generalizing st with
  | nil => exact .inl (by simpa using h)
  | cons c cs ih =>
    rcases ih _ h with h | h | h
    · rcases mem_push h with h | h | h
      · exact .inl h
      · exact .inr (.inl (by simp [h]))
      · exact .inr (.inr h)
    · exact .inr (.inl (by simp [h]))
    · exact .inr (.inr h)

theorem dotdot_good : GoodComp dotdot := by
  constructor <;> decide

theorem cleanComps_good {root cs} (h : ∀ c ∈ cs, GoodComp c) :
    ∀ c ∈ cleanComps root cs, GoodComp c := by
  intro c hc
  unfold cleanComps at hc
  rw [List.mem_reverse] at hc
  rcases mem_foldl_push cs [] hc with h' | h' | h'
  · simp at h'
  · exact h c h'
  · subst h'; exact dotdot_good

theorem rooted_render {root cs} (h : ∀ c ∈ cs, GoodComp c) : rooted (render root cs) = root := by
  unfold render
  cases root
  · simp only [Bool.false_eq_true, if_false]
    split
    · rfl
    · exact rooted_joinSlash cs h
  · simp [rooted]

theorem comps_render {root : Bool} {cs : List (List Char)} (hg : ∀ c ∈ cs, GoodComp c) :
    comps (render root cs) = if root = false ∧ cs = [] then [dot] else cs := by
  cases root with
  | true => simpa [render] using comps_slash_joinSlash cs hg
  | false =>
    cases cs with
    | nil => decide
    | cons c cs => simpa [render] using comps_joinSlash _ hg

theorem render_ne_nil {root : Bool} {cs : List (List Char)} (hg : ∀ c ∈ cs, GoodComp c) : render root cs ≠ [] := by
  unfold render
  split
  · simp
  · split
    · decide
    · next h => exact joinSlash_ne_nil cs (by simpa using h) hg

theorem getLast?_render {root : Bool} {cs : List (List Char)} (hg : ∀ c ∈ cs, GoodComp c)
    (h : (render root cs).getLast? = some '/') : root = true ∧ cs = [] := by
  have hj := getLast?_joinSlash cs hg
  unfold render at h
  cases root with
  | false =>
    rw [if_neg (by simp)] at h
    split at h
    · exact absurd h (by decide)
    · exact absurd h hj
  | true =>
    refine ⟨rfl, Classical.byContradiction fun hne => ?_⟩
    obtain ⟨y, ys, hy⟩ := List.exists_cons_of_ne_nil (joinSlash_ne_nil cs hne hg)
    rw [if_pos rfl, hy, List.getLast?_cons_cons, ← hy] at h
    exact hj h

/-- The fixed points of `normpath` are the rendered normal forms (and every value of `normpath` is one). -/
theorem normpath_render {root : Bool} {cs : List (List Char)} (hn : NormalComps root cs)
    (hg : ∀ c ∈ cs, GoodComp c) : normpath (render root cs) = render root cs := by
  rw [normpath_def, rooted_render hg, comps_render hg]
  split
  · next h => rw [h.1, h.2]; rfl
  · rw [cleanComps_id hn]

theorem normpath_idem (p : List Char) : normpath (normpath p) = normpath p :=
  normpath_render (cleanComps_normal _ _) (cleanComps_good (comps_good p))

theorem comps_normpath (p : List Char) :
    comps (normpath p) =
      if rooted p = false ∧ cleanComps (rooted p) (comps p) = [] then [dot] else cleanComps (rooted p) (comps p) :=
  comps_render (cleanComps_good (comps_good p))

end RedoModel.Paths
