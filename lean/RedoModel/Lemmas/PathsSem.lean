import RedoModel.Lemmas.Paths

/-!
Semantic lemmas about the lexical path model (used by `Props/C15b.lean`):

* A. a symlink-free file-system semantics (`Tree`, `step`, `walk`, `resolve`) and the proof that
  `normpath` never changes what a resolvable path names (`resolve_normpath`);
* B. `normpath (pushPath b (relpathLex t b)) = normpath t` for absolute `t`, `b` (`rejoin_lex_gen`);
* C. two spellings whose directory parts canonicalise to the same directory get one key
  (`realdirpath_one_key`, `relpath_one_key_abs`), plus the specification of `splitLast`.
-/
namespace RedoModel.Paths

/-! ## A. A file system without symlinks -/

inductive Tree where
  | file : Tree
  | dir (entries : List (List Char × Tree)) : Tree

def lookup (nm : List Char) : List (List Char × Tree) → Option Tree
  | [] => none
  | (k, t) :: es => if k = nm then some t else lookup nm es

/-- Resolve one component against a stack of nodes (head = current node, last = root).
Like POSIX, every component — also `.` and `..` — needs the current node to be a
directory; `..` at the root stays at the root. -/
def step (st : List Tree) (c : List Char) : Option (List Tree) :=
  match st with
  | Tree.dir es :: rest =>
    if c = dot then some (Tree.dir es :: rest)
    else if c = dotdot then
      (match rest with
       | [] => some (Tree.dir es :: rest)
       | _ :: _ => some rest)
    else
      (match lookup c es with
       | some t => some (t :: Tree.dir es :: rest)
       | none => none)
  | _ => none

def walk : List Tree → List (List Char) → Option (List Tree)
  | st, [] => some st
  | st, c :: cs => (step st c).bind (fun st' => walk st' cs)

/-- Resolve the path string `p`: absolute paths start at the root, relative ones at the
cwd stack.  The result is the whole chain root…node (head = the node named by `p`).
Trailing and repeated slashes are ignored (this is more permissive than POSIX for `file/`,
which only makes `preserves` stronger). -/
def resolve (root : Tree) (cwd : List Tree) (p : List Char) : Option (List Tree) :=
  walk (if rooted p then [root] else cwd) (comps p)

def topIsDir : List Tree → Prop
  | Tree.dir _ :: _ => True
  | _ => False

/-- `st` is a chain root … node in which every node is an entry of the next one. -/
inductive Chain (root : Tree) : List Tree → Prop
  | root : Chain root [root]
  | child {nm es t rest} : Chain root (Tree.dir es :: rest) → (nm, t) ∈ es →
      Chain root (t :: Tree.dir es :: rest)

def ValidCwd (root : Tree) (cwd : List Tree) : Prop := Chain root cwd ∧ topIsDir cwd

/-- Entry names are real names: non-empty, no `/`, not `.` or `..`.  (Not needed for
`preserves`: `step` never looks up `.` or `..`, and `comps` never yields other bad names.) -/
inductive Tree.WF : Tree → Prop
  | file : Tree.WF Tree.file
  | dir {es} : (∀ e ∈ es, e.1 ≠ [] ∧ '/' ∉ e.1 ∧ e.1 ≠ dot ∧ e.1 ≠ dotdot) →
      (∀ nm t, (nm, t) ∈ es → Tree.WF t) → Tree.WF (Tree.dir es)

theorem lookup_mem {nm es t} (h : lookup nm es = some t) : (nm, t) ∈ es := by
  induction es with
  | nil => simp [lookup] at h
  | cons e es ih =>
    obtain ⟨k, v⟩ := e
    unfold lookup at h
    split at h
    · rename_i hk
      simp only [Option.some.injEq] at h
      subst hk h
      simp
    · exact List.mem_cons_of_mem _ (ih h)

theorem Chain.tail {root t u rest} (h : Chain root (t :: u :: rest)) : Chain root (u :: rest) := by
  cases h with
  | child h _ => exact h

theorem step_chain {root st c st'} (hc : Chain root st) (h : step st c = some st') :
    Chain root st' := by
  unfold step at h
  repeat' split at h
  all_goals cases h
  · exact hc
  · exact hc
  · exact hc.tail
  · exact .child hc (lookup_mem ‹_›)

theorem walk_cons_inv {st c cs R} (h : walk st (c :: cs) = some R) :
    ∃ st1, step st c = some st1 ∧ walk st1 cs = some R := by
  simp only [walk] at h
  cases hs : step st c with
  | none => rw [hs] at h; cases h
  | some st1 => rw [hs] at h; exact ⟨st1, rfl, h⟩

theorem walk_chain {root st cs st'} (hc : Chain root st) (h : walk st cs = some st') :
    Chain root st' := by
  induction cs generalizing st with
  | nil => cases h; exact hc
  | cons c cs ih =>
    obtain ⟨s, hs, h⟩ := walk_cons_inv h
    exact ih (step_chain hc hs) h

theorem walk_append (S : List Tree) (xs ys : List (List Char)) :
    walk S (xs ++ ys) = (walk S xs).bind (fun S' => walk S' ys) := by
  induction xs generalizing S with
  | nil => simp [walk]
  | cons x xs ih =>
    simp only [List.cons_append, walk]
    cases step S x with
    | none => simp
    | some s => simp [ih]

theorem walk_single (S : List Tree) (c : List Char) : walk S [c] = step S c := by
  simp only [walk]
  cases step S c <;> simp

theorem walk_snoc {S xs c S1} (h : walk S xs = some S1) : walk S (xs ++ [c]) = step S1 c := by
  rw [walk_append, h]
  simp [walk_single]

theorem walk_snoc_inv {S xs c S1} (h : walk S (xs ++ [c]) = some S1) :
    ∃ S', walk S xs = some S' ∧ step S' c = some S1 := by
  rw [walk_append] at h
  cases hw : walk S xs with
  | none => rw [hw] at h; simp at h
  | some S' =>
    rw [hw] at h
    simp only [Option.bind_some, walk_single] at h
    exact ⟨S', rfl, h⟩

theorem dot_ne_dotdot : dot ≠ dotdot := by decide

theorem step_dot {S S2} (h : step S dot = some S2) : S2 = S := by
  unfold step at h
  split at h <;> simp_all

theorem step_dotdot_root {r S2} (h : step [r] dotdot = some S2) : S2 = [r] := by
  cases r <;> simp_all [step, dot_ne_dotdot.symm]

theorem step_name_dotdot {S S1 S2 c} (h1 : c ≠ dot) (h2 : c ≠ dotdot)
    (hs : step S c = some S1) (hd : step S1 dotdot = some S2) : S2 = S := by
  unfold step at hs
  split at hs
  · simp only [if_neg h1, if_neg h2] at hs
    split at hs
    · next t _ =>
      cases hs
      cases t <;> simp_all [step, dot_ne_dotdot.symm]
    · cases hs
  · cases hs

theorem not_dot_mem_push {root st c} (h : dot ∉ st) : dot ∉ push root st c := by
  intro hm
  by_cases hc : c = dot
  · rw [hc] at hm; unfold push at hm; rw [if_pos rfl] at hm; exact h hm
  · rcases mem_push hm with e | e | e
    · exact h e
    · exact hc e.symm
    · exact dot_ne_dotdot e

/-- One step of the clean-up loop is sound for resolution: if the components consumed so
far resolve, and so does the next one, then the output stack resolves to the same place. -/
theorem push_sound {root : Bool} {S0 S1 S2 : List Tree} {st : List (List Char)} {c : List Char}
    (hroot : root = true → ∃ r, S0 = [r]) (hdot : dot ∉ st)
    (h1 : walk S0 st.reverse = some S1) (h2 : step S1 c = some S2) :
    walk S0 (push root st c).reverse = some S2 := by
  unfold push
  split
  · rename_i hc; subst hc
    rw [step_dot h2]; exact h1
  · rename_i hnd
    split
    · rename_i hc; subst hc
      cases st with
      | nil =>
        simp only [List.reverse_nil, walk, Option.some.injEq] at h1
        subst h1
        cases root with
        | true =>
          obtain ⟨r, hr⟩ := hroot rfl
          subst hr
          simp only [if_true, List.reverse_nil, walk]
          rw [step_dotdot_root h2]
        | false =>
          simp only [Bool.false_eq_true, if_false, List.reverse_cons, List.reverse_nil,
            List.nil_append]
          rw [walk_single]; exact h2
      | cons top rest =>
        simp only
        split
        · rw [List.reverse_cons, walk_snoc h1]; exact h2
        · rename_i htop
          rw [List.reverse_cons] at h1
          obtain ⟨S', hw, hs⟩ := walk_snoc_inv h1
          have htd : top ≠ dot := fun e => hdot (by simp [e])
          rw [step_name_dotdot htd htop hs h2]; exact hw
    · rw [List.reverse_cons, walk_snoc h1]; exact h2

theorem foldl_push_sound {root : Bool} {S0 : List Tree} (hroot : root = true → ∃ r, S0 = [r])
    (cs : List (List Char)) :
    ∀ (st : List (List Char)) (S1 R : List Tree), dot ∉ st → walk S0 st.reverse = some S1 →
      walk S1 cs = some R → walk S0 (cs.foldl (push root) st).reverse = some R := by
  induction cs with
  | nil =>
    intro st S1 R _ h1 h2
    simp only [walk, Option.some.injEq] at h2
    subst h2; simpa using h1
  | cons c cs ih =>
    intro st S1 R hd h1 h2
    obtain ⟨S2, hs, h2⟩ := walk_cons_inv h2
    exact ih _ S2 R (not_dot_mem_push hd) (push_sound hroot hd h1 hs) h2

theorem walk_cleanComps {root : Bool} {S0 R : List Tree} {cs : List (List Char)}
    (hroot : root = true → ∃ r, S0 = [r]) (h : walk S0 cs = some R) :
    walk S0 (cleanComps root cs) = some R := by
  unfold cleanComps
  exact foldl_push_sound hroot cs [] S0 R (by simp) (by simp [walk]) h

theorem comps_normpath_rooted {p : List Char} (h : rooted p = true) :
    comps (normpath p) = cleanComps true (comps p) := by
  rw [comps_normpath, h, if_neg (by simp)]

theorem rooted_normpath (p : List Char) : rooted (normpath p) = rooted p :=
  rooted_render (cleanComps_good (comps_good p))

/-- `hcwd` is only used for the empty path `p = ""` (cleaned to `.`). -/
theorem resolve_normpath {root : Tree} {cwd : List Tree} {p : List Char} {n : List Tree}
    (hcwd : topIsDir cwd) (h : resolve root cwd p = some n) :
    resolve root cwd (normpath p) = some n := by
  unfold resolve at h ⊢
  have hw := walk_cleanComps (root := rooted p) (fun hr => ⟨root, by rw [hr]; rfl⟩) h
  rw [rooted_normpath, comps_normpath]
  by_cases he : rooted p = false ∧ cleanComps (rooted p) (comps p) = []
  · rw [if_pos he, he.1]
    rw [he.2, he.1] at hw
    cases hw
    rw [walk_single]
    unfold topIsDir at hcwd
    split at hcwd
    · simp [step]
    · exact absurd hcwd id
  · rw [if_neg he]; exact hw

/-! ### The POSIX trailing-slash rule

POSIX refuses `file/`.  `resolve` ignores trailing slashes; `resolveStrict` adds the rule.
`normpath` preserves strict resolution as well. -/

instance (st : List Tree) : Decidable (topIsDir st) := by
  unfold topIsDir; split <;> infer_instance

def resolveStrict (root : Tree) (cwd : List Tree) (p : List Char) : Option (List Tree) :=
  match resolve root cwd p with
  | some n => if p.getLast? = some '/' ∧ ¬ topIsDir n then none else some n
  | none => none

theorem resolveStrict_eq_some {root cwd p n} :
    resolveStrict root cwd p = some n ↔
      resolve root cwd p = some n ∧ (p.getLast? = some '/' → topIsDir n) := by
  unfold resolveStrict
  cases resolve root cwd p with
  | none => simp
  | some m =>
    simp only [Option.some.injEq]
    constructor
    · intro h
      split at h
      · simp at h
      · rename_i hn
        simp only [Option.some.injEq] at h; subst h
        exact ⟨rfl, fun hl => Classical.byContradiction fun hd => hn ⟨hl, hd⟩⟩
    · rintro ⟨rfl, h⟩
      rw [if_neg (fun hc => hc.2 (h hc.1))]

theorem normpath_trailing {p : List Char} (h : (normpath p).getLast? = some '/') :
    rooted p = true ∧ cleanComps true (comps p) = [] := by
  obtain ⟨hr, hc⟩ := getLast?_render (cleanComps_good (comps_good p)) h
  exact ⟨hr, hr ▸ hc⟩

theorem comps_eq_nil {p : List Char} (h : comps p = []) : ∀ x ∈ p, x = '/' := by
  unfold comps at h
  fun_induction splitSlash p <;> simp_all

theorem walk_cons_topIsDir {S c cs R} (h : walk S (c :: cs) = some R) : topIsDir S := by
  unfold walk step at h
  split at h
  · trivial
  · cases h

theorem resolveStrict_normpath {root : Tree} {cwd : List Tree} {p : List Char} {n : List Tree}
    (hcwd : topIsDir cwd) (h : resolveStrict root cwd p = some n) :
    resolveStrict root cwd (normpath p) = some n := by
  rw [resolveStrict_eq_some] at h ⊢
  obtain ⟨h1, h2⟩ := h
  have h3 := resolve_normpath hcwd h1
  refine ⟨h3, fun hl => ?_⟩
  obtain ⟨hr, hc⟩ := normpath_trailing hl
  have hn : n = [root] := by
    unfold resolve at h3
    rw [rooted_normpath, hr, comps_normpath_rooted hr, hc] at h3
    simpa [walk] using h3.symm
  by_cases hp : p.getLast? = some '/'
  · exact h2 hp
  · subst hn
    unfold resolve at h1
    rw [hr] at h1
    simp only [if_true] at h1
    cases hcs : comps p with
    | nil =>
      exfalso
      have hall := comps_eq_nil hcs
      cases hlast : p.getLast? with
      | none =>
        have : p = [] := by simpa using hlast
        subst this; simp [rooted] at hr
      | some z =>
        have := hall z (List.mem_of_getLast? hlast)
        subst this; exact hp hlast
    | cons c cs => rw [hcs] at h1; exact walk_cons_topIsDir h1

/-! ## B. Relative path and re-joining -/

theorem abs_normal {t : List Char} (hr : rooted t = true) (hn : normpath t = t) :
    Plain (comps t) ∧ t = '/' :: joinSlash (comps t) := by
  have hcs : comps t = cleanComps true (comps t) := by
    calc comps t = comps (normpath t) := by rw [hn]
      _ = cleanComps true (comps t) := comps_normpath_rooted hr
  constructor
  · rw [hcs]; exact cleanComps_true_plain _
  · have : normpath t = '/' :: joinSlash (cleanComps true (comps t)) := by
      rw [normpath_def, hr]; simp [render]
    rw [← hcs, hn] at this
    exact this

theorem splitSlash_append_slash (a r : List Char) :
    splitSlash (a ++ '/' :: r) = splitSlash a ++ splitSlash r := by
  fun_induction splitSlash a <;> simp_all [splitSlash, splitSlash_ne_nil]

theorem comps_append_slash (a r : List Char) : comps (a ++ '/' :: r) = comps a ++ comps r := by
  unfold comps
  rw [splitSlash_append_slash, List.filter_append]

theorem comps_nil : comps [] = [] := by decide

theorem comps_snoc_slash (a : List Char) : comps (a ++ ['/']) = comps a := by
  rw [comps_append_slash, comps_nil, List.append_nil]

theorem comps_pushPath (a r : List Char) (hr : rooted r = false) :
    comps (pushPath a r) = comps a ++ comps r := by
  unfold pushPath
  rw [hr]
  simp only [Bool.false_eq_true, if_false]
  split
  · rename_i h
    rw [Bool.or_eq_true] at h
    rcases h with h | h
    · have : a = [] := by simpa using h
      subst this; simp [comps_nil]
    · obtain ⟨a', rfl⟩ := List.getLast?_eq_some_iff.1 (by simpa using h : a.getLast? = some '/')
      rw [comps_snoc_slash, List.append_assoc, List.singleton_append, comps_append_slash]
  · exact comps_append_slash a r

theorem rooted_pushPath (a r : List Char) (ha : rooted a = true) (hr : rooted r = false) :
    rooted (pushPath a r) = true := by
  unfold pushPath
  rw [hr]
  cases a with
  | nil => simp [rooted] at ha
  | cons c a =>
    simp only [Bool.false_eq_true, if_false]
    split <;> simpa [rooted] using ha

theorem mem_relComps {ts bs : List (List Char)} {x : List Char} (h : x ∈ relComps ts bs) :
    x = dotdot ∨ x ∈ ts := by
  fun_induction relComps ts bs with
  | case1 ts b bs ih =>
    rcases ih h with e | e
    · exact .inl e
    · exact .inr (by simp [e])
  | case2 t ts b bs hne =>
    rcases List.mem_append.1 h with e | e
    · exact .inl (List.eq_of_mem_replicate e)
    · exact .inr e
  | case3 ts bs _ =>
    rcases List.mem_append.1 h with e | e
    · exact .inl (List.eq_of_mem_replicate e)
    · exact .inr e

theorem foldl_push_plain {root} (cs st : List (List Char)) (h : Plain cs) :
    cs.foldl (push root) st = cs.reverse ++ st := by
  induction cs generalizing st with
  | nil => simp
  | cons c cs ih =>
    simp only [List.foldl_cons, push_plain (h c (by simp)).1 (h c (by simp)).2]
    rw [ih _ h.tail]; simp

theorem foldl_push_pop {root} (xs st : List (List Char)) (h : Plain xs) :
    (List.replicate xs.length dotdot).foldl (push root) (xs ++ st) = st := by
  induction xs with
  | nil => simp
  | cons x xs ih =>
    simp only [List.length_cons, List.replicate_succ, List.foldl_cons, List.cons_append]
    have hx := (h x (by simp)).2
    have : push root (x :: (xs ++ st)) dotdot = xs ++ st := by
      unfold push
      rw [if_neg (by decide), if_pos rfl]
      simp [hx]
    rw [this]; exact ih h.tail

theorem foldl_push_climb {root} (bs ts st : List (List Char)) (hb : Plain bs) (ht : Plain ts) :
    (bs ++ (List.replicate bs.length dotdot ++ ts)).foldl (push root) st = ts.reverse ++ st := by
  rw [List.foldl_append, List.foldl_append, foldl_push_plain bs st hb]
  have := foldl_push_pop (root := root) bs.reverse st hb.reverse
  rw [List.length_reverse] at this
  rw [this, foldl_push_plain ts st ht]

/-- Cleaning `base ++ relComps target base` gives `target`. -/
theorem foldl_push_relComps {root} (ts bs : List (List Char)) :
    ∀ st, Plain ts → Plain bs →
      (bs ++ relComps ts bs).foldl (push root) st = ts.reverse ++ st := by
  fun_induction relComps ts bs with
  | case1 ts b bs ih =>
    intro st ht hb
    simp only [List.cons_append, List.foldl_cons, push_plain (ht b (by simp)).1 (ht b (by simp)).2]
    rw [ih _ ht.tail hb.tail]; simp
  | case2 t ts b bs hne =>
    intro st ht hb
    exact foldl_push_climb (b :: bs) (t :: ts) st hb ht
  | case3 ts bs _ =>
    intro st ht hb
    exact foldl_push_climb bs ts st hb ht

theorem cleanComps_relComps {root} {ts bs : List (List Char)} (ht : Plain ts) (hb : Plain bs) :
    cleanComps root (bs ++ relComps ts bs) = ts := by
  unfold cleanComps
  rw [foldl_push_relComps ts bs [] ht hb]; simp

theorem cleanComps_append_clean (root : Bool) (bs rest : List (List Char)) :
    cleanComps root (bs ++ rest) = cleanComps root (cleanComps root bs ++ rest) := by
  have h2 := congrArg List.reverse (cleanComps_id (cleanComps_normal root bs))
  unfold cleanComps at h2 ⊢
  rw [List.reverse_reverse, List.reverse_reverse] at h2
  rw [List.foldl_append, List.foldl_append, h2]

/-- Expressing an absolute `t` relative to an absolute base `b` and joining the result back
onto `b` names `t` again — for arbitrary (not necessarily normalised) spellings of both. -/
theorem rejoin_lex_gen {t b : List Char} (hrt : rooted t = true) (hrb : rooted b = true) :
    normpath (pushPath b (relpathLex t b)) = normpath t := by
  have hct : comps (normpath t) = cleanComps true (comps t) := comps_normpath_rooted hrt
  have hcb : comps (normpath b) = cleanComps true (comps b) := comps_normpath_rooted hrb
  have hgood : ∀ c ∈ relComps (comps (normpath t)) (comps (normpath b)), GoodComp c := by
    intro c hc
    rcases mem_relComps hc with e | e
    · subst e; exact dotdot_good
    · exact comps_good _ c e
  have hrr : rooted (relpathLex t b) = false := rooted_joinSlash _ hgood
  have hcr : comps (relpathLex t b) = relComps (comps (normpath t)) (comps (normpath b)) :=
    comps_joinSlash _ hgood
  rw [normpath_def, rooted_pushPath b _ hrb hrr, comps_pushPath b _ hrr, hcr, hct, hcb,
    cleanComps_append_clean true,
    cleanComps_relComps (cleanComps_true_plain _) (cleanComps_true_plain _),
    normpath_def t, hrt]

/-! ## C. One key per target -/

theorem joinSlash_splitSlash (p : List Char) : joinSlash (splitSlash p) = p := by
  fun_induction splitSlash p with
  | case1 => rfl
  | case2 cs ih =>
    cases h : splitSlash cs with
    | nil => exact absurd h (splitSlash_ne_nil cs)
    | cons a as => simp_all [joinSlash]
  | case3 c cs hc h ih => simp_all [joinSlash]
  | case4 c cs hc h t heq ih => cases t <;> simp_all [joinSlash]

theorem joinSlash_snoc (xs : List (List Char)) (f : List Char) (h : xs ≠ []) :
    joinSlash (xs ++ [f]) = joinSlash xs ++ '/' :: f :=
  joinSlash_append xs [f] h (by simp)

theorem splitLast_spec {p d f : List Char} (h : splitLast p = some (d, f)) :
    p = d ++ f ∧ d.getLast? = some '/' ∧ '/' ∉ f := by
  unfold splitLast at h
  generalize hr : (splitSlash p).reverse = r at h
  match r, h with
  | f' :: g :: rest, h =>
    simp only [Option.some.injEq, Prod.mk.injEq] at h
    obtain ⟨hd, hf⟩ := h
    subst hf
    have hsp : splitSlash p = (g :: rest).reverse ++ [f'] := by
      have := congrArg List.reverse hr
      simpa using this
    have hp : p = (joinSlash (g :: rest).reverse ++ ['/']) ++ f' := by
      have := joinSlash_splitSlash p
      rw [hsp, joinSlash_snoc _ _ (by simp)] at this
      rw [← this]; simp
    have hd' : d = joinSlash (g :: rest).reverse ++ ['/'] := by
      have key : ∀ (A f : List Char), (A ++ f).take ((A ++ f).length - f.length) = A := by
        intro A f; simp
      rw [← hd, hp]; exact key _ _
    refine ⟨by rw [hd']; exact hp, by rw [hd']; simp, ?_⟩
    exact splitSlash_noslash p f' (by rw [hsp]; simp)

theorem splitLast_rooted {p d f : List Char} (h : splitLast p = some (d, f))
    (hr : rooted p = true) : rooted d = true ∧ isDotPath d = false := by
  obtain ⟨hp, hl, _⟩ := splitLast_spec h
  have : rooted d = true := by
    cases d with
    | nil => simp at hl
    | cons c d' => rw [hp] at hr; simpa [rooted] using hr
  exact ⟨this, by simp [isDotPath, this]⟩

theorem realdirpath_of_canon {canon : List Char → Option (List Char)} {cwd t d f D : List Char}
    (hs : splitLast t = some (d, f)) (hd : isDotPath d = false) (hc : canon d = some D) :
    realdirpath canon cwd t = pushPath D f := by
  simp [realdirpath, hs, hd, hc]

/-- Two spellings with the same final component whose directory parts canonicalise to the
same directory get the same key. -/
theorem realdirpath_one_key {canon : List Char → Option (List Char)}
    {cwd t1 t2 d1 d2 f D : List Char}
    (hs1 : splitLast t1 = some (d1, f)) (hs2 : splitLast t2 = some (d2, f))
    (hd1 : isDotPath d1 = false) (hd2 : isDotPath d2 = false)
    (hc1 : canon d1 = some D) (hc2 : canon d2 = some D) :
    realdirpath canon cwd t1 = realdirpath canon cwd t2 := by
  rw [realdirpath_of_canon hs1 hd1 hc1, realdirpath_of_canon hs2 hd2 hc2]

theorem relpath_eq (canon : List Char → Option (List Char)) (cwd t base : List Char) :
    relpath canon cwd t base =
      relpathLex (realdirpath canon cwd (absPath cwd t)) (realdirpath canon cwd base) := rfl

/-- General form: the hypotheses speak about the spellings made absolute (as `relpath` does). -/
theorem relpath_one_key_abs {canon : List Char → Option (List Char)}
    {cwd t1 t2 d1 d2 f D : List Char} (base : List Char)
    (hs1 : splitLast (absPath cwd t1) = some (d1, f))
    (hs2 : splitLast (absPath cwd t2) = some (d2, f))
    (hd1 : isDotPath d1 = false) (hd2 : isDotPath d2 = false)
    (hc1 : canon d1 = some D) (hc2 : canon d2 = some D) :
    relpath canon cwd t1 base = relpath canon cwd t2 base := by
  rw [relpath_eq, relpath_eq, realdirpath_one_key hs1 hs2 hd1 hd2 hc1 hc2]

end RedoModel.Paths
