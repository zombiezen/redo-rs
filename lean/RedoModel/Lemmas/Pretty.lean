import RedoModel.Pretty
import RedoModel.Lemmas.LogRec
/-! Lemmas about the printer model (`RedoModel/Pretty.lean`): where the first record prefix of a line is (used for the
printer in `Props/C18e.lean` and for the replay's ungluing in `Props/C18b.lean`, `Lemmas/RecordInLine.lean`), and the pretty
replay `replayText` by its equations and as one `writeLine` per entry of the replay. -/
namespace RedoModel.Pretty
open RedoModel.LogRec

theorem findSub_pre_after (b x : List Char) (h : '@' ∉ b) :
    findSub pre (b ++ (pre ++ x)) = some (b, x) :=
  findSub_after '@' _ b x h

theorem findSub_pre_none (l : List Char) (h : '@' ∉ l) : findSub pre l = none := by
  have := findSub_skip '@' ['@', 'R', 'E', 'D', 'O', ':'] l [] h
  rwa [List.append_nil] at this

/-! ### The pretty replay -/

/-- The log line an entry of the replay stands for: `redo-log` sends the records it writes itself through the printer
like the lines it reads. -/
def entryLine : Out → List Char
  | .raw l => l
  | .record kind text => format (mkRec kind text)

theorem replayText_raw (cfg : Cfg) (e : Esc) (tg l : List Char) (os : List Tagged) (m : List (List Char × Nat)) :
    replayText cfg e (⟨tg, .raw l⟩ :: os) m =
      (if tg.isEmpty then some 0 else lookupDepth m (Paths.normpath tg)).bind fun k =>
        (replayText cfg e os m).map (writeLine cfg e (2 * k) l ++ ·) := by
  rw [replayText]
  cases (if tg.isEmpty then some 0 else lookupDepth m (Paths.normpath tg)) with
  | none => rfl
  | some k => dsimp only [Option.bind_some]; cases replayText cfg e os m <;> rfl

theorem replayText_record (cfg : Cfg) (e : Esc) (tg kind text : List Char) (os : List Tagged)
    (m : List (List Char × Nat)) :
    replayText cfg e (⟨tg, .record kind text⟩ :: os) m =
      (if tg.isEmpty then some 0 else lookupDepth m (Paths.normpath tg)).bind fun k =>
        (replayText cfg e os (if kind = kDo && (lookupDepth m text).isNone then (text, k + 1) :: m else m)).map
          (writeLine cfg e (if kind = kResumed then reduceDepth (2 * k) else 2 * k) (format (mkRec kind text)) ++ ·) := by
  rw [replayText]
  cases (if tg.isEmpty then some 0 else lookupDepth m (Paths.normpath tg)) with
  | none => rfl
  | some k => dsimp only [Option.bind_some]; cases replayText cfg e os _ <;> rfl

theorem replayText_chunks (cfg : Cfg) (e : Esc) :
    ∀ (outs : List Tagged) (m : List (List Char × Nat)) (text : List Char), replayText cfg e outs m = some text →
      ∃ ds : List Nat, ds.length = outs.length ∧
        text = (List.zipWith (fun d o => writeLine cfg e d (entryLine o.out)) ds outs).flatten
  | [], m, text, h => by
    rw [replayText] at h; cases h; exact ⟨[], rfl, rfl⟩
  | ⟨tg, .raw l⟩ :: os, m, text, h => by
    rw [replayText_raw] at h
    obtain ⟨k, -, h⟩ := Option.bind_eq_some_iff.1 h
    obtain ⟨rest, hr, rfl⟩ := Option.map_eq_some_iff.1 h
    obtain ⟨ds, hl, rfl⟩ := replayText_chunks cfg e os _ rest hr
    exact ⟨2 * k :: ds, by simp [hl], rfl⟩
  | ⟨tg, .record kind txt⟩ :: os, m, text, h => by
    rw [replayText_record] at h
    obtain ⟨k, -, h⟩ := Option.bind_eq_some_iff.1 h
    obtain ⟨rest, hr, rfl⟩ := Option.map_eq_some_iff.1 h
    obtain ⟨ds, hl, rfl⟩ := replayText_chunks cfg e os _ rest hr
    exact ⟨_ :: ds, by simp [hl], rfl⟩

end RedoModel.Pretty
