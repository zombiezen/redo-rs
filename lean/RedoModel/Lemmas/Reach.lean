/-!
Accepted runs of an acceptor, for every model whose `run` feeds a list of events through `step`.

`Reach R s es s'`: taking the events `es` one after the other through the step relation `R` leads from `s` to `s'`.
Each model proves once that its `run` returns `s'` exactly when `Reach` holds for its accepted steps (`run_iff`);
facts about accepted runs are then instances of the lemmas below, or inductions on `Reach`.
-/
namespace RedoModel

inductive Reach {σ ε : Type} (R : σ → ε → σ → Prop) : σ → List ε → σ → Prop
  | nil (s : σ) : Reach R s [] s
  | cons {s s1 s' : σ} {e : ε} {es : List ε} : R s e s1 → Reach R s1 es s' → Reach R s (e :: es) s'

namespace Reach
variable {σ ε : Type} {R : σ → ε → σ → Prop} {s s' : σ} {es : List ε}

@[simp] theorem nil_iff : Reach R s [] s' ↔ s' = s :=
  ⟨fun h => by cases h; rfl, fun h => by subst h; exact .nil _⟩

@[simp] theorem cons_iff {e : ε} : Reach R s (e :: es) s' ↔ ∃ s1, R s e s1 ∧ Reach R s1 es s' :=
  ⟨fun h => by cases h with | cons h1 h2 => exact ⟨_, h1, h2⟩, fun ⟨_, h1, h2⟩ => .cons h1 h2⟩

theorem append_iff {es₁ es₂ : List ε} :
    Reach R s (es₁ ++ es₂) s' ↔ ∃ s1, Reach R s es₁ s1 ∧ Reach R s1 es₂ s' := by
  induction es₁ generalizing s with
  | nil => simp
  | cons e es ih =>
    simp only [List.cons_append, cons_iff, ih]
    exact ⟨fun ⟨a, h1, b, h2, h3⟩ => ⟨b, ⟨a, h1, h2⟩, h3⟩, fun ⟨b, ⟨a, h1, h2⟩, h3⟩ => ⟨a, h1, b, h2, h3⟩⟩

/-- An invariant of the accepted steps (of the events that occur) is an invariant of the accepted runs. -/
theorem inv_of_mem {I : σ → Prop} (h : Reach R s es s')
    (hstep : ∀ s e s1, e ∈ es → R s e s1 → I s → I s1) (hi : I s) : I s' := by
  induction h with
  | nil => exact hi
  | cons h1 _ ih =>
    exact ih (fun s e s1 he => hstep s e s1 (List.mem_cons_of_mem _ he)) (hstep _ _ _ List.mem_cons_self h1 hi)

theorem inv {I : σ → Prop} (h : Reach R s es s') (hstep : ∀ s e s1, R s e s1 → I s → I s1) (hi : I s) : I s' :=
  h.inv_of_mem (fun s e s1 _ => hstep s e s1) hi

/-- What an invariant forces of every accepted step holds of every event of an accepted run. -/
theorem forall_mem {I : σ → Prop} {P : ε → Prop} (h : Reach R s es s') (hstep : ∀ s e s1, R s e s1 → I s → I s1)
    (hP : ∀ s e s1, R s e s1 → I s → P e) (hi : I s) : ∀ e ∈ es, P e := by
  induction h with
  | nil => nofun
  | cons h1 _ ih => exact List.forall_mem_cons.2 ⟨hP _ _ _ h1 hi, ih (hstep _ _ _ h1 hi)⟩

theorem mono {R' : σ → ε → σ → Prop} (h : Reach R s es s') (hR : ∀ s e s1, R s e s1 → R' s e s1) :
    Reach R' s es s' := by
  induction h with
  | nil => exact .nil _
  | cons h1 _ ih => exact .cons (hR _ _ _ h1) ih

/-- A ghost list to which every accepted step prepends what it reads off its event. -/
theorem ghost_list {α : Type} (proj : σ → List α) (g : ε → Option α) (h : Reach R s es s')
    (hstep : ∀ s e s1, R s e s1 → proj s1 = (g e).toList ++ proj s) :
    proj s' = (es.filterMap g).reverse ++ proj s := by
  induction h with
  | nil => simp
  | cons h1 _ ih => rw [ih, hstep _ _ _ h1]; cases hg : g _ <;> simp [hg]

theorem ghost_bool (proj : σ → Bool) (g : ε → Bool) (h : Reach R s es s')
    (hstep : ∀ s e s1, R s e s1 → proj s1 = (proj s || g e)) : proj s' = (proj s || es.any g) := by
  induction h with
  | nil => simp
  | cons h1 _ ih => rw [ih, hstep _ _ _ h1]; simp [Bool.or_assoc]

/-- A run projects to a run of another acceptor when every accepted step projects to a step of it, or to none. -/
theorem filterMap {τ δ : Type} {Q : τ → δ → τ → Prop} (π : σ → τ) (g : ε → Option δ) (h : Reach R s es s')
    (hsome : ∀ s e s1 d, R s e s1 → g e = some d → Q (π s) d (π s1))
    (hnone : ∀ s e s1, R s e s1 → g e = none → π s1 = π s) : Reach Q (π s) (es.filterMap g) (π s') := by
  induction h with
  | nil => exact .nil _
  | @cons s s1 s' e es h1 _ ih =>
    cases hg : g e with
    | none => rw [List.filterMap_cons_none hg, ← hnone _ _ _ h1 hg]; exact ih
    | some d => rw [List.filterMap_cons_some hg]; exact .cons (hsome _ _ _ _ h1 hg) ih

/-- Induction from the end of the run: for properties of the events seen so far together with the state reached. -/
theorem snoc_induction {P : List ε → σ → Prop} (h : Reach R s es s') (h0 : P [] s)
    (hs : ∀ es s1 e s2, Reach R s es s1 → P es s1 → R s1 e s2 → P (es ++ [e]) s2) : P es s' := by
  suffices ∀ pre s1, Reach R s pre s1 → P pre s1 → Reach R s1 es s' → P (pre ++ es) s' from
    this [] s (.nil s) h0 h
  clear h
  intro pre s1 hpre hp hsuf
  induction hsuf generalizing pre with
  | nil => simpa using hp
  | @cons _ _ _ e _ h1 _ ih =>
    simpa using ih (pre ++ [e]) (append_iff.2 ⟨_, hpre, .cons h1 (.nil _)⟩) (hs _ _ _ _ hpre hp h1)

end Reach
end RedoModel
