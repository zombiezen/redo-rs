import RedoModel.Lemmas.Pretty
import RedoModel.Lemmas.LogRec
/-!
# A record behind text on the same line

The replay (`LogRec.unglue1`) and the printer (`Pretty.writeLine`) both look for the first `@@REDO:` of a line and
parse from there.  What each does when that parse succeeds, and the line `text ++ format r` as the instance in which it
does (`findSub_format`).
-/
namespace RedoModel.LogRec

theorem findSub_format (b : List Char) (r : Rec) (hb : '@' ∉ b) :
    ∃ a, format r = pre ++ a ∧ findSub pre (b ++ format r) = some (b, a) := by
  refine ⟨(r.kind ++ ':' :: (r.pid ++ ':' :: r.ts)) ++ (sep ++ r.text), List.append_assoc .., ?_⟩
  unfold format
  rw [List.append_assoc]
  exact Pretty.findSub_pre_after b _ hb

theorem unglue1_split (l b a : List Char) (r : Rec) (hf : findSub pre l = some (b, a)) (hne : b ≠ [])
    (hp : parse (pre ++ a) = .ok r) : unglue1 l = [b, pre ++ a] := by
  unfold unglue1
  rw [hf]
  have : b.isEmpty = false := by
    cases b with
    | nil => exact absurd rfl hne
    | cons _ _ => rfl
  simp only [this, hp, Bool.false_eq_true, if_false]

end RedoModel.LogRec

namespace RedoModel.Pretty
open RedoModel.LogRec

theorem writeLine_split (cfg : Cfg) (e : Esc) (d : Nat) (l b a : List Char) (r : Rec)
    (hf : findSub pre l = some (b, a)) (hp : parse (pre ++ a) = .ok r) :
    writeLine cfg e d l = b ++ render cfg e d r := by
  unfold writeLine
  rw [hf]
  simp only [hp]

end RedoModel.Pretty
