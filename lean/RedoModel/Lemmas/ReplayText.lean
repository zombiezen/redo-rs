import RedoModel.Lemmas.Pretty
import RedoModel.Lemmas.Catlog
/-!
`Pretty.replayText` is defined on every output of the replay model (`LogRec.redoLog`): every line is attributed to the
top level or to a target whose cleaned name was announced by an earlier `do` record.
-/
namespace RedoModel.Pretty
open RedoModel.LogRec RedoModel.Paths

/-! ### The depth map -/

theorem lookupDepth_cons (a : List Char) (n : Nat) (m : List (List Char × Nat)) (x : List Char) :
    lookupDepth ((a, n) :: m) x = if a = x then some n else lookupDepth m x := by
  unfold lookupDepth
  rw [List.find?_cons]
  by_cases h : a = x <;> simp [h, beq_eq_false_iff_ne.2]

theorem lookupDepth_nil (x : List Char) : lookupDepth [] x = none := rfl

/-! ### Keys learnt along an output -/

/-- The keys of the depth map after the entry `o`: a `do` record adds its text. -/
def stepKeys (ks : List (List Char)) (o : Tagged) : List (List Char) :=
  match o.out with
  | .record kind text => if kind = kDo then text :: ks else ks
  | .raw _ => ks

/-- The keys of the depth map after the output `c` (oldest first). -/
def keysAfter : List (List Char) → List Tagged → List (List Char)
  | ks, [] => ks
  | ks, o :: os => keysAfter (stepKeys ks o) os

/-- Every entry of the output (oldest first) is attributed to the top level (tag `[]`) or to a target whose cleaned name
is a key when the entry is reached. -/
def Announced : List (List Char) → List Tagged → Prop
  | _, [] => True
  | ks, o :: os => (o.tag = [] ∨ normpath o.tag ∈ ks) ∧ Announced (stepKeys ks o) os

theorem mem_stepKeys {ks : List (List Char)} {o : Tagged} {x : List Char} :
    x ∈ stepKeys ks o ↔ x ∈ ks ∨ o.out = .record kDo x := by
  obtain ⟨tg, out⟩ := o
  cases out with
  | raw l => simp [stepKeys]
  | record kind text => by_cases hk : kind = kDo <;> simp [stepKeys, hk, eq_comm, or_comm]

theorem subset_stepKeys (ks : List (List Char)) (o : Tagged) : ks ⊆ stepKeys ks o :=
  fun _ hx => mem_stepKeys.2 (.inl hx)

theorem stepKeys_mono {ks ks' : List (List Char)} (h : ks ⊆ ks') (o : Tagged) : stepKeys ks o ⊆ stepKeys ks' o :=
  fun _ hx => mem_stepKeys.2 ((mem_stepKeys.1 hx).imp_left (h ·))

theorem stepKeys_do (ks : List (List Char)) (t x : List Char) : stepKeys ks ⟨t, .record kDo x⟩ = x :: ks := by
  simp [stepKeys]

theorem subset_keysAfter : ∀ (c : List Tagged) (ks : List (List Char)), ks ⊆ keysAfter ks c
  | [], _ => fun _ h => h
  | o :: os, ks => fun _ h => subset_keysAfter os _ (subset_stepKeys ks o h)

theorem keysAfter_append : ∀ (a b : List Tagged) (ks : List (List Char)),
    keysAfter ks (a ++ b) = keysAfter (keysAfter ks a) b
  | [], _, _ => rfl
  | o :: os, b, ks => keysAfter_append os b (stepKeys ks o)

theorem mem_keysAfter : ∀ (c : List Tagged) (ks : List (List Char)) (x : List Char),
    x ∈ keysAfter ks c ↔ x ∈ ks ∨ ∃ o ∈ c, o.out = .record kDo x
  | [], ks, x => by simp [keysAfter]
  | o :: os, ks, x => by simp only [keysAfter, mem_keysAfter os, mem_stepKeys, List.mem_cons, exists_eq_or_imp, or_assoc]

theorem Announced.mono : ∀ (c : List Tagged) {ks ks' : List (List Char)}, ks ⊆ ks' → Announced ks c → Announced ks' c
  | [], _, _, _, _ => trivial
  | o :: os, _, _, h, ha =>
    ⟨ha.1.imp id (fun hx => h hx), Announced.mono os (stepKeys_mono h o) ha.2⟩

theorem Announced.append : ∀ {a : List Tagged} {b : List Tagged} {ks : List (List Char)},
    Announced ks a → Announced (keysAfter ks a) b → Announced ks (a ++ b)
  | [], _, _, _, hb => hb
  | _ :: _, _, _, ha, hb => ⟨ha.1, Announced.append ha.2 hb⟩

theorem Announced.of_append : ∀ {a : List Tagged} {b : List Tagged} {ks : List (List Char)},
    Announced ks (a ++ b) → Announced ks a ∧ Announced (keysAfter ks a) b
  | [], _, _, h => ⟨trivial, h⟩
  | _ :: os, _, _, h => ⟨⟨h.1, (Announced.of_append (a := os) h.2).1⟩, (Announced.of_append (a := os) h.2).2⟩

theorem Announced.of_tags {t : List Char} : ∀ {c : List Tagged} {ks : List (List Char)},
    normpath t ∈ ks → (∀ e ∈ c, e.tag = t) → Announced ks c
  | [], _, _, _ => trivial
  | o :: _, ks, hk, h =>
    ⟨Or.inr ((h o (List.mem_cons_self ..)) ▸ hk),
      Announced.of_tags (subset_stepKeys ks o hk) (fun e he => h e (List.mem_cons_of_mem _ he))⟩

/-- A record keeps the depth of every key known, and a `do` record makes its text a key. -/
theorem isSome_lookupDepth_record {ks : List (List Char)} {m : List (List Char × Nat)}
    (hm : ∀ x ∈ ks, (lookupDepth m x).isSome = true) (tg kind text : List Char) (k : Nat) :
    ∀ x ∈ stepKeys ks ⟨tg, .record kind text⟩,
      (lookupDepth (if (kind = kDo && (lookupDepth m text).isNone) = true then (text, k + 1) :: m else m) x).isSome =
        true := by
  intro x hx
  rcases mem_stepKeys.1 hx with h | h
  · split
    · rw [lookupDepth_cons]; split
      · rfl
      · exact hm x h
    · exact hm x h
  · obtain ⟨rfl, rfl⟩ := Out.record.inj h
    cases hl : lookupDepth m text <;> simp [hl, lookupDepth_cons]

theorem replayText_isSome_of_announced (cfg : Cfg) (e : Esc) :
    ∀ (outs : List Tagged) (ks : List (List Char)) (m : List (List Char × Nat)),
      (∀ x ∈ ks, (lookupDepth m x).isSome = true) → Announced ks outs → (replayText cfg e outs m).isSome = true
  | [], _, _, _, _ => rfl
  | o :: os, ks, m, hm, ⟨htag, hrest⟩ => by
    obtain ⟨k, hk⟩ : ∃ k, (if o.tag.isEmpty then some 0 else lookupDepth m (normpath o.tag)) = some k := by
      split
      · exact ⟨0, rfl⟩
      · next he => exact Option.isSome_iff_exists.1 (hm _ (htag.resolve_left fun h => he (by simp [h])))
    obtain ⟨tg, out⟩ := o
    cases out with
    | raw l =>
      rw [replayText_raw, hk, Option.bind_some, Option.isSome_map]
      exact replayText_isSome_of_announced cfg e os ks m hm hrest
    | record kind text =>
      rw [replayText_record, hk, Option.bind_some, Option.isSome_map]
      exact replayText_isSome_of_announced cfg e os _ _ (isSome_lookupDepth_record hm tg kind text k) hrest

/-! ### The invariant along the replay -/

/-- What every `recurse` argument of `lines` has to meet: a call for a name that is already shown appends nothing, and a
call for a name that is a key appends an announced chunk. -/
def AnnSpec (recurse : List Char → St → Except CErr (St × Nat)) : Prop :=
  ∀ x s s' n, recurse x s = .ok (s', n) →
    (normpath x ∈ s.already → s'.out = s.out) ∧
    ∀ ks, normpath x ∈ ks → ∃ c, s'.out = c.reverse ++ s.out ∧ Announced ks c

theorem lines_ann {recurse : List Char → St → Except CErr (St × Nat)} (hrec : AnnSpec recurse) (optU optR : Bool)
    (t : List Char) :
    ∀ (ls : List (List Char)) (st : St) (intr w : Nat) (st' : St) (n : Nat),
      lines recurse optU optR t ls st intr w = .ok (st', n) →
      ∀ ks, normpath t ∈ ks → ∃ c, st'.out = c.reverse ++ st.out ∧ Announced ks c
  | [], st, intr, w, st', n, h => by
    rw [lines_nil] at h
    simp only [Except.ok.injEq, Prod.mk.injEq] at h
    intro ks _
    exact ⟨[], by rw [← h.1]; simp, trivial⟩
  | l :: ls, st, intr, w, st', n, h => by
    rw [lines_cons] at h
    intro ks hk
    have hs := lineStep_spec optU optR t l st intr w
    generalize lineStep optU optR t l st intr w = a at h hs
    have h1 : ∃ st1 i1 w1 c1, lines recurse optU optR t ls st1 i1 w1 = .ok (st', n) ∧
        st1.out = c1.reverse ++ st.out ∧ Announced ks c1 := by
      cases a with
      | next st1 i1 w1 =>
        obtain ⟨own, ho, hout, -⟩ := hs
        exact ⟨st1, i1, w1, own, h, hout, Announced.of_tags hk ho.tag⟩
      | fail e => cases h
      | sub x s i1 w1 =>
        obtain ⟨g, -, -, -, rfl⟩ := hs
        dsimp only at h
        generalize hrr : recurse x _ = rr at h
        cases rr with
        | error e => cases h
        | ok v =>
          have hc : ∃ c, v.1.out = c.reverse ++ st.out ∧ Announced ks c := by
            -- a name that is already shown is not announced, and its replay prints nothing
            unfold announce at hrr
            split at hrr
            · next hal => exact ⟨[], by rw [(hrec _ _ _ _ hrr).1 hal]; rfl, trivial⟩
            · obtain ⟨c, hc, ha⟩ := (hrec _ _ _ _ hrr).2 (normpath x :: ks) (List.mem_cons_self ..)
              exact ⟨⟨t, .record kDo (normpath x)⟩ :: c, by rw [hc]; simp [emit], Or.inr hk,
                by rw [stepKeys_do]; exact ha⟩
          obtain ⟨c, hc, ha⟩ := hc
          exact ⟨_, _, _, c, h, hc, ha⟩
    obtain ⟨st1, i1, w1, c1, h, hc1, ha1⟩ := h1
    obtain ⟨c2, hc2, ha2⟩ := lines_ann hrec optU optR t ls st1 i1 w1 st' n h (keysAfter ks c1)
      (subset_keysAfter _ _ hk)
    exact ⟨c1 ++ c2, by rw [hc2, hc1]; simp, ha1.append ha2⟩

theorem catlog_ann (F : Forest) (optU optR : Bool) (fuel : Nat) : AnnSpec (catlog F optU optR fuel) := by
  induction fuel with
  | zero => intro x s s' n h; rw [catlog] at h; cases h
  | succ fuel ih =>
    intro x s s' n h
    rcases catlog_ok h with ⟨_, rfl⟩ | ⟨hx, ⟨_, rfl⟩ | ⟨f, ls, hf, _, hlines⟩⟩
    · exact ⟨fun _ => rfl, fun _ _ => ⟨[], rfl, trivial⟩⟩
    · exact ⟨fun _ => rfl, fun _ _ => ⟨[], rfl, trivial⟩⟩
    · cases hf
      exact ⟨fun hin => absurd hin hx, lines_ann ih optU optR x _ ⟨normpath x :: s.already, s.out⟩ _ _ _ _ hlines⟩

theorem redoLog_ann {F : Forest} {optU optR : Bool} {fuel : Nat} (ts : List (List Char)) (st st' : St)
    (h : redoLog F optU optR fuel ts st = .ok st') (ks : List (List Char)) :
    ∃ c, st'.out = c.reverse ++ st.out ∧ Announced ks c := by
  fun_induction redoLog F optU optR fuel ts st generalizing ks with
  | case1 => cases h; exact ⟨[], rfl, trivial⟩
  | case2 => cases h
  | case3 t ts st st1 n hc ih =>
    obtain ⟨c1, hc1, ha1⟩ := (catlog_ann F optU optR fuel _ _ _ _ hc).2 (normpath t :: ks) (List.mem_cons_self ..)
    have hA : Announced ks (⟨[], .record kDo (normpath t)⟩ :: c1) := ⟨Or.inl rfl, by rw [stepKeys_do]; exact ha1⟩
    obtain ⟨c2, hc2, ha2⟩ := ih h (keysAfter ks (⟨[], .record kDo (normpath t)⟩ :: c1))
    exact ⟨(⟨[], .record kDo (normpath t)⟩ :: c1) ++ c2, by rw [hc2, hc1]; simp [emit], hA.append ha2⟩

theorem redoLog_announced {F : Forest} {optU optR : Bool} {fuel : Nat} {ts : List (List Char)} {st : St}
    (h : redoLog F optU optR fuel ts ⟨[], []⟩ = .ok st) : Announced [] st.out.reverse := by
  obtain ⟨c, hc, ha⟩ := redoLog_ann ts _ _ h []
  have : st.out.reverse = c := by rw [hc]; simp
  rw [this]; exact ha

/-- Reading `Announced` from the empty map: every entry not of the top level comes after a `do` record carrying the
cleaned name of its tag. -/
theorem Announced.earlier_do {c : List Tagged} (h : Announced [] c) (a b : List Tagged) (o : Tagged)
    (hc : c = a ++ o :: b) (ho : o.tag ≠ []) : ∃ o' ∈ a, o'.out = .record kDo (normpath o.tag) := by
  subst hc
  have h2 := (Announced.of_append h).2
  rcases h2.1 with h3 | h3
  · exact absurd h3 ho
  · rcases (mem_keysAfter a [] _).1 h3 with h4 | h4
    · cases h4
    · exact h4

end RedoModel.Pretty
