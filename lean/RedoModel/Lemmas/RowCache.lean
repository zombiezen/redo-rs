import RedoModel.RowCache
import RedoModel.Lemmas.Reach
/-! The row cache of the `Files` table (for `Props/C16b.lean`): `step` by event, the state invariant `Inv` and its
consequences (no lost update; the saves of one transaction are a contiguous block of every row's log). -/
namespace RedoModel.RowCache

theorem step_begin_some {s s' : State} {p : Nat} (h : step s (.begin p) = some s') :
    s.holder = none ∧
      s' = { s with holder := some p, txn := fun x => if x = p then s.txn p + 1 else s.txn x } := by
  simp only [step] at h
  repeat' split at h
  all_goals cases h
  exact ⟨‹_›, rfl⟩

theorem step_commit_some {s s' : State} {p : Nat} (h : step s (.commit p) = some s') :
    s.holder = some p ∧ s' = { s with holder := none } := by
  simp only [step] at h
  repeat' split at h
  all_goals cases h
  exact ⟨‹_›, rfl⟩

theorem step_load_some {s s' : State} {p f id : Nat} (h : step s (.load p f id) = some s') :
    s.holder = some p ∧
      s' = { s with loadedIn := upd2 s.loadedIn p id (some (s.txn p)),
                    loadedRow := upd2 s.loadedRow p id (some f),
                    seenAt := upd2 s.seenAt p id (s.writes f).length } := by
  simp only [step] at h
  repeat' split at h
  all_goals cases h
  exact ⟨Decidable.not_not.1 ‹_›, rfl⟩

theorem step_save_some {s s' : State} {p f id : Nat} (h : step s (.save p f id) = some s') :
    s.holder = some p ∧ s.loadedIn p id = some (s.txn p) ∧ s.loadedRow p id = some f ∧
      s' = { s with writes := fun x => if x = f then p :: s.writes f else s.writes x,
                    stamps := fun x => if x = f then (p, s.txn p) :: s.stamps f else s.stamps x } := by
  simp only [step] at h
  repeat' split at h
  all_goals cases h
  exact ⟨Decidable.not_not.1 ‹_›, Decidable.not_not.1 ‹_›, Decidable.not_not.1 ‹_›, rfl⟩

/-- The guards of `save`, read the other way round. -/
theorem step_save_isSome {s : State} {p f id : Nat} (h1 : s.holder = some p)
    (h2 : s.loadedIn p id = some (s.txn p)) (h3 : s.loadedRow p id = some f) :
    (step s (.save p f id)).isSome = true := by
  simp [step, h1, h2, h3]

theorem run_iff {s s' : State} {es : List Ev} :
    run s es = some s' ↔ Reach (fun s e s1 => step s e = some s1) s es s' := by
  induction es generalizing s with
  | nil => simp [run, eq_comm]
  | cons e es ih => simp only [run, Reach.cons_iff]; cases step s e <;> simp [ih]

/-- Every element that occurs again later occurs again immediately: equal elements form contiguous blocks. -/
def Serial {α : Type} : List α → Prop
  | [] => True
  | a :: l => (a ∈ l → l.head? = some a) ∧ Serial l

theorem Serial.block {α : Type} {l : List α} (h : Serial l) {a : α} {i j k : Nat}
    (hi : l[i]? = some a) (hk : l[k]? = some a) (hij : i ≤ j) (hjk : j ≤ k) : l[j]? = some a := by
  induction l generalizing i j k with
  | nil => simp at hi
  | cons b l ih =>
    obtain ⟨hb, hl⟩ := h
    cases i with
    | succ i =>
      cases j with
      | zero => omega
      | succ j =>
        cases k with
        | zero => omega
        | succ k =>
          simp only [List.getElem?_cons_succ] at hi hk ⊢
          exact ih hl hi hk (by omega) (by omega)
    | zero =>
      simp only [List.getElem?_cons_zero, Option.some.injEq] at hi
      subst hi
      cases j with
      | zero => simp
      | succ j =>
        cases k with
        | zero => omega
        | succ k =>
          simp only [List.getElem?_cons_succ] at hk ⊢
          have hmem : b ∈ l := List.mem_of_getElem? hk
          have h0 : l[0]? = some b := by
            have := hb hmem
            cases l with
            | nil => cases this
            | cons c l => simpa using this
          exact ih hl h0 hk (by omega) (by omega)

structure Inv (s : State) : Prop where
  /-- no copy was loaded in a transaction that has not begun yet -/
  loadedLe : ∀ p id t, s.loadedIn p id = some t → t ≤ s.txn p
  holderPos : ∀ p, s.holder = some p → 1 ≤ s.txn p
  /-- the copies loaded in the running transaction have seen every save of their row but the holder's own -/
  fresh : ∀ p id f, s.holder = some p → s.loadedIn p id = some (s.txn p) → s.loadedRow p id = some f →
    s.seenAt p id ≤ (s.writes f).length ∧ ∀ q ∈ since s p f id, q = p
  stampFst : ∀ f, (s.stamps f).map Prod.fst = s.writes f
  stampLe : ∀ f q n, (q, n) ∈ s.stamps f → 1 ≤ n ∧ n ≤ s.txn q
  /-- a transaction that has ended has a number below the current one; the running one is the holder's -/
  stampHead : ∀ f p, s.holder = some p → (p, s.txn p) ∈ s.stamps f → (s.stamps f).head? = some (p, s.txn p)
  stampNone : ∀ f q, s.holder = none → (q, s.txn q + 1) ∉ s.stamps f
  serial : ∀ f, Serial (s.stamps f)
  /-- within one row's log the transaction numbers of one process never increase towards the past -/
  mono : ∀ f, (s.stamps f).Pairwise (fun a b => b.1 = a.1 → b.2 ≤ a.2)

theorem Inv_init : Inv {} := by
  constructor <;> intros <;> simp_all [Serial]

theorem Inv_step (s : State) (e : Ev) (s' : State) (h : step s e = some s') (hi : Inv s) : Inv s' := by
  cases e with
  | «begin» p =>
    obtain ⟨hh, rfl⟩ := step_begin_some h
    refine ⟨?_, ?_, ?_, hi.stampFst, ?_, ?_, ?_, hi.serial, hi.mono⟩
    · intro q id t ht
      have := hi.loadedLe q id t ht
      dsimp only
      split
      · subst_vars; omega
      · exact this
    · intro q hq; dsimp only at hq; cases hq; simp
    · intro q id f hq hl _
      dsimp only at hq hl
      cases hq
      simp only [if_true] at hl
      have := hi.loadedLe _ _ _ hl
      omega
    · intro f q n hm
      have := hi.stampLe f q n hm
      dsimp only
      split
      · subst_vars; omega
      · exact this
    · intro f q hq hm
      dsimp only at hq hm
      cases hq
      simp only [if_true] at hm
      have := (hi.stampLe f _ _ hm).2
      omega
    · intro f q hq; cases hq
  | commit p =>
    obtain ⟨hh, rfl⟩ := step_commit_some h
    refine ⟨hi.loadedLe, ?_, ?_, hi.stampFst, hi.stampLe, ?_, ?_, hi.serial, hi.mono⟩
    · intro q hq; cases hq
    · intro q id f hq; cases hq
    · intro f q hq; cases hq
    · intro f q _ hm
      have := (hi.stampLe f _ _ hm).2
      dsimp only at this
      omega
  | load p f id =>
    obtain ⟨hh, rfl⟩ := step_load_some h
    refine ⟨?_, hi.holderPos, ?_, hi.stampFst, hi.stampLe, hi.stampHead, hi.stampNone, hi.serial, hi.mono⟩
    · intro q i t ht
      dsimp only [upd2] at ht
      split at ht
      · rename_i hc; cases ht; rw [hc.1]; exact Nat.le_refl _
      · exact hi.loadedLe q i t ht
    · intro q i g hq hl hr
      dsimp only at hq
      by_cases hc : q = p ∧ i = id
      · obtain ⟨rfl, rfl⟩ := hc
        simp only [upd2, and_self, if_true, Option.some.injEq] at hr
        subst hr
        simp [since, upd2]
      · simp only [upd2, hc, if_false] at hl hr
        simpa [since, upd2, hc] using hi.fresh q i g hq hl hr
  | save p f id =>
    obtain ⟨hh, hl, hr, rfl⟩ := step_save_some h
    have hf := hi.fresh p id f hh hl hr
    refine ⟨hi.loadedLe, hi.holderPos, ?_, ?_, ?_, ?_, ?_, ?_, ?_⟩
    · intro q i g hq hl' hr'
      dsimp only at hq hl' hr'
      rw [hh] at hq; cases hq
      have ho := hi.fresh p i g hh hl' hr'
      by_cases hg : g = f
      · subst hg
        simp only [since, if_true, List.length_cons] at ho ⊢
        refine ⟨by omega, ?_⟩
        have he : (s.writes g).length + 1 - s.seenAt p i = ((s.writes g).length - s.seenAt p i) + 1 := by omega
        rw [he, List.take_succ_cons]
        intro q hq
        rcases List.mem_cons.mp hq with rfl | hq
        · rfl
        · exact ho.2 q hq
      · simpa [since, hg] using ho
    · intro g
      dsimp only
      split
      · subst_vars; simp [hi.stampFst]
      · exact hi.stampFst g
    · intro g q n hm
      dsimp only at hm
      split at hm
      · rcases List.mem_cons.mp hm with hc | hm
        · cases hc
          exact ⟨hi.holderPos p hh, Nat.le_refl _⟩
        · exact hi.stampLe f q n hm
      · exact hi.stampLe g q n hm
    · intro g q hq hm
      dsimp only at hq hm ⊢
      rw [hh] at hq; cases hq
      split
      · rfl
      · rename_i hg; simp only [hg, if_false] at hm; exact hi.stampHead g p hh hm
    · intro g q hq; rw [hh] at hq; cases hq
    · intro g
      dsimp only
      split
      · subst_vars
        exact ⟨fun hm => hi.stampHead _ p hh hm, hi.serial _⟩
      · exact hi.serial g
    · intro g
      dsimp only
      split
      · subst_vars
        refine List.pairwise_cons.mpr ⟨?_, hi.mono _⟩
        intro b hb hb1
        obtain ⟨q, n⟩ := b
        dsimp only at hb1 ⊢
        subst hb1
        exact (hi.stampLe _ _ _ hb).2
      · exact hi.mono g

/-! ### Accepted event lists: the statement without ghost fields (`save_follows_own_load`), the acceptor without the
guard (`stepNoGuard`) and the stale trace -/

theorem Inv_run (es : List Ev) (s : State) (h : run {} es = some s) : Inv s :=
  (run_iff.1 h).inv Inv_step Inv_init

def ownRowOp (p : Nat) : Ev → Prop
  | .load q _ _ => q = p
  | .save q _ _ => q = p
  | _ => False

theorem loaded_since (es : List Ev) (s : State) (h : run {} es = some s) :
    ∀ p id f, s.holder = some p → s.loadedIn p id = some (s.txn p) → s.loadedRow p id = some f →
      ∃ pre post, es = pre ++ .load p f id :: post ∧ ∀ e ∈ post, ownRowOp p e := by
  refine (run_iff.1 h).snoc_induction (P := fun es s => ∀ p id f, s.holder = some p →
      s.loadedIn p id = some (s.txn p) → s.loadedRow p id = some f →
      ∃ pre post, es = pre ++ .load p f id :: post ∧ ∀ e ∈ post, ownRowOp p e) ?_ ?_
  · intro p id f hh; cases hh
  · intro es s e s' hrun ih he p id f hh hl hr
    have hi := Inv_run es s (run_iff.2 hrun)
    have ext : ∀ q g i, s.holder = some q → s.loadedIn q i = some (s.txn q) → s.loadedRow q i = some g →
        ownRowOp q e → ∃ pre post, es ++ [e] = pre ++ .load q g i :: post ∧ ∀ e ∈ post, ownRowOp q e := by
      intro q g i h1 h2 h3 ho
      obtain ⟨pre, post, h4, h5⟩ := ih q i g h1 h2 h3
      refine ⟨pre, post ++ [e], by rw [h4]; simp, ?_⟩
      intro e' he'
      rcases List.mem_append.mp he' with he' | he'
      · exact h5 e' he'
      · rw [List.mem_singleton.mp he']; exact ho
    cases e with
    | «begin» q =>
      obtain ⟨_, rfl⟩ := step_begin_some he
      dsimp only at hh hl
      cases hh
      simp only [if_true] at hl
      have := hi.loadedLe _ _ _ hl
      omega
    | commit q => obtain ⟨_, rfl⟩ := step_commit_some he; cases hh
    | load q g i =>
      obtain ⟨hq, rfl⟩ := step_load_some he
      dsimp only at hh hl hr
      rw [hq] at hh; cases hh
      by_cases hc : id = i
      · subst hc
        simp only [upd2, and_self, if_true, Option.some.injEq] at hr
        subst hr
        exact ⟨es, [], rfl, fun e he => by cases he⟩
      · have hc' : ¬ (True ∧ id = i) := fun h => hc h.2
        simp only [upd2, hc', if_false] at hl hr
        exact ext p f id hq hl hr rfl
    | save q g i =>
      obtain ⟨hq, _, _, rfl⟩ := step_save_some he
      dsimp only at hh hl hr
      rw [hq] at hh; cases hh
      exact ext p f id hq hl hr rfl

/-- Without ghost fields: an accepted save follows its own load, with only own loads and saves in between. -/
theorem save_follows_own_load (es : List Ev) (s s' : State) (p f id : Nat) (h : run {} es = some s)
    (hs : step s (.save p f id) = some s') :
    ∃ pre post, es = pre ++ .load p f id :: post ∧ ∀ e ∈ post, ownRowOp p e := by
  obtain ⟨hh, hl, hr, _⟩ := step_save_some hs
  exact loaded_since es s h p id f hh hl hr

/-- `step` without THE GUARD of `save` (the `loadedIn` test); everything else is the same. -/
def stepNoGuard (s : State) : Ev → Option State
  | .save p f id =>
    if s.holder ≠ some p then none
    else if s.loadedRow p id ≠ some f then none
    else some { s with writes := fun x => if x = f then p :: s.writes f else s.writes x,
                       stamps := fun x => if x = f then (p, s.txn p) :: s.stamps f else s.stamps x }
  | e => step s e

def runNoGuard (s : State) : List Ev → Option State
  | [] => some s
  | e :: es =>
    match stepNoGuard s e with
    | none => none
    | some s' => runNoGuard s' es

/-- Process 1 loads row 5 (load id 1) in its transaction 1 and commits; process 2 loads row 5 (load id 7), saves it and
commits; process 1 begins its transaction 2.  (The seeded mutant then saves the copy with load id 1.) -/
def staleTrace : List Ev :=
  [.begin 1, .load 1 5 1, .commit 1, .begin 2, .load 2 5 7, .save 2 5 7, .commit 2, .begin 1]

end RedoModel.RowCache
