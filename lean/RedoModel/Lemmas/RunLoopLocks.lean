import RedoModel.Lemmas.RunLoopInv
import RedoModel.Lemmas.Locks
/-! Helper lemmas for Props/C06b (simulation of `RunLoop` by `Locks`).

`Sim.toLocks`, `Sim.feed`, `Sim.pidOf`, `Sim.Agrees` are copies of the definitions of Props/C06b.lean (which imports
this file); C06b.lean shows that they coincide and transports the lemmas. -/
namespace RedoModel.RunLoop.Sim
open RedoModel RedoModel.RunLoop

def toLocks (p : Nat) (s : St) : RunLoop.Ev → List Locks.Ev
  | .tryLock f true => [.lockOk p f]
  | .tryLock f false => [.lockFail p f]
  | .waited f => [.lockOk p f]
  | .unlock f => [.unlock p f]
  | .immediate f _ => [.unlock p f]
  | .forked f => [.script p f false]
  | .jobEnd f _ => [.recordEnd p f, .unlock p f]
  | .failedElsewhere f => [.unlock p f]
  | .abort => s.held.map (fun f => Locks.Ev.unlock p f)
  | .fin _ => [.exit p]
  | _ => []

def feed (L : Locks.State) : List Locks.Ev → Except Locks.Reject Locks.State
  | [] => .ok L
  | e :: es => match Locks.step L e with
    | .ok L' => feed L' es
    | .error r => .error r

def pidOf : Locks.Ev → Nat
  | .lockOk p _ => p | .lockFail p _ => p | .unlock p _ => p | .script p _ _ => p | .recordEnd p _ => p | .exit p => p

structure Agrees (p : Nat) (s : St) (L : Locks.State) : Prop where
  heldOwned : ∀ f ∈ s.held, L.owner f = some p
  jobsOwned : ∀ f ∈ s.jobs, L.owner f = some p
  jobsRunning : ∀ f ∈ s.jobs, (⟨f, p, false⟩ : Locks.Exec) ∈ L.running
  runningJobs : ∀ e ∈ L.running, e.pid = p → e.fid ∈ s.jobs
  ownsOnly : ∀ f, L.owner f = some p → f ∈ s.held ∨ f ∈ s.jobs
  disjoint : ∀ f ∈ s.held, f ∉ s.jobs
  nodupHeld : s.held.Nodup
  nodupJobs : s.jobs.Nodup
  noDelegated : ∀ e ∈ L.running, e.delegated = false
  ended : ∀ ok, s.pc = .ended ok → ∀ f, L.owner f ≠ some p
  heldPc : s.held = heldAtPc s.pc

theorem agrees_init (p : Nat) : Agrees p {} {} := by
  constructor <;> simp [heldAtPc]

theorem feed_one {L L' : Locks.State} {e : Locks.Ev} (h : Locks.step L e = .ok L') : feed L [e] = .ok L' := by
  simp [feed, h]

theorem feed_iff {L L' : Locks.State} {es : List Locks.Ev} :
    feed L es = .ok L' ↔ Reach (fun L e L1 => Locks.step L e = .ok L1) L es L' := by
  induction es generalizing L with
  | nil => simp [feed, eq_comm]
  | cons e es ih => simp only [feed, Reach.cons_iff]; cases Locks.step L e <;> simp [ih]

theorem feed_inv {L L' : Locks.State} {es : List Locks.Ev} (h : feed L es = .ok L') (hi : C06.Inv L) : C06.Inv L' :=
  (feed_iff.1 h).inv C06.step_inv hi

theorem held_step {c : Cfg} {s s' : St} {ev : RunLoop.Ev} (h : RunLoop.step c s ev = .ok s')
    (hh : s.held = heldAtPc s.pc) : s'.held = heldAtPc s'.pc := by
  cases step_Step h <;> simp [heldAtPc, poll, *]

theorem heldAtPc_cases (pc : Pc) : heldAtPc pc = [] ∨ ∃ f, heldAtPc pc = [f] := by
  cases pc <;> simp [heldAtPc]

section
variable {p : Nat} {s s' : St} {L : Locks.State}

theorem held_not_running (ha : Agrees p s L) (hi : C06.Inv L) {f : Nat} (hf : f ∈ s.held) :
    ∀ e ∈ L.running, e.fid ≠ f := by
  intro e he hef
  have h1 := hi.own e he (ha.noDelegated e he)
  have h2 := ha.heldOwned f hf
  simp only [Locks.ownerOf, hef, h2, Option.some.injEq] at h1
  have h3 := ha.runningJobs e he h1.symm
  rw [hef] at h3
  exact ha.disjoint f hf h3

/-- Events that do not touch locks or jobs. -/
theorem sim_nop (ha : Agrees p s L) (e1 : s'.held = s.held) (e2 : s'.jobs = s.jobs)
    (hh : s'.held = heldAtPc s'.pc) (hne : ∀ ok, s'.pc ≠ .ended ok) : Agrees p s' L := by
  obtain ⟨a1, a2, a3, a4, a5, a6, a7, a8, a9, _, _⟩ := ha
  refine ⟨?_, ?_, ?_, ?_, ?_, ?_, ?_, ?_, a9, fun ok h => absurd h (hne ok), hh⟩ <;> simp only [e1, e2] <;> assumption

/-- A lock granted by the kernel (`try_lock` succeeded, `wait_lock` returned). -/
theorem sim_acquire (ha : Agrees p s L) (hi : C06.Inv L) {f : Nat} (hfree : L.owner f = none)
    (e1 : s'.held = f :: s.held) (e2 : s'.jobs = s.jobs)
    (hh : s'.held = heldAtPc s'.pc) (hne : ∀ ok, s'.pc ≠ .ended ok) :
    ∃ L', feed L [.lockOk p f] = .ok L' ∧ Agrees p s' L' ∧ C06.Inv L' := by
  have hstep : Locks.step L (.lockOk p f) = .ok (Locks.setOwner L f (some p)) := by
    simp [Locks.step, Locks.ownerOf, hfree]
  refine ⟨_, feed_one hstep, ?_, C06.step_inv _ _ _ hstep hi⟩
  obtain ⟨a1, a2, a3, a4, a5, a6, a7, a8, a9, _, _⟩ := ha
  have hfh : f ∉ s.held := fun h => by simp [a1 f h] at hfree
  have hfj : f ∉ s.jobs := fun h => by simp [a2 f h] at hfree
  refine ⟨?_, ?_, ?_, ?_, ?_, ?_, ?_, ?_, a9, fun ok h => absurd h (hne ok), hh⟩ <;>
    simp only [e1, e2, Locks.setOwner]
  · intro g hg
    by_cases hgf : g = f
    · simp [hgf]
    · simp only [hgf, if_false]
      rcases List.mem_cons.1 hg with h | h
      · exact absurd h hgf
      · exact a1 g h
  · intro g hg
    by_cases hgf : g = f
    · simp [hgf]
    · simp only [hgf, if_false]; exact a2 g hg
  · exact a3
  · exact a4
  · intro g hg
    by_cases hgf : g = f
    · left; simp [hgf]
    · simp only [hgf, if_false] at hg
      rcases a5 g hg with h | h
      · left; exact List.mem_cons_of_mem _ h
      · right; exact h
  · intro g hg
    rcases List.mem_cons.1 hg with h | h
    · rw [h]; exact hfj
    · exact a6 g h
  · exact List.nodup_cons.2 ⟨hfh, a7⟩
  · exact a8

/-- A lock the process itself holds is released (`unlock`, an immediate result, a target failed elsewhere). -/
theorem sim_release (ha : Agrees p s L) (hi : C06.Inv L) {f : Nat} (hf : f ∈ s.held)
    (e1 : s'.held = s.held.erase f) (e2 : s'.jobs = s.jobs)
    (hh : s'.held = heldAtPc s'.pc) (hne : ∀ ok, s'.pc ≠ .ended ok) :
    ∃ L', feed L [.unlock p f] = .ok L' ∧ Agrees p s' L' ∧ C06.Inv L' := by
  have hnr := held_not_running ha hi hf
  have hstep : Locks.step L (.unlock p f) = .ok (Locks.setOwner L f none) := by
    have h1 : L.running.any (fun e => e.fid == f) = false := by
      rw [List.any_eq_false]; intro e he; simpa using hnr e he
    simp [Locks.step, Locks.ownerOf, ha.heldOwned f hf, h1]
  refine ⟨_, feed_one hstep, ?_, C06.step_inv _ _ _ hstep hi⟩
  obtain ⟨a1, a2, a3, a4, a5, a6, a7, a8, a9, _, _⟩ := ha
  have hfj : f ∉ s.jobs := a6 f hf
  refine ⟨?_, ?_, ?_, ?_, ?_, ?_, ?_, ?_, a9, fun ok h => absurd h (hne ok), hh⟩ <;>
    simp only [e1, e2, Locks.setOwner]
  · intro g hg
    have := (List.Nodup.mem_erase_iff a7).1 hg
    simp only [this.1, if_false]; exact a1 g this.2
  · intro g hg
    have hgf : g ≠ f := fun h => hfj (h ▸ hg)
    simp only [hgf, if_false]; exact a2 g hg
  · exact a3
  · exact a4
  · intro g hg
    by_cases hgf : g = f
    · simp [hgf] at hg
    · simp only [hgf, if_false] at hg
      rcases a5 g hg with h | h
      · left; exact (List.mem_erase_of_ne hgf).2 h
      · right; exact h
  · intro g hg; exact a6 g (List.mem_of_mem_erase hg)
  · exact a7.erase f
  · exact a8

/-- `BuildJob::start` forks a child for the target whose lock the process holds. -/
theorem sim_fork (ha : Agrees p s L) (hi : C06.Inv L) {f : Nat} (hf : f ∈ s.held)
    (e1 : s'.held = s.held.erase f) (e2 : s'.jobs = f :: s.jobs)
    (hh : s'.held = heldAtPc s'.pc) (hne : ∀ ok, s'.pc ≠ .ended ok) :
    ∃ L', feed L [.script p f false] = .ok L' ∧ Agrees p s' L' ∧ C06.Inv L' := by
  have hnr := held_not_running ha hi hf
  have hstep : Locks.step L (.script p f false) =
      .ok { L with running := ⟨f, p, false⟩ :: L.running, started := (f, p) :: L.started } := by
    have h1 : L.running.any (fun e => e.fid == f && e.pid == p) = false := by
      rw [List.any_eq_false]; intro e he; simp [hnr e he]
    have h2 : L.running.any (fun e => e.fid == f && e.delegated) = false := by
      rw [List.any_eq_false]; intro e he; simp [hnr e he]
    simp [Locks.step, Locks.ownerOf, ha.heldOwned f hf, h1, h2]
  refine ⟨_, feed_one hstep, ?_, C06.step_inv _ _ _ hstep hi⟩
  obtain ⟨a1, a2, a3, a4, a5, a6, a7, a8, a9, _, _⟩ := ha
  have hfj : f ∉ s.jobs := a6 f hf
  refine ⟨?_, ?_, ?_, ?_, ?_, ?_, ?_, ?_, ?_, fun ok h => absurd h (hne ok), hh⟩ <;> simp only [e1, e2]
  · intro g hg; exact a1 g (List.mem_of_mem_erase hg)
  · intro g hg
    rcases List.mem_cons.1 hg with h | h
    · rw [h]; exact a1 f hf
    · exact a2 g h
  · intro g hg
    rcases List.mem_cons.1 hg with h | h
    · rw [h]; exact List.mem_cons_self
    · exact List.mem_cons_of_mem _ (a3 g h)
  · intro e he hep
    rcases List.mem_cons.1 he with h | h
    · rw [h]; exact List.mem_cons_self
    · exact List.mem_cons_of_mem _ (a4 e h hep)
  · intro g hg
    by_cases hgf : g = f
    · right; rw [hgf]; exact List.mem_cons_self
    · rcases a5 g hg with h | h
      · left; exact (List.mem_erase_of_ne hgf).2 h
      · right; exact List.mem_cons_of_mem _ h
  · intro g hg hgj
    have := (List.Nodup.mem_erase_iff a7).1 hg
    rcases List.mem_cons.1 hgj with h | h
    · exact this.1 h
    · exact a6 g this.2 h
  · exact a7.erase f
  · exact List.nodup_cons.2 ⟨hfj, a8⟩
  · intro e he
    rcases List.mem_cons.1 he with h | h
    · rw [h]
    · exact a9 e h

/-- A job's continuation ran: the result is recorded, then the job's lock is dropped. -/
theorem sim_jobEnd (ha : Agrees p s L) (hi : C06.Inv L) {f : Nat} (hf : f ∈ s.jobs)
    (e1 : s'.held = s.held) (e2 : s'.jobs = s.jobs.erase f)
    (hh : s'.held = heldAtPc s'.pc) (hne : ∀ ok, s'.pc ≠ .ended ok) :
    ∃ L', feed L [.recordEnd p f, .unlock p f] = .ok L' ∧ Agrees p s' L' ∧ C06.Inv L' := by
  obtain ⟨a1, a2, a3, a4, a5, a6, a7, a8, a9, _, _⟩ := ha
  have hrun := a3 f hf
  let L1 : Locks.State :=
    { L with running := L.running.filter (fun e => !(e.fid == f && e.pid == p)), recorded := (f, p) :: L.recorded }
  have hstep1 : Locks.step L (.recordEnd p f) = .ok L1 := by
    have h1 : L.running.any (fun e => e.fid == f && e.pid == p) = true := by
      rw [List.any_eq_true]; exact ⟨_, hrun, by simp⟩
    simp [Locks.step, h1, L1]
  have hi1 := C06.step_inv _ _ _ hstep1 hi
  have hnr1 : ∀ e ∈ L1.running, e.fid ≠ f := by
    intro e he hef
    have he' := List.mem_filter.1 he
    have := hi.one e he'.1 _ hrun hef
    rw [this] at he'
    simp at he'
  have hstep2 : Locks.step L1 (.unlock p f) = .ok (Locks.setOwner L1 f none) := by
    have h1 : L1.running.any (fun e => e.fid == f) = false := by
      rw [List.any_eq_false]; intro e he; simpa using hnr1 e he
    have h2 : L1.owner f = some p := a2 f hf
    simp [Locks.step, Locks.ownerOf, h2, h1]
  refine ⟨Locks.setOwner L1 f none, ?_, ?_, C06.step_inv _ _ _ hstep2 hi1⟩
  · simp [feed, hstep1, hstep2]
  refine ⟨?_, ?_, ?_, ?_, ?_, ?_, ?_, ?_, ?_, fun ok h => absurd h (hne ok), hh⟩ <;>
    simp only [e1, e2, Locks.setOwner, L1]
  · intro g hg
    have hgf : g ≠ f := fun h => a6 g hg (h ▸ hf)
    simp only [hgf, if_false]; exact a1 g hg
  · intro g hg
    have := (List.Nodup.mem_erase_iff a8).1 hg
    simp only [this.1, if_false]; exact a2 g this.2
  · intro g hg
    have := (List.Nodup.mem_erase_iff a8).1 hg
    refine List.mem_filter.2 ⟨a3 g this.2, ?_⟩
    simp [this.1]
  · intro e he hep
    have he' := List.mem_filter.1 he
    have hne' : e.fid ≠ f := by
      intro h; simp [h, hep] at he'
    exact (List.mem_erase_of_ne hne').2 (a4 e he'.1 hep)
  · intro g hg
    by_cases hgf : g = f
    · simp [hgf] at hg
    · simp only [hgf, if_false] at hg
      rcases a5 g hg with h | h
      · left; exact h
      · right; exact (List.mem_erase_of_ne hgf).2 h
  · intro g hg hgj; exact a6 g hg (List.mem_of_mem_erase hgj)
  · exact a7
  · exact a8.erase f
  · intro e he; exact a9 e (List.mem_filter.1 he).1

/-- `run` returns: no job is under way and the process itself holds no lock. -/
theorem sim_fin (ha : Agrees p s L) (hi : C06.Inv L) (hj : s.jobs = []) (hh0 : s.held = [])
    (e1 : s'.held = s.held) (e2 : s'.jobs = s.jobs) (hh : s'.held = heldAtPc s'.pc) :
    ∃ L', feed L [.exit p] = .ok L' ∧ Agrees p s' L' ∧ C06.Inv L' := by
  obtain ⟨a1, a2, a3, a4, a5, a6, a7, a8, a9, _, _⟩ := ha
  have hown : ∀ g, L.owner g ≠ some p := by
    intro g hg
    rcases a5 g hg with h | h
    · rw [hh0] at h; cases h
    · rw [hj] at h; cases h
  have hnp : ∀ e ∈ L.running, e.pid ≠ p := by
    intro e he hep
    have := a4 e he hep
    rw [hj] at this; cases this
  have hstep : Locks.step L (.exit p) =
      .ok { L with owner := fun g => if L.owner g = some p then none else L.owner g } := by
    have h1 : L.running.any (fun e => e.pid == p || Locks.ownerOf L e.fid == some p) = false := by
      rw [List.any_eq_false]; intro e he
      simp [hnp e he, Locks.ownerOf, hown e.fid]
    simp [Locks.step, h1]
  refine ⟨_, feed_one hstep, ?_, C06.step_inv _ _ _ hstep hi⟩
  refine ⟨?_, ?_, ?_, ?_, ?_, ?_, ?_, ?_, a9, ?_, hh⟩ <;> simp only [e1, e2, hh0, hj]
  · intro g hg; cases hg
  · intro g hg; cases hg
  · intro g hg; cases hg
  · intro e he hep; exact absurd hep (hnp e he)
  · intro g hg; simp [hown g] at hg
  · intro g hg; cases hg
  · exact List.nodup_nil
  · exact List.nodup_nil
  · intro ok _ g; simp [hown g]

/-- An internal error: the locks the process itself holds (at most one) are dropped. -/
theorem sim_abort (ha : Agrees p s L) (hi : C06.Inv L) (e1 : s'.held = []) (e2 : s'.jobs = s.jobs)
    (hh : s'.held = heldAtPc s'.pc) (hne : ∀ ok, s'.pc ≠ .ended ok) :
    ∃ L', feed L (s.held.map (fun f => Locks.Ev.unlock p f)) = .ok L' ∧ Agrees p s' L' ∧ C06.Inv L' := by
  rcases heldAtPc_cases s.pc with h0 | ⟨f, h0⟩
  · have hs : s.held = [] := by rw [ha.heldPc, h0]
    rw [hs]
    exact ⟨L, rfl, sim_nop ha (by rw [e1, hs]) e2 hh hne, hi⟩
  · have hs : s.held = [f] := by rw [ha.heldPc, h0]
    rw [hs]
    exact sim_release ha hi (by rw [hs]; exact List.mem_cons_self) (by rw [e1, hs]; simp) e2 hh hne

end

theorem sim_step {p : Nat} {c : Cfg} {s s' : St} {ev : RunLoop.Ev} {L : Locks.State}
    (ha : Agrees p s L) (hi : C06.Inv L) (hs : RunLoop.step c s ev = .ok s')
    (hk : ∀ f, (ev = .tryLock f true ∨ ev = .waited f) → L.owner f = none) :
    ∃ L', feed L (toLocks p s ev) = .ok L' ∧ Agrees p s' L' ∧ C06.Inv L' := by
  have hh' := held_step hs ha.heldPc
  have hh := ha.heldPc
  have hS := step_Step hs
  clear hs
  cases hS with
  | l1JobEnd hf hpc => exact sim_jobEnd ha hi hf rfl rfl hh' (by simp)
  | l1goJobEnd hf hpc => exact sim_jobEnd ha hi hf rfl rfl hh' (by simp)
  | l2JobEnd hf hpc => exact sim_jobEnd ha hi hf rfl rfl hh' (by simp)
  | l2goJobEnd hf hq hpc => exact sim_jobEnd ha hi hf rfl rfl hh' (by simp)
  | drainJobEnd hf hpc => exact sim_jobEnd ha hi hf rfl rfl hh' (by simp [hpc])
  | l1lockOk hpc => exact sim_acquire ha hi (hk _ (Or.inl rfl)) rfl rfl hh' (by simp)
  | l2tryOk hpc => exact sim_acquire ha hi (hk _ (Or.inl rfl)) rfl rfl hh' (by simp)
  | l2waitWaited hpc => exact sim_acquire ha hi (hk _ (Or.inr rfl)) rfl rfl hh' (by simp)
  | l2gotUnlock hpc => exact sim_release ha hi (by simp [hh, hpc, heldAtPc]) rfl rfl hh' (by simp)
  | l2ownElsewhere hpc => exact sim_release ha hi (by simp [hh, hpc, heldAtPc]) rfl rfl hh' (by simp)
  | l1startedImmediate hpc => exact sim_release ha hi (by simp [hh, hpc, heldAtPc]) rfl rfl hh' (by simp)
  | l2startedImmediate hpc => exact sim_release ha hi (by simp [hh, hpc, heldAtPc]) rfl rfl hh' (by simp)
  | l1startedForked hpc => exact sim_fork ha hi (by simp [hh, hpc, heldAtPc]) rfl rfl hh' (by simp)
  | l2startedForked hpc => exact sim_fork ha hi (by simp [hh, hpc, heldAtPc]) rfl rfl hh' (by simp)
  | abort hd he => exact sim_abort ha hi rfl rfl hh' (by simp)
  | l1Fin hj hq hok hpc => exact sim_fin ha hi hj (by simp [hh, hpc, heldAtPc]) rfl rfl hh'
  | l1goFin hj hq hok hpc => exact sim_fin ha hi hj (by simp [hh, hpc, heldAtPc]) rfl rfl hh'
  | l2Fin hj hq hok hpc => exact sim_fin ha hi hj (by simp [hh, hpc, heldAtPc]) rfl rfl hh'
  | l2goFin hj hq hok hpc => exact sim_fin ha hi hj (by simp [hh, hpc, heldAtPc]) rfl rfl hh'
  | drainFin hj hok hpc => exact sim_fin ha hi hj (by simp [hh, hpc, heldAtPc]) rfl rfl hh'
  | _ => exact ⟨L, rfl, sim_nop ha rfl rfl hh' (by simp), hi⟩

/-- `Agrees p` reads of the lock table only which locks `p` owns, which executions of `p` are under way, and that
none is delegated. -/
theorem Agrees.frame {p : Nat} {s : St} {L L' : Locks.State} (ha : Agrees p s L)
    (ho : ∀ f, L'.owner f = some p ↔ L.owner f = some p)
    (hr : ∀ e : Locks.Exec, e.pid = p → (e ∈ L'.running ↔ e ∈ L.running))
    (hd : ∀ e ∈ L'.running, e.delegated = false) : Agrees p s L' := by
  obtain ⟨a1, a2, a3, a4, a5, a6, a7, a8, _, a10, a11⟩ := ha
  exact ⟨fun f hf => (ho f).2 (a1 f hf), fun f hf => (ho f).2 (a2 f hf), fun f hf => (hr _ rfl).2 (a3 f hf),
    fun e he hp => a4 e ((hr e hp).1 he) hp, fun f hf => a5 f ((ho f).1 hf), a6, a7, a8, hd,
    fun ok hp f hf => a10 ok hp f ((ho f).1 hf), a11⟩

theorem others_keep {p : Nat} {s : St} {L L' : Locks.State} {e : Locks.Ev} (ha : Agrees p s L)
    (hq : pidOf e ≠ p) (hu : ∀ q f, e ≠ .script q f true) (h : Locks.step L e = .ok L') : Agrees p s L' := by
  have hd := ha.noDelegated
  cases e with
  | lockOk q f =>
    simp only [Locks.step, Locks.ownerOf] at h
    split at h
    · split at h <;> cases h
      exact ha
    · rename_i hnone
      cases h
      refine ha.frame (fun g => ?_) (fun _ _ => .rfl) hd
      simp only [Locks.setOwner]
      split
      · subst g; simp only [hnone, Option.some.injEq, reduceCtorEq, iff_false]; exact hq
      · rfl
  | lockFail q f => cases h; exact ha
  | unlock q f =>
    simp only [Locks.step] at h
    split at h
    · cases h
    · rename_i hown
      split at h <;> cases h
      simp only [ne_eq, Decidable.not_not, Locks.ownerOf] at hown
      refine ha.frame (fun g => ?_) (fun _ _ => .rfl) hd
      simp only [Locks.setOwner]
      split
      · subst g; simp only [hown, Option.some.injEq, reduceCtorEq, false_iff]; exact hq
      · rfl
  | script q f unlocked =>
    cases unlocked with
    | true => exact absurd rfl (hu q f)
    | false =>
      simp only [Locks.step, Bool.false_eq_true, if_false] at h
      repeat' split at h
      all_goals cases h
      refine ha.frame (fun _ => .rfl) (fun e hp => ?_) (fun e he => ?_)
      · exact ⟨fun he => (List.mem_cons.1 he).resolve_left (fun h => hq (by rw [← hp, h]; rfl)),
          List.mem_cons_of_mem _⟩
      · rcases List.mem_cons.1 he with rfl | he
        · rfl
        · exact hd e he
  | recordEnd q f =>
    simp only [Locks.step] at h
    split at h <;> cases h
    refine ha.frame (fun _ => .rfl) (fun e hp => ?_) (fun e he => hd e (List.mem_filter.1 he).1)
    have : (e.pid == q) = false := by simpa [hp] using fun h : p = q => hq h.symm
    simp [List.mem_filter, this]
  | exit q =>
    simp only [Locks.step] at h
    split at h <;> cases h
    refine ha.frame (fun g => ?_) (fun _ _ => .rfl) hd
    simp only
    split
    · rename_i hg; simp only [hg, Option.some.injEq, reduceCtorEq, false_iff]; exact hq
    · rfl

theorem toLocks_pid (p : Nat) (s : St) (ev : RunLoop.Ev) :
    ∀ e ∈ toLocks p s ev, pidOf e = p ∧ ∀ q f, e ≠ .script q f true := by
  unfold toLocks
  split <;> simp [pidOf]

theorem feed_others {q : Nat} {s : St} {L L' : Locks.State} {es : List Locks.Ev} (h : feed L es = .ok L')
    (hes : ∀ e ∈ es, pidOf e ≠ q ∧ ∀ r f, e ≠ .script r f true) (ha : Agrees q s L) : Agrees q s L' :=
  (feed_iff.1 h).inv_of_mem (fun _ e _ he h1 ha => others_keep ha (hes e he).1 (hes e he).2 h1) ha

theorem step_others {p q : Nat} (hpq : q ≠ p) {s sq : St} {ev : RunLoop.Ev} {L L' : Locks.State}
    (h : feed L (toLocks p s ev) = .ok L') (ha : Agrees q sq L) : Agrees q sq L' :=
  feed_others h (fun e he => ⟨by rw [(toLocks_pid p s ev e he).1]; exact fun h => hpq h.symm,
    (toLocks_pid p s ev e he).2⟩) ha

theorem sys_step {c : Cfg} {procs : Nat → St} {L : Locks.State} {p : Nat} {ev : RunLoop.Ev} {s' : St}
    (hi : C06.Inv L) (ha : ∀ q, Agrees q (procs q) L) (hs : RunLoop.step c (procs p) ev = .ok s')
    (hk : ∀ f, (ev = .tryLock f true ∨ ev = .waited f) → L.owner f = none) :
    ∃ L', feed L (toLocks p (procs p) ev) = .ok L' ∧ C06.Inv L' ∧
      ∀ q, Agrees q (if q = p then s' else procs q) L' := by
  obtain ⟨L', h1, h2, h3⟩ := sim_step (ha p) hi hs hk
  refine ⟨L', h1, h3, fun q => ?_⟩
  by_cases hq : q = p
  · simp only [hq, if_true]; exact h2
  · simp only [hq, if_false]; exact step_others hq h1 (ha q)

/-- An execution under way runs under its target's lock, owned by the process that started it. -/
theorem inv_active_owner {L : Locks.State} (hi : C06.Inv L) (hd : ∀ e ∈ L.running, e.delegated = false)
    (fid : Nat) : ∀ e ∈ Locks.active L fid, L.owner fid = some e.pid := by
  intro e he
  have he' := List.mem_filter.1 he
  have h1 : e.fid = fid := by simpa using he'.2
  have := hi.own e he'.1 (hd e he'.1)
  rw [h1] at this
  exact this

end RedoModel.RunLoop.Sim
