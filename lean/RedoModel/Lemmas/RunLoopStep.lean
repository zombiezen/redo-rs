import RedoModel.RunLoop
import RedoModel.Lemmas.Reach
/-! The transitions of the `RunLoop` acceptor as an inductive relation (`Step`), and `run` over lists.
Helper for Lemmas/RunLoopInv.lean, RunLoopLocks.lean and RunTokInv.lean. -/
namespace RedoModel.RunLoop

theorem run_nil (c : Cfg) (s : St) : run c s [] = .ok s := rfl

theorem run_iff {c : Cfg} {s s' : St} {es : List Ev} :
    run c s es = .ok s' ↔ Reach (fun s e s1 => step c s e = .ok s1) s es s' := by
  induction es generalizing s with
  | nil => simp [run, eq_comm]
  | cons e es ih => simp only [run, Reach.cons_iff]; cases step c s e <;> simp [ih]

/-- Every accepted transition, one constructor each.  The first loop accepts the events of `l1` also at `l1go` (a
duplicate spelling was skipped), the second loop those of `l2` also at `l2go` with nothing queued. -/
inductive Step (c : Cfg) (s : St) : Ev → St → Prop
  | l1JobEnd {f : Nat} {fail : Bool} (hf : f ∈ s.jobs) (hpc : s.pc = .l1) :
      Step c s (.jobEnd f fail)
        { s with jobs := s.jobs.erase f, errored := s.errored || fail, failed := s.failed || fail, pc := .l1 }
  | l1goJobEnd {f : Nat} {fail : Bool} (hf : f ∈ s.jobs) (hpc : s.pc = .l1go) :
      Step c s (.jobEnd f fail)
        { s with jobs := s.jobs.erase f, errored := s.errored || fail, failed := s.failed || fail, pc := .l1 }
  | l2JobEnd {f : Nat} {fail : Bool} (hf : f ∈ s.jobs) (hpc : s.pc = .l2) :
      Step c s (.jobEnd f fail)
        { s with jobs := s.jobs.erase f, errored := s.errored || fail, failed := s.failed || fail, pc := .l2 }
  | l2goJobEnd {f : Nat} {fail : Bool} (hf : f ∈ s.jobs) (hq : s.queue = []) (hpc : s.pc = .l2go) :
      Step c s (.jobEnd f fail)
        { s with jobs := s.jobs.erase f, errored := s.errored || fail, failed := s.failed || fail, pc := .l2 }
  | l1Tok (hpc : s.pc = .l1) :
      Step c s .tok
        { poll s with tokHeld := true, pc := .l1tok }
  | l1Bad (hpc : s.pc = .l1) :
      Step c s .badTarget
        { s with errored := true, failed := true, pc := .l2 }
  | l1goTok (hpc : s.pc = .l1go) :
      Step c s .tok
        { poll s with tokHeld := true, pc := .l1tok }
  | l1goBad (hpc : s.pc = .l1go) :
      Step c s .badTarget
        { s with errored := true, failed := true, pc := .l2 }
  | l1WaitAll (hj : s.jobs = []) (hpc : s.pc = .l1) :
      Step c s .waitAll
        { poll s with tokHeld := false, pc := .l2all }
  | l1Fin {ok : Bool} (hj : s.jobs = []) (hq : s.queue = []) (hok : ok = !((poll s).errored)) (hpc : s.pc = .l1) :
      Step c s (.fin ok)
        { poll s with pc := .ended ok }
  | l1goWaitAll (hj : s.jobs = []) (hpc : s.pc = .l1go) :
      Step c s .waitAll
        { poll s with tokHeld := false, pc := .l2all }
  | l1goFin {ok : Bool} (hj : s.jobs = []) (hq : s.queue = []) (hok : ok = !((poll s).errored)) (hpc : s.pc = .l1go) :
      Step c s (.fin ok)
        { poll s with pc := .ended ok }
  | l2WaitAll (hj : s.jobs = []) (hpc : s.pc = .l2) :
      Step c s .waitAll
        { poll s with tokHeld := false, pc := .l2all }
  | l2Fin {ok : Bool} (hj : s.jobs = []) (hq : s.queue = []) (hok : ok = !((poll s).errored)) (hpc : s.pc = .l2) :
      Step c s (.fin ok)
        { poll s with pc := .ended ok }
  | l2goWaitAll (hj : s.jobs = []) (hq0 : s.queue = []) (hpc : s.pc = .l2go) :
      Step c s .waitAll
        { poll s with tokHeld := false, pc := .l2all }
  | l2goFin {ok : Bool} (hj : s.jobs = []) (hq : s.queue = []) (hok : ok = !((poll s).errored)) (hpc : s.pc = .l2go) :
      Step c s (.fin ok)
        { poll s with pc := .ended ok }
  | abort (hd : s.pc ≠ .drain) (he : ∀ ok, s.pc ≠ .ended ok) :
      Step c s .abort
        { s with aborted := true, held := [], pc := .drain }
  | l1tokStop (hs : stop c s = true) (hpc : s.pc = .l1tok) :
      Step c s (.chk s.errored)
        { s with pc := .l2 }
  | l1tokGo (hs : stop c s = false) (hpc : s.pc = .l1tok) :
      Step c s (.chk s.errored)
        { s with pc := .l1go }
  | l1goTarget {f : Nat} (hf : f ∉ s.seen) (hpc : s.pc = .l1go) :
      Step c s (.target f)
        { s with seen := f :: s.seen, pc := .l1lock f }
  | l1lockOk {f : Nat} (hpc : s.pc = .l1lock f) :
      Step c s (.tryLock f true)
        { s with held := f :: s.held, pc := .l1own f }
  | l1lockFail {f : Nat} (hpc : s.pc = .l1lock f) :
      Step c s (.tryLock f false)
        { s with queue := s.queue ++ [f], pc := .l1 }
  | l1ownBegin {f : Nat} (hpc : s.pc = .l1own f) :
      Step c s (.begin f)
        { s with started := f :: s.started, pc := .l1started f }
  | l1startedImmediate {f : Nat} {fail : Bool} (hpc : s.pc = .l1started f) :
      Step c s (.immediate f fail)
        { s with held := s.held.erase f, pending := s.pending || fail, failed := s.failed || fail, pc := .l1 }
  | l1startedForked {f : Nat} (hpc : s.pc = .l1started f) :
      Step c s (.forked f)
        { s with held := s.held.erase f, jobs := f :: s.jobs, tokHeld := false, pc := .l1 }
  | l2startedImmediate {f : Nat} {fail : Bool} (hpc : s.pc = .l2started f) :
      Step c s (.immediate f fail)
        { s with held := s.held.erase f, pending := s.pending || fail, failed := s.failed || fail, pc := .l2 }
  | l2startedForked {f : Nat} (hpc : s.pc = .l2started f) :
      Step c s (.forked f)
        { s with held := s.held.erase f, jobs := f :: s.jobs, tokHeld := false, pc := .l2 }
  | l2allStop (hs : stop c s = true) (hpc : s.pc = .l2all) :
      Step c s (.chk s.errored)
        { s with pc := .drain }
  | l2allGo (hs : stop c s = false) (hpc : s.pc = .l2all) :
      Step c s (.chk s.errored)
        { s with pc := .l2go }
  | l2goTok {f : Nat} {rest : List Nat} (hq : s.queue = f :: rest) (hpc : s.pc = .l2go) :
      Step c s .tok
        { s with queue := rest, tokHeld := true, pc := .l2try f }
  | l2tryOk {f : Nat} (hpc : s.pc = .l2try f) :
      Step c s (.tryLock f true)
        { s with held := f :: s.held, pc := .l2own f }
  | l2tryFail {f : Nat} (hpc : s.pc = .l2try f) :
      Step c s (.tryLock f false)
        { s with pc := .l2rel f }
  | l2relRelease {f : Nat} (hpc : s.pc = .l2rel f) :
      Step c s .releaseMine
        { s with tokHeld := false, pc := .l2wait f }
  | l2waitWaited {f : Nat} (hpc : s.pc = .l2wait f) :
      Step c s (.waited f)
        { s with held := f :: s.held, pc := .l2got f }
  | l2gotUnlock {f : Nat} (hpc : s.pc = .l2got f) :
      Step c s (.unlock f)
        { s with held := s.held.erase f, pc := .l2retok f }
  | l2retokTok {f : Nat} (hpc : s.pc = .l2retok f) :
      Step c s .tok
        { s with tokHeld := true, pc := .l2try f }
  | l2ownElsewhere {f : Nat} (hpc : s.pc = .l2own f) :
      Step c s (.failedElsewhere f)
        { s with held := s.held.erase f, errored := true, failed := true, elsewhere := f :: s.elsewhere, pc := .l2 }
  | l2ownBegin {f : Nat} (hpc : s.pc = .l2own f) :
      Step c s (.begin f)
        { s with started := f :: s.started, pc := .l2started f }
  | drainJobEnd {f : Nat} {fail : Bool} (hf : f ∈ s.jobs) (hpc : s.pc = .drain) :
      Step c s (.jobEnd f fail)
        { s with jobs := s.jobs.erase f, errored := s.errored || fail, failed := s.failed || fail }
  | drainFin {ok : Bool} (hj : s.jobs = []) (hok : ok = (!((poll s).errored) && !s.aborted)) (hpc : s.pc = .drain) :
      Step c s (.fin ok)
        { poll s with pc := .ended ok }

/-- Every accepted step is one of the transitions of `Step`: the branches of `step` in the order of the model, the
rejected ones and the internal error first. -/
theorem step_Step {c : Cfg} {s s' : St} {ev : Ev} (h : step c s ev = .ok s') : Step c s ev s' := by
  unfold step at h
  repeat' first | split at h | unfold stepL1 at h | unfold stepL2 at h | unfold stepStarted at h
  all_goals cases h
  all_goals try exact .abort (by simp [*]) (by simp [*])
  all_goals try simp only [ne_eq, Decidable.not_not, not_or, Bool.not_eq_true] at *
  all_goals try subst_vars
  · exact .l1JobEnd ‹_› ‹_›
  · exact .l1Tok ‹_›
  · exact .l1Bad ‹_›
  · exact .l1WaitAll ‹_› ‹_›
  · exact .l1Fin ‹_ ∧ _›.1 ‹_ ∧ _›.2 rfl ‹_›
  · exact .l1tokStop ‹_› ‹_›
  · exact .l1tokGo ‹_› ‹_›
  · exact .l1goTarget ‹_› ‹_›
  · exact .l1goJobEnd ‹_› ‹_›
  · exact .l1goTok ‹_›
  · exact .l1goBad ‹_›
  · exact .l1goWaitAll ‹_› ‹_›
  · exact .l1goFin ‹_ ∧ _›.1 ‹_ ∧ _›.2 rfl ‹_›
  · exact .l1lockOk ‹_›
  · exact .l1lockFail ‹_›
  · exact .l1ownBegin ‹_›
  · exact .l1startedImmediate ‹_›
  · exact .l1startedForked ‹_›
  · exact .l2JobEnd ‹_› ‹_›
  · exact .l2WaitAll ‹_› ‹_›
  · exact .l2Fin ‹_ ∧ _›.1 ‹_ ∧ _›.2 rfl ‹_›
  · exact .l2allStop ‹_› ‹_›
  · exact .l2allGo ‹_› ‹_›
  · exact .l2goTok ‹_› ‹_›
  · exact .l2goJobEnd ‹_› ‹_› ‹_›
  · exact .l2goWaitAll ‹_› ‹_› ‹_›
  · exact .l2goFin ‹_ ∧ _›.1 ‹_ ∧ _›.2 rfl ‹_›
  · exact .l2tryOk ‹_›
  · exact .l2tryFail ‹_›
  · exact .l2relRelease ‹_›
  · exact .l2waitWaited ‹_›
  · exact .l2gotUnlock ‹_›
  · exact .l2retokTok ‹_›
  · exact .l2ownElsewhere ‹_›
  · exact .l2ownBegin ‹_›
  · exact .l2startedImmediate ‹_›
  · exact .l2startedForked ‹_›
  · exact .drainJobEnd ‹_› ‹_›
  · exact .drainFin ‹_› rfl ‹_›

end RedoModel.RunLoop
