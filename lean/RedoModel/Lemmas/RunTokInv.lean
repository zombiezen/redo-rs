import RedoModel.RunTok
import RedoModel.Lemmas.RunLoopInv
/-! Helper lemmas for Props/C09 and Props/C09e: the invariant of the token counter (`TokLoop.Backed`) and the invariant
of the product of `RunLoop` and `TokLoop`. -/
namespace RedoModel.RunTok
open RedoModel RedoModel.RunLoop RedoModel.TokLoop

theorem release_running (t : LS) (n : Nat) : (release t n).running = t.running := rfl

theorem release_exited (t : LS) (n : Nat) : (release t n).exited = t.exited := rfl

theorem keepOne_running (t : LS) : (keepOne t).running = t.running := by
  unfold keepOne; split <;> rfl

theorem keepOne_exited (t : LS) : (keepOne t).exited = t.exited := by
  unfold keepOne; split <;> rfl

theorem keepOne_my (t : LS) : (keepOne t).my = min t.my 1 := by
  unfold keepOne; split
  · simp [release]; omega
  · omega

theorem keepOne_cheats (t : LS) : (keepOne t).cheats = t.cheats - (t.my - 1) := by
  unfold keepOne; split
  · simp only [release]; omega
  · omega

theorem keepOne_my_le (t : LS) : (keepOne t).my ≤ 1 ∨ (keepOne t).my = t.my ∧ t.my = 0 := by
  rw [keepOne_my]; omega

/-- `create_tokens n`: the first `min cheats n` new tokens cancel cheats, the others are added. -/
theorem createN_spec (s : LS) (n : Nat) :
    (createN s n).cheats = s.cheats - n ∧ (createN s n).my = s.my + (n - s.cheats) ∧
    (createN s n).running = s.running ∧ (createN s n).exited = s.exited := by
  induction n with
  | zero => simp [createN]
  | succ n ih =>
    obtain ⟨h1, h2, h3, h4⟩ := ih
    simp only [createN]
    split <;> simp_all <;> omega

/-- `fr`, `fe`: the repaired token read and the repaired child-exit branch of `block_on` (`false`: as in the pinned
code); `lstep fr` is `lstepG fr true`. -/
theorem lstepG_live {fr fe : Bool} {t : LS} {e : LEv} (h : lstepG fr fe t e ≠ .disabled) : t.exited = false := by
  cases hx : t.exited with
  | false => rfl
  | true => simp [lstepG, hx] at h

theorem lstep_live {fr : Bool} {t t' : LS} {e : LEv} (h : lstep fr t e = .ok t') : t.exited = false :=
  lstepG_live (fr := fr) (fe := true) (e := e) (by show lstep fr t e ≠ _; rw [h]; intro h'; cases h')

theorem lstep_panic_live {fr : Bool} {t : LS} {e : LEv} (h : lstep fr t e = .panic) : t.exited = false :=
  lstepG_live (fr := fr) (fe := true) (e := e) (by show lstep fr t e ≠ _; rw [h]; intro h'; cases h')

theorem lstep_exited {fr : Bool} {t : LS} (e : LEv) (h : t.exited = true) : lstep fr t e = .disabled := by
  simp [lstep, lstepG, h]

theorem lstep_start_of_one {t : LS} (hx : t.exited = false) (h : t.my = 1) :
    lstep true t .start = .ok { t with my := 0, running := t.running + 1 } := by
  simp [lstep, lstepG, hx, h]

theorem lstep_releaseMine_of_one {t : LS} (hx : t.exited = false) (h : t.my = 1) :
    lstep true t .releaseMine = .ok (release t 1) := by
  simp [lstep, lstepG, hx, h]

theorem lstep_waitAll (t : LS) (hx : t.exited = false) :
    ∃ t', lstep true t .waitAll = .ok t' ∧ t'.my ≤ 1 ∧ t'.running = t.running := by
  simp only [lstep, lstepG, hx, Bool.false_eq_true, ↓reduceIte]
  split
  · exact ⟨_, rfl, by simp [release, keepOne_my]; omega, by simp [release_running, keepOne_running]⟩
  · exact ⟨_, rfl, by simp [keepOne_my]; omega, keepOne_running t⟩

/-- The exit from a `Backed` state: it happens (before the first exit), leaves at most one token and never more cheats
than tokens, and a token in hand stays in hand. -/
theorem lstep_exit {t : LS} (hb : Backed t) (hx : t.exited = false) :
    ∃ t', lstep true t .exit = .ok t' ∧ t'.cheats ≤ t'.my ∧ t'.my ≤ 1 ∧ t'.exited = true ∧
      t'.running = t.running ∧ (t.my = 1 → t'.my = 1) := by
  obtain ⟨b1, b2, b3⟩ := hb
  obtain ⟨c1, c2, c3, c4⟩ := createN_spec t t.running
  simp only [lstep, lstepG, hx, Bool.false_eq_true, ↓reduceIte]
  split
  · rename_i hc
    simp [keepOne_my, keepOne_cheats, c1, c2] at hc
    omega
  · split
    · rename_i hc
      simp [keepOne_cheats, c1, c2] at hc
      omega
    · rename_i h1 h2
      refine ⟨_, rfl, ?_, ?_, rfl, ?_, ?_⟩
      · simp only; omega
      · simp [keepOne_my]; omega
      · simp [keepOne_running, c3]
      · simp [keepOne_my, c2]; omega

/-- `exitTop` is `exit` followed by the token taken back from the pipe when the process would leave with nothing. -/
theorem lstepG_exitTop (fr fe : Bool) (t : LS) :
    lstepG fr fe t .exitTop =
      match lstepG fr fe t .exit with
      | .ok t' => .ok (if t'.my = 0 ∧ t'.cheats = 0 then { t' with my := 1 } else t')
      | r => r := by
  simp only [lstepG]
  split
  · rfl
  · split
    · rfl
    · split
      · rfl
      · simp only
        split <;> rfl

/-- `do_force_return_tokens` does not depend on which event loop (pinned or repaired) ran before it. -/
theorem lstepG_exit_indep (fr fe : Bool) (t : LS) : lstepG fr fe t .exit = lstepG true true t .exit := rfl

theorem lstepG_exitTop_indep (fr fe : Bool) (t : LS) : lstepG fr fe t .exitTop = lstepG true true t .exitTop := rfl

/-- The exit of the top of a redo tree from a `Backed` state: it happens (before the first exit) and the process leaves
with exactly one token. -/
theorem lstep_exitTop {t : LS} (hb : Backed t) (hx : t.exited = false) :
    ∃ t', lstep true t .exitTop = .ok t' ∧ t'.cheats ≤ t'.my ∧ t'.my = 1 ∧ t'.exited = true ∧
      t'.running = t.running := by
  obtain ⟨u, h1, h2, h3, h4, h5, _⟩ := lstep_exit hb hx
  simp only [lstep] at h1
  simp only [lstep, lstepG_exitTop, h1]
  refine ⟨_, rfl, ?_⟩
  split
  · rename_i hc
    exact ⟨by simp only; omega, rfl, h4, h5⟩
  · rename_i hc
    exact ⟨h2, by omega, h4, h5⟩

def runningDelta : LEv → Int
  | .childExit => -1
  | .childExitEat => -1
  | .start => 1
  | _ => 0

/-- An accepted step of the repaired loop other than the exit, by one case analysis: at most one token stays at most one,
`Backed` — at most one token, at most one cheat, the cheat backed by the token in hand or by a running child — is kept,
the process has not exited, `running` changes by `runningDelta`, and the steps of the event loop never take the
process's one token away. -/
theorem lstep_facts {t t' : LS} {e : LEv} (h : lstep true t e = .ok t') (he : e ≠ .exit) (he' : e ≠ .exitTop) :
    (t.my ≤ 1 → t'.my ≤ 1) ∧ (Backed t → Backed t') ∧ t'.exited = false ∧
    (t'.running : Int) = t.running + runningDelta e ∧
    (e = .childExit ∨ e = .childExitEat ∨ e = .tokenRead ∨ e = .cheat → t.my = 1 → t'.my = 1) := by
  have hx := lstep_live h
  unfold Backed
  cases e
  case exit => exact absurd rfl he
  case exitTop => exact absurd rfl he'
  all_goals simp only [lstep, lstepG, hx, Bool.false_eq_true, ↓reduceIte] at h
  all_goals repeat' split at h
  all_goals cases h
  all_goals simp_all [release, keepOne_my, keepOne_cheats, keepOne_running, keepOne_exited, runningDelta]
  all_goals omega

/-- `do_force_return_tokens` from any state: at most one token is left, and `running` keeps its value. -/
theorem lstep_exit_fields {t t' : LS} {e : LEv} (he : e = .exit ∨ e = .exitTop) (h : lstep true t e = .ok t') :
    t'.my ≤ 1 ∧ t'.running = t.running := by
  have hx := lstep_live h
  have c3 := (createN_spec t t.running).2.2.1
  rcases he with rfl | rfl <;> simp only [lstep, lstepG, hx, Bool.false_eq_true, ↓reduceIte] at h <;>
    (repeat' split at h) <;> cases h <;> simp only [keepOne_running, c3, and_true]
  all_goals (try split) <;> simp [keepOne_my] <;> omega

theorem lstep_backed {t t' : LS} {e : LEv} (hb : Backed t) (h : lstep true t e = .ok t') : Backed t' := by
  have hx := lstep_live h
  cases e
  case exit => obtain ⟨u, h1, h2, h3, _⟩ := lstep_exit hb hx; rw [h1] at h; cases h; unfold Backed; omega
  case exitTop => obtain ⟨u, h1, h2, h3, _⟩ := lstep_exitTop hb hx; rw [h1] at h; cases h; unfold Backed; omega
  all_goals exact (lstep_facts h nofun nofun).2.1 hb

theorem lstep_not_exited {t t' : LS} {e : LEv} (he : e ≠ .exit) (he' : e ≠ .exitTop) (h : lstep true t e = .ok t') :
    t'.exited = false := (lstep_facts h he he').2.2.1

theorem lstep_env_keeps_one {t t' : LS} {e : LEv}
    (he : e = .childExit ∨ e = .childExitEat ∨ e = .tokenRead ∨ e = .cheat)
    (h : t.my = 1) (hs : lstep true t e = .ok t') : t'.my = 1 :=
  (lstep_facts hs (by rcases he with rfl | rfl | rfl | rfl <;> nofun)
    (by rcases he with rfl | rfl | rfl | rfl <;> nofun)).2.2.2.2 he h

theorem lstep_running {t t' : LS} {e : LEv} (hs : lstep true t e = .ok t') :
    (t'.running : Int) = t.running + runningDelta e := by
  cases e
  case exit => rw [(lstep_exit_fields (.inl rfl) hs).2]; simp [runningDelta]
  case exitTop => rw [(lstep_exit_fields (.inr rfl) hs).2]; simp [runningDelta]
  all_goals exact (lstep_facts hs nofun nofun).2.2.2.1

theorem lstep_my_le {t t' : LS} {e : LEv} (h : t.my ≤ 1) (hs : lstep true t e = .ok t') : t'.my ≤ 1 := by
  cases e
  case exit => exact (lstep_exit_fields (.inl rfl) hs).1
  case exitTop => exact (lstep_exit_fields (.inr rfl) hs).1
  all_goals exact (lstep_facts hs nofun nofun).1 h

/-- From a `Backed` state no assertion fails: neither the one of `start` (`my = 1`) nor the two of
`do_force_return_tokens` (`cheats ≤ my`, `cheats ≤ 1`). -/
theorem lstep_no_panic {t : LS} {e : LEv} (hb : Backed t) : lstep true t e ≠ .panic := by
  intro h
  have hx := lstep_panic_live h
  cases e
  case exit => obtain ⟨u, h1, _⟩ := lstep_exit hb hx; rw [h1] at h; cases h
  case exitTop => obtain ⟨u, h1, _⟩ := lstep_exitTop hb hx; rw [h1] at h; cases h
  all_goals simp only [lstep, lstepG, hx, Bool.false_eq_true, ↓reduceIte] at h
  all_goals repeat' split at h
  all_goals try cases h
  -- what is left is the assertion of `start`, with `my ≠ 0` and `my ≠ 1`
  have := hb.1; omega

/-- `start` and `release_mine` are "disabled" exactly without a token (before the exit); one poll of `wait_all` is
always possible. -/
theorem lstep_disabled_driven {t : LS} {e : LEv} (hx : t.exited = false)
    (he : e = .start ∨ e = .releaseMine ∨ e = .waitAll) (h : lstep true t e = .disabled) : t.my = 0 := by
  rcases he with rfl | rfl | rfl <;> simp only [lstep, lstepG, hx, Bool.false_eq_true, ↓reduceIte] at h
  · split at h
    · assumption
    · split at h <;> cases h
  · split at h
    · assumption
    · cases h
  · split at h <;> cases h

/-- The events at which the control flow drives the counter and needs a token for it. -/
def usesToken : Ev → Bool
  | .forked _ => true
  | .releaseMine => true
  | _ => false

theorem step_usesToken {c : Cfg} {s s' : St} {ev : Ev} (h : step c s ev = .ok s') (hu : usesToken ev = true) :
    needsTokenPc s.pc = true ∧ s'.tokHeld = false := by
  cases step_Step h <;> simp [usesToken, needsTokenPc, *] at hu ⊢

theorem step_tok_held {c : Cfg} {s s' : St} (h : step c s .tok = .ok s') : s'.tokHeld = true := by
  cases step_Step h <;> simp

theorem step_waitAll_held {c : Cfg} {s s' : St} (h : step c s .waitAll = .ok s') : s'.tokHeld = false := by
  cases step_Step h <;> simp

def touchesToken : Ev → Bool
  | .tok => true
  | .forked _ => true
  | .releaseMine => true
  | .waitAll => true
  | _ => false

theorem step_other_held {c : Cfg} {s s' : St} {ev : Ev} (h : step c s ev = .ok s') (hu : touchesToken ev = false) :
    s'.tokHeld = s.tokHeld := by
  cases step_Step h <;> simp [touchesToken, poll] at hu ⊢

theorem step_not_ended {c : Cfg} {s s' : St} {ev : Ev} (h : step c s ev = .ok s') (ok : Bool) : s.pc ≠ .ended ok := by
  intro hp
  unfold step at h
  rw [hp] at h
  cases h

theorem step_fin_ended {c : Cfg} {s s' : St} {ok : Bool} (h : step c s (.fin ok) = .ok s') : s'.pc = .ended ok := by
  cases step_Step h <;> rfl

/-- The control-flow invariant, "at most one token", whenever the control flow believes it has a token in hand
(`tokHeld`) the counter says so (`my = 1`), every cheat is backed, and the counter has exited only when `run` has
returned. -/
structure PInv (s : PSt) : Prop where
  ctl : Inv1 s.ctl
  le : s.tok.my ≤ 1
  hand : s.ctl.tokHeld = true → s.tok.my = 1
  backed : Backed s.tok
  live : s.tok.exited = true → ∃ ok, s.ctl.pc = .ended ok

/-- At the start, also for a process at the top of its redo tree under a foreign jobserver (any `treeTop`). -/
theorem PInv.initTop (top : Bool) : PInv { treeTop := top } :=
  ⟨Inv1.init, Nat.le_refl 1, nofun, (by simp [Backed]), nofun⟩

theorem PInv.init : PInv {} := PInv.initTop false

/-- Result of one product step from a state that satisfies the invariant: never `stuck`, never `panic`, and the
invariant is kept. -/
def Good : PRes → Prop
  | .ok s => PInv s
  | .reject _ => True
  | .stuck => False
  | .panic => False

theorem driven_good {s : PSt} {ctl' : St} {e : LEv} (hi : PInv s) (hx : s.tok.exited = false) (hc : Inv1 ctl')
    (hheld : ctl'.tokHeld = false) (he : e = .start ∨ e = .releaseMine ∨ e = .waitAll)
    (hone : e = .waitAll ∨ s.tok.my = 1) : Good (driven s ctl' e) := by
  unfold driven
  cases hl : lstep true s.tok e with
  | ok t =>
    have hne : e ≠ .exit := by rcases he with rfl | rfl | rfl <;> nofun
    have hne' : e ≠ .exitTop := by rcases he with rfl | rfl | rfl <;> nofun
    have hx' := lstep_not_exited hne hne' hl
    exact ⟨hc, (lstep_backed hi.backed hl).1, by simp [hheld], lstep_backed hi.backed hl, by simp [hx']⟩
  | disabled =>
    have h0 := lstep_disabled_driven hx he hl
    rcases hone with rfl | h1
    · obtain ⟨t', h1, _⟩ := lstep_waitAll s.tok hx
      rw [h1] at hl; cases hl
    · omega
  | panic => exact absurd hl (lstep_no_panic hi.backed)

/-- `do_force_return_tokens` when `run` returns. -/
theorem driven_exit_good {s : PSt} {ctl' : St} {ok : Bool} (hi : PInv s) (hx : s.tok.exited = false) (hc : Inv1 ctl')
    (hheld : ctl'.tokHeld = s.ctl.tokHeld) (hpc : ctl'.pc = .ended ok) : Good (driven s ctl' .exit) := by
  obtain ⟨t', h1, _, h3, _, _, h6⟩ := lstep_exit hi.backed hx
  unfold driven
  rw [h1]
  exact ⟨hc, h3, fun h => h6 (hi.hand (by rw [← hheld]; exact h)), lstep_backed hi.backed h1, fun _ => ⟨ok, hpc⟩⟩

/-- `do_force_return_tokens` of the top of a redo tree under a foreign jobserver when `run` returns. -/
theorem driven_exitTop_good {s : PSt} {ctl' : St} {ok : Bool} (hi : PInv s) (hx : s.tok.exited = false)
    (hc : Inv1 ctl') (hpc : ctl'.pc = .ended ok) : Good (driven s ctl' .exitTop) := by
  obtain ⟨t', h1, _, h3, _, _⟩ := lstep_exitTop hi.backed hx
  unfold driven
  rw [h1]
  exact ⟨hc, by simp only; omega, fun _ => h3, lstep_backed hi.backed h1, fun _ => ⟨ok, hpc⟩⟩

theorem env_good {s : PSt} {e : LEv} (hi : PInv s)
    (he : e = .childExit ∨ e = .childExitEat ∨ e = .tokenRead ∨ e = .cheat) : Good (env s e) := by
  unfold env
  cases hl : lstep true s.tok e with
  | ok t =>
    have hne : e ≠ .exit := by rcases he with rfl | rfl | rfl | rfl <;> nofun
    have hne' : e ≠ .exitTop := by rcases he with rfl | rfl | rfl | rfl <;> nofun
    have hx' := lstep_not_exited hne hne' hl
    exact ⟨hi.ctl, (lstep_backed hi.backed hl).1, fun h => lstep_env_keeps_one he (hi.hand h) hl,
      lstep_backed hi.backed hl, by simp [hx']⟩
  | disabled => trivial
  | panic => exact absurd hl (lstep_no_panic hi.backed)

theorem pstep_good {c : Cfg} {s : PSt} (hi : PInv s) (ev : PEv) : Good (pstep c s ev) := by
  cases ev with
  | childExit => exact env_good hi (.inl rfl)
  | childExitEat => exact env_good hi (.inr (.inl rfl))
  | tokenRead => exact env_good hi (.inr (.inr (.inl rfl)))
  | cheat => exact env_good hi (.inr (.inr (.inr rfl)))
  | ctl e =>
    simp only [pstep, pstepG]
    cases hs : step c s.ctl e with
    | error r => trivial
    | ok ctl' =>
      have hc : Inv1 ctl' := Inv1.step _ _ _ hs hi.ctl
      have hx : s.tok.exited = false := by
        cases hx : s.tok.exited with
        | false => rfl
        | true =>
          obtain ⟨ok, hp⟩ := hi.live hx
          exact absurd hp (step_not_ended hs ok)
      have keep : touchesToken e = false → Good (.ok { s with ctl := ctl' }) := fun hu =>
        ⟨hc, hi.le, fun h => hi.hand (by rw [← step_other_held hs hu]; exact h), hi.backed, by simp [hx]⟩
      cases e with
      | tok =>
        simp only [Bool.true_and]
        split
        · trivial
        · rename_i h0
          have h1 : s.tok.my = 1 := by
            have := hi.le
            simp at h0
            omega
          exact ⟨hc, hi.le, fun _ => h1, hi.backed, by simp [hx]⟩
      | forked f =>
        obtain ⟨hn, hh⟩ := step_usesToken hs rfl
        exact driven_good hi hx hc hh (.inl rfl) (.inr (hi.hand (hi.ctl.tok hn)))
      | releaseMine =>
        obtain ⟨hn, hh⟩ := step_usesToken hs rfl
        exact driven_good hi hx hc hh (.inr (.inl rfl)) (.inr (hi.hand (hi.ctl.tok hn)))
      | waitAll =>
        exact driven_good hi hx hc (step_waitAll_held hs) (.inr (.inr rfl)) (.inl rfl)
      | fin ok =>
        simp only
        split
        · exact driven_exitTop_good hi hx hc (step_fin_ended hs)
        · exact driven_exit_good hi hx hc (step_other_held hs rfl) (step_fin_ended hs)
      | _ => exact keep rfl

theorem prun_good {c : Cfg} {s : PSt} (hi : PInv s) (es : List PEv) : Good (prun c s es) := by
  induction es generalizing s with
  | nil => exact hi
  | cons e es ih =>
    have hg := pstep_good (c := c) hi e
    simp only [prun, prunG]
    simp only [pstep] at hg
    cases hp : pstepG true c s e with
    | ok s' => rw [hp] at hg; exact ih hg
    | reject r => trivial
    | stuck => rw [hp] at hg; exact hg
    | panic => rw [hp] at hg; exact hg

def isFork : PEv → Bool
  | .ctl (.forked _) => true
  | _ => false

def isExit : PEv → Bool
  | .childExit => true
  | .childExitEat => true
  | _ => false

/-- The step of the counter that an accepted product event takes (`top`: the process is the top of its redo tree). -/
def tokOf (top : Bool) : PEv → Option LEv
  | .ctl (.forked _) => some .start
  | .ctl .releaseMine => some .releaseMine
  | .ctl .waitAll => some .waitAll
  | .ctl (.fin _) => some (if top then .exitTop else .exit)
  | .ctl _ => none
  | .childExit => some .childExit
  | .childExitEat => some .childExitEat
  | .tokenRead => some .tokenRead
  | .cheat => some .cheat

def ctlOf : PEv → Option Ev
  | .ctl e => some e
  | _ => none

theorem env_ok {s s' : PSt} {e : LEv} (h : env s e = .ok s') :
    lstep true s.tok e = .ok s'.tok ∧ s'.ctl = s.ctl ∧ s'.treeTop = s.treeTop := by
  unfold env at h
  split at h <;> cases h
  exact ⟨‹_›, rfl, rfl⟩

theorem driven_ok {s s' : PSt} {ctl' : St} {e : LEv} (h : driven s ctl' e = .ok s') :
    lstep true s.tok e = .ok s'.tok ∧ s'.ctl = ctl' ∧ s'.treeTop = s.treeTop := by
  unfold driven at h
  split at h <;> cases h
  exact ⟨‹_›, rfl, rfl⟩

/-- An accepted product step is a step (or none) of each of the two machines, and `treeTop` never changes. -/
theorem pstep_ok {c : Cfg} {s s' : PSt} {ev : PEv} (h : pstep c s ev = .ok s') :
    s'.treeTop = s.treeTop ∧
    (match ctlOf ev with
      | some e => step c s.ctl e = .ok s'.ctl
      | none => s'.ctl = s.ctl) ∧
    (match tokOf s.treeTop ev with
      | some e => lstep true s.tok e = .ok s'.tok
      | none => s'.tok = s.tok) := by
  cases ev with
  | ctl e =>
    simp only [pstep, pstepG] at h
    cases hs : step c s.ctl e with
    | error r => rw [hs] at h; cases h
    | ok ctl' =>
      rw [hs] at h
      cases e with
      | tok => simp only at h; split at h <;> cases h; exact ⟨rfl, hs, rfl⟩
      | forked f => obtain ⟨a, b, d⟩ := driven_ok h; exact ⟨d, by rw [b]; exact hs, a⟩
      | releaseMine => obtain ⟨a, b, d⟩ := driven_ok h; exact ⟨d, by rw [b]; exact hs, a⟩
      | waitAll => obtain ⟨a, b, d⟩ := driven_ok h; exact ⟨d, by rw [b]; exact hs, a⟩
      | fin ok => obtain ⟨a, b, d⟩ := driven_ok h; exact ⟨d, by rw [b]; exact hs, a⟩
      | _ => cases h; exact ⟨rfl, hs, rfl⟩
  | _ => obtain ⟨a, b, d⟩ := env_ok h; exact ⟨d, b, a⟩

theorem tokOf_delta (top : Bool) (ev : PEv) : ((tokOf top ev).map runningDelta).getD 0 =
    (if isFork ev then 1 else 0) - (if isExit ev then 1 else 0) := by
  cases ev with
  | ctl e => cases e <;> first | rfl | (cases top <;> rfl)
  | _ => rfl

theorem pstep_running {c : Cfg} {s s' : PSt} {ev : PEv} (h : pstep c s ev = .ok s') :
    (s'.tok.running : Int) + (if isExit ev then 1 else 0) = s.tok.running + (if isFork ev then 1 else 0) := by
  have ht := (pstep_ok h).2.2
  have hd := tokOf_delta s.treeTop ev
  cases he : tokOf s.treeTop ev with
  | none =>
    rw [he] at ht hd
    simp only [Option.map_none, Option.getD_none] at hd
    rw [ht]; omega
  | some e =>
    rw [he] at ht hd
    have := lstep_running ht
    simp only [Option.map_some, Option.getD_some] at hd
    omega

theorem prun_iff {c : Cfg} {s s' : PSt} {es : List PEv} :
    prun c s es = .ok s' ↔ Reach (fun s e s1 => pstep c s e = .ok s1) s es s' := by
  induction es generalizing s with
  | nil => simp [prun, prunG, eq_comm]
  | cons e es ih =>
    simp only [prun, prunG, Reach.cons_iff, pstep]
    cases pstepG true c s e <;> simp [← ih, prun]

theorem prun_running {c : Cfg} {s s' : PSt} {es : List PEv} (h : prun c s es = .ok s') :
    s'.tok.running + es.countP isExit = s.tok.running + es.countP isFork := by
  have hr := prun_iff.1 h; clear h
  induction hr with
  | nil => simp
  | @cons s s1 s' e es h1 _ a =>
    have b := pstep_running h1
    simp only [List.countP_cons]
    cases hx : isExit e <;> cases hf : isFork e <;> simp [hx, hf] at b ⊢ <;> omega


theorem pstep_top {c : Cfg} {s s' : PSt} {ev : PEv} (hi : PInv s) (h : pstep c s ev = .ok s') :
    s'.treeTop = s.treeTop ∧
      (s.treeTop = true → (s.tok.exited = true → s.tok.my = 1) → s'.tok.exited = true → s'.tok.my = 1) := by
  obtain ⟨h1, _, ht⟩ := pstep_ok h
  refine ⟨h1, fun htop hk hx => ?_⟩
  rw [htop] at ht
  cases he : tokOf true ev with
  | none => rw [he] at ht; rw [ht] at hx ⊢; exact hk hx
  | some e =>
    rw [he] at ht
    by_cases h2 : e = .exitTop
    · subst h2
      obtain ⟨t', h3, _, h4, _⟩ := lstep_exitTop hi.backed (lstep_live ht)
      rw [show lstep true s.tok .exitTop = .ok s'.tok from ht] at h3; cases h3; exact h4
    · have h3 : e ≠ .exit := by
        rintro rfl
        cases ev with
        | ctl a => cases a <;> cases he
        | _ => cases he
      rw [lstep_not_exited h3 h2 ht] at hx; cases hx

/-- `treeTop` never changes, and after the exit the top of a redo tree holds one token. -/
theorem prun_top {c : Cfg} {s s' : PSt} {es : List PEv} (hi : PInv s) (h : prun c s es = .ok s') :
    s'.treeTop = s.treeTop ∧
      (s.treeTop = true → (s.tok.exited = true → s.tok.my = 1) → s'.tok.exited = true → s'.tok.my = 1) := by
  have hr := prun_iff.1 h; clear h
  induction hr with
  | nil => exact ⟨rfl, fun _ hk => hk⟩
  | @cons s s1 s' e es h1 _ ih =>
    have hg := pstep_good (c := c) hi e
    rw [h1] at hg
    obtain ⟨a1, a2⟩ := pstep_top hi h1
    obtain ⟨b1, b2⟩ := ih hg
    exact ⟨by rw [b1, a1], fun ht hk => b2 (by rw [a1]; exact ht) (a2 ht hk)⟩

/-- The product does not change the control flow. -/
theorem prun_ctl {c : Cfg} {s s' : PSt} {es : List PEv} (h : prun c s es = .ok s') :
    run c s.ctl (es.filterMap ctlOf) = .ok s'.ctl :=
  run_iff.2 (Reach.filterMap (Q := fun s e s1 => step c s e = .ok s1) PSt.ctl ctlOf (prun_iff.1 h)
    (fun _ _ _ _ h hg => by have := (pstep_ok h).2.1; rwa [hg] at this)
    (fun _ _ _ h hg => by have := (pstep_ok h).2.1; rwa [hg] at this))

end RedoModel.RunTok
