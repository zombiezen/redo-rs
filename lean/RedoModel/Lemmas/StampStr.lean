import RedoModel.StampStr
/-! Helper lemmas about the stamp strings (`RedoModel/StampStr.lean`). -/
namespace RedoModel.StampStr

theorem num_eq (n : Nat) : num n = Nat.toDigits 10 n := by
  simp [num, Nat.toString_eq_repr, Nat.toList_repr]

theorem num_ne_nil (n : Nat) : num n ≠ [] := by
  rw [num_eq]; exact Nat.toDigits_ne_nil

theorem num_isDigit (n : Nat) : ∀ c ∈ num n, c.isDigit = true := by
  intro c hc; rw [num_eq] at hc
  exact Nat.isDigit_of_mem_toDigits (by decide) (by decide) hc

theorem num_inj {a b : Nat} (h : num a = num b) : a = b := by
  rw [num_eq, num_eq] at h
  have := congrArg (fun l => Nat.ofDigitChars 10 l 0) h
  simpa [Nat.ofDigitChars_ten_toDigits] using this

theorem num_no_dash (n : Nat) : '-' ∉ num n := fun h => by
  have := num_isDigit n _ h; revert this; decide

theorem num_no_plus (n : Nat) : '+' ∉ num n := fun h => by
  have := num_isDigit n _ h; revert this; decide

theorem span_loop_eq {α} (p : α → Bool) (t acc : List α) :
    List.span.loop p t acc = (acc.reverse ++ t.takeWhile p, t.dropWhile p) := by
  induction t generalizing acc with
  | nil => simp [List.span.loop]
  | cons c t ih => cases hc : p c <;> simp [List.span.loop, hc, ih]

theorem span_eq {α} (p : α → Bool) (t : List α) : t.span p = (t.takeWhile p, t.dropWhile p) := by
  simp [List.span, span_loop_eq]

theorem span_stop {α} (p : α → Bool) (a r : List α) (c : α) (h : ∀ x ∈ a, p x = true)
    (hc : p c = false) : (a ++ c :: r).span p = (a, c :: r) := by
  simp [span_eq, List.takeWhile_append_of_pos h, List.dropWhile_append_of_pos h, hc]

theorem span_all {α} (p : α → Bool) (a : List α) (h : ∀ x ∈ a, p x = true) :
    a.span p = (a, []) := by
  simpa [span_eq] using And.intro (List.takeWhile_append_of_pos (l₂ := []) h) (List.dropWhile_append_of_pos (l₂ := []) h)

theorem span_dash (a r : List Char) (h : '-' ∉ a) :
    (a ++ '-' :: r).span (· ≠ '-') = (a, '-' :: r) :=
  span_stop _ a r '-' (fun x hx => by simp; rintro rfl; exact h hx) (by simp)

theorem span_nodash (a : List Char) (h : '-' ∉ a) : a.span (· ≠ '-') = (a, []) :=
  span_all _ a (fun x hx => by simp; rintro rfl; exact h hx)

theorem crit_two (a b r : List Char) (ha : '-' ∉ a) (hb : '-' ∉ b) :
    crit (a ++ '-' :: b ++ '-' :: r) = [a, b] := by
  have e : a ++ '-' :: b ++ '-' :: r = a ++ '-' :: (b ++ '-' :: r) := by simp
  rw [e]
  simp only [crit, splitn, span_dash _ _ ha, span_dash _ _ hb, List.take]

theorem crit_one (a : List Char) (ha : '-' ∉ a) : crit a = [a] := by
  simp only [crit, splitn, span_nodash _ ha, List.take]

theorem span_spec {α} (p : α → Bool) (t x y : List α) (h : t.span p = (x, y)) :
    t = x ++ y ∧ ∀ z ∈ x, p z = true := by
  rw [span_eq] at h
  obtain ⟨rfl, rfl⟩ := Prod.mk.inj h
  exact ⟨List.takeWhile_append_dropWhile.symm, List.all_eq_true.1 List.all_takeWhile⟩

theorem timeOk_shape (t : List Char) (h : timeOk t = true) :
    ∃ a b, t = a ++ '.' :: b ∧ a ≠ [] ∧ b ≠ [] ∧ (∀ c ∈ a, c.isDigit = true) ∧
      (∀ c ∈ b, c.isDigit = true) := by
  unfold timeOk at h
  split at h
  · rename_i a b heq
    have ⟨e, ha⟩ := span_spec _ _ _ _ heq
    simp only [Bool.and_eq_true, Bool.not_eq_true', List.isEmpty_eq_false_iff, List.all_eq_true] at h
    exact ⟨a, b, e, h.1.1, h.1.2, ha, h.2⟩
  · cases h

theorem timeOk_chars (t : List Char) (h : timeOk t = true) :
    t ≠ [] ∧ ∀ c ∈ t, c.isDigit = true ∨ c = '.' := by
  obtain ⟨a, b, rfl, _, _, ha, hb⟩ := timeOk_shape t h
  refine ⟨by simp, fun c hc => ?_⟩
  simp only [List.mem_append, List.mem_cons] at hc
  rcases hc with hc | rfl | hc
  · exact .inl (ha c hc)
  · exact .inr rfl
  · exact .inl (hb c hc)

theorem timeOk_no_dash (t : List Char) (h : timeOk t = true) : '-' ∉ t := fun hm => by
  rcases (timeOk_chars t h).2 _ hm with h | h <;> revert h <;> decide

theorem timeOk_no_plus (t : List Char) (h : timeOk t = true) : '+' ∉ t := fun hm => by
  rcases (timeOk_chars t h).2 _ hm with h | h <;> revert h <;> decide

theorem timeOk_has_dot (t : List Char) (h : timeOk t = true) : '.' ∈ t := by
  obtain ⟨a, b, rfl, _⟩ := timeOk_shape t h; simp

/-- The tail of a rendered stamp after the size field. -/
def tail3 (m : Meta) : List Char :=
  num m.ino ++ '-' :: num m.mode ++ '-' :: num m.uid ++ '-' :: num m.gid

theorem render_eq (m : Meta) : render m = m.mtime ++ '-' :: num m.size ++ '-' :: tail3 m := by
  simp [render, tail3]

theorem crit_render_app (m : Meta) (h : timeOk m.mtime = true) (s : List Char) :
    crit (render m ++ s) = [m.mtime, num m.size] := by
  have e : render m ++ s = m.mtime ++ '-' :: num m.size ++ '-' :: (tail3 m ++ s) := by
    simp [render_eq]
  rw [e]; exact crit_two _ _ _ (timeOk_no_dash _ h) (num_no_dash _)

theorem crit_missing : crit missing = [missing] := by decide
theorem dir_chars : dir = ['d', 'i', 'r'] := String.toList_ofList

theorem crit_dir : crit dir = [dir] := by rw [dir_chars]; decide

theorem timeOk_ne_missing (t : List Char) (h : timeOk t = true) : t ≠ missing := by
  rintro rfl; revert h; decide

theorem timeOk_ne_dir (t : List Char) (h : timeOk t = true) : t ≠ dir := by
  rintro rfl; rw [dir_chars] at h; revert h; decide

theorem split_first_dash (x : List Char) :
    '-' ∉ x ∨ ∃ a r, x = a ++ '-' :: r ∧ '-' ∉ a := by
  induction x with
  | nil => left; simp
  | cons c x ih =>
    by_cases hc : c = '-'
    · right; exact ⟨[], x, by simp [hc], by simp⟩
    · rcases ih with h | ⟨a, r, e, ha⟩
      · left; simp [h, Ne.symm hc]
      · right; exact ⟨c :: a, r, by simp [e], by simp [ha, Ne.symm hc]⟩

theorem crit_app_of_two_dashes (x s : List Char) (h : 2 ≤ x.count '-') :
    crit (x ++ s) = crit x := by
  rcases split_first_dash x with h0 | ⟨a, r, rfl, ha⟩
  · rw [List.count_eq_zero_of_not_mem h0] at h; omega
  · have h1 : 1 ≤ r.count '-' := by
      simp [List.count_append, List.count_eq_zero_of_not_mem ha] at h
      exact List.count_pos_iff.2 h
    rcases split_first_dash r with h0 | ⟨b, r', rfl, hb⟩
    · rw [List.count_eq_zero_of_not_mem h0] at h1; omega
    · have e1 : a ++ '-' :: (b ++ '-' :: r') ++ s = a ++ '-' :: b ++ '-' :: (r' ++ s) := by simp
      have e2 : a ++ '-' :: (b ++ '-' :: r') = a ++ '-' :: b ++ '-' :: r' := by simp
      rw [e1, e2, crit_two _ _ _ ha hb, crit_two _ _ _ ha hb]

theorem render_two_dashes (m : Meta) : 2 ≤ (render m).count '-' := by
  simp [render_eq, List.count_append]; omega

theorem crit_render_app_any (m : Meta) (s : List Char) : crit (render m ++ s) = crit (render m) :=
  crit_app_of_two_dashes _ _ (render_two_dashes m)

theorem detect_iff_crit_ne (a b : List Char) : detectOverride a b = true ↔ crit a ≠ crit b := by
  unfold detectOverride
  by_cases e : a = b <;> simp [e]

theorem detect_false_iff (a b : List Char) : detectOverride a b = false ↔ crit a = crit b := by
  rw [← Bool.not_eq_true, detect_iff_crit_ne]
  exact Classical.not_not

theorem fields_ne_iff (a b : Meta) :
    [a.mtime, num a.size] ≠ [b.mtime, num b.size] ↔ a.mtime ≠ b.mtime ∨ a.size ≠ b.size := by
  rw [← Classical.not_and_iff_not_or_not, ne_eq, List.cons.injEq, List.cons.injEq]
  exact not_congr (and_congr_right fun _ => ⟨fun h => num_inj h.1, fun h => ⟨congrArg num h, rfl⟩⟩)

/-! A concrete injective coding (for non-vacuity of the abstraction theorem). -/
def encL : List Nat → Nat
  | [] => 0
  | x :: xs => 2 ^ x * (2 * encL xs + 1)

theorem pow_odd_inj : ∀ (x y a b : Nat), 2 ^ x * (2 * a + 1) = 2 ^ y * (2 * b + 1) → x = y ∧ a = b
  | 0, 0, a, b, h => by simp at h; exact ⟨rfl, by omega⟩
  | 0, y + 1, a, b, h => by
    rw [Nat.pow_succ, Nat.mul_right_comm] at h
    generalize 2 ^ y * (2 * b + 1) = z at h; omega
  | x + 1, 0, a, b, h => by
    rw [Nat.pow_succ, Nat.mul_right_comm] at h
    generalize 2 ^ x * (2 * a + 1) = z at h; omega
  | x + 1, y + 1, a, b, h => by
    rw [Nat.pow_succ, Nat.pow_succ, Nat.mul_right_comm, Nat.mul_right_comm (2 ^ y)] at h
    have := pow_odd_inj x y a b (Nat.eq_of_mul_eq_mul_right (by decide) h)
    exact ⟨by omega, this.2⟩

theorem encL_cons_pos (x : Nat) (xs : List Nat) : 0 < encL (x :: xs) :=
  Nat.mul_pos (Nat.pow_pos (by decide)) (by omega)

theorem encL_inj : Function.Injective encL := by
  intro l
  induction l with
  | nil =>
    intro m h
    cases m with
    | nil => rfl
    | cons y ys => have := encL_cons_pos y ys; simp only [encL] at h this; omega
  | cons x xs ih =>
    intro m h
    cases m with
    | nil => have := encL_cons_pos x xs; simp only [encL] at h this; omega
    | cons y ys =>
      obtain ⟨rfl, e⟩ := pow_odd_inj _ _ _ _ h
      rw [ih e]

def encS0 (s : List Char) : Nat := encL (s.map Char.toNat)
def encK0 (k : List (List Char)) : Nat := encL (k.map encS0)

theorem encS0_inj : Function.Injective encS0 := fun _ _ h =>
  (List.map_inj_right (fun _ _ e => Char.toNat_inj.1 e)).1 (encL_inj h)

theorem encK0_inj : Function.Injective encK0 := fun _ _ h =>
  (List.map_inj_right (fun _ _ e => encS0_inj e)).1 (encL_inj h)

end RedoModel.StampStr
