import RedoModel.StatusLine
/-!
Helper lemmas for `RedoModel/StatusLine.lean`: byte lengths of concatenations, the cut at a character boundary
(`dropBytes_spec`), and the loop invariant of `tailLoop` (the status never grows past the terminal width when there is
room for `... `).
-/
namespace RedoModel.StatusLine

@[simp] theorem blen_nil : blen [] = 0 := rfl

@[simp] theorem blen_cons (c : Char) (cs : List Char) : blen (c :: cs) = c.utf8Size + blen cs := rfl

@[simp] theorem blen_append (a b : List Char) : blen (a ++ b) = blen a + blen b := by
  induction a with
  | nil => simp
  | cons c cs ih => simp [ih, Nat.add_assoc]

@[simp] theorem utf8Size_space : (' ' : Char).utf8Size = 1 := by decide

@[simp] theorem utf8Size_dot : ('.' : Char).utf8Size = 1 := by decide

@[simp] theorem blen_dots : blen dots = 3 := by decide

theorem dropBytes_nil (k : Nat) : dropBytes k [] = [] := rfl

theorem dropBytes_cons (k : Nat) (c : Char) (cs : List Char) :
    dropBytes k (c :: cs) = if k = 0 then c :: cs else dropBytes (k - c.utf8Size) cs := rfl

theorem dropBytes_zero (s : List Char) : dropBytes 0 s = s := by
  cases s <;> simp [dropBytes]

/-- Where `dropBytes k` cuts: the name is the dropped characters followed by the rest, and the cut is at the first
character boundary at or after byte `k`. -/
theorem dropBytes_spec (k : Nat) (s : List Char) :
    ∃ p, s = p ++ dropBytes k s ∧ (k ≤ blen s → k ≤ blen p) ∧ ∀ q c, p = q ++ [c] → blen q < k := by
  induction s generalizing k with
  | nil => exact ⟨[], rfl, fun h => by simpa using h, fun q c h => by simp at h⟩
  | cons c cs ih =>
    rw [dropBytes_cons]
    split
    · exact ⟨[], rfl, fun _ => by omega, fun q c h => by simp at h⟩
    · obtain ⟨p, hp, hk, hm⟩ := ih (k - c.utf8Size)
      refine ⟨c :: p, by rw [List.cons_append, ← hp], fun h => ?_, fun q d hq => ?_⟩
      · rw [blen_cons] at *
        have := hk (by omega)
        omega
      · cases q with
        | nil => simp only [blen_nil]; omega
        | cons e q' =>
          simp only [List.cons_append, List.cons.injEq] at hq
          obtain ⟨rfl, hq⟩ := hq
          have := hm q' d hq
          rw [blen_cons]; omega

theorem dropBytes_blen (k : Nat) (s : List Char) (h : k ≤ blen s) : blen (dropBytes k s) + k ≤ blen s := by
  obtain ⟨p, hp, hk, -⟩ := dropBytes_spec k s
  have := congrArg blen hp
  rw [blen_append] at this
  have := hk h
  omega

/-- Loop invariant of `tailLoop`: with room for a final `... `, head and tail together stay within `width` bytes. -/
theorem tailLoop_fits (width hlen : Nat) (names : List (List Char)) (tail : List Char)
    (h : hlen + blen tail + 4 ≤ width) : hlen + blen (tailLoop width hlen names tail) ≤ width := by
  induction names generalizing tail with
  | nil => simp only [tailLoop]; omega
  | cons n ns ih =>
    simp only [tailLoop]
    split
    · rename_i hc
      split
      · simp only [blen_append, blen_cons, blen_dots, utf8Size_space]; omega
      · rename_i hd
        simp only [Bool.or_eq_true, decide_eq_true_eq, not_or, Nat.not_lt] at hc hd
        have hk := dropBytes_blen (blen n - (width - (hlen + blen tail) - 3 - 1)) n (by omega)
        simp only [blen_append, blen_cons, blen_dots, utf8Size_space]
        omega
    · rename_i hc
      simp only [Bool.or_eq_true, decide_eq_true_eq, not_or, Nat.not_lt, Nat.not_le] at hc
      split
      · apply ih
        simp only [blen_append, blen_cons, utf8Size_space]
        omega
      · exact ih tail h

end RedoModel.StatusLine
