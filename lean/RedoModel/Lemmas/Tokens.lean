import RedoModel.Tokens
import RedoModel.Lemmas.Reach
/-! C08, the token acceptor of `RedoModel/Tokens.lean`: the sums over its table, and what an accepted step or run says,
as equivalences. -/
namespace RedoModel.Tokens

/-! `sumProcs` and `freeJobs` are sums of a weight over the entries of a table; `set` and `del` change the sum by
the weight of the entry they touch. -/

def total {α} (w : α → Int) (l : List (Nat × α)) : Int := (l.map (fun e => w e.2)).sum

theorem total_cons {α} (w : α → Int) (k : Nat) (x : α) (l : List (Nat × α)) :
    total w ((k, x) :: l) = w x + total w l := by
  simp [total]

theorem total_set {α} (w : α → Int) (l : List (Nat × α)) (k : Nat) (x y : α) (h : find? l k = some x) :
    total w (set l k y) = total w l - w x + w y := by
  induction l with
  | nil => simp [find?] at h
  | cons e r ih =>
    obtain ⟨k', v'⟩ := e
    by_cases hk : k' = k
    · simp only [find?, hk, if_true, Option.some.injEq] at h
      subst h
      simp only [set, hk, if_true, total_cons]
      omega
    · simp only [find?, hk, if_false] at h
      simp only [set, hk, if_false, total_cons, ih h]
      omega

theorem total_del {α} (w : α → Int) (l : List (Nat × α)) (k : Nat) (x : α) (h : find? l k = some x) :
    total w (del l k) = total w l - w x := by
  induction l with
  | nil => simp [find?] at h
  | cons e r ih =>
    obtain ⟨k', v'⟩ := e
    by_cases hk : k' = k
    · simp only [find?, hk, if_true, Option.some.injEq] at h
      subst h
      simp only [del, hk, if_true, total_cons]
      omega
    · simp only [find?, hk, if_false] at h
      simp only [del, hk, if_false, total_cons, ih h]
      omega

theorem sumProcs_cons (k : Nat) (x : Proc) (l : List (Nat × Proc)) :
    sumProcs ((k, x) :: l) = contrib x + sumProcs l :=
  total_cons contrib k x l

theorem sumProcs_set (l : List (Nat × Proc)) (k : Nat) (x y : Proc) (h : find? l k = some x) :
    sumProcs (set l k y) = sumProcs l - contrib x + contrib y :=
  total_set contrib l k x y h

theorem sumProcs_del (l : List (Nat × Proc)) (k : Nat) (x : Proc) (h : find? l k = some x) :
    sumProcs (del l k) = sumProcs l - contrib x :=
  total_del contrib l k x h

def jobVal (j : JobSt) : Int := if j.delegated then 0 else 1

theorem freeJobs_cons (k : Nat) (j : JobSt) (l : List (Nat × JobSt)) :
    freeJobs ((k, j) :: l) = jobVal j + freeJobs l := by
  unfold freeJobs jobVal
  cases h : j.delegated <;> simp [List.filter, h] <;> omega

theorem freeJobs_eq_total (l : List (Nat × JobSt)) : freeJobs l = total jobVal l := by
  induction l with
  | nil => rfl
  | cons e r ih => rw [freeJobs_cons, total_cons, ih]

theorem freeJobs_set (l : List (Nat × JobSt)) (k : Nat) (x y : JobSt) (h : find? l k = some x) :
    freeJobs (set l k y) = freeJobs l - jobVal x + jobVal y := by
  rw [freeJobs_eq_total, freeJobs_eq_total, total_set jobVal l k x y h]

theorem freeJobs_del (l : List (Nat × JobSt)) (k : Nat) (x : JobSt) (h : find? l k = some x) :
    freeJobs (del l k) = freeJobs l - jobVal x := by
  rw [freeJobs_eq_total, freeJobs_eq_total, total_del jobVal l k x h]

theorem contrib_createN (x : Proc) (n : Nat) : contrib (createN x n) = contrib x := by
  induction n with
  | zero => rfl
  | succ n ih =>
    simp only [createN]
    split <;> simp only [contrib] at ih ⊢ <;> omega

/-!
# When the token acceptor accepts

`Tokens.step` is a ladder of guards (`if … then .error … else …`) under `withProc`, ending in `check`.  Read from the
side of an accepted step, each rung is a conjunct: these three equivalences turn `step s e = .ok s'` into the guards
that held and the state that resulted.  `run_iff` does the same for a whole run.
-/

theorem ite_error_ok {c : Prop} [Decidable c] {r : Reject} {k : Except Reject State} {s' : State} :
    (if c then .error r else k) = .ok s' ↔ ¬ c ∧ k = .ok s' := by
  split <;> simp [*]

theorem check_ok_iff {w : String} {p : Nat} {x : Proc} {my cheats : Int} {s s' : State} :
    check w p x my cheats s = .ok s' ↔ (x.my = my ∧ x.cheats = cheats) ∧ s = s' := by
  unfold check
  split <;> simp [*]

theorem withProc_ok_iff {s : State} {p : Nat} {f : Proc → Except Reject State} {s' : State} :
    withProc s p f = .ok s' ↔ ∃ x, find? s.procs p = some x ∧ f x = .ok s' := by
  unfold withProc
  split <;> simp [*]

theorem run_iff {s s' : State} {es : List Ev} :
    run s es = .ok s' ↔ Reach (fun s e s1 => step s e = .ok s1) s es s' := by
  induction es generalizing s with
  | nil => simp [run, eq_comm]
  | cons e es ih => simp only [run, Reach.cons_iff]; cases step s e <;> simp [ih]

end RedoModel.Tokens
