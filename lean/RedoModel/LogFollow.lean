/-
`redo-log --follow` on ONE target while that target may be under construction: the loop of `LogState::catlog`
(src/bin/redo/log.rs:196-267) against the builder's side (src/builder.rs:294-320, 394-407; lock of the target).

Builder of the target (whoever holds the target's lock):
  lock      the target's lock is taken (`builder::run`, then `BuildJob::start`); the log file at the log name is
            still the one of the PREVIOUS build, if there was one
  create    `start_self` decided to run the script: a fresh, empty instance is renamed over the log name
            (before the `do` record is written anywhere, "so redo-log won't trace into an obsolete logfile")
  append l  the script (or anything below it) writes a line; only while the instance is the current one and
            the lock is held
  unlock    the result has been recorded (or the target was found clean: no `create` in between)

Follower (one call of `catlog` for this target, `--follow`):
  start     `was_locked = is_locked(fid)`                                  (log.rs:193)
  top       `if f.is_none() { open(logname) }`  — once a descriptor is open it is kept: a later instance
            renamed over the name is NOT seen through it                   (log.rs:197-208)
  read      `read_line`: the next line of the open instance, or end of file; at end of file
            `!was_locked` ends the loop                                     (log.rs:209-223)
  check     `was_locked = is_locked(fid)`, sleep, again                    (log.rs:224-266)

Lines are whole lines here (the reassembly of partial reads, `line_head`, is `feed` below).  Any interleaving of
builder events and follower steps is a run.
-/
namespace RedoModel.LogFollow

inductive Phase
  | idle            -- lock free
  | lockedNoLog     -- lock held, no instance created under this lock yet
  | building        -- lock held, the current instance belongs to this build
  deriving DecidableEq, Repr

inductive Pc
  | start | top | read | check | stopped
  deriving DecidableEq, Repr

structure Sys where
  insts : List (List Nat)        -- every instance that ever was at the log name, oldest first; the last one is there now
  phase : Phase
  pc : Pc := .start
  opened : Option Nat := none     -- which instance the follower's descriptor refers to (index into `insts`)
  pos : Nat := 0
  wasLocked : Bool := false
  emitted : List Nat := []        -- most recent first
  deriving DecidableEq, Repr

inductive Ev
  | lock
  | create
  | append (l : Nat)
  | unlock
  | fol                           -- one step of the follower
  deriving DecidableEq, Repr

/-- Append `l` to the last instance. -/
def appendLast : List (List Nat) → Nat → List (List Nat)
  | [], _ => []
  | [x], l => [x ++ [l]]
  | x :: y :: r, l => x :: appendLast (y :: r) l

def locked (s : Sys) : Bool := s.phase != .idle

def step (s : Sys) : Ev → Option Sys
  | .lock => if s.phase = .idle then some { s with phase := .lockedNoLog } else none
  | .create => if s.phase = .lockedNoLog then some { s with phase := .building, insts := s.insts ++ [[]] } else none
  | .append l => if s.phase = .building then some { s with insts := appendLast s.insts l } else none
  | .unlock => if s.phase = .idle then none else some { s with phase := .idle }
  | .fol =>
    match s.pc with
    | .start => some { s with wasLocked := locked s, pc := .top }
    | .top =>
      match s.opened with
      | some _ => some { s with pc := .read }
      | none =>
        if s.insts.isEmpty then some { s with pc := .read }
        else some { s with opened := some (s.insts.length - 1), pos := 0, pc := .read }
    | .read =>
      let line : Option Nat := match s.opened with
        | some g => (s.insts.getD g [])[s.pos]?
        | none => none
      (match line with
       | some l => some { s with emitted := l :: s.emitted, pos := s.pos + 1, pc := .top }
       | none => if s.wasLocked then some { s with pc := .check } else some { s with pc := .stopped })
    | .check => some { s with wasLocked := locked s, pc := .top }
    | .stopped => none

def run (s : Sys) : List Ev → Option Sys
  | [] => some s
  | e :: es =>
    match step s e with
    | none => none
    | some s' => run s' es

/-- Index of the first rejected event (trace replay). -/
def runIdx (s : Sys) : List Ev → Nat → Except Nat Sys
  | [], _ => .ok s
  | e :: es, i =>
    match step s e with
    | none => .error i
    | some s' => runIdx s' es (i + 1)

/-- What is at the log name now. -/
def current (s : Sys) : List Nat := s.insts.getLast?.getD []

/-- The follower enters the target's log (it has just read a record naming the target). -/
def enter (insts : List (List Nat)) (phase : Phase) : Sys := { insts := insts, phase := phase }

/-! ### Reassembly of partial reads (`line_head`, log.rs:270-278 and 385-388)

`read_line` returns the bytes up to and including the next newline, or — at the current end of a growing file — a
piece without newline.  Pieces are glued until a newline arrives. -/

/-- One non-empty result of `read_line` (`10` is the newline).  Returns the new `line_head` and the completed line,
if any (without its newline). -/
def feed (head : List Nat) (piece : List Nat) : List Nat × Option (List Nat) :=
  if piece.getLast? = some 10 then ([], some (head ++ piece.dropLast))
  else (head ++ piece, none)

/-- All pieces of a session: completed lines in order, and the unterminated rest. -/
def feedAll : List Nat → List (List Nat) → List (List Nat) × List Nat
  | head, [] => ([], head)
  | head, p :: ps =>
    match feed head p with
    | (h, some l) => let (ls, r) := feedAll h ps; (l :: ls, r)
    | (h, none) => feedAll h ps

/-- Reference: split a byte stream at newlines: complete lines and the unterminated rest. -/
def splitLines : List Nat → List Nat → List (List Nat) × List Nat
  | acc, [] => ([], acc)
  | acc, b :: bs =>
    if b = 10 then let (ls, r) := splitLines [] bs; (acc :: ls, r)
    else splitLines (acc ++ [b]) bs

/-- What `read_line` can return: non-empty, no newline except possibly as the last byte. -/
def Piece (p : List Nat) : Prop := p ≠ [] ∧ 10 ∉ p.dropLast


/-! ### What is observable of a follower session on a real trace (hooks `log.enter/open/check/stop`,
`job.logfile`, and the lock events of the target's builder)

Reads and appends are not traced; the acceptor below checks, on the events that are, exactly the conditions the
completeness theorem needs (`C18.follow_complete_partial`): the follower believes the target free only when it is
(`unsoundFree`), it stops only after having seen it free (`stopWhileLocked`) and at an end-of-file read made after
that probe (`stopWithoutReread`; hook `log.eof`), and no new instance is created at the log
name while the follower holds a descriptor on an older one — either because it opened the previous build's instance
while the builder already held the lock (`staleOpen`, hypothesis `ha` of `C18.follow_complete_one_build_partial`) or
because the target is built again during the session (`rebuiltDuringFollow`, `createAfterFree`; hypothesis `hb` of
either theorem: no `create`, or no second `lock`, during the session).
Together these are the condition `CreateSafe` of `C18.follow_complete_general`: every `create` happens while the
follower has no descriptor open and has not yet seen the target free. -/
namespace Obs

structure FolSt where
  opened : Option Nat := none        -- inode of the instance the descriptor refers to
  openedUnderLock : Bool := false    -- it was opened while a builder held the lock without having created its instance
  wasLocked : Bool
  eofSince : Bool := false           -- a read has hit the end of the file since the lock was last probed
  deriving DecidableEq, Repr

structure OSt where
  phase : Phase := .idle
  cur : Option Nat := none            -- inode of the instance created most recently in this trace (none: not known)
  fol : Option FolSt := none
  deriving DecidableEq, Repr

inductive OEv
  | lock | create (ino : Nat) | unlock
  | enter (b : Bool) | opened (ino : Nat) | check (b : Bool) | eof | stop
  deriving DecidableEq, Repr

inductive Flag
  | badOrder | unsoundFree | stopWhileLocked | staleOpen | rebuiltDuringFollow | wrongInstance | createAfterFree
  | stopWithoutReread
  deriving DecidableEq, Repr

def ostep (s : OSt) : OEv → Except Flag OSt
  | .lock => if s.phase = .idle then .ok { s with phase := .lockedNoLog } else .error .badOrder
  | .create ino =>
    if s.phase ≠ .lockedNoLog then .error .badOrder else
    match s.fol with
    | some f =>
      (match f.opened with
       | some o =>
         -- (the follower's `open` of the fresh instance may be logged before the builder's `create` of it)
         if o = ino then
           (if f.wasLocked then .ok { s with phase := .building, cur := some ino, fol := some { f with openedUnderLock := false } }
            else .error .createAfterFree)
         else .error (if f.openedUnderLock then .staleOpen else .rebuiltDuringFollow)
       | none =>
         -- no descriptor yet: safe only if the follower still believes the target locked (`CreateSafe` of the proofs)
         if f.wasLocked then .ok { s with phase := .building, cur := some ino } else .error .createAfterFree)
    | none => .ok { s with phase := .building, cur := some ino }
  | .unlock => if s.phase = .idle then .error .badOrder else .ok { s with phase := .idle }
  | .enter b =>
    match s.fol with
    | some _ => .error .badOrder
    | none => if !b && s.phase != .idle then .error .unsoundFree else .ok { s with fol := some { wasLocked := b } }
  | .opened ino =>
    match s.fol with
    | none => .error .badOrder
    | some f =>
      if f.opened.isSome then .error .badOrder
      else if s.phase = .building ∧ s.cur ≠ some ino then .error .wrongInstance
      else .ok { s with fol := some { f with opened := some ino, openedUnderLock := s.phase = .lockedNoLog } }
  | .check b =>
    match s.fol with
    | none => .error .badOrder
    | some f =>
      if !b && s.phase != .idle then .error .unsoundFree
      else .ok { s with fol := some { f with wasLocked := b, eofSince := false } }
  | .eof =>
    match s.fol with
    | none => .error .badOrder
    | some f => .ok { s with fol := some { f with eofSince := true } }
  | .stop =>
    -- the loop ends at an end-of-file read made AFTER the probe that found the target free: whatever the builder wrote
    -- before releasing the lock has been read by then (a follower that stops right at the probe can miss the last lines)
    match s.fol with
    | none => .error .badOrder
    | some f =>
      if f.wasLocked then .error .stopWhileLocked
      else if !f.eofSince then .error .stopWithoutReread
      else .ok { s with fol := none }

def orun (s : OSt) : List OEv → Nat → Except (Flag × Nat) OSt
  | [], _ => .ok s
  | e :: es, i =>
    match ostep s e with
    | .error f => .error (f, i)
    | .ok s' => orun s' es (i + 1)

end Obs

end RedoModel.LogFollow
