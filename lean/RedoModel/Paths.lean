/-
Model of the lexical path layer of redo-rs:

* `helpers::normpath`        (src/helpers.rs:711-802; Go's `path.Clean`)
* `helpers::abs_path`        (src/helpers.rs:572-586; `PathBuf::push`)
* the lexical tail of `state::relpath` (src/state.rs:1284-1319)
* `state::realdirpath`       (src/state.rs:1373-1416) with the OS `canonicalize` as a parameter

Paths are lists of characters (`RedoPath` guarantees valid UTF-8 without NUL and
newline; only `/` and `.` are interpreted).  `normpath` is modelled at component
level; that this is extensionally the byte-level loop of the Rust code is what the
correspondence check establishes (exhaustively over small alphabets) on every run.

No imports: this file is part of the natively compiled driver.
-/
namespace RedoModel.Paths

/-- Split at every `/`.  Always returns a non-empty list. -/
def splitSlash : List Char → List (List Char)
  | [] => [[]]
  | c :: cs =>
    if c = '/' then [] :: splitSlash cs
    else match splitSlash cs with
      | [] => [[c]]
      | h :: t => (c :: h) :: t

def dot : List Char := ['.']
def dotdot : List Char := ['.', '.']

/-- Non-empty components of a path. -/
def comps (p : List Char) : List (List Char) :=
  (splitSlash p).filter (fun c => !c.isEmpty)

def rooted (p : List Char) : Bool :=
  match p with
  | c :: _ => c == '/'
  | [] => false

/-- One step of the clean-up loop, on the reversed output stack. -/
def push (root : Bool) (st : List (List Char)) (c : List Char) : List (List Char) :=
  if c = dot then st
  else if c = dotdot then
    match st with
    | [] => if root then [] else [dotdot]
    | top :: rest => if top = dotdot then dotdot :: top :: rest else rest
  else c :: st

def joinSlash : List (List Char) → List Char
  | [] => []
  | [c] => c
  | c :: d :: cs => c ++ '/' :: joinSlash (d :: cs)

/-- Normalised components of a component list. -/
def cleanComps (root : Bool) (cs : List (List Char)) : List (List Char) :=
  (cs.foldl (push root) []).reverse

def render (root : Bool) (cs : List (List Char)) : List Char :=
  if root then '/' :: joinSlash cs
  else if cs.isEmpty then dot else joinSlash cs

/-- `helpers::normpath`. -/
def normpath (p : List Char) : List Char :=
  render (rooted p) (cleanComps (rooted p) (comps p))

/-- `PathBuf::push` as used by `abs_path` and `Path::join`. -/
def pushPath (a b : List Char) : List Char :=
  if rooted b then b
  else if a.isEmpty || a.getLast? == some '/' then a ++ b
  else a ++ '/' :: b

/-- `helpers::abs_path`. -/
def absPath (cwd p : List Char) : List Char :=
  if rooted p then p else pushPath cwd p

/-- Strip the common prefix; climb out of what is left of the base. -/
def relComps : List (List Char) → List (List Char) → List (List Char)
  | t :: ts, b :: bs =>
    if t = b then relComps ts bs
    else List.replicate (bs.length + 1) dotdot ++ (t :: ts)
  | ts, bs => List.replicate bs.length dotdot ++ ts

/-- The lexical tail of `state::relpath` for absolute `t` and `base` (after `realdirpath`). -/
def relpathLex (t base : List Char) : List Char :=
  joinSlash (relComps (comps (normpath t)) (comps (normpath base)))

/-- Split at the last `/` into (directory part including the slash, file part); `none` without a `/`. -/
def splitLast (p : List Char) : Option (List Char × List Char) :=
  match (splitSlash p).reverse with
  | [] => none
  | [_] => none
  | f :: _ => some (p.take (p.length - f.length), f)

/-- `dname == Path::new(".")` — `Path` equality is component-wise, so `./`, `.//`, `././` all qualify. -/
def isDotPath (d : List Char) : Bool :=
  !rooted d && !(comps d).isEmpty && (comps d).all (fun c => c == dot)

/-- The proper leading parts of an absolute path as `Path::components` yields them (`.` and empty components
dropped, `..` kept), longest first, each with the components that follow it; the last entry is the root alone. -/
def properPrefixes (cs : List (List Char)) : List (List (List Char) × List (List Char)) :=
  (List.range cs.length).reverse.map (fun k => (cs.take k, cs.drop k))

/-- The directory part does not exist (repaired in /repo: like Python's `os.path.realpath`, the longest leading part
that exists is resolved and the rest is kept as spelled, so that a directory yet to be created below a symlinked one
gets one name through the link and through the real path).  `a` is absolute. -/
def resolveLongest (canon : List Char → Option (List Char)) (a : List Char) : List Char :=
  let cs := (comps a).filter (fun c => c != dot)
  match (properPrefixes cs).findSome? (fun pr => (canon ('/' :: joinSlash pr.1)).map (fun P => (P, pr.2))) with
  | some (P, rest) => normpath (rest.foldl (fun acc c => pushPath acc c) P)
  | none => normpath a

/-- `state::realdirpath`, with `canon` standing for `Path::canonicalize` on the
directory part (`none` = not found, fall back to lexical cleaning) and `cwd` for
`env::current_dir`. -/
def realdirpath (canon : List Char → Option (List Char)) (cwd t : List Char) : List Char :=
  match splitLast t with
  | none => t
  | some (dname, fname) =>
    if isDotPath dname then t
    else
      let d := match canon dname with
        | some d => d
        | none => resolveLongest canon (if rooted dname then dname else pushPath cwd dname)
      pushPath d fname

/-- `state::relpath t base` with the process cwd explicit. -/
def relpath (canon : List Char → Option (List Char)) (cwd t base : List Char) : List Char :=
  let t := if rooted t then t else pushPath cwd t
  relpathLex (realdirpath canon cwd t) (realdirpath canon cwd base)

end RedoModel.Paths
