import RedoModel.Core.Main
import RedoModel.Core.History
import RedoModel.Lemmas.Deps
import RedoModel.Lemmas.DepsSoundSpec
import RedoModel.Lemmas.DepsSoundPlain
import RedoModel.Lemmas.DepsSoundPlainEx
import RedoModel.Props.C01b
import RedoModel.Props.C01c
/-!
# C01 — No stale target after a successful redo-ifchange
Property theorems only.

Two models are involved.  `RedoModel/Deps.lean` is the full executable model of the serial engine
(dynamic .do selection, checksums, always, ifcreate, overrides, out-of-band rebuilds); it is the one
the correspondence check runs against the real binaries on every history.  `RedoModel/Core/*` is its
plain-target core (static ranked graph, failures, removals), for which C01 is proven completely and
over all histories (`no_stale_plain_history`); the core is itself run against the real binaries
and against the full model on plain histories by the same check (tools/core_check.py, verb
`core-run`).  For the full model C01 is proven for all *plain* histories (`no_stale_full_plain`: dynamic .do choice
with `c`/`m` rows, edits of .do files, failures, removals, forced rebuilds, queries); always, ifcreate and
hand-edited targets are in `C01b.lean`, checksums in `C01c.lean`, kills in `C10*.lean`.  The statement for every
history is kept visible as `no_stale_full` (a proposition, not a theorem).
-/
namespace C01
open RedoModel.Deps

/-- The full statement of C01 for the full model, with the out-of-band defect repaired. -/
/- `UpToDate` ("has the content a from-scratch build would produce") for the full model is defined in
`Lemmas/DepsSoundSpec.lean`, together with the statement for plain histories, `NoStalePlain`. -/

def no_stale_full : Prop :=
  ∀ (n : Nat) (rules : Nat → List Nat) (ops : List UserOp) (ts : List Nat) (kg : Bool),
    let w := (ops.foldl (fun w op => (applyOp {} n op w).2) (initWorld rules))
    let r := runCmd {} n (.ifchange ts kg) w
    r.1.status = 0 → ∀ t ∈ ts, UpToDate r.2 t

/-- **C01 for the plain-target core, over all histories.**  Start from an empty project; let the
user create/edit sources and remove any file (source or target) between commands, and let any
number of `redo-ifchange` commands run, failing or not.  Whenever a `redo-ifchange ts` then exits 0,
every target named is up to date: recursively, it and everything it depends on holds exactly what
its script produces from up-to-date inputs.  No bound on the graph, the history or the depth;
hypotheses: one strict rank on files (`Ordered`, i.e. no cycles — C12's subject), the user edits
sources only (hand edits of targets are C11's), ids below the fuel bound `k`. -/
theorem no_stale_plain_history {g : P.Graph} (hg : P.Ordered g) (k n : Nat) (ops : List P.Op)
    (hwf : ∀ op ∈ ops, op.WF g k) (ts : List Nat) (hts : ∀ t ∈ ts, t < k) :
    let s := P.run g k n P.init ops
    (P.step g k n s (.build ts)).2 = some true →
      ∀ t ∈ ts, P.UpToDate g (P.step g k n s (.build ts)).1.w.fs t :=
  P.no_stale_history hg k n ops hwf ts hts

/-- The soundness invariant holds (for the coming run) in every reachable state of every history. -/
theorem invariant_reachable {g : P.Graph} (hg : P.Ordered g) (k n : Nat) (ops : List P.Op)
    (hwf : ∀ op ∈ ops, op.WF g k) :
    P.Inv g ((P.run g k n P.init ops).R + 1) (P.run g k n P.init ops).w :=
  P.inv_reachable_next hg k n ops hwf

/-- **C01 for the full engine model (`RedoModel/Deps.lean`), over all plain histories.**  Start from an empty
project with any table of .do candidates (specific and default rules, any priorities); between commands the user
may create/edit/remove/chmod sources and .do files, remove target files, give meaning to .do contents (plain
scripts: any number of `redo-ifchange` commands, output a function of what they declared, any exit status), and run
`redo`, `redo-ifchange` (with or without `-k`), `redo-ood`, `redo-targets`, `redo-sources` in any order, failing or
not.  Whenever a `redo-ifchange ts` or `redo ts` then exits 0, every target named is up to date: it and,
recursively, everything its chosen script declares hold exactly what the scripts in place produce from up-to-date
inputs (`UpToDateD`: the script of a .do file is what the engine runs for its content).  Hypotheses: the scripts
in place respect one strict rank at every point of the history (no cycles: C12), ids are below `n`, and the
harness-level `OpsOk`: a `setProg` never redefines the meaning of a .do content that is currently in place (that
would change a script without changing any file — see the kernel-checked counterexample `cx2_notUpToDate`). -/
theorem no_stale_full_plain (n : Nat) (rules : Nat → List Nat) (rank : Nat → Nat) (ops : List UserOp) (ts : List Nat)
    (kg forced : Bool) (hr : RulesOk rules) (hp : ∀ op ∈ ops, PlainOp rules op)
    (hrk : ∀ w ∈ worldsOf n {} (initWorld rules) ops, Ranked rank w) (hN : ∀ f, rank f < n)
    (hok : OpsOk n (initWorld rules) ops) :
    let w := ops.foldl (fun w op => (applyOp {} n op w).2) (initWorld rules)
    let r := runCmd {} n (if forced then .redo ts kg else .ifchange ts kg) w
    r.1.status = 0 → ∀ t ∈ ts, UpToDateD r.2 t :=
  noStalePlainD n rules rank ops ts kg forced hr hp hrk hN hok

/-- The same with `UpToDate` of `DepsSoundSpec` (which requires every .do content in place to have a
declared meaning): `NoStalePlain` with the two hypotheses its counterexamples force (`OpsOk`, `Meaningful`). -/
theorem no_stale_full_plain' (n : Nat) (rules : Nat → List Nat) (rank : Nat → Nat) (ops : List UserOp) (ts : List Nat)
    (kg forced : Bool) (hr : RulesOk rules) (hp : ∀ op ∈ ops, PlainOp rules op)
    (hrk : ∀ w ∈ worldsOf n {} (initWorld rules) ops, Ranked rank w) (hN : ∀ f, rank f < n)
    (hok : OpsOk n (initWorld rules) ops) :
    let w := ops.foldl (fun w op => (applyOp {} n op w).2) (initWorld rules)
    let r := runCmd {} n (if forced then .redo ts kg else .ifchange ts kg) w
    r.1.status = 0 → Meaningful r.2 → ∀ t ∈ ts, UpToDate r.2 t :=
  noStalePlain_partial n rules rank ops ts kg forced hr hp hrk hN hok

/-- `NoStalePlain` (`DepsSoundSpec`) is false: a .do content without a declared meaning runs the default script, and a
`setProg` can change a script without touching a file.  So the hypotheses `Meaningful`, `OpsOk` of `no_stale_full_plain'`
are necessary (the counterexamples are in `Lemmas/DepsSoundCex.lean`, `DepsSoundPlainEx.lean`). -/
theorem noStalePlain_as_first_stated_is_false : ¬ NoStalePlain := not_noStalePlain

/-- The plain-target core (plain targets over a static ranked graph, with failures, removals and forced
rebuilds): a successful `redo-ifchange t` leaves `t` up to date — recursively, everything it
depends on holds what its script produces from up-to-date inputs — and re-establishes the
invariant, so this holds again after any further commands. -/
theorem no_stale_plain_partial {g : P.Graph} {R : Nat} (hg : P.Ordered g) (hR : 0 < R) {k n t : Nat} {w w' : P.World}
    (htk : t < k) (hi : P.Inv g R w) (he : P.build g R k n w t = (true, w')) :
    P.UpToDate g w'.fs t ∧ P.Inv g R w' :=
  P.build_sound hg hR htk hi he

/-- Failed or partial builds keep the invariant too (so "after any history of earlier partial or
failed builds"). -/
theorem invariant_survives_any_build {g : P.Graph} {R : Nat} (hg : P.Ordered g) (hR : 0 < R) {k n t : Nat}
    {w w' : P.World} {ok : Bool} (htk : t < k) (hi : P.Inv g R w) (he : P.build g R k n w t = (ok, w')) :
    P.Inv g R w' :=
  (P.build_spec hg hR k n t htk w ok w' hi he).1

/-- Starting a new run keeps the invariant. -/
theorem invariant_survives_new_run {g : P.Graph} {R : Nat} {w : P.World} (hi : P.Inv g R w) : P.Inv g (R + 1) w :=
  P.Inv.nextRun hi

/-- In the full model the dirtiness check itself never changes file contents (so whatever is
up to date stays so while checking). -/
theorem check_preserves_files (R fuel : Nat) (w : World) (c : List Nat) (f mx : Nat) (seen : List Nat) :
    (isDirty false R fuel w c f mx seen none).2.1.fs = w.fs :=
  (isDirty_frame false R fuel w c f mx seen none).1

end C01
