import RedoModel.Lemmas.DepsSoundREx
/-!
# C01, continued — soundness of the full engine model beyond plain scripts
Property theorems only (applications of `RedoModel/Lemmas/DepsSoundR*.lean`).  Model: `RedoModel/Deps.lean`.

`Script.Rich` scripts may use `redo-always`, `redo-ifcreate`, declarations that depend on what exists
(`cond`), and may fail depending on what they read; the user may edit, create and remove ANY file, including
hand-written files at target names (which redo then treats as overridden: `UpToDateR.override` — such a file
stands for itself, C11).  Outside this class: `redo-stamp` (see `C03b`), kills (`C10`), hide/unhide, chmod of
target files.
-/
namespace C01
open RedoModel.Deps RedoModel.Deps.Rich

/-- **C01 for the full engine model over rich histories.**  Start from an empty project with any rule table; after
any history of rich operations during which the scripts in place respect one rank (no cycles; what a script
watches with `redo-ifcreate`/conditionally is not itself a target) and no `setProg` redefines a .do content in
place, whenever `redo-ifchange ts` or `redo ts` exits 0 every target named is up to date: its content is what its
chosen script produces from up-to-date inputs, the script's exit status and content-dependent failure are clean,
nothing it watches with `redo-ifcreate` exists, and a hand-written file stands for itself. -/
theorem no_stale_full_rich (n : Nat) (rules : Nat → List Nat) (rank : Nat → Nat) (ops : List UserOp) (ts : List Nat)
    (kg forced : Bool) (hr : RulesOk rules) (hp : ∀ op ∈ ops, RichOp rules op)
    (hrk : ∀ w ∈ worldsOf n {} (initWorld rules) ops, RankedR rank w) (hN : ∀ f, rank f < n)
    (hok : OpsOkW n (initWorld rules) ops) (hts0 : ∀ t ∈ ts, t ≠ alwaysId) :
    let w := ops.foldl (fun w op => (applyOp {} n op w).2) (initWorld rules)
    let r := runCmd {} n (if forced then .redo ts kg else .ifchange ts kg) w
    r.1.status = 0 → ∀ t ∈ ts, UpToDateR r.2 t :=
  noStaleRichFree n rules rank ops ts kg forced hr hp hrk hN hok hts0

/-- The special case without hand-written files at target names (`WatchOp`). -/
theorem no_stale_full_watch (n : Nat) (rules : Nat → List Nat) (rank : Nat → Nat) (ops : List UserOp) (ts : List Nat)
    (kg forced : Bool) (hr : RulesOk rules) (hp : ∀ op ∈ ops, WatchOp rules op)
    (hrk : ∀ w ∈ worldsOf n {} (initWorld rules) ops, RankedR rank w) (hN : ∀ f, rank f < n)
    (hok : OpsOkW n (initWorld rules) ops) (hts0 : ∀ t ∈ ts, t ≠ alwaysId) :
    let w := ops.foldl (fun w op => (applyOp {} n op w).2) (initWorld rules)
    let r := runCmd {} n (if forced then .redo ts kg else .ifchange ts kg) w
    r.1.status = 0 → ∀ t ∈ ts, UpToDateR r.2 t :=
  no_stale_full_rich n rules rank ops ts kg forced hr (fun op h => (hp op h).toRich) hrk hN hok hts0

/-- The special case of `redo-always` and content-dependent failure only (`AlwaysOp`). -/
theorem no_stale_full_always (n : Nat) (rules : Nat → List Nat) (rank : Nat → Nat) (ops : List UserOp) (ts : List Nat)
    (kg forced : Bool) (hr : RulesOk rules) (hp : ∀ op ∈ ops, AlwaysOp rules op)
    (hrk : ∀ w ∈ worldsOf n {} (initWorld rules) ops, RankedR rank w) (hN : ∀ f, rank f < n)
    (hok : OpsOkW n (initWorld rules) ops) (hts0 : ∀ t ∈ ts, t ≠ alwaysId) :
    let w := ops.foldl (fun w op => (applyOp {} n op w).2) (initWorld rules)
    let r := runCmd {} n (if forced then .redo ts kg else .ifchange ts kg) w
    r.1.status = 0 → ∀ t ∈ ts, UpToDateR r.2 t :=
  no_stale_full_watch n rules rank ops ts kg forced hr (fun op h => (hp op h).toWatch) hrk hN hok hts0

end C01
