import RedoModel.Lemmas.DepsSoundSEx
/-!
# C01, continued — soundness of the full engine model for projects that use `redo-stamp`
Property theorems only (applications of `RedoModel/Lemmas/DepsSoundS*.lean`).  Model: `RedoModel/Deps.lean`.

`Script.PlainS` = plain, except that the script may pipe its output to `redo-stamp` (`stamp = 1`: the data stamped is
the output).  This brings the checksum cut-off (a rebuilt target with an unchanged checksum does not dirty its
dependents) and the out-of-band re-decision (`redo-unlocked`: the uncertain checksummed dependencies are rebuilt
first, then the decision for the target is taken again) into the proven class.
-/
namespace C01
open RedoModel.Deps

/-- **C01 for the full engine model over histories with checksums.**  After any history of `PlainOpS` operations
during which the scripts in place respect one rank, whenever `redo-ifchange ts` or `redo ts` exits 0 every target
named is up to date — although dependents of a checksummed target are *not* rebuilt when its checksum stayed the
same, and although the decision for a target above an uncertain checksummed file is taken out of band.
`…_partial`: the proof needs `RedoKOk` — every `redo -k` *in the history* exited 0 (the final command is
unrestricted; histories without `redo -k` satisfy it: `stamp_hypothesis_holds_without_redo_k`).  The hypothesis is
proof-forced (a forced rebuild of a target that already failed in the same run would keep a checksum that no longer
describes the file); no history reaching that state is known, none was found by the differential check. -/
theorem no_stale_full_stamp_partial (n : Nat) (rules : Nat → List Nat) (rank : Nat → Nat) (ops : List UserOp)
    (ts : List Nat) (kg forced : Bool) (hr : RulesOk rules) (hp : ∀ op ∈ ops, PlainOpS rules op)
    (hrk : ∀ w ∈ worldsOf n {} (initWorld rules) ops, Ranked rank w) (hN : ∀ f, rank f < n)
    (hok : OpsOk n (initWorld rules) ops) (hk : RedoKOk n (initWorld rules) ops) :
    let w := ops.foldl (fun w op => (applyOp {} n op w).2) (initWorld rules)
    let r := runCmd {} n (if forced then .redo ts kg else .ifchange ts kg) w
    r.1.status = 0 → ∀ t ∈ ts, UpToDateD r.2 t :=
  noStaleStamp_partial n rules rank ops ts kg forced hr hp hrk hN hok hk

theorem stamp_hypothesis_holds_without_redo_k (n : Nat) (ops : List UserOp) (w : World)
    (h : ∀ op ∈ ops, ∀ ts, op ≠ .cmd (.redo ts true)) : RedoKOk n w ops :=
  redoKOk_of_none n ops w h

/-- Non-vacuity, and the cut-off at work: source 5, checksummed `mid` (3) reading it, `top` (4) reading `mid`; after a
build, `mid`'s file is removed and `redo-ifchange top` is run: exit 0, only `mid` runs again (out of band; its
checksum is unchanged), `top` is not rebuilt — and is up to date, by the theorem. -/
theorem stamp_cutoff_example_trace : S.sResA.1.status = 0 ∧ S.sResA.2.trace = [.ran 3, .ran 3, .ran 4] :=
  ⟨S.sA_status, S.sA_trace⟩

end C01
