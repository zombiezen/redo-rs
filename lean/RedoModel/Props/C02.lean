import RedoModel.Lemmas.DepsMemo
import RedoModel.Props.C02c
import RedoModel.Props.C02b
import RedoModel.Lemmas.Deps
import RedoModel.Lemmas.Once.DepsOnceExamples
/-!
# C02 — Rebuild set is exactly the set of targets whose inputs changed
Property theorems only.  Model: `RedoModel/Deps.lean`.
`exact_full` (no script runs twice within one command, unconditionally) is false;
`at_most_once_per_command` is the proven version with the conditions that the counterexamples show
to be necessary.  The other theorems are the mechanisms the property rests on.
-/
namespace C02
open RedoModel.Deps

/-- The unconditional statement "within one `redo-ifchange` no script runs twice" — for every world
and every defect setting.  It is **false**, also on worlds reachable from an empty project with all
defect switches off (`exact_full_false` below): there are reachable
counterexamples, each replayed on the real binaries (see DESIGN §12). -/
def exact_full : Prop :=
  ∀ (d : Defects) (n : Nat) (w : World) (ts : List Nat) (kg : Bool),
    let w' := (runCmd d n (.ifchange ts kg) { w with trace := [] }).2
    (w'.trace.filterMap (fun e => match e with | .ran t => some t | _ => none)).Nodup

/-- `exact_full` is false: e.g. a target that declared `redo-ifcreate f` is run again in the same run
once `f` has been *built* in that run; likewise when a higher-priority .do candidate is itself a
target built in the run, and when a real file is named like the `//ALWAYS` pseudo file.  (Two former
counterexamples are repaired: an overridden file edited a second time, whose stamp was never
refreshed — `override_edited_again_is_recorded`, `Once.Ex.override_edited_again_once`; and a removed
overridden file that a dirtiness check turned into a source with the override flag kept, re-created
by hand, which `start_self` then left alone for ever — `vanished_override_is_forgotten`,
`Once.Ex.vanished_override_recreated_once`.) -/
theorem exact_full_false : ¬ exact_full := by
  intro h
  have h1 := h {} 0 Once.Cex.wC [1, 2, 3] false
  change (Once.ranList _).Nodup at h1
  rw [Once.Cex.ifcreate_twice] at h1
  exact absurd h1 (by decide)

/-- **At most once per command, for every reachable history**: under the static cleanliness conditions
`Once.Clean` (no .do candidate, `redo-ifcreate` object or `//ALWAYS` is itself a target; no file is
named like `//ALWAYS`) and with the (repaired) out-of-band defect off, the scripts executed by one
`redo-ifchange ts` from any world reached from the empty project by any history are pairwise
different — however many dependents request a target, at any nesting depth, through the out-of-band
path, with failures and `-k`, whatever was overridden, removed or re-created by hand.  Each condition
of `Clean` is necessary (counterexamples `Once.Cex.*`); the run-id well-formedness (`Once.wf_reachable`)
and the condition on overridden records (`Once.ovOK_reachable`: in a reachable world an overridden
record is always a generated one, `Once.og_reachable`) come for free. -/
theorem at_most_once_per_command (d0 d : Defects) (hd : d.oobRebuildsDepsNotTarget = false)
    (n0 n : Nat) (rules : Nat → List Nat) (ops : List UserOp) (ts : List Nat) (kg : Bool)
    (hc : Once.Clean (Once.runOps d0 n0 ops (initWorld rules))) :
    Once.RanNodupFrom d n (Once.runOps d0 n0 ops (initWorld rules)) ts kg :=
  Once.ran_nodup_reachable d0 d hd n0 n rules ops ts kg hc

/-- The same from any well-formed clean world in which every overridden file that exists is still
recorded as generated, or carries no failure mark and is in step with its record (`Once.OvOK`; necessary
for hand-made worlds: `Once.Cex.ovOK_needed`). -/
theorem at_most_once_of_wf (d : Defects) (hd : d.oobRebuildsDepsNotTarget = false) (n : Nat) (w : World)
    (ts : List Nat) (kg : Bool) (hwf : Once.WF w) (hov : Once.OvOK w) (hc : Once.Clean w) :
    Once.RanNodupFrom d n w ts kg :=
  Once.ran_nodup_of_wf d hd n w ts kg hwf hov hc

/-- In every reachable world an overridden record is a generated one whose recorded stamp is not that
of a missing file. -/
theorem override_implies_generated (d : Defects) (n : Nat) (rules : Nat → List Nat) (ops : List UserOp) (f : Nat)
    (ho : ((Once.runOps d n ops (initWorld rules)).recs f).isOverride = true) :
    ((Once.runOps d n ops (initWorld rules)).recs f).isGenerated = true ∧
    ((Once.runOps d n ops (initWorld rules)).recs f).stamp ≠ some .missing :=
  Once.og_reachable d n rules ops f ho

/-- **An overridden file that was edited again gets its new stamp recorded** (the repair of the
fourth counterexample to `exact_full`): for a generated, overridden, existing target and *any*
recorded stamp, `start_self` leaves the record of `t` with the current stamp, the override flag kept
and no failure mark; the file is untouched and nothing is executed.  So the next dirtiness check
compares equal stamps, and the over-build after a second hand edit cannot recur. -/
theorem override_edited_again_is_recorded (E : Engine) (d : Defects) (cx : Ctx) (t : Nat) (sf : Rec) (w : World)
    (hex : existsF w t = true) (hg : sf.isGenerated = true) (ho : sf.isOverride = true) :
    (startSelf E d cx t sf w).1 = 0 ∧
    ((startSelf E d cx t sf w).2.recs t).stamp = some (readStamp w t) ∧
    ((startSelf E d cx t sf w).2.recs t).stamp = some (readStamp (startSelf E d cx t sf w).2 t) ∧
    ((startSelf E d cx t sf w).2.recs t).isOverride = true ∧
    ((startSelf E d cx t sf w).2.recs t).failed = none ∧
    (startSelf E d cx t sf w).2.fs = w.fs ∧
    Once.ranList (startSelf E d cx t sf w).2 = Once.ranList w := by
  have hns : readStamp w t ≠ .missing := readStamp_ne_missing hex
  have hex' : (w.fs t).isSome = true := hex
  have hst : (updateStamp (ev w (.warnOverride t)) t sf cx.runid).stamp = some (readStamp w t) := by
    unfold updateStamp
    dsimp only
    split
    · rename_i h; exact h
    · rfl
  simp [startSelf, hg, ho, hns, hex', existsF, setRec, Once.ranList, ev, setOverride]
  exact ⟨hst, hst⟩

/-- Non-vacuity: a stale recorded stamp, twice-edited file. -/
example : ((startSelf (engine {} 0) {} { runid := 5 } 1
      { isGenerated := true, isOverride := true, changed := some 2, stamp := some (.st 3 0) }
      { initWorld (fun _ => []) with fs := fun x => if x = 1 then some { content := srcContent 8, ms := 9, rest := 0 } else none }).2.recs 1).stamp
    = some (.st 9 0) := by
  simp [startSelf, readStamp, detectOverride, existsF, setOverride, updateStamp, setChanged, setRec, ev, initWorld]

/-- **A vanished target is forgotten altogether** (the repair of the fifth counterexample to
`exact_full`): when the dirtiness check finds the file of a generated target missing although its
record holds the stamp of an existing file (no failure mark, `changed ≤ mx`, not checked in this
run), it rewrites the record as a source with failure mark 0 *and without the override flag*,
whether the target had been overridden by hand or not.  So a file created there later is an
ordinary source for `start_self`, which refreshes its record on the first visit. -/
theorem vanished_override_is_forgotten (R n : Nat) (w : World) (c : List Nat) (f mx ch : Nat) (seen : List Nat)
    (old : DStamp) (hs : f ∉ seen) (hg : (getRec w R f).isGenerated = true)
    (hst : (getRec w R f).stamp = some old) (hne : old ≠ readStamp w f) (hmiss : readStamp w f = .missing)
    (hf : (getRec w R f).failed = none) (hc : (getRec w R f).changed = some ch) (hle : ch ≤ mx)
    (hck : isCheckedR (getRec w R f) R = false) :
    ((isDirty false R (n + 1) w c f mx seen none).2.1.recs f).isOverride = false ∧
    ((isDirty false R (n + 1) w c f mx seen none).2.1.recs f).isGenerated = false ∧
    ((isDirty false R (n + 1) w c f mx seen none).2.1.recs f).failed = some 0 := by
  have hgt : ¬ ch > mx := by omega
  have hne' : ¬ old = DStamp.missing := by rw [← hmiss]; exact hne
  refine ⟨?_, ?_, ?_⟩ <;>
  · simp (config := { zeta := true, zetaHave := true }) only [isDirty, Option.getD_none, hs, hf, hc, hgt, hck, hst,
      hne', hmiss, hg, if_true, if_false, Option.isSome_none, Bool.false_eq_true, ne_eq, not_false_eq_true, and_self]
    simp [setRec]

/-- Non-vacuity: an overridden generated target whose file is gone. -/
example : ((isDirty false 5 1 { initWorld (fun _ => []) with recs := fun x => if x = 1 then
      { row := 2, isGenerated := true, isOverride := true, changed := some 2, stamp := some (.st 3 0) } else {} }
      [] 1 5 [] none).2.1.recs 1).isOverride = false :=
  (vanished_override_is_forgotten 5 0 _ [] 1 5 2 [] (.st 3 0) (by simp) (by simp [getRec, alwaysId])
    (by simp [getRec, alwaysId]) (by simp [readStamp, initWorld]) (by simp [readStamp, initWorld])
    (by simp [getRec, alwaysId]) (by simp [getRec, alwaysId]) (by omega) (by simp [getRec, alwaysId, isCheckedR])).1

/-- The memoised verdict: a file already verified in this run is reported clean without being
examined again and without any write (so a shared dependency is not re-traversed and, having
been rebuilt once, is not rebuilt again for a later dependent). -/
theorem memoised_clean (R n : Nat) (w : World) (c : List Nat) (f mx ch : Nat) (seen : List Nat)
    (hs : f ∉ seen) (hf : (getRec w R f).failed = none) (hc : (getRec w R f).changed = some ch)
    (hle : ch ≤ mx) (hck : isCheckedR (getRec w R f) R = true) :
    isDirty false R (n + 1) w c f mx seen none = (.clean, w, c) :=
  isDirty_memo false R n w c f mx ch seen none hs hf hc hle hck

/-- A file built (or changed) more recently than its dependent's last build/check makes the
dependent dirty. -/
theorem newer_is_dirty (ood : Bool) (R n : Nat) (w : World) (c : List Nat) (f mx ch : Nat) (seen : List Nat)
    (hs : f ∉ seen) (hf : (getRec w R f).failed = none) (hc : (getRec w R f).changed = some ch)
    (hgt : ch > mx) :
    isDirty ood R (n + 1) w c f mx seen none = (.dirty, w, c) :=
  isDirty_record_dirty ood R n w c f mx seen none hs (.inr (.inr ⟨ch, hc, hgt⟩))

/-- A never-built file is dirty. -/
theorem never_built_is_dirty (ood : Bool) (R n : Nat) (w : World) (c : List Nat) (f mx : Nat) (seen : List Nat)
    (hs : f ∉ seen) (hf : (getRec w R f).failed = none) (hc : (getRec w R f).changed = none) :
    isDirty ood R (n + 1) w c f mx seen none = (.dirty, w, c) :=
  isDirty_record_dirty ood R n w c f mx seen none hs (.inr (.inl hc))

/-- `zap_deps2` removes exactly the rows of the target that were not re-declared. -/
theorem zapDeps2_spec (w : World) (t : Nat) (d : Dep) :
    d ∈ (zapDeps2 w t).deps ↔ d ∈ w.deps ∧ ¬ (d.target = t ∧ d.deleteMe = true) := by
  simp only [zapDeps2, List.mem_filter]
  constructor
  · rintro ⟨h1, h2⟩
    refine ⟨h1, ?_⟩
    rintro ⟨a, b⟩
    simp [a, b] at h2
  · rintro ⟨h1, h2⟩
    refine ⟨h1, ?_⟩
    by_cases a : d.target = t <;> by_cases b : d.deleteMe = true <;> simp_all

/-- After a build has been recorded (successfully or not) the target has no stale
dependency rows: a dependency it stopped declaring no longer triggers it. -/
theorem no_stale_rows_after_record (cx : Ctx) (t : Nat) (sf : Rec) (rv : Status) (out : Option Content) (w : World) :
    ∀ d ∈ (recordNewState cx t sf rv out w).2.deps, ¬ (d.target = t ∧ d.deleteMe = true) := by
  intro d hd
  unfold recordNewState at hd
  split at hd
  · simp only [setRec] at hd
    exact ((zapDeps2_spec _ t d).1 hd).2
  · simp only [setRec] at hd
    exact ((zapDeps2_spec _ t d).1 hd).2

/-- Re-declaring a dependency clears its `delete_me` mark (insert-or-replace), and there is
exactly one row per (target, source). -/
theorem addDep_spec (w : World) (t s : Nat) (m : Bool) :
    { target := t, source := s, modeM := m, deleteMe := false } ∈ (addDep w t s m).deps ∧
    ∀ d ∈ (addDep w t s m).deps, d.target = t → d.source = s → d = { target := t, source := s, modeM := m, deleteMe := false } := by
  constructor
  · simp [addDep]
  · intro d hd ht hs
    simp only [addDep, List.mem_cons, List.mem_filter] at hd
    rcases hd with e | ⟨_, h⟩
    · exact e
    · simp [ht, hs] at h

end C02
