import RedoModel.Lemmas.DepsQuietEx
/-!
# C02, the converse direction — nothing is rebuilt without a reason
Property theorems only (applications of `RedoModel/Lemmas/DepsQuiet*.lean`).  Model: `RedoModel/Deps.lean`.

`C01.no_stale_full_rich` says that what `redo-ifchange` leaves behind is up to date (nothing stale survives).  Here is
the other half of "the rebuild set is exactly the set of targets whose inputs changed": a repeated build runs
nothing, changes outside the *recorded dependency closure* of the targets (`RecReach`: all rows of the `Deps` table,
followed transitively) trigger nothing, and every script that `redo-ifchange` does execute belongs to a file that had
a `Reason` in the world the command started from.

Same class of histories as `C01.no_stale_full_rich` (`RichOp`, `RankedR`, `OpsOkW`) for the first three theorems;
`runs_only_for_a_reason_world` and `settled_left_alone` hold for arbitrary worlds and defect switches.
-/
namespace C02
open RedoModel.Deps RedoModel.Deps.Rich

/-- **A repeated build with no changes runs nothing.**  After any rich history, let `redo-ifchange ts` (or `redo ts`:
`forced`) exit 0, and let the recorded dependency closure of `ts` contain no row on the `//ALWAYS` pseudo file (no
script in the closure said `redo-always`; such targets rightly re-run in every command: `repeat_needs_no_always`).
Then the immediately repeated `redo-ifchange ts` exits 0, executes no script at all, and leaves every file as it was. -/
theorem repeat_runs_nothing (n : Nat) (rules : Nat → List Nat) (rank : Nat → Nat) (ops : List UserOp) (ts : List Nat)
    (kg forced : Bool) (hr : RulesOk rules) (hp : ∀ op ∈ ops, RichOp rules op)
    (hrk : ∀ w ∈ worldsOf n {} (initWorld rules) ops, RankedR rank w) (hN : ∀ f, rank f < n)
    (hok : OpsOkW n (initWorld rules) ops) (hts0 : ∀ t ∈ ts, t ≠ alwaysId) (kg2 : Bool) :
    let w := ops.foldl (fun w op => (applyOp {} n op w).2) (initWorld rules)
    let r1 := runCmd {} n (if forced then .redo ts kg else .ifchange ts kg) w
    r1.1.status = 0 → ¬ RecReach r1.2 ts alwaysId →
    let r2 := runCmd {} n (.ifchange ts kg2) { r1.2 with trace := [] }
    r2.1.status = 0 ∧ (∀ t, Ev.ran t ∉ r2.2.trace) ∧ r2.2.fs = r1.2.fs :=
  fun hz hna => otherBuildsQuiet n rules rank ops ts kg forced hr hp hrk hN hok hts0 [] kg2 hz hna
    fun _ hu => nomatch hu

/-- The hypothesis on `//ALWAYS` cannot be dropped: a `redo-always` target is executed again by the repeated command
(concrete rich history `alOps`; all other hypotheses hold). -/
theorem repeat_needs_no_always : ¬ RepeatQuietUnconditional := by
  intro h
  have := h 3 cxRules cxRank alOps [2] false false cx_rulesOk al_ops al_ranked al_rankLt al_opsOk
    (by simp [alwaysId]) al_status1 2
  apply this
  show Ev.ran 2 ∈ alRes2.2.trace
  rw [al_run2.2]; simp

/-- **Changes outside the recorded closure trigger nothing.**  As `repeat_runs_nothing`, but between the two commands
the user does any list `us` of operations that are `Unrelated` to the recorded dependency closure of `ts`: creating,
editing, removing, chmod-ing, moving away/back files that are NOT in the closure, `setProg`, and the queries
`redo-ood` / `redo-targets` / `redo-sources`.  (The .do candidates that `find_do_file` looked at are recorded as rows,
so they are in the closure, and so are the objects of `redo-ifcreate`.)  In particular a dependency that a target
stopped declaring is no longer in the closure (its row is deleted when the build is recorded) and no longer triggers
it: `dropped_dep`. -/
theorem unrelated_change_runs_nothing (n : Nat) (rules : Nat → List Nat) (rank : Nat → Nat) (ops : List UserOp)
    (ts : List Nat) (kg forced : Bool) (hr : RulesOk rules) (hp : ∀ op ∈ ops, RichOp rules op)
    (hrk : ∀ w ∈ worldsOf n {} (initWorld rules) ops, RankedR rank w) (hN : ∀ f, rank f < n)
    (hok : OpsOkW n (initWorld rules) ops) (hts0 : ∀ t ∈ ts, t ≠ alwaysId) (us : List UserOp) (kg2 : Bool) :
    let w := ops.foldl (fun w op => (applyOp {} n op w).2) (initWorld rules)
    let r1 := runCmd {} n (if forced then .redo ts kg else .ifchange ts kg) w
    r1.1.status = 0 → ¬ RecReach r1.2 ts alwaysId → (∀ u ∈ us, Unrelated (RecReach r1.2 ts) u) →
    let w2 := us.foldl (fun w op => (applyOp {} n op w).2) r1.2
    let r2 := runCmd {} n (.ifchange ts kg2) { w2 with trace := [] }
    r2.1.status = 0 ∧ (∀ t, Ev.ran t ∉ r2.2.trace) ∧ r2.2.fs = w2.fs :=
  fun hz hna hus => otherBuildsQuiet n rules rank ops ts kg forced hr hp hrk hN hok hts0 us kg2 hz hna
    fun u hu => (hus u hu).harmless

/-- **Neither does building something else.**  The stronger form of `unrelated_change_runs_nothing`: between the two
commands the user may do any list of `Harmless` operations — those of `Unrelated`, and in addition `redo-ifchange` of
ANY targets (members of the closure of `ts` or not; whatever these commands build, fail to build, or find clean).
The closure of `ts` stays settled (`settled_left_alone`), so the final `redo-ifchange ts` exits 0, executes nothing
and touches no file. -/
theorem other_builds_run_nothing (n : Nat) (rules : Nat → List Nat) (rank : Nat → Nat) (ops : List UserOp)
    (ts : List Nat) (kg forced : Bool) (hr : RulesOk rules) (hp : ∀ op ∈ ops, RichOp rules op)
    (hrk : ∀ w ∈ worldsOf n {} (initWorld rules) ops, RankedR rank w) (hN : ∀ f, rank f < n)
    (hok : OpsOkW n (initWorld rules) ops) (hts0 : ∀ t ∈ ts, t ≠ alwaysId) (us : List UserOp) (kg2 : Bool) :
    let w := ops.foldl (fun w op => (applyOp {} n op w).2) (initWorld rules)
    let r1 := runCmd {} n (if forced then .redo ts kg else .ifchange ts kg) w
    r1.1.status = 0 → ¬ RecReach r1.2 ts alwaysId → (∀ u ∈ us, Harmless (RecReach r1.2 ts) u) →
    let w2 := us.foldl (fun w op => (applyOp {} n op w).2) r1.2
    let r2 := runCmd {} n (.ifchange ts kg2) { w2 with trace := [] }
    r2.1.status = 0 ∧ (∀ t, Ev.ran t ∉ r2.2.trace) ∧ r2.2.fs = w2.fs :=
  otherBuildsQuiet n rules rank ops ts kg forced hr hp hrk hN hok hts0 us kg2

/-- **A dependency that a target stopped declaring no longer triggers it** — concrete history `ddOps`: target 2 (.do
file 1) declared the sources 4 and 5 (`dropped_dep_before`: the row 2 → 5 existed); the .do file is replaced by one
that declares 4 only and 2 is rebuilt (`ddRes`).  From then on, whatever is written into 5, or if 5 is removed,
`redo-ifchange 2` exits 0, executes nothing and touches no file. -/
theorem dropped_dep (us : List UserOp) (hus : ∀ u ∈ us, (∃ v, u = .write 5 v) ∨ u = .remove 5) (kg2 : Bool) :
    let w2 := us.foldl (fun w op => (applyOp {} 6 op w).2) ddRes.2
    let r2 := runCmd {} 6 (.ifchange [2] kg2) { w2 with trace := [] }
    r2.1.status = 0 ∧ (∀ t, Ev.ran t ∉ r2.2.trace) ∧ r2.2.fs = w2.fs :=
  unrelated_change_runs_nothing 6 cxRules cxRank ddOps [2] false true cx_rulesOk dd_ops dd_ranked dd_rankLt dd_opsOk
    (by simp [alwaysId]) us kg2 dd_status dd_no_always (fun u hu => by
      rcases hus u hu with ⟨v, rfl⟩ | rfl <;> exact dd_five_out)

theorem dropped_dep_before :
    (⟨2, 5, true, false⟩ : Dep) ∈ ((ddOps.take 6).foldl (fun w op => (applyOp {} 6 op w).2) (initWorld cxRules)).deps := by
  decide +kernel

/-- **Nothing runs without a reason.**  After any rich history, every script executed by `redo-ifchange ts` belongs
to a file `t` that had a `Reason` in the world `w` the command started from: it is the `//ALWAYS` pseudo file, carries
a failure mark, was never built, its file is not as recorded (missing, replaced, edited), one of its recorded
`redo-ifchange` dependencies was built or changed in a later run than `t` was last built or verified, one of its
recorded `redo-ifcreate` objects / higher-priority .do candidates exists, or — hereditarily — one of its recorded
`redo-ifchange` dependencies has a reason (e.g. says `redo-always`).  Rows of files redo does not (or no longer) own
do not count. -/
theorem runs_only_for_a_reason (n : Nat) (rules : Nat → List Nat) (rank : Nat → Nat) (ops : List UserOp) (ts : List Nat)
    (kg : Bool) (hr : RulesOk rules) (hp : ∀ op ∈ ops, RichOp rules op)
    (hrk : ∀ w ∈ worldsOf n {} (initWorld rules) ops, RankedR rank w) (hN : ∀ f, rank f < n)
    (hok : OpsOkW n (initWorld rules) ops) :
    let w := ops.foldl (fun w op => (applyOp {} n op w).2) (initWorld rules)
    ∀ t, Ev.ran t ∈ (runCmd {} n (.ifchange ts kg) { w with trace := [] }).2.trace → Reason w t :=
  runsOnlyForAReason n rules rank ops ts kg hr hp hrk hN hok

/-- The same for an arbitrary world and arbitrary defect switches, under the two facts about reachable worlds that
the proof uses: no `changed`/`checked` mark is from the future, and `c` rows name plain files (files without .do
candidates).  A script executed by the command either had a reason or was already in the trace. -/
theorem runs_only_for_a_reason_world (d : Defects) (n : Nat) (w : World) (ts : List Nat) (kg : Bool)
    (hch : ∀ f c, (w.recs f).changed = some c → c ≤ w.runCounter)
    (hck : ∀ f c, (w.recs f).checked = some c → c ≤ w.runCounter)
    (hcp : ∀ d ∈ w.deps, d.modeM = false → w.rules d.source = []) (t : Nat)
    (hran : Ev.ran t ∈ (runCmd d n (.ifchange ts kg) w).2.trace) : Ev.ran t ∈ w.trace ∨ Reason w t :=
  ran_reason_of_world d n w ts kg hch hck hcp t hran

/-- The mechanism behind it: a *settled* set `S` of files (`SSet`: closed under the recorded `m` rows of its
redo-owned members; every member's record is current and no dependency is newer than its dependent; no recorded
`redo-ifcreate` object exists) is left alone by a whole `redo-ifchange ts`, whatever `ts` is and whatever else gets
built: afterwards (`SRel`) the rows, files and records of the members are as before up to `checked` marks, and no
member's script was executed. -/
theorem settled_left_alone {S : Nat → Prop} {w : World} (d : Defects) (n : Nat) (ts : List Nat) (kg : Bool)
    (hq : SSet (w.runCounter + 1) S w) :
    SRel (w.runCounter + 1) S w (runCmd d n (.ifchange ts kg) w).2 :=
  ifchange_leaves_settled d n ts kg hq

end C02
