import RedoModel.Lemmas.DepsEval
/-!
# C02, continued — the nested-checksum over-build (recorded finding), on the model
Property theorems only, about one concrete history.  Model: `RedoModel/Deps.lean`; evaluation by the kernel through
`RedoModel/Lemmas/DepsEval.lean` (`KEval.applyOp_eq`, `KEval.runCmd_eq`: the model with `List.mergeSort` replaced by an
insertion sort that is proven equal, because the kernel cannot unfold `List.merge`).

Files: 1 = `src2`, 2 = `s2`, 3 = `s1`, 4 = `top`, 5 = `s2.do`, 6 = `s1.do`, 7 = `top.do`.
`top` declares and reads `s1`.  `s1` pipes its output to `redo-stamp`, declares `s2`, reads nothing (constant output).
`s2` pipes its output to `redo-stamp`, declares and reads `src2`.  Everything is built, then `src2` is edited.
In the encoding of the test driver (`RedoModel/DepsWire.lean`, verb `deps-run`, which also empties the ghost trace before
every operation — as `res2`, `res3` do here):

    deps-run 0000 8 2:5;3:6;4:7 w.1.0;p.25.0,-,1,-,1,1,1,1,0,-;w.5.11;p.27.0,-,2,-,-,2,1,1,0,-;w.6.12;
                                p.29.0,-,3,-,3,3,1,0,0,-;w.7.13;c.ifc.0.4;w.1.1;c.ifc.0.4;c.ifc.0.4

answers `ran=4_3_2`, `ran=2_4_3`, `ran=` for the three commands.

What happens in the second `redo-ifchange top`: the dirtiness check of `top` answers "`s2` must be built first"
(`need [s2]`, handed up through the checksummed `s1`); `s2` is rebuilt out of band and its checksum *changes*; the
decision for `top` is taken again (`redo-unlocked`, second phase, `noOob`): now `s1` is uncertain (`need [s1]`), and in
this phase an uncertain dependency means "build `top`".  `top`'s script starts, its `redo-ifchange s1` rebuilds `s1`,
whose checksum and bytes stay what they were — too late for `top`, which is already running.  With one checksummed level
only (`single_level_cutoff_is_exact`) the first phase rebuilds the checksummed target itself and the second decision finds
everything clean.
-/
namespace C02
open RedoModel.Deps

def bytesOf (w : World) (f : Nat) : Option Content := (w.fs f).map (·.content)

/-- The world after a history from the empty project (scenario size 8, all defect switches off) — the form in which
the history theorems of C01 are stated. -/
def worldAfter (rules : Nat → List Nat) (ops : List UserOp) : World :=
  ops.foldl (fun w op => (applyOp {} 8 op w).2) (initWorld rules)

/-- `redo-ifchange top` (file 4) with the ghost trace emptied first, so that the trace of the result is what this
command executed (most recent first). -/
def ifchangeTop (w : World) : Result × World := runCmd {} 8 (.ifchange [4] false) { w with trace := [] }

namespace Nested
def rules : Nat → List Nat := fun t => if t = 2 then [5] else if t = 3 then [6] else if t = 4 then [7] else []
def s2S : Script := { ifchange := [[1]], reads := [1], tag := 1, outMode := 1, stamp := 1 }
def s1S : Script := { ifchange := [[2]], reads := [], tag := 2, outMode := 1, stamp := 1 }
def topS : Script := { ifchange := [[3]], reads := [3], tag := 3, outMode := 1 }
/-- Write `src2` and the three .do files (a .do file's meaning is given by its content), build `top`, edit `src2`. -/
def setup : List UserOp :=
  [ .write 1 0, .setProg (srcContent 11) s2S, .write 5 11, .setProg (srcContent 12) s1S, .write 6 12,
    .setProg (srcContent 13) topS, .write 7 13, .cmd (.ifchange [4] false), .write 1 1 ]
/-- Before the second command. -/
def w1 : World := worldAfter rules setup
/-- The second `redo-ifchange top`. -/
def res2 : Result × World := ifchangeTop w1
/-- The third. -/
def res3 : Result × World := ifchangeTop res2.2
end Nested

/-- The first build executes `top`, `s1`, `s2` (each script starts inside its dependent's), and before the second
command `top`'s recorded dependencies are exactly `s1` and `top.do`. -/
theorem nested_first_build :
    Nested.w1.trace = [.ran 2, .ran 3, .ran 4] ∧
    (Nested.w1.deps.filter (fun d => d.target = 4)).map (fun d => (d.source, d.modeM)) = [(3, true), (7, true)] := by
  unfold Nested.w1 worldAfter
  eval_model

/-- **The over-build, reproduced by the model.**  The second `redo-ifchange top` exits 0 and executes `s2`, then `top`,
then `s1` (the trace is most recent first) — so `top`'s script ran — although the only files `top` declares kept
checksum and bytes: `s1`'s recorded checksum and `s1`'s content are the same before and after the command (and exist),
and `top.do` was not touched. -/
theorem nested_checksum_overbuild :
    Nested.res2.1.status = 0 ∧
    Nested.res2.2.trace = [.ran 3, .ran 4, .ran 2] ∧ Ev.ran 4 ∈ Nested.res2.2.trace ∧
    (Nested.res2.2.recs 3).csum = (Nested.w1.recs 3).csum ∧ (Nested.w1.recs 3).csum = some (outContent 2 []) ∧
    bytesOf Nested.res2.2 3 = bytesOf Nested.w1 3 ∧ bytesOf Nested.w1 3 = some (outContent 2 []) ∧
    bytesOf Nested.res2.2 7 = bytesOf Nested.w1 7 := by
  unfold Nested.res2 Nested.w1 ifchangeTop worldAfter
  eval_model

/-- **…and it is harmless**: the third command executes nothing and exits 0, and leaves `top` with the bytes the second
command gave it — which are also the bytes `top` had before the second command (the rebuild reproduced them), and
which are what `top.do` makes of the current `s1` (as `s1` is of nothing, `s2` of the current `src2`): after the second
command the three targets are up to date.

No general theorem of `Props/C01*.lean` covers this history: `C01.no_stale_full_stamp_partial` is about scripts of
class `Script.PlainS` (`reads = ifchange.flatten`: a script reads everything it declares), `C01.no_stale_full_rich`
(`reads ⊆ declared`) about scripts without `redo-stamp`; `s1` declares `s2` without reading it *and* stamps.  (Informal
remark, not proven here: inside `PlainS` the situation should not arise at all — the output of a script is an injective function of what it read, so a
rebuilt `s1` keeps its checksum only if `s2` kept its bytes, and then `s2`'s rebuild leaves `s2`'s checksum alone and
nothing above it is uncertain.)  Content correctness is therefore stated here directly, by evaluation. -/
theorem nested_checksum_overbuild_is_harmless :
    Nested.res3.1.status = 0 ∧ Nested.res3.2.trace = [] ∧
    bytesOf Nested.res2.2 4 = bytesOf Nested.res3.2 4 ∧
    bytesOf Nested.res2.2 4 = bytesOf Nested.w1 4 ∧
    bytesOf Nested.res2.2 4 = some (outContent 3 [bytesOf Nested.res2.2 3]) ∧
    bytesOf Nested.res2.2 3 = some (outContent 2 []) ∧
    bytesOf Nested.res2.2 2 = some (outContent 1 [bytesOf Nested.res2.2 1]) ∧
    bytesOf Nested.res2.2 1 = some (srcContent 1) := by
  unfold Nested.res3 Nested.res2 Nested.w1 ifchangeTop worldAfter
  eval_model

/-! ### One checksummed level: the cut-off is exact -/

namespace Single
/-- The same project without `s2`: `s1` (3, checksummed, constant output) declares `src2` (1) itself. -/
def rules : Nat → List Nat := fun t => if t = 3 then [6] else if t = 4 then [7] else []
def s1S : Script := { ifchange := [[1]], reads := [], tag := 2, outMode := 1, stamp := 1 }
def setup : List UserOp :=
  [ .write 1 0, .setProg (srcContent 12) s1S, .write 6 12, .setProg (srcContent 13) Nested.topS, .write 7 13,
    .cmd (.ifchange [4] false), .write 1 1 ]
def w1 : World := worldAfter rules setup
def res2 : Result × World := ifchangeTop w1
def res3 : Result × World := ifchangeTop res2.2
end Single

/-- Without the lower checksummed level the second `redo-ifchange top` executes `s1` only (out of band; its checksum is
unchanged) and not `top`; the third executes nothing.  So the over-build needs two nested checksummed levels. -/
theorem single_level_cutoff_is_exact :
    Single.w1.trace = [.ran 3, .ran 4] ∧
    Single.res2.1.status = 0 ∧ Single.res2.2.trace = [.ran 3] ∧ Ev.ran 4 ∉ Single.res2.2.trace ∧
    (Single.res2.2.recs 3).csum = (Single.w1.recs 3).csum ∧ (Single.w1.recs 3).csum = some (outContent 2 []) ∧
    bytesOf Single.res2.2 4 = bytesOf Single.w1 4 ∧
    Single.res3.1.status = 0 ∧ Single.res3.2.trace = [] := by
  unfold Single.res3 Single.res2 Single.w1 ifchangeTop worldAfter
  eval_model

end C02
