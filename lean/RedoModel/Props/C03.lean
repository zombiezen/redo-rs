import RedoModel.Lemmas.DepsMemo
import RedoModel.Lemmas.Deps
import RedoModel.Props.C03b
import RedoModel.Props.C03c
/-!
# C03 — Checksum cut-off: redo-stamp stops and forwards change exactly
Model: `RedoModel/Deps.lean`.
-/
namespace C03
open RedoModel.Deps

/-- `redo-stamp` with an unchanged checksum marks the target *checked* in this run and leaves
`changed_runid` alone: dependents compare against the old `changed_runid` and see no change. -/
theorem stamp_same (r : Rec) (R : Nat) (data : Content) (h : r.csum = some data) :
    (stampRec r R data).changed = r.changed ∧ (stampRec r R data).checked = some R ∧
    (stampRec r R data).csum = some data ∧ (stampRec r R data).isGenerated = true := by
  simp [stampRec, h]

/-- `redo-stamp` with a different checksum marks the target *changed* in this run and
records the new checksum. -/
theorem stamp_changed (r : Rec) (R : Nat) (data : Content) (h : r.csum ≠ some data) :
    (stampRec r R data).changed = some R ∧ (stampRec r R data).csum = some data ∧
    (stampRec r R data).failed = none := by
  simp [stampRec, h, setChanged]

/-- Recording the build of a target that ran `redo-stamp` keeps the stamp marks: it does not
call `set_changed` again, so an unchanged checksum stays a cut-off. -/
theorem record_keeps_stamp_marks (cx : Ctx) (t : Nat) (sf : Rec) (c : Content) (w : World)
    (hm : isCheckedR (w.recs t) cx.runid = true ∨ isChangedR (w.recs t) cx.runid = true) :
    ((recordNewState cx t sf 0 (some c) w).2.recs t).changed = (w.recs t).changed ∧
    ((recordNewState cx t sf 0 (some c) w).2.recs t).checked = (w.recs t).checked ∧
    ((recordNewState cx t sf 0 (some c) w).2.recs t).csum = (w.recs t).csum := by
  have hm' : (isCheckedR (w.recs t) cx.runid || isChangedR (w.recs t) cx.runid) = true := by
    rcases hm with h | h <;> simp [h]
  simp [recordNewState, newNode, setFile, setRec, zapDeps2, isCheckedR, isChangedR] at hm' ⊢
  simp [hm']

/-- A plain (unstamped) successful build always counts as a change for dependents. -/
theorem record_plain_changes (cx : Ctx) (t : Nat) (sf : Rec) (c : Content) (w : World)
    (hm : isCheckedR (w.recs t) cx.runid = false) (hm2 : isChangedR (w.recs t) cx.runid = false) :
    ((recordNewState cx t sf 0 (some c) w).2.recs t).changed = some cx.runid ∧
    ((recordNewState cx t sf 0 (some c) w).2.recs t).csum = none := by
  simp [recordNewState, newNode, setFile, setRec, zapDeps2, isCheckedR, isChangedR] at hm hm2 ⊢
  simp [hm, hm2, setChanged, updateStamp]
  split <;> simp

/-- The cut-off itself: a dependency whose `changed_runid` is not newer than its dependent's
mark, and which was checked in this run, is clean for that dependent (see `C02.memoised_clean`). -/
theorem cutoff (R n : Nat) (w : World) (c : List Nat) (f mx ch : Nat) (seen : List Nat)
    (hs : f ∉ seen) (hf : (getRec w R f).failed = none) (hc : (getRec w R f).changed = some ch)
    (hle : ch ≤ mx) (hck : isCheckedR (getRec w R f) R = true) :
    (isDirty false R (n + 1) w c f mx seen none).1 = .clean :=
  congrArg (·.1) (isDirty_memo false R n w c f mx ch seen none hs hf hc hle hck)

/-- Recording an override forgets the checksum: it described the generated content, not the hand-made one, so a
later dirtiness check of the file's dependents falls back to the stamp comparison (no `need` verdict for it). -/
theorem override_forgets_checksum (w : World) (f : Nat) (r : Rec) (R : Nat) : (setOverride w f r R).csum = none := rfl

example : (setOverride (initWorld fun _ => []) 1 { csum := some [4], isGenerated := true, stamp := some .missing } 1).csum
    = none ∧ (setOverride (initWorld fun _ => []) 1 { csum := some [4], isGenerated := true } 1).isOverride = true := by
  decide

end C03
