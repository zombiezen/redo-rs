import RedoModel.Lemmas.DepsRows
import RedoModel.Lemmas.DepsFuelCheck
import RedoModel.Lemmas.DepsOwned
import RedoModel.Lemmas.DepsEval
/-!
# C03 (continued) — the checksum cut-off across a rebuild, a command, and the out-of-band path

"When a target that records a content checksum is rebuilt and its checksum is unchanged, nothing that depends on it
is rebuilt because of that rebuild.  When its checksum does change, every dependent is rebuilt before the same
top-level command returns success, at any nesting depth."

The property theorems; what they rest on is in `RedoModel/Lemmas/DepsCsum.lean`, `DepsRows.lean`.
Vocabulary (namespace `RedoModel.Deps`): `PlainStamped`, `scriptOut`, `LeavesAlone`, `NestedLeave`, `StampedJob`,
`MemoDep`, `CurrentBefore`, `ChangedDep`, `oobPath`, `oobCx1/2`,
`oobOrder` (DepsCsum); `QuietDep`, `QuietExt`, `mark` (DepsIfcreate); `finishS` (DepsParts); `RanIn` (DepsTrace).
-/
namespace C03
open RedoModel.Deps RedoModel.Generated

/-! ### What the rebuild of a checksummed target writes -/

/-- The record after the job, in one formula. -/
theorem rebuild_record (E : Engine) (d : Defects) (cx : Ctx) (m : Nat) (sf0 : Rec) (sc : Script) (w : World)
    (hj : StampedJob E cx m sf0 sc w) (h0 : (startSelf E d cx m sf0 w).1 = 0) :
    (startSelf E d cx m sf0 w).2.recs m =
      { stampRec (w.recs m) cx.runid (scriptOut sc w) with
        stamp := some (readStamp (startSelf E d cx m sf0 w).2 m) } :=
  startSelf_stamped E d cx m sf0 sc w hj h0

/-- Same data ⇒ `changed` is left alone (so dependents see no change), `checked = R`. -/
theorem rebuild_same_checksum_marks (E : Engine) (d : Defects) (cx : Ctx) (m : Nat) (sf0 : Rec) (sc : Script)
    (w : World) (hj : StampedJob E cx m sf0 sc w) (c0 : Content) (hcs : (w.recs m).csum = some c0)
    (hsame : scriptOut sc w = c0) (h0 : (startSelf E d cx m sf0 w).1 = 0) :
    ((startSelf E d cx m sf0 w).2.recs m).changed = (w.recs m).changed ∧
    ((startSelf E d cx m sf0 w).2.recs m).checked = some cx.runid ∧
    ((startSelf E d cx m sf0 w).2.recs m).csum = some c0 ∧
    ((startSelf E d cx m sf0 w).2.recs m).failed = none ∧
    ((startSelf E d cx m sf0 w).2.recs m).isGenerated = true ∧
    ((startSelf E d cx m sf0 w).2.recs m).isOverride = false ∧
    ((startSelf E d cx m sf0 w).2.recs m).stamp = some (readStamp (startSelf E d cx m sf0 w).2 m) := by
  rw [startSelf_stamped E d cx m sf0 sc w hj h0, hsame]
  simp [stampRec, hcs]

/-- Different data ⇒ `changed = R`. -/
theorem rebuild_changed_checksum_marks (E : Engine) (d : Defects) (cx : Ctx) (m : Nat) (sf0 : Rec) (sc : Script)
    (w : World) (hj : StampedJob E cx m sf0 sc w) (hdiff : (w.recs m).csum ≠ some (scriptOut sc w))
    (h0 : (startSelf E d cx m sf0 w).1 = 0) :
    ((startSelf E d cx m sf0 w).2.recs m).changed = some cx.runid ∧
    ((startSelf E d cx m sf0 w).2.recs m).csum = some (scriptOut sc w) ∧
    ((startSelf E d cx m sf0 w).2.recs m).failed = none ∧
    ((startSelf E d cx m sf0 w).2.recs m).isGenerated = true ∧
    ((startSelf E d cx m sf0 w).2.recs m).isOverride = false ∧
    ((startSelf E d cx m sf0 w).2.recs m).stamp = some (readStamp (startSelf E d cx m sf0 w).2 m) := by
  rw [startSelf_stamped E d cx m sf0 sc w hj h0]
  simp [stampRec, hdiff, setChanged]

/-- A leaf script (no nested command) in a process tree that is not killed: the job's status *is* 0. -/
theorem rebuild_leaf_succeeds (E : Engine) (d : Defects) (cx : Ctx) (m : Nat) (sf0 : Rec) (sc : Script)
    (w : World) (hj : StampedJob E cx m sf0 sc w) (hleaf : sc.ifchange = []) (hcr : cx.crash = none) :
    (startSelf E d cx m sf0 w).1 = 0 := by
  obtain ⟨dof, rest, n, h1, h2, h3, h4⟩ := hj.dofile
  rw [startSelf_first_do E d cx m sf0 w dof rest n sc hj.gen hj.novr hj.stamp h1 h3 h4]
  unfold ssRun
  have hp := hj.plain
  have hrow : ((preScript cx m dof w).recs m).row ≠ 0 := by rw [preScript_recs cx m dof w h2]; exact hj.row
  have ha : rsAlways cx m sc (preScript cx m dof w) = preScript cx m dof w := by unfold rsAlways; simp [hp.noalways]
  rw [runScript_eq, ha, hp.noifcreate]
  simp only [List.any_nil, Bool.false_eq_true, if_false, List.foldl_nil]
  unfold rsBody
  dsimp only
  simp only [hp.nocond, runScript.conds, hleaf, runScript.cmds, hcr, ne_eq, not_true_eq_false, if_false,
    reduceCtorEq]
  rw [rsFinish_stamped cx m sc _ hp hrow (by unfold rsFinish rsFailNow; simp [hp.nofail, hp.stamp, hp.exit0, hcr])]
  have hc : ¬ ((0 : Status) = CRASHED) := by decide
  simp only [hc, if_false]
  exact recordNewState_fst _ _ _ _ _ _

/-! ### Unchanged checksum: the dependent is not rebuilt -/

/-- The check of `m` made while checking a dependent (`snap` = the record of `m` as loaded with the dependent's
rows): not failed, `changed ≤` the dependent's mark, checked in this run ⇒ `clean`, and *nothing is written*. -/
theorem cutoff_check_is_clean (R n : Nat) (w : World) (c : List Nat) (m mx : Nat) (seen : List Nat) (snap : Rec)
    (ca : Nat) (hs : m ∉ seen) (hf : snap.failed = none) (hch : snap.changed = some ca) (hle : ca ≤ mx)
    (hck : isCheckedR snap R = true) :
    isDirty false R (n + 1) w c m mx seen (some snap) = (.clean, w, c) :=
  isDirty_memo false R n w c m mx ca seen (some snap) hs hf hch hle hck

/-- `should_build t` when every row of `t` is quiet (`QuietDep`) or points to a source that was checked /
rebuilt-with-unchanged-checksum in this run (`MemoDep`): `clean`. -/
theorem cutoff_shouldBuild (cx : Ctx) (m : Nat) (hm : 0 < m) (t : Nat) (w : World) (ch : Nat) (hr : cx.isRedo = false)
    (hR : cx.runid ≠ 0) (ht : t ≠ alwaysId) (hg : (w.recs t).isGenerated = true) (hf : (w.recs t).failed = none)
    (hch : (w.recs t).changed = some ch) (hle : ch ≤ cx.runid)
    (hst : (w.recs t).stamp = some (readStamp w t))
    (hq : ∀ d0 ∈ w.deps, d0.target = t → QuietDep w t d0 ∨ MemoDep w cx.runid t d0) :
    (shouldBuild cx (m + 1) t w).1 = some .clean :=
  shouldBuild_cut cx m hm t w ch hr hR ht hg hf hch hle hst hq

/-- The command `redo-ifchange t` (top level or unlocked second phase) of run `R`: exit 0, no script runs, no file,
row, clock change (`QuietExt`). -/
theorem cutoff_dependent_not_rebuilt (E : Engine) (d : Defects) (m : Nat) (hm : 0 < m) (cx : Ctx) (t : Nat) (w : World)
    (hp : cx.parent = none ∨ cx.unlocked = true) (hcy : cx.unlocked = true ∨ t ∉ cx.cycles)
    (hr : cx.isRedo = false) (hR : cx.runid ≠ 0) (ht : t ≠ alwaysId) (hcur : CurrentBefore w cx.runid t)
    (hq : ∀ d0 ∈ w.deps, d0.target = t → QuietDep w t d0 ∨ MemoDep w cx.runid t d0) :
    (ifchangeWith E d (m + 1) cx [t] w).1 = 0 ∧ QuietExt w (ifchangeWith E d (m + 1) cx [t] w).2 :=
  ifchangeWith_cutoff E d m hm cx t w hp hcy hr hR ht hcur hq

/-! ### Changed checksum: the dependent is rebuilt, or the command fails -/

theorem changed_checksum_verdict (cx : Ctx) (fuel t : Nat) (w : World) (hr : cx.isRedo = false)
    (ht : t ≠ alwaysId) (hcur : CurrentBefore w cx.runid t)
    (d0 : Dep) (hd : d0 ∈ w.deps) (hdt : d0.target = t) (hfire : ChangedDep w t d0) :
    (shouldBuild cx (fuel + 2) t w).1 = some .cyclic ∨ (shouldBuild cx (fuel + 2) t w).1 = some .dirty :=
  shouldBuild_trigger cx fuel t w hr ht hcur d0 hd hdt (.inr hfire)

theorem changed_checksum_forwards (E : Engine) (hE : EngineExt E) (d : Defects) (fuel : Nat) (cx : Ctx) (t : Nat)
    (w : World) (hp : cx.parent = none ∨ cx.unlocked = true) (hcy : cx.unlocked = true ∨ t ∉ cx.cycles)
    (hr : cx.isRedo = false) (ht : t ≠ alwaysId) (hcur : CurrentBefore w cx.runid t)
    (d0 : Dep) (hd : d0 ∈ w.deps) (hdt : d0.target = t) (hfire : ChangedDep w t d0)
    (hdo : ∃ c ∈ w.rules t, existsF w c = true) (h0 : (ifchangeWith E d (fuel + 2) cx [t] w).1 = 0) :
    RanIn t w (ifchangeWith E d (fuel + 2) cx [t] w).2 := by
  rcases ifchangeWith_trigger E hE d fuel cx t w hp hcy hr ht hcur d0 hd hdt (.inr hfire) hdo with h | h
  · rw [h] at h0
    exact absurd h0 (by decide)
  · exact h

/-- The row on a source whose checksum changed in this run (`changed = R`) is such a row. -/
theorem changed_now_is_newer (w : World) (R t : Nat) (d0 : Dep) (hcur : CurrentBefore w R t)
    (hm : d0.modeM = true) (h0 : d0.source ≠ alwaysId) (hne : d0.source ≠ t)
    (hch : (w.recs d0.source).changed = some R) : ChangedDep w t d0 :=
  ⟨hm, h0, hne, R, hch, hcur.mark_lt⟩

/-! ### The out-of-band decision (`redo-unlocked`): depth -/

/-- A `need ts` verdict (OOB allowed, defect switches off) makes the job exactly `oobPath`: `redo-ifchange ts`
with no parent, then — if that exits 0 — `redo-ifchange t` unlocked, whose status is the job's; a non-zero status of
the first command is the job's status (`oob_second_phase_decides`, `oob_first_phase_fails`). -/
theorem buildJob_need (E : Engine) (d : Defects) (cx : Ctx) (fuel t : Nat) (w : World) (ts : List Nat)
    (hno : cx.noOob = false) (hd1 : d.oobRecordsDepsOnCaller = false) (hd2 : d.oobRebuildsDepsNotTarget = false)
    (hs : (shouldBuild cx fuel t w).1 = some (.need ts)) :
    buildJob E d cx fuel t w = oobPath E cx t ts (shouldBuild cx fuel t w).2 :=
  RedoModel.Deps.buildJob_need E d cx fuel t w ts hno hd1 hd2 hs

theorem oob_first_phase_fails (E : Engine) (cx : Ctx) (t : Nat) (ts : List Nat) (w : World) (rv : Status) (w2 : World)
    (h1 : E.ifchangeCmd (oobCx1 cx t) (oobOrder w ts) w = (rv, w2)) (hrv : rv ≠ 0) :
    oobPath E cx t ts w = (.done rv, w2) := by
  unfold oobPath
  simp [h1, hrv]

theorem oob_second_phase_decides (E : Engine) (cx : Ctx) (t : Nat) (ts : List Nat) (w : World) (w2 : World)
    (h1 : E.ifchangeCmd (oobCx1 cx t) (oobOrder w ts) w = (0, w2)) :
    oobPath E cx t ts w = (.done (E.ifchangeCmd (oobCx2 cx) [t] w2).1, (E.ifchangeCmd (oobCx2 cx) [t] w2).2) :=
  oobPath_first_ok E cx t ts w w2 h1

/-- The cut-off survives the OOB path: if after the first phase (world `w2`) `t`'s record is still current and its
rows are quiet or memoised (`ts` rebuilt with unchanged checksums: `rebuild_same_checksum_marks`), the job is done
with status 0 and nothing ran after the first phase. -/
theorem need_then_recheck (d : Defects) (n : Nat) (hn : 0 < n) (cx : Ctx) (fuel t : Nat) (w : World)
    (ts : List Nat) (w2 : World)
    (hno : cx.noOob = false) (hd1 : d.oobRecordsDepsOnCaller = false) (hd2 : d.oobRebuildsDepsNotTarget = false)
    (hs : (shouldBuild cx fuel t w).1 = some (.need ts))
    (h1 : (engine d (n + 1)).ifchangeCmd (oobCx1 cx t) (oobOrder (shouldBuild cx fuel t w).2 ts)
      (shouldBuild cx fuel t w).2 = (0, w2))
    (hR : cx.runid ≠ 0) (ht : t ≠ alwaysId) (hcur : CurrentBefore w2 cx.runid t)
    (hq : ∀ d0 ∈ w2.deps, d0.target = t → QuietDep w2 t d0 ∨ MemoDep w2 cx.runid t d0) :
    (buildJob (engine d (n + 1)) d cx fuel t w).1 = .done 0 ∧
    QuietExt w2 (buildJob (engine d (n + 1)) d cx fuel t w).2 := by
  rw [buildJob_need _ d cx fuel t w ts hno hd1 hd2 hs, oobPath_first_ok _ cx t ts _ w2 h1, engine_cmd_eq]
  have key := ifchangeWith_cutoff (engine d n) d n hn (oobCx2 cx) t w2 (Or.inr rfl) (Or.inl rfl) rfl hR ht hcur hq
  exact ⟨by rw [key.1], key.2⟩

/-- … and a change is forwarded through it: if in `w2` some source of `t` is newer than `t`'s mark (a member of
`ts` ended with `changed = R`: `rebuild_changed_checksum_marks`, `changed_now_is_newer`), the job ends with the
cyclic status or `t`'s script ran in the second phase. -/
theorem need_then_recheck_forwards (d : Defects) (n : Nat) (cx : Ctx) (fuel t : Nat) (w : World)
    (ts : List Nat) (w2 : World)
    (hno : cx.noOob = false) (hd1 : d.oobRecordsDepsOnCaller = false) (hd2 : d.oobRebuildsDepsNotTarget = false)
    (hs : (shouldBuild cx fuel t w).1 = some (.need ts))
    (h1 : (engine d (n + 2)).ifchangeCmd (oobCx1 cx t) (oobOrder (shouldBuild cx fuel t w).2 ts)
      (shouldBuild cx fuel t w).2 = (0, w2))
    (ht : t ≠ alwaysId) (hcur : CurrentBefore w2 cx.runid t)
    (d0 : Dep) (hd : d0 ∈ w2.deps) (hdt : d0.target = t) (hfire : ChangedDep w2 t d0)
    (hdo : ∃ c ∈ w2.rules t, existsF w2 c = true) :
    (buildJob (engine d (n + 2)) d cx fuel t w).1 = .done EXIT_CYCLIC_DEPENDENCY ∨
    ((∃ rv, (buildJob (engine d (n + 2)) d cx fuel t w).1 = .done rv) ∧
      RanIn t w2 (buildJob (engine d (n + 2)) d cx fuel t w).2) := by
  rw [buildJob_need _ d cx fuel t w ts hno hd1 hd2 hs, oobPath_first_ok _ cx t ts _ w2 h1, engine_cmd_eq]
  rcases ifchangeWith_trigger (engine d (n + 1)) (engine_traceExt d _) d n (oobCx2 cx) t w2 (Or.inr rfl) (Or.inl rfl)
    rfl ht hcur d0 hd hdt (.inr hfire) hdo with h | h
  · left; rw [h]
  · right; exact ⟨⟨_, rfl⟩, h⟩

/-! ### Without checksums there is no out-of-band path -/

theorem no_need_without_checksums (ood : Bool) (R fuel : Nat) (w : World) (cache : List Nat) (f mx : Nat)
    (seen : List Nat) (pre : Option Rec) (hw : NoCsum w) (hpre : ∀ r, pre = some r → r.csum = none) (ts : List Nat) :
    (isDirty ood R fuel w cache f mx seen pre).1 ≠ .need ts :=
  (isDirty_nocsum ood R fuel w cache f mx seen pre hw hpre).2 ts

theorem no_need_without_checksums_job (cx : Ctx) (fuel t : Nat) (w : World) (h : NoCsum w) (ts : List Nat) :
    (shouldBuild cx fuel t w).1 ≠ some (.need ts) := by
  have key := (isDirty_nocsum false cx.runid fuel w [] t cx.runid [] none h (fun r e => by cases e)).2
  unfold shouldBuild
  split
  · simp
  · dsimp only
    split
    · simp
    · generalize isDirty false cx.runid fuel w [] t cx.runid [] none = res at key
      obtain ⟨dr, w', c'⟩ := res
      dsimp only at key ⊢
      cases dr with
      | need xs => exact absurd rfl (key xs)
      | clean => simp
      | dirty => simp
      | cyclic => simp

/-! ### Non-vacuity: concrete histories from `initWorld`

Files: 1 = source `s`, 2 = `mid.do`, 3 = `mid` (checksummed), 4 = `top.do`, 5 = `top` (reads `mid`). -/

instance decExLe' (o : Option Nat) (m : Nat) : Decidable (∃ c, o = some c ∧ c ≤ m) :=
  match o with
  | none => isFalse (fun ⟨_, h, _⟩ => by cases h)
  | some c => if h : c ≤ m then isTrue ⟨c, rfl, h⟩ else isFalse (fun ⟨_, h1, h2⟩ => by cases h1; exact h h2)

instance decExLt' (o : Option Nat) (m : Nat) : Decidable (∃ c, o = some c ∧ m < c) :=
  match o with
  | none => isFalse (fun ⟨_, h, _⟩ => by cases h)
  | some c => if h : m < c then isTrue ⟨c, rfl, h⟩ else isFalse (fun ⟨_, h1, h2⟩ => by cases h1; exact h h2)

instance (w : World) (t : Nat) (d0 : Dep) : Decidable (QuietDep w t d0) := by unfold QuietDep; exact inferInstance
instance (w : World) (R t : Nat) (d0 : Dep) : Decidable (MemoDep w R t d0) := by unfold MemoDep; exact inferInstance
instance (w : World) (t : Nat) (d0 : Dep) : Decidable (ChangedDep w t d0) := by unfold ChangedDep; exact inferInstance

def csRules : Nat → List Nat := fun t => if t = 3 then [2] else if t = 5 then [4] else []

/-- `mid.do`: `redo-ifchange s; echo constant | tee $3 | redo-stamp` — depends on `s`, output does not. -/
def midSame : Script := { ifchange := [[1]], reads := [], tag := 1, stamp := 1 }
/-- `mid.do`: `redo-ifchange s; cat s | tee $3 | redo-stamp`. -/
def midRead : Script := { ifchange := [[1]], reads := [1], tag := 1, stamp := 1 }
def topSc : Script := { ifchange := [[3]], reads := [3], tag := 2 }

/-- Run 1 builds `top` (and `mid`); the user edits `s`; run 2 rebuilds `mid` (`redo mid`). -/
def exHist (mid : Script) : List UserOp := [.write 1 0, .write 2 1, .write 4 2,
  .setProg (srcContent 1) mid, .setProg (srcContent 2) topSc, .cmd (.ifchange [5] false),
  .write 1 1, .cmd (.redo [3] false)]

/-- In run 2 `mid` was rebuilt with the same checksum … -/
def exSame : World := runOps {} 6 (exHist midSame) (initWorld csRules)
/-- … or with a different one. -/
def exDiff : World := runOps {} 6 (exHist midRead) (initWorld csRules)

example : (exSame.recs 3).changed = some 1 ∧ (exSame.recs 3).checked = some 2 ∧ (exSame.recs 3).csum = some [4] ∧
    (exDiff.recs 3).changed = some 2 ∧ (exDiff.recs 3).csum = some [4, 0, 5, 1] ∧
    exSame.trace = [.ran 3, .ran 3, .ran 5] := by decide +kernel

theorem exSame_current : CurrentBefore exSame 2 5 := by decide +kernel

theorem exDiff_current : CurrentBefore exDiff 2 5 := by decide +kernel

/-- Cut-off: a further `redo-ifchange top` of run 2 does nothing (rows of `top`: memoised `mid`, quiet `top.do`). -/
example : (ifchangeWith (engine {} 13) {} 14 { runid := 2 } [5] exSame).1 = 0 ∧
    QuietExt exSame (ifchangeWith (engine {} 13) {} 14 { runid := 2 } [5] exSame).2 :=
  cutoff_dependent_not_rebuilt (engine {} 13) {} 13 (by decide) { runid := 2 } 5 exSame (Or.inl rfl)
    (Or.inr (by decide)) rfl (by decide) (by decide) exSame_current (by decide +kernel)

/-- … and the `mid` row really is the memoised alternative, not a quiet one. -/
example : MemoDep exSame 2 5 ⟨5, 3, true, false⟩ ∧ ¬ QuietDep exSame 5 ⟨5, 3, true, false⟩ ∧
    (⟨5, 3, true, false⟩ : Dep) ∈ exSame.deps := by decide +kernel

/-- Forwarding: with a changed checksum the same command rebuilds `top` (or fails). -/
example (h0 : (ifchangeWith (engine {} 13) {} 14 { runid := 2 } [5] exDiff).1 = 0) :
    RanIn 5 exDiff (ifchangeWith (engine {} 13) {} 14 { runid := 2 } [5] exDiff).2 :=
  changed_checksum_forwards (engine {} 13) (engine_traceExt {} 13) {} 12 { runid := 2 } 5 exDiff (Or.inl rfl)
    (Or.inr (by decide)) rfl (by decide) exDiff_current ⟨5, 3, true, false⟩ (by decide +kernel) rfl
    (changed_now_is_newer exDiff 2 5 _ exDiff_current rfl (by decide) (by decide) (by decide +kernel))
    ⟨4, by decide +kernel, by decide +kernel⟩ h0

/-! Job level: files 1 = `s`, 2 = `mid.do`, 3 = `mid`; `mid.do` is the leaf script
`cat s | tee $3 | redo-stamp`.  `exLeaf`: `mid` built in run 1, now run 2; `exLeaf'`: the same after `s` was edited. -/

def leafSc : Script := { reads := [1], tag := 1, stamp := 1 }
def leafRules : Nat → List Nat := fun t => if t = 3 then [2] else []
def exLeaf : World :=
  nextRun (runOps {} 4 [.write 1 0, .write 2 1, .setProg (srcContent 1) leafSc, .cmd (.ifchange [3] false)]
    (initWorld leafRules))
def exLeaf' : World :=
  nextRun (runOps {} 4 [.write 1 0, .write 2 1, .setProg (srcContent 1) leafSc, .cmd (.ifchange [3] false),
    .write 1 1] (initWorld leafRules))

theorem leafSc_plain : PlainStamped leafSc := ⟨rfl, rfl, rfl, rfl, rfl, rfl, by decide⟩

theorem exLeaf_job : StampedJob (engine {} 9) { runid := 2 } 3 (exLeaf.recs 3) leafSc exLeaf :=
  ⟨by decide +kernel, by decide +kernel, by decide +kernel, by decide +kernel, by decide, leafSc_plain, Or.inl rfl,
   ⟨2, [], ⟨srcContent 1, 2, 0⟩, by decide +kernel, by decide, by decide +kernel, by decide +kernel⟩⟩

theorem exLeaf'_job : StampedJob (engine {} 9) { runid := 2 } 3 (exLeaf'.recs 3) leafSc exLeaf' :=
  ⟨by decide +kernel, by decide +kernel, by decide +kernel, by decide +kernel, by decide, leafSc_plain, Or.inl rfl,
   ⟨2, [], ⟨srcContent 1, 2, 0⟩, by decide +kernel, by decide, by decide +kernel, by decide +kernel⟩⟩

/-- Same data: `changed` stays at run 1, `checked = 2`. -/
example : ((startSelf (engine {} 9) {} { runid := 2 } 3 (exLeaf.recs 3) exLeaf).2.recs 3).changed = some 1 ∧
    ((startSelf (engine {} 9) {} { runid := 2 } 3 (exLeaf.recs 3) exLeaf).2.recs 3).checked = some 2 := by
  have h := rebuild_same_checksum_marks (engine {} 9) {} { runid := 2 } 3 (exLeaf.recs 3) leafSc exLeaf exLeaf_job
    [4, 0, 3, 1] (by decide +kernel) (by decide +kernel)
    (rebuild_leaf_succeeds _ _ _ _ _ _ _ exLeaf_job rfl rfl)
  exact ⟨h.1.trans (by decide +kernel), h.2.1⟩

/-- Different data: `changed = 2`. -/
example : ((startSelf (engine {} 9) {} { runid := 2 } 3 (exLeaf'.recs 3) exLeaf').2.recs 3).changed = some 2 :=
  (rebuild_changed_checksum_marks (engine {} 9) {} { runid := 2 } 3 (exLeaf'.recs 3) leafSc exLeaf' exLeaf'_job
    (by decide +kernel) (rebuild_leaf_succeeds _ _ _ _ _ _ _ exLeaf'_job rfl rfl)).1

/-- A project that never ran `redo-stamp`. -/
example (ts : List Nat) : (shouldBuild { runid := 1 } 9 3 (initWorld leafRules)).1 ≠ some (.need ts) :=
  no_need_without_checksums_job _ _ _ _ (fun f => by unfold initWorld; dsimp only; split <;> rfl) ts

/-! Whole command, by evaluation (`eval_model`, `Lemmas/DepsEval.lean`: the two rows of `mid` and of `top` are sorted
by `List.mergeSort`, which the kernel cannot unfold). -/

/-- `s` edited, nothing run yet: the verdict for `top` is `need [mid]` (the hypothesis of `buildJob_need`). -/
example : (shouldBuild { runid := 2 } 14 5 (nextRun (runOps {} 6 ((exHist midSame).take 7) (initWorld csRules)))).1 =
    some (.need [3]) := by
  unfold runOps exHist
  eval_model

/-- Same checksum: `mid` ran again, `top` did not (cut-off through the out-of-band path); a different one: `mid` ran,
then `top`.  (With `mid.do = { ifchange := [[1]], reads := [1], tag := 1, stamp := 2 }` — the output depends on `s`, but
a constant is stamped — the result is the first one.) -/
example : (runCmd {} 6 (.ifchange [5] false) (runOps {} 6 ((exHist midSame).take 7) (initWorld csRules))).2.trace =
      [.ran 3, .ran 3, .ran 5] ∧
    (runCmd {} 6 (.ifchange [5] false) (runOps {} 6 ((exHist midRead).take 7) (initWorld csRules))).2.trace =
      [.ran 5, .ran 3, .ran 3, .ran 5] := by
  unfold runOps exHist
  eval_model

#print axioms rebuild_record
#print axioms rebuild_same_checksum_marks
#print axioms rebuild_changed_checksum_marks
#print axioms rebuild_leaf_succeeds
#print axioms cutoff_check_is_clean
#print axioms cutoff_shouldBuild
#print axioms cutoff_dependent_not_rebuilt
#print axioms changed_checksum_verdict
#print axioms changed_checksum_forwards
#print axioms buildJob_need
#print axioms need_then_recheck
#print axioms need_then_recheck_forwards
#print axioms no_need_without_checksums
#print axioms no_need_without_checksums_job

end C03
