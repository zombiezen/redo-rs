import RedoModel.Lemmas.DepsSoundSEx
/-!
# C03, continued — the cut-off never leaves anything stale (history level)
Property theorem only.  The job-level facts of `C03b` say *what* a rebuild with an unchanged or changed checksum
records; this says that, whatever the history, not rebuilding the dependents of a target whose checksum stayed the
same is right: every target named by an exit-0 command is up to date (the statement of `C01.no_stale_full_stamp_partial`,
which is the "forwards change exactly" half of C03 over all histories of the class).
-/
namespace C03
open RedoModel.Deps

theorem cutoff_never_stale_partial (n : Nat) (rules : Nat → List Nat) (rank : Nat → Nat) (ops : List UserOp)
    (ts : List Nat) (kg forced : Bool) (hr : RulesOk rules) (hp : ∀ op ∈ ops, PlainOpS rules op)
    (hrk : ∀ w ∈ worldsOf n {} (initWorld rules) ops, Ranked rank w) (hN : ∀ f, rank f < n)
    (hok : OpsOk n (initWorld rules) ops) (hk : RedoKOk n (initWorld rules) ops) :
    let w := ops.foldl (fun w op => (applyOp {} n op w).2) (initWorld rules)
    let r := runCmd {} n (if forced then .redo ts kg else .ifchange ts kg) w
    r.1.status = 0 → ∀ t ∈ ts, UpToDateD r.2 t :=
  noStaleStamp_partial n rules rank ops ts kg forced hr hp hrk hN hok hk

/-- The cut-off at work on a concrete history (see `C01.stamp_cutoff_example_trace`): the checksummed middle target is
rebuilt out of band, its checksum is unchanged, the top target is not rebuilt. -/
theorem cutoff_example : S.sResA.1.status = 0 ∧ S.sResA.2.trace = [.ran 3, .ran 3, .ran 4] :=
  ⟨S.sA_status, S.sA_trace⟩

end C03
