import RedoModel.Commit
/-!
# C04 — Targets are replaced atomically and only by complete, unambiguous output
Property theorems only.  Model: `RedoModel/Commit.lean` (decision part of `record_new_state`).
The documented statuses are the generated constants (re-extracted from src/exits.rs each run).
-/
namespace C04
open RedoModel.Commit RedoModel.Generated

/-- The input of the decision describes the two-name file system the script left behind. -/
def Coherent (i : Input) (fs : Fs) (stdout : Bytes) : Prop :=
  i.tmpExists = fs.tmp.isSome ∧ (decide (i.stdoutSize > 0) = !stdout.isEmpty) ∧
  i.createFails = false ∧ i.renameFails = false

def final (i : Input) (fs : Fs) (stdout : Bytes) : Fs := applyOps stdout false fs (decide i).ops

/-- The documented statuses. -/
theorem status (i : Input) :
    (modifiedDirectly i = true → (decide i).rv = EXIT_TARGET_DIRECTLY_MODIFIED) ∧
    (modifiedDirectly i = false → bothOutputs i = true → (decide i).rv = EXIT_MULTIPLE_OUTPUTS) ∧
    (modifiedDirectly i = false → bothOutputs i = false → i.rv ≠ 0 → (decide i).rv = i.rv) ∧
    EXIT_TARGET_DIRECTLY_MODIFIED = 206 ∧ EXIT_MULTIPLE_OUTPUTS = 207 := by
  refine ⟨?_, ?_, ?_, rfl, rfl⟩
  · intro h; simp [RedoModel.Commit.decide, rv1, h, EXIT_TARGET_DIRECTLY_MODIFIED, EXIT_SUCCESS]
  · intro h1 h2; simp [RedoModel.Commit.decide, rv1, h1, h2, EXIT_MULTIPLE_OUTPUTS, EXIT_SUCCESS]
  · intro h1 h2 h3; simp [RedoModel.Commit.decide, rv1, h1, h2, h3, EXIT_SUCCESS]

/-- The command succeeds only if the script succeeded, did not write `$1`, and did not
produce both outputs. -/
theorem success_iff (i : Input) (hc : i.createFails = false) (hr : i.renameFails = false) :
    (decide i).rv = 0 ↔ (i.rv = 0 ∧ modifiedDirectly i = false ∧ bothOutputs i = false) := by
  unfold RedoModel.Commit.decide rv1
  cases hm : modifiedDirectly i <;> cases hb : bothOutputs i <;>
    simp [hc, hr, EXIT_SUCCESS, EXIT_TARGET_DIRECTLY_MODIFIED, EXIT_MULTIPLE_OUTPUTS]
  · by_cases h0 : i.rv = 0 <;> simp [h0]

/-- Whether or not `File::create($3)` or `rename($3, $1)` fails, a failing command performs no write to the target and
leaves no temporary file.  (Repaired in /repo, 9bb5b43: a failed copy of the script's stdout used to fall into the
"no output" branch and REMOVE the previous target.) -/
theorem failure_keeps_target_under_faults (i : Input) (fs : Fs) (stdout : Bytes)
    (ht : i.tmpExists = fs.tmp.isSome) (hf : (decide i).rv ≠ 0) :
    (applyOps stdout i.renameFails fs (decide i).ops).target = fs.target ∧
    (applyOps stdout i.renameFails fs (decide i).ops).tmp = none := by
  unfold RedoModel.Commit.decide at hf ⊢
  by_cases h1 : rv1 i = EXIT_SUCCESS
  · cases hcf : i.createFails <;> cases hrf : i.renameFails <;> cases hte : i.tmpExists <;>
      by_cases hsz : i.stdoutSize > 0 <;>
      simp [h1, hcf, hrf, hte, hsz, EXIT_SUCCESS, EXIT_BUILD_JOB_ERROR, applyOps, applyOp] at hf ⊢
  · simp [h1, applyOps, applyOp]

/-- In particular without faults: a failing command leaves the target exactly as the script left it (redo performs no
write to it), and removes the temporary file. -/
theorem failure_keeps_target (i : Input) (fs : Fs) (stdout : Bytes) (h : Coherent i fs stdout)
    (hf : (decide i).rv ≠ 0) :
    (final i fs stdout).target = fs.target ∧ (final i fs stdout).tmp = none := by
  have := failure_keeps_target_under_faults i fs stdout h.1 hf
  rwa [h.2.2.2] at this

/-- The fault that used to delete the target: the script succeeded with output on stdout, `$3` cannot be created. -/
example : let i : Input := { before := some ⟨false, 1⟩, after := some ⟨false, 1⟩, stdoutSize := 4, tmpExists := false, rv := 0, createFails := true }
    (decide i).rv = EXIT_BUILD_JOB_ERROR ∧ FsOp.unlinkTarget ∉ (decide i).ops ∧
    (applyOps [1] false ⟨some [7], none⟩ (decide i).ops).target = some [7] := by
  decide

/-- On success the target becomes exactly the script's output: stdout if that is non-empty
and there is no `$3`; the `$3` file if there is one; and it is removed if there is neither. -/
theorem exact_output (i : Input) (fs : Fs) (stdout : Bytes) (h : Coherent i fs stdout)
    (hs : (decide i).rv = 0) :
    (final i fs stdout).target =
      (if fs.tmp.isSome then fs.tmp else if stdout.isEmpty then none else some stdout) ∧
    (final i fs stdout).tmp = none := by
  obtain ⟨ht, ho, hc, hr⟩ := h
  have hsucc := (success_iff i hc hr).1 hs
  have h1 : rv1 i = EXIT_SUCCESS := by
    unfold rv1; simp [hsucc.2.1, hsucc.2.2, hsucc.1, EXIT_SUCCESS]
  unfold final RedoModel.Commit.decide
  simp only [h1, if_true, hc, hr]
  cases htmp : fs.tmp with
  | some b =>
    have : i.tmpExists = true := by rw [ht, htmp]; rfl
    simp [this, applyOps, applyOp, htmp, EXIT_SUCCESS]
  | none =>
    have hte : i.tmpExists = false := by rw [ht, htmp]; rfl
    cases hso : stdout.isEmpty with
    | true =>
      have : decide (i.stdoutSize > 0) = false := by rw [ho, hso]; rfl
      simp [hte, this, applyOps, applyOp, EXIT_SUCCESS, htmp]
    | false =>
      have : decide (i.stdoutSize > 0) = true := by rw [ho, hso]; rfl
      simp [hte, this, applyOps, applyOp, EXIT_SUCCESS]

/-- The target's bytes change only on success. -/
theorem only_on_success (i : Input) (fs : Fs) (stdout : Bytes) (h : Coherent i fs stdout)
    (hch : (final i fs stdout).target ≠ fs.target) :
    (decide i).rv = 0 ∧ i.rv = 0 ∧ modifiedDirectly i = false ∧ bothOutputs i = false := by
  by_cases hs : (decide i).rv = 0
  · exact ⟨hs, (success_iff i h.2.2.1 h.2.2.2).1 hs⟩
  · exact absurd (failure_keeps_target i fs stdout h hs).1 hch

/-- No temporary output file is left behind, whatever the outcome. -/
theorem no_tmp_left (i : Input) (fs : Fs) (stdout : Bytes) (h : Coherent i fs stdout) :
    (final i fs stdout).tmp = none := by
  by_cases hs : (decide i).rv = 0
  · exact (exact_output i fs stdout h hs).2
  · exact (failure_keeps_target i fs stdout h hs).2

/-- At no instant is a partially written target visible: after every prefix of redo's
operations the target holds either its old or its final content (the only operations that
name the target are one `rename` and one `unlink`, each last among the target-changing ones). -/
theorem atomic (i : Input) (fs : Fs) (stdout : Bytes) (h : Coherent i fs stdout)
    (k : Nat) :
    (applyOps stdout false fs ((decide i).ops.take k)).target = fs.target ∨
    (applyOps stdout false fs ((decide i).ops.take k)).target = (final i fs stdout).target := by
  obtain ⟨ht, ho, hc, hr⟩ := h
  unfold final RedoModel.Commit.decide
  by_cases h1 : rv1 i = EXIT_SUCCESS
  · simp only [h1, if_true, hc, hr]
    cases hte : i.tmpExists <;> cases hso : decide (i.stdoutSize > 0) <;>
      simp [EXIT_SUCCESS] <;>
      (rcases k with _ | _ | _ | k <;> simp [applyOps, applyOp])
  · simp only [h1, if_false]
    rcases k with _ | k <;> simp [applyOps, applyOp]

/-- Non-vacuity: a script that wrote 5 bytes to stdout and exited 0, previous target present. -/
example : Coherent { before := some ⟨false, 1⟩, after := some ⟨false, 1⟩, stdoutSize := 5, tmpExists := false, rv := 0 }
    { target := some [1], tmp := none } [7, 7, 7, 7, 7] := by
  simp [Coherent]

example : (decide { before := some ⟨false, 1⟩, after := some ⟨false, 1⟩, stdoutSize := 5, tmpExists := false, rv := 0 }).ops
    = [.unlinkTmp, .createTmpFromStdout, .renameTmpToTarget] := by decide

end C04
