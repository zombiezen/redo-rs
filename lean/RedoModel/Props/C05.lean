import RedoModel.Props.C05c
import RedoModel.Props.C05a
import RedoModel.Props.C05b
/-! # C05 — the property theorems are in `C05a.lean` (one-step mechanisms), `C05b.lean` (whole
commands: propagation to the top, no failure behind a zero status, not run twice, retried next run,
keep-going and stop rules) and `C05c.lean` (at any -j: the stop / keep-going rule and the exit status of `builder::run`). -/
