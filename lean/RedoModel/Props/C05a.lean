import RedoModel.Lemmas.DepsMemo
import RedoModel.Lemmas.DepsLoops
/-!
# C05 — Failures propagate, are remembered as dirty, and are retried next run
The one-step property theorems.  Model: `RedoModel/Deps.lean`.
-/
namespace C05
open RedoModel.Deps RedoModel.Generated

/-- A recorded failure makes the target dirty for every later check, whatever else is
recorded: it is retried by the next run even if nothing changed. -/
theorem failed_is_dirty (ood : Bool) (R n : Nat) (w : World) (c : List Nat) (f mx : Nat) (seen : List Nat)
    (hf : (getRec w R f).failed.isSome = true) (hs : f ∉ seen) :
    isDirty ood R (n + 1) w c f mx seen none = (.dirty, w, c) :=
  isDirty_record_dirty ood R n w c f mx seen none hs (.inl hf)

/-- A failing script is recorded as failed in this run and the target file is left alone. -/
theorem failure_recorded (cx : Ctx) (t : Nat) (sf : Rec) (rv : Status) (out : Option Content) (w : World)
    (hrv : rv ≠ 0) :
    (recordNewState cx t sf rv out w).1 = rv ∧ (recordNewState cx t sf rv out w).2.fs = w.fs ∧
    ((recordNewState cx t sf rv out w).2.recs t).failed = some cx.runid :=
  recordNewState_failure cx t sf rv out w hrv

/-- A target that already failed in this run is not executed a second time: the request is
answered with `EXIT_TARGET_FAILED` (32) as the job's result and nothing is changed or run. -/
theorem once_per_run (E : Engine) (d : Defects) (cx : Ctx) (fuel t : Nat) (w : World)
    (hd : d.failedTargetAbortsRun = false)
    (hr : cx.isRedo = false) (hf : isFailedR (getRec w cx.runid t) cx.runid = true) :
    buildJob E d cx fuel t w = (.done EXIT_TARGET_FAILED, w) ∧ EXIT_TARGET_FAILED = 32 :=
  ⟨buildJob_failed_before E d cx fuel t w hd hr hf, rfl⟩

/-- With `--keep-going`, an already-failed target does not stop the command: the remaining
targets are still considered (the pinned tree aborted the whole run here; see known findings). -/
theorem keep_going_past_failed (E : Engine) (d : Defects) (cx : Ctx) (fuel t : Nat) (ts seen : List Nat) (w : World) (e : Bool)
    (hd : d.failedTargetAbortsRun = false) (hk : cx.keepGoing = true) (hs : t ∉ seen)
    (hcyc : (!cx.unlocked && decide (t ∈ cx.cycles)) = false)
    (hr : cx.isRedo = false) (hf : isFailedR (getRec (addKnown w t) cx.runid t) cx.runid = true) :
    runTargets E d cx fuel (t :: ts) seen e w = runTargets E d cx fuel ts (t :: seen) true (addKnown w t) := by
  have hj := (once_per_run E d cx fuel t (addKnown w t) hd hr hf).1
  rw [runTargets]
  simp only [hs, if_false, hk, Bool.not_true, Bool.and_false, Bool.false_eq_true, hcyc, hj]
  simp [EXIT_TARGET_FAILED, CRASHED]

/-- Witness for the repaired defect `failedTargetAbortsRun`: with the switch on, the same
request aborts the run with status 32 whatever targets remain. -/
theorem failed_aborts_witness (E : Engine) (cx : Ctx) (fuel t : Nat) (w : World)
    (hr : cx.isRedo = false) (hf : isFailedR (getRec w cx.runid t) cx.runid = true) :
    buildJob E { failedTargetAbortsRun := true } cx fuel t w = (.abort EXIT_TARGET_FAILED, w) := by
  simp [buildJob, shouldBuild, hr, hf]

/-- Once a failure is known in a command, the command's status is non-zero whatever happens
to the remaining targets. -/
theorem propagates (E : Engine) (d : Defects) (cx : Ctx) (fuel : Nat) :
    ∀ (ts seen : List Nat) (w : World), (runTargets E d cx fuel ts seen true w).1 ≠ 0 :=
  runTargets_errored_ne_zero E d cx fuel

/-- Without `--keep-going`, no further target of the command is started after a failure is
known. -/
theorem stop_after_failure (E : Engine) (d : Defects) (cx : Ctx) (fuel t : Nat) (ts seen : List Nat) (w : World)
    (hk : cx.keepGoing = false) (hs : t ∉ seen) :
    runTargets E d cx fuel (t :: ts) seen true w = (1, w) := by
  simp [runTargets, hs, hk]

end C05
