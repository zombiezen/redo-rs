import RedoModel.Lemmas.DepsFail
/-!
# C05 (whole engine) — failures propagate to the top, are recorded, are not run twice, are retried next run;
`--keep-going` reaches every target, without it nothing is started after the first failure

The property theorems; the lemmas under them are in `RedoModel/Lemmas/DepsFail.lean` and, for "status 0 means no failure
recorded" (`FailedNow`, `NoNewFail`, `engine_nnf`), in `DepsNoNewFail.lean`.  Model: `RedoModel/Deps.lean`.
`FailedNow R w t` : the record of `t` says "failed in run `R`".
`NoNewFail R w w'` : every target failed-in-`R` in `w'` already was in `w`.
-/
namespace C05
open RedoModel.Deps RedoModel.Generated

/-! ### Propagation -/

/-- A job that ends with `done 0` recorded no failure (for any engine whose nested commands have the
property; `engine_success_no_failure` discharges it for the real engine). -/
theorem job_zero_not_failed (E : Engine) (hE : EngNNF E) (d : Defects) (cx : Ctx) (fuel t : Nat) (w w' : World)
    (he : buildJob E d cx fuel t w = (.done 0, w')) : NoNewFail cx.runid w w' := by
  have h := buildJob_nnf E hE d cx rfl fuel t w (by rw [he])
  rwa [he] at h

/-- A nested or top-level `redo-ifchange` of the real engine that returns 0 recorded no failure at any
depth, and none of its targets is failed-in-this-run afterwards. -/
theorem command_zero_none_failed (d : Defects) (n : Nat) (cx : Ctx) (ts : List Nat) (w w' : World)
    (hr : cx.isRedo = false) (he : (engine d n).ifchangeCmd cx ts w = (0, w')) :
    NoNewFail cx.runid w w' ∧ ∀ t ∈ ts, ¬ FailedNow cx.runid w' t := by
  cases n with
  | zero => simp [engine, EXIT_FAILURE] at he
  | succ n =>
    have h := ifchangeWith_nnf (engine d n) (engine_nnf d n) d (n + 1) cx rfl ts w (congrArg Prod.fst he)
    rw [show ifchangeWith (engine d n) d (n + 1) cx ts w = (0, w') from he] at h
    exact ⟨h.1, h.2 hr⟩

theorem engine_success_no_failure (d : Defects) (n : Nat) : EngNNF (engine d n) := engine_nnf d n

/-- A top-level `redo-ifchange` or `redo` that exits 0, from any well-formed
world, leaves *no* target recorded as failed in this run. -/
theorem success_means_no_failure (d : Defects) (nf : Nat) (ts : List Nat) (kg : Bool) (w : World) (hwf : WF w) :
    ((runCmd d nf (.ifchange ts kg) w).1.status = 0 →
      ∀ t, ¬ FailedNow (w.runCounter + 1) (runCmd d nf (.ifchange ts kg) w).2 t) ∧
    ((runCmd d nf (.redo ts kg) w).1.status = 0 →
      ∀ t, ¬ FailedNow (w.runCounter + 1) (runCmd d nf (.redo ts kg) w).2 t) := by
  constructor
  · intro h t hf
    exact fresh_no_failed hwf t
      ((runTargets_nnf (engine d (2 * nf + 4)) (engine_nnf d _) d { runid := w.runCounter + 1, keepGoing := kg } rfl
        (2 * nf + 4) ts [] false { w with runCounter := w.runCounter + 1 } h).1 t hf)
  · intro h t hf
    exact fresh_no_failed hwf t
      ((runTargets_nnf (engine d (2 * nf + 4)) (engine_nnf d _) d
        { runid := w.runCounter + 1, keepGoing := kg, isRedo := true } rfl
        (2 * nf + 4) ts [] false { w with runCounter := w.runCounter + 1 } h).1 t hf)

/-- The steps (each level, for an arbitrary engine `E`): nested command → command sequence (`sh -e`). -/
theorem step_command_to_script (E : Engine) (d : Defects) (cx : Ctx) (t : Nat) (sc : Script) (w : World)
    (h : (runScript.cmds E cx t (scriptCtx cx t) sc.ifchange 0
      (runScript.conds E t (scriptCtx cx t) sc.cond
        (sc.ifcreate.foldl (fun w f => addDep w t f false) (rsAlways cx t sc w))).2).1 ≠ 0) :
    (runScript E d cx t sc w).1 ≠ 0 :=
  runScript_nonzero' E d cx t sc w h

/-- … script → `start_self`. -/
theorem step_script_to_startSelf (E : Engine) (d : Defects) (cx : Ctx) (t : Nat) (sf : Rec) (w : World) (dof : Nat) (w1 : World)
    (hf : findDoFile t ((zapDeps1 w t).rules t) (zapDeps1 w t) = (some dof, w1))
    (hs : (runScript E d cx t (doScript (ssPre cx t dof w1) dof) (ssPre cx t dof w1)).1 ≠ 0) :
    (ssBuild E d cx t sf w).1 ≠ 0 :=
  ssBuild_nonzero E d cx t sf w dof w1 hf hs

/-- … `start_self` → job. -/
theorem step_startSelf_to_job (E : Engine) (d : Defects) (cx : Ctx) (fuel t : Nat) (w w1 : World) (dr : DR)
    (hs : shouldBuild cx fuel t w = (some dr, w1)) (ho : OwnStart cx dr) :
    buildJob E d cx fuel t w = (.done (startSelf E d cx t (w.recs t) w1).1, (startSelf E d cx t (w.recs t) w1).2) :=
  buildJob_ownStart E d cx fuel t w w1 dr hs ho

/-- … job → target loop. -/
theorem step_job_to_loop (E : Engine) (d : Defects) (cx : Ctx) (fuel t : Nat) (ts seen : List Nat) (e : Bool)
    (w : World) (hs : t ∉ seen) (hj : ∀ rv w1, buildJob E d cx fuel t (addKnown w t) = (.done rv, w1) → rv ≠ 0) :
    (runTargets E d cx fuel (t :: ts) seen e w).1 ≠ 0 :=
  runTargets_head_nonzero E d cx fuel t ts seen e w hs hj

/-- … target loop → nested command. -/
theorem step_loop_to_command (E : Engine) (d : Defects) (fuel : Nat) (cx : Ctx) (ts : List Nat) (w : World)
    (p : Nat) (hp : cx.parent = some p) (hu : cx.unlocked = false)
    (h : ∀ w', Desc w w' → (runTargets E d cx fuel ts [] false w').1 ≠ 0) :
    (ifchangeWith E d fuel cx ts w).1 ≠ 0 :=
  ifchangeWith_script_nonzero E d fuel cx ts w h

/-- A chain `ch 0 → … → ch k` of targets that must run, each script starting
by asking for the next, the .do of `ch k` exiting non-zero.  The failure of the bottom .do is the failure of the job of
`ch k`, hence of the nested command that asked for it, hence of the script of `ch (k-1)` (`sh -e`), hence of its job, …
up to the command that asked for `ch i` (`i + m = k`), whatever else that command names (`rest`), with or without
`--keep-going`, in every context, as soon as the engine has one level per remaining chain element (`n ≥ m`). -/
theorem failure_reaches_every_level (d : Defects) (w0 : World) (ch : Nat → Nat) (k : Nat) (hC : FailChain w0 ch k)
    (m i : Nat) (him : i + m = k) (n fuel : Nat) (cx : Ctx) (rest : List Nat) (w : World)
    (hn : m ≤ n) (hfuel : 0 < fuel) (hw : Desc w0 w) :
    (runTargets (engine d n) d cx fuel (ch i :: rest) [] false w).1 ≠ 0 := by
  rw [engine_eq_from]
  refine forcedChain failBase d w0 ch k hC.forced (fun _ _ => True) (fun _ _ _ _ => trivial) ?_ m i him n fuel cx rest w
    hn hfuel trivial hw
  intro n fuel cx rest w hfuel _ hw
  apply runTargets_head_nonzero _ d cx fuel (ch k) rest [] false w (by simp)
  exact buildJob_failing _ d cx fuel (ch k) _ (hC.bottom.mono (hw.trans (Desc.addKnown w (ch k)))) hfuel

/-- … in particular up to the exit status of the top-level command, with and without
`--keep-going`, for `redo-ifchange` and `redo`. -/
theorem failure_reaches_top (d : Defects) (nf : Nat) (w : World) (ch : Nat → Nat) (k : Nat) (hC : FailChain w ch k)
    (hk : k ≤ 2 * nf + 4) (rest : List Nat) (kg : Bool) :
    (runCmd d nf (.ifchange (ch 0 :: rest) kg) w).1.status ≠ 0 ∧
    (runCmd d nf (.redo (ch 0 :: rest) kg) w).1.status ≠ 0 :=
  have top (r : Bool) := failure_reaches_every_level d w ch k hC k 0 (Nat.zero_add k) (2 * nf + 4) (2 * nf + 4)
    { runid := w.runCounter + 1, keepGoing := kg, isRedo := r } rest { w with runCounter := w.runCounter + 1 } hk
    (by omega) ⟨rfl, rfl, rfl, fun _ _ _ => ⟨rfl, rfl⟩⟩
  ⟨top false, top true⟩

/-! ### No dependent of a failed target is recorded as up to date -/

/-- The job of `p` ran its own `start_self` (verdict `dirty`, or `need`
in the second phase of `redo-unlocked`) and ended non-zero — its .do exited non-zero or, `sh -e`, a nested
`redo-ifchange` of it did (a dependency failed): `p` is recorded as failed in this run, not as up to date. -/
theorem failed_not_recorded_clean (E : Engine) (d : Defects) (cx : Ctx) (fuel p : Nat) (w w1 w' : World) (dr : DR)
    (rv : Status) (hs : shouldBuild cx fuel p w = (some dr, w1)) (ho : OwnStart cx dr)
    (hb : buildJob E d cx fuel p w = (.done rv, w')) (h0 : rv ≠ 0) (hc : rv ≠ CRASHED) (hR : 0 < cx.runid) :
    (w'.recs p).failed = some cx.runid ∧ FailedNow cx.runid w' p :=
  ⟨buildJob_failed E d cx fuel p w w1 w' dr rv hs ho hb h0 hc,
   failedNow_of_eq (buildJob_failed E d cx fuel p w w1 w' dr rv hs ho hb h0 hc) hR⟩

/-- … hence dirty for every later check (any run id, any bound, `redo-ifchange` or `redo-ood`) while the
record stands. -/
theorem failed_then_dirty (ood : Bool) (R' n : Nat) (w : World) (c : List Nat) (p mx : Nat) (seen : List Nat) (R : Nat)
    (hf : (w.recs p).failed = some R) (hs : p ∉ seen) :
    isDirty ood R' (n + 1) w c p mx seen none = (.dirty, w, c) :=
  failed_dirty_later ood R' n w c p mx seen R hf hs

/-! ### Not executed a second time in the same run -/

/-- Any further `redo-ifchange t` in the run in which `t` failed returns
non-zero (1; 208 if `t` is an ancestor) and executes nothing: the trace is unchanged. -/
theorem not_run_twice_after_failure (d : Defects) (n : Nat) (cx : Ctx) (t : Nat) (w : World)
    (hd : d.failedTargetAbortsRun = false) (hr : cx.isRedo = false) (hf : FailedNow cx.runid w t) :
    ((engine d n).ifchangeCmd cx [t] w).1 ≠ 0 ∧ ((engine d n).ifchangeCmd cx [t] w).2.trace = w.trace ∧
    ∀ x, ¬ RanIn x w ((engine d n).ifchangeCmd cx [t] w).2 :=
  ⟨(engine_failed_single d n cx t w hd hr hf).1, (engine_failed_single d n cx t w hd hr hf).2,
   engine_failed_single_noRan d n cx t w hd hr hf⟩

/-- … for an arbitrary engine, with the exact statuses. -/
theorem not_run_twice_status (E : Engine) (d : Defects) (fuel : Nat) (cx : Ctx) (t : Nat) (w : World)
    (hd : d.failedTargetAbortsRun = false) (hr : cx.isRedo = false) (hf : FailedNow cx.runid w t) :
    ((ifchangeWith E d fuel cx [t] w).1 = 1 ∨ (ifchangeWith E d fuel cx [t] w).1 = 208) ∧
    (ifchangeWith E d fuel cx [t] w).2.trace = w.trace :=
  ifchangeWith_failed_single E d fuel cx t w hd hr hf

/-! ### Executed again by the next run -/

/-- `t` failed in an earlier run and has no file (what a failed first build leaves);
nothing else changed.  The next top-level `redo-ifchange t` executes t's .do again. -/
theorem retried_next_run (d : Defects) (n : Nat) (kg : Bool) (w : World) (t R0 : Nat)
    (hf : (w.recs t).failed = some R0) (hle : R0 ≤ w.runCounter) (hm : w.fs t = none)
    (hdo : ∃ c ∈ w.rules t, existsF w c = true) :
    RanIn t w (runCmd d n (.ifchange [t] kg) w).2 := by
  rw [runCmd_ifchange_cmd, ifchangeWith_single _ d _ _ t _ (.inl rfl) (.inr (by simp)), finishS_snd]
  have hfs : (addKnown (nextRun w) t).fs = w.fs := addKnown_fs _ _
  have hf' : ((addKnown (nextRun w) t).recs t).failed = some R0 := by rw [addKnown_failed]; exact hf
  have hsb := shouldBuild_failed_earlier { runid := w.runCounter + 1, keepGoing := kg } (2 * n + 3) t
    (addKnown (nextRun w) t) R0 rfl hf' (Nat.lt_succ_of_le hle)
  rw [buildJob_ownStart _ d _ (2 * n + 4) t _ _ .dirty hsb (Or.inl rfl)]
  dsimp only
  rw [startSelf_missing _ d _ t _ _ (by rw [hfs]; exact hm)]
  have hpre : TraceExt w (addKnown (nextRun w) t) := TraceExt.of_eq (addKnown_trace _ _)
  refine RanIn.after hpre (ssBuild_ran _ (engine_traceExt d _) d _ t _ _ ?_)
  obtain ⟨c, hc, he⟩ := hdo
  exact ⟨c, by rw [addKnown_rules]; exact hc, by rw [existsF_congr (congrFun hfs c)]; exact he⟩

/-! ### `--keep-going` or not -/

/-- With `--keep-going`, whatever happened to the targets before `t`, either
the run was aborted inside them (208: an ancestor was requested; or the process tree was killed), or the loop
evaluates the job of `t` in the world they left. -/
theorem keep_going_builds_the_rest (E : Engine) (d : Defects) (cx : Ctx) (fuel t : Nat) (ts₁ ts₂ seen : List Nat)
    (e : Bool) (w : World) (hk : cx.keepGoing = true) (hd : d.failedTargetAbortsRun = false)
    (ht : t ∉ ts₁) (hts : t ∉ seen) :
    (((runTargets E d cx fuel ts₁ seen e w).1 = EXIT_CYCLIC_DEPENDENCY ∨ (runTargets E d cx fuel ts₁ seen e w).1 = CRASHED) ∧
      runTargets E d cx fuel (ts₁ ++ t :: ts₂) seen e w = runTargets E d cx fuel ts₁ seen e w) ∨
    ∃ (seen' : List Nat) (e' : Bool), t ∉ seen' ∧
      runTargets E d cx fuel (ts₁ ++ t :: ts₂) seen e w =
        (let w₁ := (runTargets E d cx fuel ts₁ seen e w).2
         if !cx.unlocked && t ∈ cx.cycles then (EXIT_CYCLIC_DEPENDENCY, addKnown w₁ t) else
         match buildJob E d cx fuel t (addKnown w₁ t) with
         | (.abort code, w2) => (code, w2)
         | (.done rv, w2) =>
           if rv = CRASHED then (CRASHED, w2)
           else runTargets E d cx fuel ts₂ (t :: seen') (e' || rv ≠ 0) w2) := by
  rcases runTargets_append E d cx fuel ts₁ seen e w with ⟨seen', e', w₁, hm, _, hr, hrest⟩ | ⟨hst, hrest⟩
  · right
    have hs : t ∉ seen' := fun h => by rcases (hm t).1 h with h | h; exact ht h; exact hts h
    refine ⟨seen', e', hs, ?_⟩
    rw [hrest, hr, runTargets_cons, if_neg hs]
    simp only [hk, Bool.not_true, Bool.and_false, Bool.false_eq_true, if_false]
    rfl
  · left
    refine ⟨?_, hrest _⟩
    rcases hst with ⟨h, _⟩ | h | ⟨h, _⟩ | h
    · rw [hk] at h; cases h
    · exact Or.inl h
    · rw [hd] at h; cases h
    · exact Or.inr h

/-- Without `--keep-going`, the targets before `t` were fine and the job of `t`
is not `done 0`: the command ends non-zero in the very world the job of `t` left — no later target is
registered, checked or run. -/
theorem stop_after_first_failure (E : Engine) (d : Defects) (cx : Ctx) (fuel t : Nat) (ts₁ ts₂ seen : List Nat)
    (w w₁ w₂ : World) (jr : JobResult) (hk : cx.keepGoing = false)
    (hp : runTargets E d cx fuel ts₁ seen false w = (0, w₁)) (ht : t ∉ ts₁) (hts : t ∉ seen)
    (hcy : (!cx.unlocked && decide (t ∈ cx.cycles)) = false)
    (hb : buildJob E d cx fuel t (addKnown w₁ t) = (jr, w₂)) (hne : jr ≠ .done 0) :
    (runTargets E d cx fuel (ts₁ ++ t :: ts₂) seen false w).1 ≠ 0 ∧
    (runTargets E d cx fuel (ts₁ ++ t :: ts₂) seen false w).2 = w₂ := by
  obtain ⟨seen', hm, hrest⟩ := runTargets_prefix_zero E d cx fuel ts₁ seen false w w₁ hp
  have hs : t ∉ seen' := fun h => by rcases (hm t).1 h with h | h; exact ht h; exact hts h
  rw [hrest, runTargets_cons, if_neg hs, hcy, hb]
  simp only [Bool.false_and, Bool.false_eq_true, if_false]
  cases jr with
  | abort code => exact ⟨buildJob_abort_ne _ _ _ _ _ _ _ _ hb, rfl⟩
  | done rv =>
    dsimp only
    split
    · exact ⟨by simp [CRASHED], rfl⟩
    · have hrv : rv ≠ 0 := fun h => hne (by rw [h])
      simp only [hrv, ne_eq, not_false_eq_true, decide_true, Bool.or_true]
      rw [runTargets_errored_nokg E d cx fuel hk]
      exact ⟨by simp, rfl⟩

/-- The loop, prefix by prefix (the lemma behind the two theorems above). -/
theorem loop_prefix (E : Engine) (d : Defects) (cx : Ctx) (fuel : Nat) (ts₁ seen : List Nat) (e : Bool) (w : World) :
    Completed E d cx fuel ts₁ seen e w ∨
      (Stopped d cx (runTargets E d cx fuel ts₁ seen e w).1 ∧
        ∀ ts₂, runTargets E d cx fuel (ts₁ ++ ts₂) seen e w = runTargets E d cx fuel ts₁ seen e w) :=
  runTargets_append E d cx fuel ts₁ seen e w

/-! ### Non-vacuity: `bad.do` exits 5; `x.do` runs `redo-ifchange bad`; `good.do` succeeds

Files: 1 = bad, 2 = bad.do, 3 = x, 4 = x.do, 5 = good, 6 = good.do. -/
namespace Ex

def rules : Nat → List Nat := fun t => if t = 1 then [2] else if t = 3 then [4] else if t = 5 then [6] else []

def setup : List UserOp :=
  [.setProg (srcContent 1) { exit := 5 }, .write 2 1,
   .setProg (srcContent 2) { ifchange := [[1]] }, .write 4 2,
   .setProg (srcContent 3) {}, .write 6 3]

/-- The world before the first run. -/
def wS : World := setup.foldl (fun w op => (applyOp {} 7 op w).2) (initWorld rules)

theorem wS_wf : WF wS := WF_reachable {} 7 rules setup

/-- `redo-ifchange -k x bad good` and `redo-ifchange x bad good`. -/
def rK := runCmd {} 7 (.ifchange [3, 1, 5] true) wS
def rN := runCmd {} 7 (.ifchange [3, 1, 5] false) wS

example : rK.1.status = 1 ∧ rK.2.trace = [.ran 5, .ran 1, .ran 3] := by decide +kernel
example : rN.1.status = 1 ∧ rN.2.trace = [.ran 1, .ran 3] := by decide +kernel
/-- `bad` and its dependent `x` are recorded failed in run 1, `good` is not; without `-k` `good` was never even
registered (row 0), with `-k` it was built. -/
example : (rK.2.recs 1).failed = some 1 ∧ (rK.2.recs 3).failed = some 1 ∧ (rK.2.recs 5).failed = none ∧
    (rK.2.recs 5).row = 6 ∧ (rN.2.recs 5).row = 0 := by decide +kernel

/-- `success_means_no_failure` on a successful command (`redo-ifchange good`). -/
example : ∀ t, ¬ FailedNow (wS.runCounter + 1) (runCmd {} 7 (.ifchange [5] false) wS).2 t :=
  (success_means_no_failure {} 7 [5] false wS wS_wf).1 (by decide +kernel)

/-- … and its contrapositive use: the `-k` command left `bad` failed-in-run, so it cannot have exited 0. -/
example : rK.1.status ≠ 0 := fun h =>
  (success_means_no_failure {} 7 [3, 1, 5] true wS wS_wf).1 h 1 (by decide +kernel)

def ch : Nat → Nat := fun i => if i = 0 then 3 else 1

theorem chain : FailChain wS ch 1 where
  forced := by
    intro i hi
    obtain rfl : i = 0 := by omega
    exact ⟨by decide, by decide +kernel, Or.inr (by decide +kernel),
      4, { content := srcContent 2, ms := 2, rest := 0 }, { ifchange := [[1]] }, [], [],
      by decide +kernel, by decide +kernel, by decide +kernel, by decide, rfl⟩
  bottom := ⟨by decide, by decide +kernel, Or.inr (by decide +kernel),
      2, { content := srcContent 1, ms := 1, rest := 0 }, { exit := 5 },
      by decide +kernel, by decide +kernel, by decide +kernel, by decide⟩

/-- `failure_reaches_top`: `redo-ifchange [-k] x …` and `redo [-k] x …` fail, whatever else they name. -/
example (rest : List Nat) (kg : Bool) : (runCmd {} 7 (.ifchange (3 :: rest) kg) wS).1.status ≠ 0 :=
  (show ch 0 = 3 from rfl) ▸ (failure_reaches_top {} 7 wS ch 1 chain (by omega) rest kg).1

/-- The context of run 1 (with `-k`) and of run 2. -/
def cx1 : Ctx := { runid := 1, keepGoing := true }
def cx2 : Ctx := { runid := 2 }
def E18 : Engine := engine {} 18

/-- `not_run_twice_after_failure`: a further `redo-ifchange bad` in run 1 (after the `-k` command) fails and
executes nothing. -/
example : (E18.ifchangeCmd cx1 [1] rK.2).1 ≠ 0 ∧ (E18.ifchangeCmd cx1 [1] rK.2).2.trace = rK.2.trace ∧
    ∀ x, ¬ RanIn x rK.2 (E18.ifchangeCmd cx1 [1] rK.2).2 :=
  not_run_twice_after_failure {} 18 cx1 1 rK.2 rfl rfl (by decide +kernel)

/-- `retried_next_run`: run 2, `redo-ifchange bad`, nothing changed: bad.do is executed again. -/
example : RanIn 1 rN.2 (runCmd {} 7 (.ifchange [1] false) rN.2).2 :=
  retried_next_run {} 7 false rN.2 1 1 (by decide +kernel) (by decide +kernel) (by decide +kernel)
    ⟨2, by decide +kernel, by decide +kernel⟩
example : (runCmd {} 7 (.ifchange [1] false) rN.2).2.trace = [.ran 1, .ran 1, .ran 3] := by decide +kernel

/-- `failed_not_recorded_clean`: the job of `bad` in run 2 (found dirty because of the recorded failure) fails
again and is recorded failed in run 2; `failed_then_dirty` applies to the result. -/
example : FailedNow 2 (startSelf E18 {} cx2 1 (rN.2.recs 1) rN.2).2 1 :=
  (failed_not_recorded_clean E18 {} cx2 18 1 rN.2 rN.2 _ .dirty _
    (shouldBuild_failed_earlier cx2 17 1 rN.2 1 rfl (by decide +kernel) (by decide)) (Or.inl rfl)
    (buildJob_ownStart E18 {} cx2 18 1 rN.2 rN.2 .dirty
      (shouldBuild_failed_earlier cx2 17 1 rN.2 1 rfl (by decide +kernel) (by decide)) (Or.inl rfl))
    (by decide +kernel) (by decide +kernel) (by decide)).2

example (ood : Bool) (R' n mx : Nat) (c : List Nat) :
    isDirty ood R' (n + 1) rN.2 c 3 mx [] none = (.dirty, rN.2, c) :=
  failed_then_dirty ood R' n rN.2 c 3 mx [] 1 (by decide +kernel) (by simp)

/-- `keep_going_builds_the_rest`: `good` after the failing `x` and `bad`. -/
example := keep_going_builds_the_rest E18 {} cx1 18 5 [3, 1] [] [] false (nextRun wS) rfl rfl (by decide) (by simp)

/-- `stop_after_first_failure`: `redo-ifchange bad good` without `-k`: the result is the world bad's job left. -/
example : (runTargets E18 {} { runid := 1 } 18 ([] ++ 1 :: [5]) [] false (nextRun wS)).2 =
    (buildJob E18 {} { runid := 1 } 18 1 (addKnown (nextRun wS) 1)).2 := by
  have hF : Failing (addKnown (nextRun wS) 1) 1 :=
    chain.bottom.mono ((show Desc wS (nextRun wS) from ⟨rfl, rfl, rfl, fun _ _ _ => ⟨rfl, rfl⟩⟩).trans
      (Desc.addKnown (nextRun wS) 1))
  generalize hb : buildJob E18 {} { runid := 1 } 18 1 (addKnown (nextRun wS) 1) = r
  obtain ⟨jr, w₂⟩ := r
  have hne : jr ≠ .done 0 := fun h =>
    buildJob_failing E18 {} { runid := 1 } 18 1 _ hF (by decide) 0 w₂ (by rw [hb, h]) rfl
  exact (stop_after_first_failure E18 {} { runid := 1 } 18 1 [] [5] [] (nextRun wS) (nextRun wS) w₂ jr rfl
    (by rw [runTargets]; rfl) (by simp) (by simp) rfl hb hne).2

/-- `command_zero_none_failed` on the nested-style command `redo-ifchange good` of run 1. -/
example : ∀ t ∈ [5], ¬ FailedNow 1 (E18.ifchangeCmd { runid := 1 } [5] (nextRun wS)).2 t :=
  (command_zero_none_failed {} 18 { runid := 1 } [5] (nextRun wS) _ rfl
    (Prod.ext (by decide +kernel : (E18.ifchangeCmd { runid := 1 } [5] (nextRun wS)).1 = 0) rfl)).2

end Ex

#print axioms success_means_no_failure
#print axioms command_zero_none_failed
#print axioms job_zero_not_failed
#print axioms failure_reaches_top
#print axioms failure_reaches_every_level
#print axioms failed_not_recorded_clean
#print axioms failed_then_dirty
#print axioms not_run_twice_after_failure
#print axioms not_run_twice_status
#print axioms retried_next_run
#print axioms keep_going_builds_the_rest
#print axioms stop_after_first_failure
#print axioms loop_prefix
#print axioms Ex.chain

end C05
