import RedoModel.Lemmas.RunLoopInv
/-!
# C05 at any -j — the stop / keep-going rule and the exit status of `builder::run`
Property theorems (`producesFailure` is the lemma files' `failEv`: `producesFailure_eq`).  Model:
`RedoModel/RunLoop.lean` (the control flow of `builder::run` for one process, tied to the code by the per-process trace
replay `runloop-replay`).  Every statement is about EVERY event sequence the acceptor accepts from its initial state,
i.e. every behaviour of the environment (which targets are new, which locks are free, what is dirty, what scripts
return, when children exit).
-/
namespace C05
open RedoModel.RunLoop

/-- The event makes a failure known to this process's result bookkeeping: a job result that is a failure (with or
without a child), a queued target found failed in another process, the empty target name. -/
def producesFailure : Ev → Bool
  | .immediate _ true => true
  | .jobEnd _ true => true
  | .failedElsewhere _ => true
  | .badTarget => true
  | _ => false

def isBegin : Ev → Bool
  | .begin _ => true
  | _ => false

theorem producesFailure_eq : producesFailure = failEv := by
  funext e; cases e <;> first | rfl | (rename_i b; cases b <;> rfl)

/-- "Without --keep-going no new target is started after the first failure is known": in every accepted event
sequence, no `BuildJob::start` follows an event that produced a failure. -/
theorem no_start_after_failure (c : Cfg) (hk : c.keepGoing = false) (pre post : List Ev) (e : Ev) (s : St)
    (h : run c {} (pre ++ e :: post) = .ok s) (hf : producesFailure e = true) :
    ∀ e' ∈ post, isBegin e' = false := by
  intro e' he'
  have := no_begin_after_failure hk h (producesFailure_eq ▸ hf) e' he'
  cases e' <;> first | rfl | cases this

/-- "Every command that requested T exits non-zero" / nothing else does: `run` returns success exactly when no
failure was produced and no internal error occurred. -/
theorem exit_status (c : Cfg) (es : List Ev) (s : St) (ok : Bool) (h : run c {} es = .ok s) (hp : s.pc = .ended ok) :
    ok = true ↔ ((∀ e ∈ es, producesFailure e = false) ∧ Ev.abort ∉ es) := by
  rw [producesFailure_eq]; exact exit_status_iff h hp

/-- "With --keep-going every requested target … is still built": when `run` returns without an internal error,
every target it announced got its decision (`BuildJob::start` was entered for it, or it was found failed in
another process) — with `-k` whatever failed, without `-k` if nothing failed. -/
theorem every_target_decided (c : Cfg) (es : List Ev) (s : St) (ok : Bool) (h : run c {} es = .ok s)
    (hp : s.pc = .ended ok) (ha : Ev.abort ∉ es)
    (hk : c.keepGoing = true ∨ ∀ e ∈ es, producesFailure e = false) :
    ∀ f, Ev.target f ∈ es → (Ev.begin f ∈ es ∨ Ev.failedElsewhere f ∈ es) := by
  rw [producesFailure_eq] at hk; exact targets_decided h hp ha hk

/-- Non-vacuity: a run with a failing job, `-k`, a queued target and a clean exit path is accepted. -/
example : (match run { keepGoing := true } {}
    [.tok, .chk false, .target 1, .tryLock 1 true, .begin 1, .forked 1,
     .tok, .chk false, .target 2, .tryLock 2 false,
     .jobEnd 1 true, .waitAll, .chk true, .tok, .tryLock 2 true, .begin 2, .immediate 2 false,
     .waitAll, .chk true, .fin false] with
    | .ok s => s.pc == .ended false && s.started == [2, 1]
    | .error _ => false) = true := by decide

/-- Without `-k` the same failure stops the command before target 2 is started. -/
example : (match run {} {}
    [.tok, .chk false, .target 1, .tryLock 1 true, .begin 1, .forked 1,
     .tok, .chk false, .target 2, .tryLock 2 false,
     .jobEnd 1 true, .waitAll, .chk true, .fin false] with
    | .ok s => s.pc == .ended false && s.started == [1] && s.queue == [2]
    | .error _ => false) = true := by decide

end C05
