import RedoModel.Lemmas.RunLoopLocks
/-!
# C06 — the local guards of the lock/job acceptor, derived from the control flow of `builder::run`

`Props/C06.lean` derives global exclusion from the kernel guard (a lock is granted only when free) and from LOCAL
guards that every process is assumed to respect (a script is started only under the process's own lock; the lock is
released only when no execution of the target is under way; the process does not return while a script it started
runs).  Here those local guards are proven of the control-flow model `RedoModel/RunLoop.lean`: the lock and job events
of any accepted run of `builder::run`, fed to `Locks.step` in any global state that agrees with the process's own
bookkeeping, are never rejected by a local guard; and the agreement is preserved, also by the accepted events of every
other process.  Processes in REDO_UNLOCKED mode are not covered (as in C06.lean).  Property theorems only.
-/
namespace C06
open RedoModel RedoModel.RunLoop

/-- What the `Locks` acceptor sees of an event of process `p` (state `s` is the state BEFORE the event; an internal
error drops the locks the process itself holds). -/
def toLocks (p : Nat) (s : St) : RunLoop.Ev → List Locks.Ev
  | .tryLock f true => [.lockOk p f]
  | .tryLock f false => [.lockFail p f]
  | .waited f => [.lockOk p f]
  | .unlock f => [.unlock p f]
  | .immediate f _ => [.unlock p f]
  | .forked f => [.script p f false]
  | .jobEnd f _ => [.recordEnd p f, .unlock p f]
  | .failedElsewhere f => [.unlock p f]
  | .abort => s.held.map (fun f => Locks.Ev.unlock p f)
  | .fin _ => [.exit p]
  | _ => []

/-- Feed a list of events to `Locks.step`. -/
def feed (L : Locks.State) : List Locks.Ev → Except Locks.Reject Locks.State
  | [] => .ok L
  | e :: es => match Locks.step L e with
    | .ok L' => feed L' es
    | .error r => .error r

/-- The global lock state agrees with process `p`'s own bookkeeping. -/
structure Agrees (p : Nat) (s : St) (L : Locks.State) : Prop where
  heldOwned : ∀ f ∈ s.held, L.owner f = some p
  jobsOwned : ∀ f ∈ s.jobs, L.owner f = some p
  jobsRunning : ∀ f ∈ s.jobs, (⟨f, p, false⟩ : Locks.Exec) ∈ L.running
  runningJobs : ∀ e ∈ L.running, e.pid = p → e.fid ∈ s.jobs
  ownsOnly : ∀ f, L.owner f = some p → f ∈ s.held ∨ f ∈ s.jobs
  disjoint : ∀ f ∈ s.held, f ∉ s.jobs
  nodupHeld : s.held.Nodup
  nodupJobs : s.jobs.Nodup
  noDelegated : ∀ e ∈ L.running, e.delegated = false
  ended : ∀ ok, s.pc = .ended ok → ∀ f, L.owner f ≠ some p
  heldPc : s.held = heldAtPc s.pc     -- the locks the process itself holds are those its program counter says (C09.heldAt)

/-! The lemmas of `Lemmas/RunLoopLocks.lean` (which this file imports) are about its own copies `Sim.toLocks`, `Sim.feed`,
`Sim.pidOf`, `Sim.Agrees` of the definitions here; the copies coincide: -/
private theorem feed_eq (L : Locks.State) (es : List Locks.Ev) : feed L es = Sim.feed L es := by
  induction es generalizing L with
  | nil => rfl
  | cons e es ih => simp only [feed, Sim.feed]; cases Locks.step L e <;> simp [ih]

private theorem toLocks_eq (p : Nat) (s : St) (ev : RunLoop.Ev) : toLocks p s ev = Sim.toLocks p s ev := by
  cases ev <;> first | rfl | (rename_i b; cases b <;> rfl)

private theorem agrees_iff {p : Nat} {s : St} {L : Locks.State} : Agrees p s L ↔ Sim.Agrees p s L :=
  ⟨fun ⟨a1, a2, a3, a4, a5, a6, a7, a8, a9, a10, a11⟩ => ⟨a1, a2, a3, a4, a5, a6, a7, a8, a9, a10, a11⟩,
   fun ⟨a1, a2, a3, a4, a5, a6, a7, a8, a9, a10, a11⟩ => ⟨a1, a2, a3, a4, a5, a6, a7, a8, a9, a10, a11⟩⟩

theorem agrees_init (p : Nat) : Agrees p {} {} :=
  agrees_iff.2 (Sim.agrees_init p)

/-- One step of `builder::run`: if the kernel grants only free locks, the events it shows to `Locks` are all accepted
(in particular none is rejected by a local guard), the invariant of C06 is kept, and the agreement is preserved. -/
theorem runloop_respects_lock_guards (p : Nat) (c : Cfg) (s s' : St) (ev : RunLoop.Ev) (L : Locks.State)
    (ha : Agrees p s L) (hi : Inv L) (hs : RunLoop.step c s ev = .ok s')
    (hk : ∀ f, (ev = .tryLock f true ∨ ev = .waited f) → L.owner f = none) :
    ∃ L', feed L (toLocks p s ev) = .ok L' ∧ Agrees p s' L' ∧ Inv L' := by
  obtain ⟨L', h1, h2, h3⟩ := Sim.sim_step (agrees_iff.1 ha) hi hs hk
  exact ⟨L', by rw [feed_eq, toLocks_eq]; exact h1, agrees_iff.2 h2, h3⟩

/-- The process of a `Locks` event. -/
def pidOf : Locks.Ev → Nat
  | .lockOk p _ => p | .lockFail p _ => p | .unlock p _ => p | .script p _ _ => p | .recordEnd p _ => p | .exit p => p

/-- Accepted events of OTHER processes (none in unlocked mode) do not disturb the agreement. -/
theorem others_keep_agreement (p : Nat) (s : St) (L L' : Locks.State) (e : Locks.Ev) (ha : Agrees p s L)
    (hq : pidOf e ≠ p) (hu : ∀ q f, e ≠ .script q f true) (h : Locks.step L e = .ok L') : Agrees p s L' := by
  have hq' : Sim.pidOf e ≠ p := by cases e <;> exact hq
  exact agrees_iff.2 (Sim.others_keep (agrees_iff.1 ha) hq' hu h)

/-! ## The whole system: any number of processes, each running `builder::run`, over one lock table -/

structure Sys where
  procs : Nat → St := fun _ => {}
  L : Locks.State := {}

/-- The kernel grants a lock only when it is free (the only assumption about the environment). -/
def kernelGrants (L : Locks.State) : RunLoop.Ev → Bool
  | .tryLock f true => (L.owner f).isNone
  | .waited f => (L.owner f).isNone
  | _ => true

inductive SysErr
  | notARun                       -- the process's control flow cannot emit this event here, or the kernel would not grant
  | guard (r : Locks.Reject)      -- a guard of the `Locks` acceptor rejects what the process did

def sysStep (c : Nat → Cfg) (σ : Sys) (pe : Nat × RunLoop.Ev) : Except SysErr Sys :=
  match RunLoop.step (c pe.1) (σ.procs pe.1) pe.2 with
  | .error _ => .error .notARun
  | .ok s' =>
    if kernelGrants σ.L pe.2 then
      match feed σ.L (toLocks pe.1 (σ.procs pe.1) pe.2) with
      | .ok L' => .ok { procs := fun q => if q = pe.1 then s' else σ.procs q, L := L' }
      | .error r => .error (.guard r)
    else .error .notARun

def sysRun (c : Nat → Cfg) (σ : Sys) : List (Nat × RunLoop.Ev) → Except SysErr Sys
  | [] => .ok σ
  | pe :: rest => match sysStep c σ pe with
    | .ok σ' => sysRun c σ' rest
    | .error e => .error e

/-- The invariant of the system: `C06.Inv` of the lock table, which agrees with every process. -/
private def SysInv (σ : Sys) : Prop := Inv σ.L ∧ ∀ p, Agrees p (σ.procs p) σ.L

private theorem sysStep_inv (c : Nat → Cfg) (σ : Sys) (pe : Nat × RunLoop.Ev) (hI : SysInv σ) :
    (∀ σ', sysStep c σ pe = .ok σ' → SysInv σ') ∧ ∀ r, sysStep c σ pe ≠ .error (.guard r) := by
  unfold sysStep
  cases hs : RunLoop.step (c pe.1) (σ.procs pe.1) pe.2 with
  | error _ => simp
  | ok s' =>
    cases hk : kernelGrants σ.L pe.2 with
    | false => simp
    | true =>
      have hk' : ∀ f, (pe.2 = .tryLock f true ∨ pe.2 = .waited f) → σ.L.owner f = none := by
        intro f hf
        rcases hf with hf | hf <;> rw [hf] at hk <;> simpa [kernelGrants] using hk
      obtain ⟨L', h1, h2, h3⟩ := Sim.sys_step hI.1 (fun q => agrees_iff.1 (hI.2 q)) hs hk'
      rw [← toLocks_eq, ← feed_eq] at h1
      simp only [h1, if_true]
      refine ⟨fun σ' h => ?_, fun r h => (by cases h)⟩
      cases h
      exact ⟨h2, fun q => agrees_iff.2 (h3 q)⟩

private theorem sysRun_inv (c : Nat → Cfg) (es : List (Nat × RunLoop.Ev)) (σ : Sys) (hI : SysInv σ) :
    (∀ σ', sysRun c σ es = .ok σ' → SysInv σ') ∧ ∀ r, sysRun c σ es ≠ .error (.guard r) := by
  induction es generalizing σ with
  | nil => exact ⟨fun σ' h => (by cases h; exact hI), fun r h => (by cases h)⟩
  | cons pe rest ih =>
    have hstep := sysStep_inv c σ pe hI
    simp only [sysRun]
    cases h1 : sysStep c σ pe with
    | ok σ1 => exact ih σ1 (hstep.1 σ1 h1)
    | error e =>
      refine ⟨fun σ' h => (by cases h), fun r h => ?_⟩
      cases h
      exact hstep.2 r h1

private theorem sysInv_init : SysInv {} := ⟨inv_init, fun p => agrees_init p⟩

/-- Whatever the processes do within the control flow of `builder::run`, in any interleaving, no guard of the lock/job
acceptor is ever violated: the local guards of `Locks` are theorems about the scheduler, not assumptions. -/
theorem system_respects_guards (c : Nat → Cfg) (es : List (Nat × RunLoop.Ev)) (r : Locks.Reject) :
    sysRun c {} es ≠ .error (.guard r) :=
  (sysRun_inv c es {} sysInv_init).2 r

/-- Hence, in every reachable state of the system no target has two executions under way, and an execution under way
runs under its target's lock, owned by the process that started it. -/
theorem system_exclusive (c : Nat → Cfg) (es : List (Nat × RunLoop.Ev)) (σ : Sys) (h : sysRun c {} es = .ok σ)
    (fid : Nat) : (Locks.active σ.L fid).length ≤ 1 ∧ ∀ e ∈ Locks.active σ.L fid, σ.L.owner fid = some e.pid := by
  have hI := (sysRun_inv c es {} sysInv_init).1 σ h
  exact ⟨RedoModel.Locks.inv_exclusive hI.1 fid, Sim.inv_active_owner hI.1 (hI.2 0).noDelegated fid⟩

/-- "The result of an execution is recorded before any other process may decide whether to build that target": whenever
a process of the system is about to decide about `f` (it has taken the lock and `BuildJob::start` is next, in the first
or in the second loop), it owns `f`'s lock and NO execution of `f` is under way anywhere — every execution of `f` that
was ever started has had its result recorded (an execution leaves `running` only through `recordEnd`). -/
theorem system_decides_under_lock (c : Nat → Cfg) (es : List (Nat × RunLoop.Ev)) (σ : Sys) (h : sysRun c {} es = .ok σ)
    (p f : Nat) (hp : (σ.procs p).pc = .l1own f ∨ (σ.procs p).pc = .l2own f) :
    σ.L.owner f = some p ∧ Locks.active σ.L f = [] := by
  have hI := (sysRun_inv c es {} sysInv_init).1 σ h
  have hA := hI.2 p
  have hheld : f ∈ (σ.procs p).held := by
    rw [hA.heldPc]
    rcases hp with hp | hp <;> simp [hp, heldAtPc]
  refine ⟨hA.heldOwned f hheld, ?_⟩
  rw [Locks.active, List.filter_eq_nil_iff]
  intro e he hef
  have hfid : e.fid = f := by simpa using hef
  have hown := hI.1.own e he (hA.noDelegated e he)
  rw [Locks.ownerOf, hfid, hA.heldOwned f hheld] at hown
  have hpid : e.pid = p := by cases hown; rfl
  have := hA.runningJobs e he hpid
  rw [hfid] at this
  exact hA.disjoint f hheld this

/-- Non-vacuity: two processes contend for target 5; the second queues it, waits, and finds it done. -/
example : (match sysRun (fun _ => {}) {}
    [(1, .tok), (1, .chk false), (1, .target 5), (1, .tryLock 5 true), (1, .begin 5), (1, .forked 5),
     (2, .tok), (2, .chk false), (2, .target 5), (2, .tryLock 5 false),
     (2, .waitAll), (2, .chk false), (2, .tok), (2, .tryLock 5 false), (2, .releaseMine),
     (1, .jobEnd 5 false), (2, .waited 5), (2, .unlock 5), (2, .tok), (2, .tryLock 5 true), (2, .begin 5),
     (2, .immediate 5 false), (2, .fin true), (1, .fin true)] with
    | .ok σ => σ.L.recorded == [(5, 1)] && σ.L.running.isEmpty
    | .error _ => false) = true := by decide

/-- … and the kernel assumption is what excludes the overlap: process 2 cannot take the lock while 1 runs the job. -/
example : (match sysRun (fun _ => {}) {}
    [(1, .tok), (1, .chk false), (1, .target 5), (1, .tryLock 5 true), (1, .begin 5), (1, .forked 5),
     (2, .tok), (2, .chk false), (2, .target 5), (2, .tryLock 5 true)] with
    | .error .notARun => true
    | _ => false) = true := by decide

end C06
