import RedoModel.Lemmas.DepsMemo
import RedoModel.Props.C07d
import RedoModel.Props.C07c
import RedoModel.Props.C07b
import RedoModel.Once
import RedoModel.Lemmas.Deps
/-!
# C07 — Each target built at most once per run; outcome independent of schedule
Models: `RedoModel/Once.lean` (per-run protocol; its invariant `Inv`, `step_inv` and `Once.run_iff`, `Once.run_inv`
are here) and the engine model (`RedoModel/Deps.lean`) for the memoised verdict that justifies its guard.
The schedule-independence of the *outcome* is proven on models of one invocation in `C07b.lean` (contents) and
`C07c.lean` (status class), one decision per file and command on the control flow of `builder::run` in `C07d.lean`; on
the implementation it is checked by building the same projects serially and at -j2..8, shuffled and not (DESIGN §7 C07,
partial).
-/
namespace C07
open RedoModel.Once

structure Inv (s : State) : Prop where
  nodup : s.started.Nodup
  acct : ∀ f ∈ s.started, f ∈ s.running ∨ f ∈ s.built

theorem step_inv (s : State) (e : Ev) (s' : State) (h : step s e = some s') (hi : Inv s) : Inv s' := by
  cases e with
  | script fid forced =>
    simp only [step] at h
    split at h
    · cases h
    · rename_i hnr
      split at h
      · cases h
        exact ⟨hi.nodup, fun f hf => (hi.acct f hf).imp (fun h => List.mem_cons_of_mem _ h) id⟩
      · split at h
        · cases h
        · rename_i hnb
          cases h
          refine ⟨List.nodup_cons.2 ⟨?_, hi.nodup⟩, ?_⟩
          · intro hm
            rcases hi.acct fid hm with h1 | h1
            · exact hnr h1
            · exact hnb h1
          · intro f hf
            rcases List.mem_cons.1 hf with rfl | hf
            · left; simp
            · exact (hi.acct f hf).imp (fun h => List.mem_cons_of_mem _ h) id
  | recordEnd fid =>
    simp only [step] at h
    split at h
    · cases h
      refine ⟨hi.nodup, ?_⟩
      intro f hf
      rcases hi.acct f hf with h1 | h1
      · by_cases hff : f = fid
        · right; simp [hff]
        · left; simp [List.mem_filter, h1, hff]
      · right; exact List.mem_cons_of_mem _ h1
    · cases h

theorem _root_.RedoModel.Once.run_iff {s s' : State} {es : List Ev} :
    run s es = some s' ↔ RedoModel.Reach (fun s e s1 => step s e = some s1) s es s' := by
  induction es generalizing s with
  | nil => simp [run, eq_comm]
  | cons e es ih => simp only [run, RedoModel.Reach.cons_iff]; cases step s e <;> simp [ih]

theorem _root_.RedoModel.Once.run_inv {es : List Ev} {s s' : State} (hi : Inv s) (h : run s es = some s') : Inv s' :=
  (run_iff.1 h).inv step_inv hi

/-- Within one run, however many dependents request a target and in whatever order the events
happen, its script is started at most once by `redo-ifchange` (executions forced by naming the
target on `redo`'s command line are counted separately). -/
theorem at_most_once (es : List Ev) (s' : State) (h : run {} es = some s') (fid : Nat) :
    s'.started.count fid ≤ 1 :=
  List.nodup_iff_count.1 (run_inv ⟨by simp, by simp⟩ h).nodup fid

/-- What justifies the guard: a file verified in this run is found clean again without any write
(see `C02.memoised_clean`), and one that failed in this run is answered with status 32 without
being executed (see `C05.once_per_run`). -/
theorem guard_is_the_memoised_verdict (R n : Nat) (w : RedoModel.Deps.World) (c : List Nat) (f mx ch : Nat) (seen : List Nat)
    (hs : f ∉ seen) (hf : (RedoModel.Deps.getRec w R f).failed = none)
    (hc : (RedoModel.Deps.getRec w R f).changed = some ch) (hle : ch ≤ mx)
    (hck : RedoModel.Deps.isCheckedR (RedoModel.Deps.getRec w R f) R = true) :
    RedoModel.Deps.isDirty false R (n + 1) w c f mx seen none = (.clean, w, c) :=
  RedoModel.Deps.isDirty_memo false R n w c f mx ch seen none hs hf hc hle hck

end C07
