import RedoModel.Lemmas.ParExample
/-!
# C07 (continued) — the outcome of one invocation does not depend on the schedule

Model: `RedoModel/Par.lean`, an acceptor for ONE top-level invocation at any `-j`.  A schedule is any
list of events `start t by` / `clean t` / `ret t` / `finish t`; it is a *run* when every event passes its
local guard (`run g s0 es = some s`).  No bound on the length or the shape of the schedule.

Property theorems only (one-line applications); proofs in `RedoModel/Lemmas/Par*.lean`.

Without a hypothesis on clean targets the statement about contents is false (`done_is_spec_false`): the event `clean t`
settles an idle target without any condition on what it holds.  The theorems about contents therefore carry
the hypothesis `CleanOk g s0 es`: every target declared clean during the run held, at the start, what a
from-scratch build gives it.  It is also necessary (`cleanOk_necessary`), and it is empty for schedules
without `clean` events (`cleanOk_of_no_clean`), in particular for the serial schedule.
-/
namespace C07
open RedoModel.Par

/-- Whatever the schedule, no script is started twice in a run. -/
theorem par_at_most_once {g : Graph} {s0 s : State} {es : List Ev} (h0 : Init g s0)
    (h : run g s0 es = some s) : s.starts.Nodup :=
  (RedoModel.Par.par_at_most_once h0 h).1

/-- Every started target has left the idle state for good: it is running or settled. -/
theorem par_started_not_idle {g : Graph} {s0 s : State} {es : List Ev} (h0 : Init g s0)
    (h : run g s0 es = some s) : ∀ t ∈ s.starts, s.st t ≠ .idle :=
  (RedoModel.Par.par_at_most_once h0 h).2.1

/-- The ghost list `starts` is exactly the list of `start` events of the schedule (latest first), so the
statement is about the schedule itself: no target occurs in two of its `start` events. -/
theorem par_start_events_nodup {g : Graph} {s0 s : State} {es : List Ev} (h0 : Init g s0)
    (h : run g s0 es = some s) : s.starts = (startsOf es).reverse ∧ (startsOf es).Nodup :=
  (RedoModel.Par.par_at_most_once h0 h).2.2

/-- Without a hypothesis on clean targets the property fails: an idle target holding
anything at all can be declared clean. -/
theorem done_is_spec_false :
    ∃ (g : Graph) (s0 s : State) (es : List Ev), WellFormed g ∧ Init g s0 ∧ run g s0 es = some s ∧
      ∃ t sc, g.script t = some sc ∧ s.st t = .done ∧ ¬ Spec g t (s.content t) :=
  RedoModel.Par.done_is_spec_false

/-- In every run in which the targets declared clean held the from-scratch content at the start, every
target that is settled at the end (built in this run at whatever moment and by whichever requester, or found
clean) holds the content a from-scratch build gives it.  The hypothesis excludes exactly the runs in which
the dirtiness check calls a stale target clean; that it does not is C01's statement, not a matter of
scheduling. -/
theorem done_is_spec_partial {g : Graph} {s0 s : State} {es : List Ev} (hw : WellFormed g)
    (h0 : Init g s0) (hc : CleanOk g s0 es) (h : run g s0 es = some s) :
    ∀ t sc, g.script t = some sc → s.st t = .done → Spec g t (s.content t) :=
  RedoModel.Par.done_is_spec_partial hw h0 hc h

/-- The extra hypothesis is the weakest possible: it follows from the conclusion in every run. -/
theorem cleanOk_necessary {g : Graph} {s0 s : State} {es : List Ev} (h : run g s0 es = some s)
    (hspec : ∀ t sc, g.script t = some sc → s.st t = .done → Spec g t (s.content t)) : CleanOk g s0 es :=
  RedoModel.Par.cleanOk_necessary es s0 s h hspec

/-- A schedule without `clean` events satisfies it trivially. -/
theorem cleanOk_of_no_clean {g : Graph} {s0 : State} {es : List Ev} (h : ∀ t, Ev.clean t ∉ es) :
    CleanOk g s0 es :=
  RedoModel.Par.cleanOk_of_no_clean h

/-- A file has at most one from-scratch content. -/
theorem spec_unique {g : Graph} {t : Nat} {c₁ c₂ : Content} (h₁ : Spec g t c₁) (h₂ : Spec g t c₂) :
    c₁ = c₂ :=
  RedoModel.Par.spec_unique h₁ h₂

/-- In a well-formed graph without cycles every file has one. -/
theorem spec_exists {g : Graph} {rank : Nat → Nat} (hw : WellFormed g) (hr : Ranked g rank) (t : Nat) :
    ∃ c, Spec g t c :=
  RedoModel.Par.spec_exists hw hr t

/-- The output function of the model is not injective (nothing above needs it to be). -/
theorem out_not_injective : out 0 [[1, 0]] = out 0 [[], []] ∧ ([[1, 0]] : List Content) ≠ [[], []] :=
  RedoModel.Par.out_not_injective

/-- Two runs of the same invocation (same graph, same start), scheduled in any two ways: a file that is
settled at the end of both holds the same bytes in both. -/
theorem confluent {g : Graph} {s0 s₁ s₂ : State} {es₁ es₂ : List Ev} (hw : WellFormed g)
    (h0 : Init g s0) (hc₁ : CleanOk g s0 es₁) (hc₂ : CleanOk g s0 es₂)
    (h₁ : run g s0 es₁ = some s₁) (h₂ : run g s0 es₂ = some s₂) (t : Nat)
    (hd₁ : s₁.st t = .done) (hd₂ : s₂.st t = .done) : s₁.content t = s₂.content t :=
  RedoModel.Par.confluent hw h0 hc₁ hc₂ h₁ h₂ t hd₁ hd₂

/-- In particular: a file settled at the end of any run holds what the serial (-j1, depth-first) build of
it from the same start leaves in it. -/
theorem equals_serial {g : Graph} {rank : Nat → Nat} {s0 s : State} {es : List Ev} {fuel t : Nat}
    (hw : WellFormed g) (hr : Ranked g rank) (h0 : Init g s0) (hc : CleanOk g s0 es)
    (h : run g s0 es = some s) (hd : s.st t = .done) (hfuel : rank t < fuel) :
    s.content t = (serialOne g fuel t none s0).2.content t :=
  RedoModel.Par.equals_serial hw hr h0 hc h hd hfuel

/-- With enough fuel for the depth of the graph, the serial schedule for `t` is accepted, leads to the state
`serialOne` computes, settles `t`, and declares nothing clean. -/
theorem serial_is_a_run {g : Graph} {rank : Nat → Nat} {s0 : State} {fuel t : Nat} (hr : Ranked g rank)
    (h0 : Init g s0) (hfuel : rank t < fuel) :
    run g s0 (serialOne g fuel t none s0).1 = some (serialOne g fuel t none s0).2 ∧
    (g.script t ≠ none → (serialOne g fuel t none s0).2.st t = .done) ∧
    (∀ u, Ev.clean u ∉ (serialOne g fuel t none s0).1) :=
  RedoModel.Par.serial_is_a_run hr h0 hfuel

/-- And it gives `t` the from-scratch content. -/
theorem serial_is_spec {g : Graph} {rank : Nat → Nat} {s0 : State} {fuel t : Nat} {sc : Script}
    (hw : WellFormed g) (hr : Ranked g rank) (h0 : Init g s0) (hfuel : rank t < fuel)
    (hsc : g.script t = some sc) : Spec g t ((serialOne g fuel t none s0).2.content t) :=
  RedoModel.Par.serial_is_spec hw hr h0 hfuel hsc

/-- On one step, from the content-free part `InvB` of the invariant. -/
theorem order_respected {g : Graph} {s s' : State} {t : Nat} {sc : Script}
    (h : step g s (.finish t) = some s') (hi : RedoModel.Par.InvB g s) (hsc : g.script t = some sc) :
    ∀ f ∈ sc.cmds.flatten, settled g s f = true :=
  RedoModel.Par.order_respected h hi hsc

/-- In a run: whenever `finish t` is accepted after an accepted schedule, every file the script of `t`
asked for is settled at that moment. -/
theorem order_respected_run {g : Graph} {s0 s s' : State} {es : List Ev} {t : Nat} {sc : Script}
    (h0 : Init g s0) (h : run g s0 es = some s) (hf : step g s (.finish t) = some s')
    (hsc : g.script t = some sc) : ∀ f ∈ sc.cmds.flatten, settled g s f = true :=
  RedoModel.Par.order_respected_run h0 h hf hsc

/-! ### A concrete instance (non-vacuity): diamond 3 → {1, 2} → 4 → source 0, with 4 requested twice -/

/-- The hypotheses of all theorems above hold together for a concrete graph, start state and three
different accepted schedules (serial; parallel with the shared target built by the other requester; one
with a `clean` event). -/
theorem example_hypotheses :
    WellFormed Ex.g ∧ Ranked Ex.g Ex.rank ∧ Init Ex.g Ex.s0 ∧ CleanOk Ex.g Ex.s0 Ex.esClean ∧
    (run Ex.g Ex.s0 Ex.esSerial).isSome = true ∧ (run Ex.g Ex.s0 Ex.esPar).isSome = true ∧
    (run Ex.g Ex.s0 Ex.esClean).isSome = true ∧ (serialOne Ex.g 4 3 none Ex.s0).1 = Ex.esSerial :=
  ⟨Ex.wellFormed, Ex.ranked, Ex.init, Ex.cleanOk, Ex.serial_accepted, Ex.par_accepted, Ex.clean_accepted,
   Ex.serial_schedule⟩

/-- The three schedules leave the same bytes in all four targets (by evaluation). -/
theorem example_same_contents :
    (run Ex.g Ex.s0 Ex.esPar).map (fun s => [1, 2, 3, 4].map s.content)
      = (run Ex.g Ex.s0 Ex.esSerial).map (fun s => [1, 2, 3, 4].map s.content) ∧
    (run Ex.g Ex.s0 Ex.esClean).map (fun s => [1, 2, 3, 4].map s.content)
      = (run Ex.g Ex.s0 Ex.esSerial).map (fun s => [1, 2, 3, 4].map s.content) := by
  decide

/-- Schedules that violate a guard are rejected: a command returning before its dependencies are settled,
a second start of a script, a start nobody asked for, a script ending before its last command returned,
a start of a target already declared clean. -/
theorem example_rejected :
    (run Ex.g Ex.s0 [.start 3 none, .ret 3]).isNone = true ∧
    (run Ex.g Ex.s0 [.start 3 none, .start 1 (some 3), .start 2 (some 3), .start 4 (some 1),
                     .start 4 (some 2)]).isNone = true ∧
    (run Ex.g Ex.s0 [.start 3 none, .start 4 (some 3)]).isNone = true ∧
    (run Ex.g Ex.s0 [.start 3 none, .finish 3]).isNone = true ∧
    (run Ex.g Ex.s0 [.start 3 none, .start 1 (some 3), .clean 4, .start 4 (some 1)]).isNone = true :=
  ⟨Ex.early_ret_rejected, Ex.second_start_rejected, Ex.unasked_start_rejected, Ex.early_finish_rejected,
   Ex.start_after_clean_rejected⟩

end C07
