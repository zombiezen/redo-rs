import RedoModel.Lemmas.ParFExample
/-!
# C07 (continued) — with failing scripts the status class does not depend on the schedule

Model: `RedoModel/ParF.lean` = `Par.lean` plus failure.  A script may be marked `fails` (exits non-zero after
its last command, no output); a target may be recorded `failed` (never started again, every request for it
answers non-zero); `ret t ok` is the return of the current command of `t` (`ok = true`: everything named is a
source or built; `ok = false`: something named has failed and, only with `--keep-going`, everything named has
an answer — without it the moment of the non-zero return is free); after `ret t false` the script is
`aborting` and its only possible event is `fail t`.  Which targets get attempted depends on the schedule;
what is proved here is that the *answers* do not: `failed` is only ever recorded for targets that cannot be
built (`Bad`), `done` only for targets that can, for every target and at every `-j`, with or without
`--keep-going`.

Property theorems; the invariants and the serial schedule they rest on: `RedoModel/Lemmas/ParF*.lean`.

As in C07b the unguarded `clean` event forces the hypothesis `CleanOk g s0 es` (what the run declares clean
can be built and holds the from-scratch content; `parf_status_class_needs_cleanOk` shows it cannot be dropped).  It is
empty for schedules without `clean` events, and `Init` is implied by `AllIdle` ("everything is dirty").
-/
namespace C07
open RedoModel.ParF

/-- Whatever the schedule, no script is started twice in a run; every started target has left the idle
state for good; and the ghost list is the list of `start` events of the schedule, so no target occurs in
two of them. -/
theorem parf_at_most_once {g : Graph} {s0 s : State} {es : List Ev} (h0 : Init g s0)
    (h : run g s0 es = some s) :
    s.starts.Nodup ∧ (∀ t ∈ s.starts, s.st t ≠ .idle) ∧ s.starts = (startsOf es).reverse ∧
    (startsOf es).Nodup :=
  RedoModel.ParF.parf_at_most_once h0 h

/-- A target is recorded as failed only if it cannot be built (its script fails or, hereditarily, one of
the files it asks for cannot be built).  No hypothesis on the graph or on clean targets. -/
theorem parf_failed_is_bad {g : Graph} {s0 s : State} {es : List Ev} (h0 : Init g s0)
    (h : run g s0 es = some s) {t : Nat} (ht : s.st t = .failed) : Bad g t :=
  RedoModel.ParF.failed_bad h0 h ht

/-- A target that cannot be built is never recorded as built. -/
theorem parf_done_is_not_bad {g : Graph} {s0 s : State} {es : List Ev} (h0 : Init g s0)
    (hc : CleanOk g s0 es) (h : run g s0 es = some s) {t : Nat} (ht : s.st t = .done) : ¬ Bad g t :=
  RedoModel.ParF.done_not_bad h0 hc h ht

/-- Hence for EVERY target `t` (top or not, early return or `--keep-going`) that is settled at the end of
a run, the answer is determined by the graph alone: failed iff it cannot be built.  What depends on the
schedule is only whether `t` was settled at all (a `Bad` target may stay idle or running, see
`example_parf`). -/
theorem parf_status_class {g : Graph} {s0 s : State} {es : List Ev} (h0 : Init g s0)
    (hc : CleanOk g s0 es) (h : run g s0 es = some s) {t : Nat}
    (ht : s.st t = .done ∨ s.st t = .failed) : s.st t = .failed ↔ Bad g t := by
  constructor
  · exact failed_bad h0 h
  · intro hb
    rcases ht with ht | ht
    · exact absurd hb (done_not_bad h0 hc h ht)
    · exact ht

/-- In particular: everything dirty at the start, nothing declared clean. -/
theorem parf_status_class_all_idle {g : Graph} {s0 s : State} {es : List Ev} (h0 : AllIdle s0)
    (hnc : ∀ t, Ev.clean t ∉ es) (h : run g s0 es = some s) {t : Nat}
    (ht : s.st t = .done ∨ s.st t = .failed) : s.st t = .failed ↔ Bad g t :=
  parf_status_class (allIdle_init h0) (cleanOk_of_no_clean hnc) h ht

/-- The hypothesis on clean targets cannot be dropped: a target whose script fails can be declared clean. -/
theorem parf_status_class_needs_cleanOk :
    ∃ (g : Graph) (s0 s : State) (es : List Ev), AllIdle s0 ∧ run g s0 es = some s ∧
      ∃ t, s.st t = .done ∧ Bad g t := by
  let g : Graph :=
    { script := fun t => if t = 0 then some { cmds := [], reads := [], tag := 0, fails := true } else none,
      src := fun _ => [] }
  let s0 : State := { st := fun _ => .idle, content := fun _ => [] }
  exact ⟨g, s0, { s0 with st := upd s0.st 0 .done }, [.clean 0], ⟨rfl, fun _ => rfl⟩, rfl, 0, rfl,
    Bad.self (g := g) (t := 0) (sc := { cmds := [], reads := [], tag := 0, fails := true }) rfl rfl⟩

/-- The invocation `redo ts`: at any point of any run where the top level may return, its exit status is 0
exactly when every top target can be built. -/
theorem parf_exit_class {g : Graph} {s0 s : State} {es : List Ev} {ts : List Nat} (h0 : Init g s0)
    (hc : CleanOk g s0 es) (h : run g s0 es = some s) (hret : topReturns g s ts = true) :
    status g s ts = 0 ↔ ∀ t ∈ ts, ¬ Bad g t :=
  RedoModel.ParF.exit_class h0 hc h hret

/-- So two schedules of the same invocation give the same exit status. -/
theorem parf_exit_schedule_independent {g : Graph} {s0 s₁ s₂ : State} {es₁ es₂ : List Ev} {ts : List Nat}
    (h0 : Init g s0) (hc₁ : CleanOk g s0 es₁) (hc₂ : CleanOk g s0 es₂)
    (h₁ : run g s0 es₁ = some s₁) (h₂ : run g s0 es₂ = some s₂)
    (hr₁ : topReturns g s₁ ts = true) (hr₂ : topReturns g s₂ ts = true) :
    status g s₁ ts = status g s₂ ts := by
  have e1 := exit_class h0 hc₁ h₁ hr₁
  have e2 := exit_class h0 hc₂ h₂ hr₂
  have hcases : ∀ s, status g s ts = 0 ∨ status g s ts = 1 := by
    intro s; unfold status; split <;> simp
  rcases hcases s₁ with a | a <;> rcases hcases s₂ with b | b
  · rw [a, b]
  · exact absurd (e2.2 (e1.1 a)) (by rw [b]; decide)
  · exact absurd (e1.2 (e2.1 b)) (by rw [a]; decide)
  · rw [a, b]

/-- The serial build (depth first, stopping at the first failure unless `--keep-going`) of an acyclic
graph is itself an accepted run, ends where the top level returns, and declares nothing clean. -/
theorem parf_serial_is_a_run {g : Graph} {rank : Nat → Nat} {s0 : State} {fuel : Nat} {ts : List Nat}
    (hr : Ranked g rank) (h0 : Init g s0) (hfuel : ∀ t ∈ ts, rank t < fuel) :
    run g s0 (serialTop g fuel ts s0).1 = some (serialTop g fuel ts s0).2 ∧
    topReturns g (serialTop g fuel ts s0).2 ts = true ∧
    (∀ u, Ev.clean u ∉ (serialTop g fuel ts s0).1) :=
  RedoModel.ParF.serial_is_a_run hr h0 hfuel

/-- The exit status of any schedule equals that of the serial build. -/
theorem parf_exit_equals_serial {g : Graph} {rank : Nat → Nat} {s0 s : State} {es : List Ev} {fuel : Nat}
    {ts : List Nat} (hr : Ranked g rank) (h0 : Init g s0) (hc : CleanOk g s0 es)
    (h : run g s0 es = some s) (hret : topReturns g s ts = true) (hfuel : ∀ t ∈ ts, rank t < fuel) :
    status g s ts = status g (serialTop g fuel ts s0).2 ts := by
  obtain ⟨h1, h2, h3⟩ := serial_is_a_run (ts := ts) hr h0 hfuel
  exact parf_exit_schedule_independent h0 hc (cleanOk_of_no_clean h3) h h1 hret h2

/-- Every run accepted with `--keep-going` is also accepted without it: keep-going only restricts the
moment of a non-zero return. -/
theorem parf_keepGoing_weaken {g : Graph} {s s' : State} {es : List Ev} (h : run g s es = some s') :
    run { g with keepGoing := false } s es = some s' :=
  run_iff.2 ((run_iff.1 h).mono fun _ _ _ => step_keepGoing_weaken)

/-- Every target recorded as built holds the content a from-scratch build gives it (`Spec` exists only for
targets whose script does not fail). -/
theorem parf_done_is_spec {g : Graph} {s0 s : State} {es : List Ev} (hw : WellFormed g) (h0 : Init g s0)
    (hc : CleanOk g s0 es) (h : run g s0 es = some s) :
    ∀ t sc, g.script t = some sc → s.st t = .done → Spec g t (s.content t) :=
  RedoModel.ParF.done_is_spec hw h0 hc h

/-- So two schedules agree on the bytes of every target built in both. -/
theorem parf_confluent {g : Graph} {s0 s₁ s₂ : State} {es₁ es₂ : List Ev} (hw : WellFormed g)
    (h0 : Init g s0) (hc₁ : CleanOk g s0 es₁) (hc₂ : CleanOk g s0 es₂)
    (h₁ : run g s0 es₁ = some s₁) (h₂ : run g s0 es₂ = some s₂) (t : Nat) {sc : Script}
    (hsc : g.script t = some sc) (hd₁ : s₁.st t = .done) (hd₂ : s₂.st t = .done) :
    s₁.content t = s₂.content t :=
  RedoModel.ParF.confluent hw h0 hc₁ hc₂ h₁ h₂ t hsc hd₁ hd₂

/-- In every accepted run: if `d` is recorded as failed and a command of the script of `t` names `d`, then
`t` is not recorded as built (it is failed, aborting, running or idle) — at the end of the run, hence,
every prefix of a run being a run and `failed` being permanent, at every moment after the failure. -/
theorem parf_no_dependent_recorded_ok {g : Graph} {s0 s : State} {es : List Ev} (h0 : Init g s0)
    (hc : CleanOk g s0 es) (h : run g s0 es = some s) {t d : Nat} {sc : Script}
    (hsc : g.script t = some sc) (hd : d ∈ sc.cmds.flatten) (hf : s.st d = .failed) : s.st t ≠ .done :=
  fun hdone => done_not_bad h0 hc h hdone (Bad.dep hsc hd (failed_bad h0 h hf))

/-! ### A concrete instance: the failing leaf 3 is shared by the branches 1 and 2 of the top target 5 -/

/-- The hypotheses hold together; schedule A (branch 1 meets the failure; it is the serial schedule) and
schedule B (branch 2 runs the failing script, branch 1 only learns of it) are both accepted, as is the
serial `--keep-going` schedule K; all end where the top level returns with status 1; the targets attempted
differ (in A the unbuildable 2 and the buildable 4 stay idle). -/
theorem example_parf :
    WellFormed Ex.g ∧ Ranked Ex.g Ex.rank ∧ AllIdle Ex.s0 ∧ Bad Ex.g 2 ∧ Bad Ex.g 5 ∧
    (serialTop Ex.g 4 [5] Ex.s0).1 = Ex.esA ∧ (serialTop Ex.gK 4 [5] Ex.s0).1 = Ex.esK ∧
    (run Ex.g Ex.s0 Ex.esA).map (fun s => (topReturns Ex.g s [5], status Ex.g s [5])) = some (true, 1) ∧
    (run Ex.g Ex.s0 Ex.esB).map (fun s => (topReturns Ex.g s [5], status Ex.g s [5])) = some (true, 1) ∧
    (run Ex.gK Ex.s0 Ex.esK).map (fun s => (topReturns Ex.gK s [5], status Ex.gK s [5])) = some (true, 1) ∧
    (run Ex.g Ex.s0 Ex.esA).map (fun s => [1, 2, 3, 4, 5].map s.st)
      = some [.failed, .idle, .failed, .idle, .failed] ∧
    (run Ex.g Ex.s0 Ex.esB).map (fun s => [1, 2, 3, 4, 5].map s.st)
      = some [.failed, .failed, .failed, .done, .failed] :=
  ⟨Ex.wellFormed, Ex.ranked, Ex.allIdle, Ex.bad2, Ex.bad5, Ex.serial_schedule, Ex.serial_schedule_keepGoing,
   Ex.same_status⟩

/-- The failing script ran once in each schedule although it was asked for twice; a buildable top target
gives status 0. -/
theorem example_parf_once :
    ((run Ex.g Ex.s0 Ex.esA).map (·.starts) = some [3, 1, 5] ∧
     (run Ex.g Ex.s0 Ex.esB).map (·.starts) = some [3, 4, 1, 2, 5]) ∧
    (run Ex.g Ex.s0 [.start 4 none, .ret 4 true, .finish 4]).map
      (fun s => (topReturns Ex.g s [4], status Ex.g s [4])) = some (true, 0) :=
  ⟨Ex.starts, Ex.good_status⟩

/-- Rejected: `finish` of a failing script; a zero return of a command naming a failed target; a non-zero
return while nothing named has failed; going on after a non-zero return (`finish`, another `ret`);
running a failed target again for its second requester; with `--keep-going`, returning before every named
target has an answer (schedule A). -/
theorem example_parf_rejected :
    (run Ex.g Ex.s0 [.start 3 none, .ret 3 true, .finish 3]).isNone = true ∧
    (run Ex.g Ex.s0 [.start 5 none, .start 1 (some 5), .start 3 (some 1), .ret 3 true, .fail 3,
                     .ret 1 true]).isNone = true ∧
    (run Ex.g Ex.s0 [.start 5 none, .start 1 (some 5), .start 3 (some 1), .ret 1 false]).isNone = true ∧
    ((run Ex.g Ex.s0 [.start 5 none, .start 1 (some 5), .start 3 (some 1), .ret 3 true, .fail 3,
                      .ret 1 false, .finish 1]).isNone = true ∧
     (run Ex.g Ex.s0 [.start 5 none, .start 1 (some 5), .start 3 (some 1), .ret 3 true, .fail 3,
                      .ret 1 false, .ret 1 true]).isNone = true) ∧
    (run Ex.g Ex.s0 [.start 5 none, .start 1 (some 5), .start 2 (some 5), .start 3 (some 1), .ret 3 true,
                     .fail 3, .start 4 (some 2), .ret 4 true, .finish 4, .ret 2 true,
                     .start 3 (some 2)]).isNone = true ∧
    (run Ex.gK Ex.s0 Ex.esA).isNone = true :=
  ⟨Ex.finish_of_failing_rejected, Ex.ok_after_failure_rejected, Ex.bad_return_without_failure_rejected,
   Ex.continue_after_bad_return_rejected, Ex.restart_of_failed_rejected,
   Ex.early_return_rejected_with_keepGoing⟩

end C07
