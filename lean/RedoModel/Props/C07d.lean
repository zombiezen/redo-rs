import RedoModel.Lemmas.RunLoopInv
/-!
# C07 — one decision per file per command (`builder::run`'s `seen` / `seen_ids`, builder.rs "duplicate names on one
command line skipped"), on the control-flow model `RedoModel/RunLoop.lean`.  Property theorems (`beginOf` is the lemma
files' `evBegin`: `beginOf_eq`).
-/
namespace C07
open RedoModel.RunLoop

def beginOf : Ev → Option Nat
  | .begin f => some f
  | _ => none

theorem beginOf_eq : beginOf = evBegin := by funext e; cases e <;> rfl

/-- `started` is exactly the list of targets for which `BuildJob::start` was entered, latest first. -/
theorem started_are_the_begins (c : Cfg) (es : List Ev) (s : St) (h : run c {} es = .ok s) :
    s.started = (es.filterMap beginOf).reverse := by
  rw [beginOf_eq, run_started h]; simp

/-- However the environment answers (locks busy or free, targets queued and taken up again by the second loop),
one call of `builder::run` enters `BuildJob::start` at most once per file id. -/
theorem runloop_start_at_most_once (c : Cfg) (es : List Ev) (s : St) (h : run c {} es = .ok s) :
    (es.filterMap beginOf).Nodup := by
  rw [beginOf_eq]; exact begins_nodup h

/-- A job is forked only for a target whose `BuildJob::start` was entered, and at most once per file id. -/
theorem runloop_fork_at_most_once (c : Cfg) (es : List Ev) (s : St) (h : run c {} es = .ok s) :
    (es.filterMap (fun e => match e with | .forked f => some f | _ => none)).Nodup := by
  have he : (fun e : Ev => match e with | .forked f => some f | _ => none) = evFork := by funext e; cases e <;> rfl
  rw [he]; exact forks_nodup h

end C07
