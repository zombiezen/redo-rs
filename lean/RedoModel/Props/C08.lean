import RedoModel.Lemmas.Tokens
import RedoModel.Props.C08b
/-!
# C08 — Job tokens are conserved and -j is respected
Property theorems only.  Model: `RedoModel/Tokens.lean` (an acceptor for the primitive token events
the instrumented jobserver logs).  The theorems say: whatever sequence of primitives a tree of redo
processes performs, as long as each primitive is locally consistent (which the acceptor checks on
every real trace), the token value `V` stays equal to the number of tokens granted.  `C08b.lean`: the jobserver pipe
reaches the children through `MAKEFLAGS`.
-/
namespace C08
open RedoModel.Tokens

/-- One accepted primitive conserves `V - total`. -/
theorem step_conserves (s s' : State) (e : Ev) (h : step s e = .ok s') :
    V s' - s'.total = V s - s.total := by
  cases e <;> simp only [step, withProc_ok_iff, ite_error_ok, check_ok_iff, Except.ok.injEq] at h
  case setupOwn p n =>
    obtain ⟨-, rfl⟩ := h
    simp only [V, sumProcs_cons, contrib]
    omega
  case setupInh p parent =>
    split at h
    · rename_i j hj
      obtain ⟨hd, h⟩ := ite_error_ok.1 h
      cases h
      rw [Bool.not_eq_true] at hd
      simp only [V, sumProcs_cons, contrib, freeJobs_set _ _ _ _ hj, jobVal, hd, Bool.false_eq_true, if_true, if_false]
      omega
    · cases h
      simp only [V, sumProcs_cons, contrib]
      omega
  case create p n my cheats =>
    obtain ⟨x, hx, -, -, rfl⟩ := h
    simp only [V, sumProcs_set _ _ _ _ hx, contrib_createN]
    omega
  case destroy p n my cheats =>
    obtain ⟨x, hx, -, -, rfl⟩ := h
    simp only [V, sumProcs_set _ _ _ _ hx, contrib]
    omega
  case release p n shared my cheats =>
    obtain ⟨x, hx, hg, -, -, rfl⟩ := h
    simp only [V, sumProcs_set _ _ _ _ hx, contrib]
    omega
  case read p my cheats =>
    obtain ⟨x, hx, -, -, -, rfl⟩ := h
    simp only [V, sumProcs_set _ _ _ _ hx, contrib]
    omega
  case eat p my cheats =>
    obtain ⟨x, hx, -, -, -, rfl⟩ := h
    simp only [V, sumProcs_set _ _ _ _ hx, contrib]
    omega
  case cheat p n my cheats =>
    obtain ⟨x, hx, -, -, rfl⟩ := h
    simp only [V, sumProcs_set _ _ _ _ hx, contrib]
    omega
  case start p j my cheats =>
    obtain ⟨x, hx, -, -, -, rfl⟩ := h
    simp only [V, sumProcs_set _ _ _ _ hx, contrib, freeJobs_cons, jobVal, Bool.false_eq_true, if_false]
    omega
  case childexit p j my cheats =>
    obtain ⟨x, hx, h⟩ := h
    split at h
    · cases h
    · rename_i js hjs
      obtain ⟨hg, -, rfl⟩ := (ite_error_ok.trans (and_congr_right fun _ => check_ok_iff)).1 h
      have hd : js.delegated = false := by simpa using fun h => hg (.inr h)
      simp only [V, sumProcs_set _ _ _ _ hx, contrib, freeJobs_del _ _ _ hjs, jobVal, hd, Bool.false_eq_true, if_false]
      omega
  case reaped p j => rw [h]
  case forcereturn p n =>
    obtain ⟨x, hx, -, rfl⟩ := h
    simp only [V, sumProcs_set _ _ _ _ hx, contrib]
    omega
  case cheatwrite p n =>
    obtain ⟨x, hx, rfl⟩ := h
    simp only [V, sumProcs_set _ _ _ _ hx, contrib]
    omega
  case selftest p tokens cheats top =>
    obtain ⟨x, hx, -, -, rfl⟩ := h
    rfl
  case returned p my cheats =>
    obtain ⟨x, hx, -, h⟩ := h
    split at h
    · split at h
      · cases h
      · rename_i j _ js hjs
        obtain ⟨hd, hc, h⟩ := (ite_error_ok.trans (and_congr_right fun _ => ite_error_ok)).1 h
        cases h
        have hd : js.delegated = true := by simpa using hd
        simp only [V, sumProcs_del _ _ _ hx, freeJobs_set _ _ _ _ hjs, jobVal, hd, if_true, Bool.false_eq_true, if_false]
        omega
    · split at h
      · split at h
        · cases h
          simp only [V, sumProcs_del _ _ _ hx]
          omega
        · cases h
      · obtain ⟨hc, -, h⟩ := (ite_error_ok.trans (and_congr_right fun _ => ite_error_ok)).1 h
        cases h
        simp only [V, sumProcs_del _ _ _ hx]
        omega

/-- Every accepted event sequence conserves the token value: no token is created or lost. -/
theorem conserved (s s' : State) (es : List Ev) (h : run s es = .ok s') :
    V s' - s'.total = V s - s.total :=
  (run_iff.1 h).inv (I := fun x => V x - x.total = V s - s.total)
    (fun s e s1 hs hi => (step_conserves s s1 e hs).trans hi) rfl

/-- From an idle jobserver (nothing granted yet) the value always equals the number of tokens
granted (`-jN`, plus one per process that entered under an inherited jobserver). -/
theorem value_is_total (k : Int) (es : List Ev) (s' : State)
    (h : run { pipe := k, total := k } es = .ok s') : V s' = s'.total := by
  have := conserved _ _ es h
  have h0 : V ({ pipe := k, total := k } : State) = k := by simp [V, sumProcs, freeJobs]
  rw [h0] at this
  simp only at this
  omega

/-- When everything has finished (no process, no job left) the pipe holds exactly the tokens it
should: the top-level that owns the jobserver ends with what it started with, and an inherited
jobserver has got back exactly what was taken. -/
theorem all_returned (k : Int) (es : List Ev) (s' : State)
    (h : run { pipe := k, total := k } es = .ok s') (hp : s'.procs = []) (hj : s'.jobs = []) :
    s'.pipe - s'.cheatPipe = s'.total := by
  have := value_is_total k es s' h
  simp [V, hp, hj, sumProcs, freeJobs] at this
  omega

/-- The -j bound: the number of scripts working on their own token never exceeds the tokens
granted plus the outstanding cheats (one per followed job) — provided counters are non-negative,
which the Rust asserts. -/
theorem bound (k : Int) (es : List Ev) (s' : State)
    (h : run { pipe := k, total := k } es = .ok s')
    (hpipe : 0 ≤ s'.pipe) (hpos : ∀ e ∈ s'.procs, 0 ≤ e.2.my ∧ 0 ≤ e.2.limbo) :
    freeJobs s'.jobs ≤ s'.total + s'.cheatPipe + (s'.procs.map (fun e => e.2.cheats)).sum := by
  have hv := value_is_total k es s' h
  have hs : ∀ l : List (Nat × Proc), (∀ e ∈ l, 0 ≤ e.2.my ∧ 0 ≤ e.2.limbo) →
      sumProcs l + (l.map (fun e => e.2.cheats)).sum ≥ 0 := by
    intro l
    induction l with
    | nil => intro _; simp [sumProcs]
    | cons e r ih =>
      intro hh
      have h1 := hh e (by simp)
      have h2 := ih (fun x hx => hh x (by simp [hx]))
      simp only [sumProcs, List.map_cons, List.sum_cons, contrib] at h2 ⊢
      omega
  have := hs s'.procs hpos
  simp only [V] at hv
  omega

/-- Witness for the recorded finding `exitWithoutToken`: a nested redo process that leaves with
`(my_tokens, cheats) = (0, 0)` is rejected by the acceptor — it is exactly the step at which a token
would be minted (its job continues on a token nobody holds). -/
theorem exit_without_token_rejected :
    (match run {} [.setupOwn 1 2, .create 1 1 2 0, .release 1 1 1 1 0, .destroy 1 1 0 0, .start 1 10 0 0,
                   .setupInh 2 10, .release 2 1 1 0 0, .forcereturn 2 0, .returned 2 0 0] with
     | .error (0, .guard _ 2) => true
     | _ => false) = true := by decide

/-- Witness for the repaired defect `cheaterEatsForeignIou`: a process that
synthesised a token (`cheat`), gave it to a child, and at the child's exit takes an IOU somebody else left on the cheat
pipe — instead of settling its own cheat with the child's token — is rejected at that step: it would be left with
`(my_tokens, cheats) = (0, 1)`, which the exit path of the pinned code answered with an assertion failure. -/
theorem foreign_iou_with_own_cheat_rejected :
    (match run {} [.setupOwn 1 2, .create 1 1 2 0, .release 1 1 1 1 0, .destroy 1 1 0 0, .start 1 10 0 0,
                   .setupInh 2 10, .release 2 1 1 0 0, .cheat 2 1 1 1, .destroy 2 1 0 1, .start 2 20 0 1,
                   .cheatwrite 1 1, .childexit 2 20 0 1, .eat 2 0 1] with
     | .error (0, .guard _ 2) => true
     | _ => false) = true := by decide

/-- The repaired order on the same prefix is accepted: the child's token settles the cheat (`create` with the cheat
cancelled), the process leaves with `(0, 0)` and one IOU of its own, and its job gets its token back. -/
theorem own_cheat_settled_first_accepted :
    (match run {} [.setupOwn 1 2, .create 1 1 2 0, .release 1 1 1 1 0, .destroy 1 1 0 0, .start 1 10 0 0,
                   .setupInh 2 10, .release 2 1 1 0 0, .cheat 2 1 1 1, .destroy 2 1 0 1, .start 2 20 0 1,
                   .cheatwrite 1 1, .childexit 2 20 0 1, .create 2 1 0 0, .forcereturn 2 0, .cheatwrite 2 1,
                   .returned 2 0 0] with
     | .ok s => s.procs.length == 1 && s.cheatPipe == 2
     | _ => false) = true := by decide

/-- Witness for the repaired defect `failedStartLosesToken`: a process that destroys its token for a child that is
then never started (the pipe for the child's exit could not be created) and leaves — with the IOU a token-less exit
writes — is rejected: it does not leave exactly one token to its job (the destroyed one is lost). -/
theorem token_destroyed_for_unstarted_child_rejected :
    (match run {} [.setupOwn 1 1, .destroy 1 1 0 0, .start 1 10 0 0, .setupInh 2 10, .destroy 2 1 0 0,
                   .forcereturn 2 0, .cheatwrite 2 1, .returned 2 0 0] with
     | .error (0, .guard _ 2) => true
     | _ => false) = true := by decide

/-- Repaired order: nothing is destroyed before the start can no longer fail; the process leaves with its token. -/
theorem failed_start_keeps_token_accepted :
    (match run {} [.setupOwn 1 1, .destroy 1 1 0 0, .start 1 10 0 0, .setupInh 2 10,
                   .forcereturn 2 0, .returned 2 1 0] with
     | .ok s => s.procs.length == 1 && s.cheatPipe == 0
     | _ => false) = true := by decide

end C08
