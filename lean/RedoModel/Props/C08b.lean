import RedoModel.Lemmas.Makeflags
/-!
# C08 (continued) — the jobserver pipe reaches the children through `MAKEFLAGS`
Property theorems only.  Model: `RedoModel/Makeflags.lean` (`parse` = `parse_makeflags`, `format` = the string
`JobServer::setup` exports).  Tokens are conserved only if every child really joins the parent's pipe; these
theorems say the hand-over through the environment variable is loss-free for every pair of `i32` descriptors.
`CleanPrefix`, a hypothesis of `roundtrip_inside` and `roundtrip_at_end`, and `decode` are defined in
`Lemmas/Makeflags.lean`.
-/
namespace C08
open RedoModel.Makeflags
open RedoModel.LogRec (canonI32)

/-- What `JobServer::setup` exports is read back by every child as the same two descriptors, for every pair
of `i32` values (in canonical decimal form). -/
theorem roundtrip (r w : List Char) (hr : canonI32 r = some r) (hw : canonI32 w = some w) :
    parse (format r w) = .fds r w := by
  have hp : CleanPrefix " -j ".toList := by
    -- a literal is `String.ofList` of its characters: rewriting spares the kernel the UTF-8 decoding
    repeat rw [String.toList_ofList]
    decide +kernel
  have h := parse_inside " -j ".toList (' ' :: "--jobserver-fds=".toList ++ r ++ ',' :: w) r w hp (Or.inr rfl) hr hw
  rw [← h]
  unfold format
  repeat rw [String.toList_ofList]
  simp only [List.append_assoc, List.cons_append, List.nil_append]

example : parse (format "-2147483648".toList "2147483647".toList)
    = .fds "-2147483648".toList "2147483647".toList := by
  repeat rw [String.toList_ofList]
  exact roundtrip _ _ (by decide +kernel) (by decide +kernel)

/-- The same when other words surround the option: `pre` is empty or ends with a blank and the option name does
not occur earlier (`CleanPrefix`, decidable), and a blank follows the two numbers. -/
theorem roundtrip_inside (pre post r w : List Char) (hpre : CleanPrefix pre)
    (hr : canonI32 r = some r) (hw : canonI32 w = some w) :
    parse (pre ++ "--jobserver-auth=".toList ++ r ++ ',' :: w ++ ' ' :: post) = .fds r w :=
  parse_inside pre (' ' :: post) r w hpre (Or.inr rfl) hr hw

/-- … and when the option is the last word. -/
theorem roundtrip_at_end (pre r w : List Char) (hpre : CleanPrefix pre)
    (hr : canonI32 r = some r) (hw : canonI32 w = some w) :
    parse (pre ++ "--jobserver-auth=".toList ++ r ++ ',' :: w) = .fds r w := by
  simpa using parse_inside pre [] r w hpre (Or.inl rfl) hr hw

example : CleanPrefix "-k --jobserver-fds=8,9 -j ".toList := by
  repeat rw [String.toList_ofList]
  decide +kernel
example : parse ("-k --jobserver-fds=8,9 -j ".toList ++ "--jobserver-auth=".toList ++ "3".toList
    ++ ',' :: "4".toList ++ ' ' :: "-s".toList) = .fds "3".toList "4".toList :=
  roundtrip_inside _ _ _ _
    (by
      repeat rw [String.toList_ofList]
      decide +kernel)
    (by decide +kernel) (by decide +kernel)
/-- Both parts of `CleanPrefix` are needed: glued to a previous word the option is not seen, and an earlier
occurrence wins. -/
example : ¬ CleanPrefix "-j".toList ∧ parse "-j--jobserver-auth=3,4".toList = .absent ∧
    ¬ CleanPrefix "--jobserver-auth=x ".toList ∧ parse "--jobserver-auth=x --jobserver-auth=3,4".toList = .invalid := by
  repeat rw [String.toList_ofList]
  decide +kernel

/-- `--jobserver-auth=` wins: when it occurs, the result is a function (`decode`: cut at the first blank, split
at the first comma, both halves through `parse::<i32>`) of the text after its first occurrence alone, whatever
`--jobserver-fds=` options the string also holds. -/
theorem auth_preferred (flags s : List Char) (h : after find1 (' ' :: (flags ++ [' '])) = some s) :
    parse flags = decode s := by
  rw [parse_eq, h]

/-- `--jobserver-fds=` is consulted only when `--jobserver-auth=` is absent, and then decides alone. -/
theorem fds_fallback (flags s : List Char) (h1 : after find1 (' ' :: (flags ++ [' '])) = none)
    (h2 : after find2 (' ' :: (flags ++ [' '])) = some s) : parse flags = decode s := by
  rw [parse_eq, h1, h2]

/-- `decode` written out. -/
theorem decode_eq (s : List Char) : decode s =
    match cutComma (s.takeWhile (· ≠ ' ')) with
    | none => .invalid
    | some (a, b) =>
      match canonI32 a, canonI32 b with
      | some a, some b => .fds a b
      | _, _ => .invalid := rfl

example : after find1 (' ' :: ("--jobserver-fds=1,2 --jobserver-auth=3,4".toList ++ [' '])) = some "3,4 ".toList ∧
    decode "3,4 ".toList = .fds "3".toList "4".toList := by
  repeat rw [String.toList_ofList]
  decide +kernel
example : after find1 (' ' :: ("--jobserver-fds=1,2".toList ++ [' '])) = none ∧
    after find2 (' ' :: ("--jobserver-fds=1,2".toList ++ [' '])) = some "1,2 ".toList := by
  repeat rw [String.toList_ofList]
  decide +kernel

/-- No jobserver is assumed exactly when neither option name occurs (as the start of a word). -/
theorem absent_iff (flags : List Char) :
    parse flags = .absent ↔
      after find1 (' ' :: (flags ++ [' '])) = none ∧ after find2 (' ' :: (flags ++ [' '])) = none := by
  rw [parse_eq]
  cases h1 : after find1 (' ' :: (flags ++ [' '])) with
  | some s => simp [decode_ne_absent]
  | none =>
    cases h2 : after find2 (' ' :: (flags ++ [' '])) with
    | some s => simp [decode_ne_absent]
    | none => simp

/-- … in terms of substrings. -/
theorem absent_iff_infix (flags : List Char) :
    parse flags = .absent ↔
      ¬ find1 <:+: ' ' :: (flags ++ [' ']) ∧ ¬ find2 <:+: ' ' :: (flags ++ [' ']) := by
  rw [absent_iff, after_eq_none_iff, after_eq_none_iff]

example : parse "-j4 --jobserver".toList = .absent := by
  repeat rw [String.toList_ofList]
  decide +kernel

/-- Descriptors handed out by the parser are canonical `i32` tokens. -/
theorem fds_are_canonical (flags a b : List Char) (h : parse flags = .fds a b) :
    canonI32 a = some a ∧ canonI32 b = some b := by
  rw [parse_eq] at h
  cases h1 : after find1 (' ' :: (flags ++ [' '])) with
  | some s => rw [h1] at h; exact decode_fds h
  | none =>
    rw [h1] at h
    cases h2 : after find2 (' ' :: (flags ++ [' '])) with
    | some s => rw [h2] at h; exact decode_fds h
    | none => rw [h2] at h; cases h

/-- Different descriptor pairs are exported as different strings. -/
theorem format_injective (r w r' w' : List Char) (hr : canonI32 r = some r) (hw : canonI32 w = some w)
    (hr' : canonI32 r' = some r') (hw' : canonI32 w' = some w') (h : format r w = format r' w') :
    r = r' ∧ w = w' := by
  have h1 := roundtrip r w hr hw
  rw [h, roundtrip r' w' hr' hw'] at h1
  cases h1; exact ⟨rfl, rfl⟩

/-- Canonicity is needed: arbitrary strings can collide. -/
example : format "1,2".toList "3".toList = format "1".toList "2,3".toList := by
  repeat rw [String.toList_ofList]
  decide +kernel
example : parse "--jobserver-auth=+07,-0".toList = .fds "7".toList "0".toList ∧
    canonI32 "7".toList = some "7".toList ∧ canonI32 "0".toList = some "0".toList := by
  repeat rw [String.toList_ofList]
  decide +kernel

/-! The vectors of the Rust unit test `test_parse_makeflags`, and the error cases. -/
example : parse "".toList = .absent := by
  repeat rw [String.toList_ofList]
  decide +kernel
example : parse "--jobserver-auth=1,2".toList = .fds "1".toList "2".toList := by
  repeat rw [String.toList_ofList]
  decide +kernel
example : parse "--jobserver-fds=1,2".toList = .fds "1".toList "2".toList := by
  repeat rw [String.toList_ofList]
  decide +kernel
example : parse "--jobserver-fds=1,2 --jobserver-auth=3,4".toList = .fds "3".toList "4".toList := by
  repeat rw [String.toList_ofList]
  decide +kernel
example : parse " -j --jobserver-auth=1,2 --jobserver-fds=3,4".toList = .fds "1".toList "2".toList := by
  repeat rw [String.toList_ofList]
  decide +kernel
example : parse "--jobserver-auth=1".toList = .invalid := by
  repeat rw [String.toList_ofList]
  decide +kernel
example : parse "--jobserver-auth=+07,-0".toList = .fds "7".toList "0".toList := by
  repeat rw [String.toList_ofList]
  decide +kernel
example : parse "--jobserver-auth=2147483648,1".toList = .invalid := by
  repeat rw [String.toList_ofList]
  decide +kernel

end C08
