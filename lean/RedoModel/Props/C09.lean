import RedoModel.Props.C09f
import RedoModel.Props.C09e
import RedoModel.Props.C09d
import RedoModel.TokLoop
import RedoModel.Props.C09b
/-!
# C09 — No interleaving crashes or deadlocks the scheduler
Property theorems only.  Here: one process's token counter under every order of scheduler events, with the Rust
assertions as `panic` outcomes (model `RedoModel/TokLoop.lean`).  `C09b.lean`: the lock hand-over protocol across
processes does not deadlock on an acyclic declared graph (wait-for model `RedoModel/Waits.lean`, `progress`); `C09d.lean`:
the discipline of waiting in `builder::run` that this model assumes of every process, derived from the control flow
(`RunLoop`); `C09e.lean`: the enabling guards of the token counter derived from the same control flow (`RunTok`);
`C09f.lean`: the log pipe to the viewer (`LogPipe`).  On the real system deadlock freedom is monitored under wall-clock
bounds (DESIGN, partial), and the lock-order deadlock that existed on acyclic graphs is covered by a regression scenario.
-/
namespace C09
open RedoModel.TokLoop RedoModel.RunTok

/-- With the repaired event loop the process holds at most one token between scheduler steps. -/
theorem at_most_one (s s' : LS) (e : LEv) (h : s.my ≤ 1) (hs : lstep true s e = .ok s') : s'.my ≤ 1 :=
  lstep_my_le h hs

/-- The invariant of the repaired loop: at most one token, at most one cheat, and a cheat is always backed by the token
in hand or by a running child. -/
theorem backed_step (s s' : LS) (e : LEv) (h : Backed s) (hs : lstep true s e = .ok s') : Backed s' :=
  lstep_backed h hs

/-- No Rust assertion on the token counter can fail — neither the one of `start` nor the two of
`do_force_return_tokens` — for every sequence of scheduler events, in every order (every subset of {child exits,
IOUs on the cheat pipe, token arrivals} between two steps included). -/
theorem no_panic (es : List LEv) (s : LS) (h : Backed s) : lrun true s es ≠ .panic := by
  induction es generalizing s with
  | nil => intro hp; cases hp
  | cons e es ih =>
    intro hp
    simp only [lrun, lrunG] at hp
    cases hl : lstepG true true s e with
    | ok s' =>
      rw [hl] at hp
      exact ih s' (backed_step s s' e h hl) hp
    | disabled => rw [hl] at hp; cases hp
    | panic => exact lstep_no_panic (e := e) h hl

/-- What the process leaves with: never more cheats than tokens, at most one of each — the three exit states
`(1,0)`, `(1,1)`, `(0,0)` that `do_force_return_tokens` turns into "token kept", "token destroyed, one IOU" and
"one IOU" (the Tokens acceptor, Props/C08, checks that each leaves exactly one token to the job).  The top of a redo
tree under a foreign jobserver (`exitTop`) never leaves with `(0,0)`: only `(1,0)` and `(1,1)` remain. -/
theorem exit_states (s s' : LS) (e : LEv) (he : e = .exit ∨ e = .exitTop) (h : Backed s)
    (hs : lstep true s e = .ok s') :
    s'.cheats ≤ s'.my ∧ s'.my ≤ 1 ∧ s'.exited = true ∧ (e = .exitTop → s'.my = 1) := by
  rcases he with rfl | rfl
  · obtain ⟨t, h1, h2, h3, h4, _⟩ := lstep_exit h (lstep_live hs)
    rw [h1] at hs; cases hs
    exact ⟨h2, h3, h4, fun h => by cases h⟩
  · obtain ⟨t, h1, h2, h3, h4, _⟩ := lstep_exitTop h (lstep_live hs)
    rw [h1] at hs; cases hs
    exact ⟨h2, by omega, h4, fun _ => h3⟩

/-- The top of a redo tree under a foreign (make-style) jobserver always leaves holding exactly one token — the one
make expects back when the process it started ends — whichever event loop (pinned or repaired read) ran before. -/
theorem exit_top_holds_a_token (fixRead : Bool) (s s' : LS) (h : Backed s)
    (hs : lstep fixRead s .exitTop = .ok s') : s'.my = 1 := by
  have hs' : lstep true s .exitTop = .ok s' := by
    rw [← hs]; exact (lstepG_exitTop_indep fixRead true s).symm
  exact (exit_states s s' .exitTop (.inr rfl) h hs').2.2.2 rfl

/-- Neither assertion of `do_force_return_tokens` fails at the top of a redo tree. -/
theorem exit_top_never_panics (fixRead : Bool) (s : LS) (h : Backed s) (hx : ¬ s.exited) :
    lstep fixRead s .exitTop ≠ .panic :=
  -- the exit steps do not look at the flag
  lstep_no_panic (e := .exitTop) h

/-- The same for every other process (`.exit`). -/
theorem exit_never_panics (fixRead : Bool) (s : LS) (h : Backed s) (hx : ¬ s.exited) :
    lstep fixRead s .exit ≠ .panic :=
  lstep_no_panic (e := .exit) h

/-- Only the process that would leave with nothing is affected: when `.exit` leaves a token or a cheat, `.exitTop` is
the same step. -/
theorem exit_top_agrees_with_exit (fixRead : Bool) (s s' : LS) (hs : lstep fixRead s .exit = .ok s')
    (hne : s'.my ≥ 1 ∨ s'.cheats ≥ 1) : lstep fixRead s .exitTop = .ok s' := by
  simp only [lstep] at hs
  simp only [lstep, lstepG_exitTop, hs]
  rw [if_neg (by omega)]

/-- ... and when `.exit` leaves with `(0,0)`, `.exitTop` differs exactly by the token taken back from the pipe. -/
theorem exit_top_retakes (fixRead : Bool) (s s' : LS) (hs : lstep fixRead s .exit = .ok s')
    (h0 : s'.my = 0 ∧ s'.cheats = 0) : lstep fixRead s .exitTop = .ok { s' with my := 1 } := by
  simp only [lstep] at hs
  simp only [lstep, lstepG_exitTop, hs]
  rw [if_pos h0]

/-- After the exit nothing else happens. -/
theorem nothing_after_exit (s : LS) (e : LEv) (h : s.exited = true) : lstep true s e = .disabled :=
  lstep_exited e h

/-- From the initial state of a process (one token) nothing panics. -/
theorem no_panic_from_start (es : List LEv) : lrun true {} es ≠ .panic :=
  no_panic es {} (by simp [Backed])

/-- Witness for the repaired defect `tokenReadUnconditional`: with the pinned event loop, two jobs
and a child exit noticed in the same wake-up as a token arrival end in the `start` assertion. -/
theorem token_read_panic_witness :
    lrun false {} [.start, .tokenRead, .start, .childExit, .tokenRead, .start] = .panic := by decide

/-- The same sequence is impossible (not enabled) once the read is guarded. -/
theorem token_read_fixed :
    lrun true {} [.start, .tokenRead, .start, .childExit, .tokenRead, .start] = .disabled := by decide

/-- Witness for the repaired defect `cheaterEatsForeignIou`: with the pinned child-exit branch, a process that gave
its token up (lock wait), synthesised one, gave it to a child and at the child's exit took somebody else's IOU is left
with `(0, 1)` and fails the first assertion of `do_force_return_tokens`. -/
theorem foreign_iou_panic_witness :
    lrunG true false {} [.releaseMine, .cheat, .start, .childExitEat, .exit] = .panic := by decide

/-- With the repaired branch that sequence is not a behaviour (the IOU is left alone while the own cheat is
outstanding), and the same history with the cheat settled by the child's token ends in the exit state `(0, 0)`. -/
theorem foreign_iou_fixed :
    lrun true {} [.releaseMine, .cheat, .start, .childExitEat, .exit] = .disabled ∧
    lrun true {} [.releaseMine, .cheat, .start, .childExit, .exit]
      = .ok { my := 0, cheats := 0, running := 0, exited := true } := by decide

/-- `Backed` is not vacuous, and it is needed: from `(0, 1)` with nothing running the exit panics. -/
example : Backed { my := 1, cheats := 1, running := 0 } ∧ Backed { my := 0, cheats := 1, running := 2 } ∧
    lstep true { my := 0, cheats := 1, running := 0 } .exit = .panic := by
  refine ⟨by simp [Backed], by simp [Backed], by decide⟩

/-- An error exit with children still running: their tokens are re-created first (the first one settles the cheat). -/
example : lstep true { my := 0, cheats := 1, running := 2 } .exit
    = .ok { my := 1, cheats := 0, running := 2, exited := true } := by decide

/-- Non-vacuity of the `exitTop` theorems: the history of `foreign_iou_fixed` (lock wait, cheat, child, the child's token
settles the cheat) at the top of a redo tree ends with the token taken back; a process with its token in hand, or with
a backed cheat, leaves exactly as under `.exit`; without `Backed` the assertion fails as for `.exit`. -/
example : lrun true {} [.releaseMine, .cheat, .start, .childExit, .exitTop]
      = .ok { my := 1, cheats := 0, running := 0, exited := true } ∧
    lstep true { my := 0, cheats := 0, running := 0 } .exit
      = .ok { my := 0, cheats := 0, running := 0, exited := true } ∧
    lstep true { my := 0, cheats := 0, running := 0 } .exitTop
      = .ok { my := 1, cheats := 0, running := 0, exited := true } ∧
    lstep true {} .exitTop = lstep true {} .exit ∧
    lstep true { my := 1, cheats := 1, running := 0 } .exitTop
      = .ok { my := 1, cheats := 1, running := 0, exited := true } ∧
    lstep true { my := 0, cheats := 1, running := 2 } .exitTop
      = .ok { my := 1, cheats := 0, running := 2, exited := true } ∧
    lstep true { my := 0, cheats := 1, running := 0 } .exitTop = .panic ∧
    lstep false { my := 0, cheats := 0, running := 0, exited := true } .exitTop = .disabled := by decide

example : Backed { my := 0, cheats := 0, running := 0 } := by simp [Backed]

end C09
