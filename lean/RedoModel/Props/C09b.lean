import RedoModel.Lemmas.WaitsProgress
/-!
# C09 (lock protocol half) — no interleaving deadlocks the lock hand-over protocol on an acyclic graph

Property theorems only.  Model: `RedoModel/Waits.lean` (acceptor `step`/`run`, `enabled`, `deadlocked`) and
`RedoModel/WaitsG.lean` (the guarded acceptor: `scriptGuard`, `stepG`/`runG`, `evIn`, `mentionsIn`);
invariant and proofs: `RedoModel/Lemmas/WaitsProgress.lean` (`Inv`, preservation, descent, progress; `actor` and the
evaluation helpers).

Vocabulary:
* `scriptGuard s p k` : `p` owns the lock of `k`, or `p` was spawned under `oobKey k`, or `k = oobKey f` and
                        `p` owns the lock of `f`.  `Waits.step` does not check it, and accepts a deadlock on an
                        acyclic graph without it (`unguarded_script_deadlock`);
* `stepG`/`runG`      : `step`/`run` with `scriptGuard` checked on every `script` event;
* `evIn univ ev`      : if `ev` is `waitBegin p f` then `f ∈ univ` (weakest form of "locks mentioned are in `univ`");
  `mentionsIn univ ev`: every lock event (`lockOk`/`waitBegin`/`waitEnd`/`unlock`) is about a target in `univ`;
* `Inv reach univ s`  : distinct pids; a blocked process waits for a declared lock in `univ`, owns no lock and runs
                        nothing; every execution has an alive runner and a key legitimate for it (`KeyOk`); every
                        lock owner is alive and was allowed (`G2`) to ask for the lock;
* `actor ev`          : the pid an event belongs to;
* `endsWith r P`, `refused r`, `enabledTable univ s` : evaluation helpers for concrete runs.

Hypotheses on the rank.  The descent needs a measure `m` on execution keys with
`R1: f ∈ reach u → m (oobKey f) < m u` and `R2: m f < m (oobKey f)` (`progress_measure`).  `progress` obtains it as
`m k = 2 * rank k + k / 1000000` from `H0` (declared dependencies are targets, `< 1000000`), `H1` (`rank` decreases
along `reach`, for plain and out-of-band spawners alike) and `H2` (`rank (oobKey f) = rank f`);
`progress_targets` needs a rank on targets only, reading the key `u` as the target `u % 1000000`.
-/
namespace C09
open RedoModel.Waits

theorem inv_init (reach : Nat → List Nat) (univ : List Nat) : Inv reach univ {} :=
  RedoModel.Waits.inv_init reach univ

theorem step_preserves_inv (reach : Nat → List Nat) (univ : List Nat) (s s' : State) (ev : Ev)
    (hI : Inv reach univ s) (hin : evIn univ ev = true) (h : stepG reach univ s ev = .ok s') :
    Inv reach univ s' :=
  RedoModel.Waits.step_preserves_inv hI hin h

/-- The invariant rules out deadlock by itself (given the measure). -/
theorem inv_not_deadlocked (reach : Nat → List Nat) (univ : List Nat) (s : State) (m : Nat → Nat)
    (R1 : ∀ u f, f ∈ reach u → m (oobKey f) < m u) (R2 : ∀ f, m f < m (oobKey f))
    (hI : Inv reach univ s) : deadlocked s univ = false :=
  RedoModel.Waits.inv_not_deadlocked m R1 R2 hI

/-- Every run accepted with the guard is accepted without it. -/
theorem runG_ok_run (reach : Nat → List Nat) (univ : List Nat) (es : List Ev) (s s' : State)
    (h : runG reach univ s es = .ok s') : run reach univ s es = .ok s' :=
  RedoModel.Waits.runG_ok_run h

/-! ## Progress: in every accepted state, if a process is alive then a process can move -/

theorem progress_measure (reach : Nat → List Nat) (univ : List Nat) (m : Nat → Nat)
    (R1 : ∀ u f, f ∈ reach u → m (oobKey f) < m u) (R2 : ∀ f, m f < m (oobKey f))
    (es : List Ev) (hin : ∀ ev ∈ es, evIn univ ev = true) (s : State)
    (h : runG reach univ {} es = .ok s) : deadlocked s univ = false :=
  RedoModel.Waits.progress_measure reach univ m R1 R2 es hin s h

theorem progress (reach : Nat → List Nat) (univ : List Nat) (rank : Nat → Nat)
    (H0 : ∀ u f, f ∈ reach u → f < 1000000)
    (H1 : ∀ u f, f ∈ reach u → rank f < rank u)
    (H2 : ∀ f, rank (oobKey f) = rank f)
    (es : List Ev) (hin : ∀ ev ∈ es, evIn univ ev = true) (s : State)
    (h : runG reach univ {} es = .ok s) : deadlocked s univ = false :=
  RedoModel.Waits.progress reach univ rank H0 H1 H2 es hin s h

theorem progress_targets (reach : Nat → List Nat) (univ : List Nat) (rank : Nat → Nat)
    (H : ∀ u f, f ∈ reach u → f < 1000000 ∧ rank f < rank (u % 1000000))
    (es : List Ev) (hin : ∀ ev ∈ es, evIn univ ev = true) (s : State)
    (h : runG reach univ {} es = .ok s) : deadlocked s univ = false :=
  RedoModel.Waits.progress_targets reach univ rank H es hin s h

/-- The same with the stronger reading of "the events mention only targets in `univ`". -/
theorem progress_mentions (reach : Nat → List Nat) (univ : List Nat) (rank : Nat → Nat)
    (H0 : ∀ u f, f ∈ reach u → f < 1000000)
    (H1 : ∀ u f, f ∈ reach u → rank f < rank u)
    (H2 : ∀ f, rank (oobKey f) = rank f)
    (es : List Ev) (hin : ∀ ev ∈ es, mentionsIn univ ev = true) (s : State)
    (h : runG reach univ {} es = .ok s) : deadlocked s univ = false :=
  RedoModel.Waits.progress reach univ rank H0 H1 H2 es (fun ev hev => evIn_of_mentionsIn (hin ev hev)) s h

/-- `enabled` is faithful: an enabled alive process has an event of its own that the guarded acceptor takes
(`waitEnd` for a blocked one; `exit`, `scriptEnd` or `script` for the three disjuncts of an unblocked one). -/
theorem enabled_can_step (reach : Nat → List Nat) (univ : List Nat) (s : State) (x : Proc)
    (hI : Inv reach univ s) (hx : x ∈ s.procs) (he : enabled s univ x = true) :
    ∃ ev s', actor ev = x.pid ∧ stepG reach univ s ev = .ok s' :=
  RedoModel.Waits.enabled_can_step hI hx he

/-- Progress, operationally: after every accepted run that leaves a process alive, the acceptor takes a
further event of an alive process. -/
theorem progress_step (reach : Nat → List Nat) (univ : List Nat) (m : Nat → Nat)
    (R1 : ∀ u f, f ∈ reach u → m (oobKey f) < m u) (R2 : ∀ f, m f < m (oobKey f))
    (es : List Ev) (hin : ∀ ev ∈ es, evIn univ ev = true) (s : State)
    (h : runG reach univ {} es = .ok s) (halive : s.procs ≠ []) :
    ∃ ev s', (∃ x ∈ s.procs, x.pid = actor ev) ∧ stepG reach univ s ev = .ok s' :=
  RedoModel.Waits.progress_step reach univ m R1 R2 es hin s h halive

/-! ## Non-vacuity: an acyclic graph, five processes, one blocked

Targets `9 → 1, 2`, `1 → 2`; `1` is rebuilt out of band (`redo-unlocked`), whose phase 1 may ask for `2`.
`P0` (top level) builds `9`; `P1` under `9` takes `1` and starts its out-of-band rebuild; `P2` under
`oobKey 1` starts the script of `1` (phase 2); `P3` under `1` takes `2` and runs its script;
`P4` under `9` (a parallel `redo-ifchange 2` of `9`'s script) blocks on `2`.  All three disjuncts of
`scriptGuard` are exercised.  Only `P3` is enabled (its script has no live child and can finish). -/

def exReach (u : Nat) : List Nat :=
  if u = 9 then [1, 2] else if u = 1 then [2] else if u = oobKey 1 then [2] else []

def exUniv : List Nat := [9, 1, 2]

def exRank (k : Nat) : Nat :=
  if k % 1000000 = 9 then 2 else if k % 1000000 = 1 then 1 else 0

def exEs : List Ev :=
  [.start 0 none, .lockOk 0 9, .script 0 9,
   .start 1 (some 9), .lockOk 1 1, .script 1 (oobKey 1),
   .start 2 (some (oobKey 1)), .script 2 1,
   .start 3 (some 1), .lockOk 3 2, .script 3 2,
   .start 4 (some 9), .waitBegin 4 2]

theorem exRank_H0 : ∀ u f, f ∈ exReach u → f < 1000000 := by
  intro u f hf
  unfold exReach at hf
  repeat' split at hf
  all_goals simp at hf
  all_goals omega

theorem exRank_H1 : ∀ u f, f ∈ exReach u → exRank f < exRank u := by
  intro u f hf
  unfold exReach at hf
  repeat' split at hf
  all_goals simp at hf
  all_goals first
    | (rcases hf with rfl | rfl <;> subst_vars <;> decide)
    | (subst_vars; decide)

theorem exRank_H2 : ∀ f, exRank (oobKey f) = exRank f := by
  intro f
  have e : oobKey f % 1000000 = f % 1000000 := by simp only [oobKey]; omega
  simp only [exRank, e]

/-- The run is accepted (with the guard), five processes are alive, `P4` is blocked, exactly `P3` is enabled. -/
theorem ex_accepted : ∃ s, runG exReach exUniv {} exEs = .ok s ∧
    (enabledTable exUniv s == [(4, false), (3, true), (2, false), (1, false), (0, false)]
      && s.procs.any (fun x => x.pid == 4 && x.blocked == some 2)) = true :=
  exists_of_endsWith (by decide)

/-- `progress` applies to it. -/
example : ∀ s, runG exReach exUniv {} exEs = .ok s → deadlocked s exUniv = false :=
  fun s h => progress exReach exUniv exRank exRank_H0 exRank_H1 exRank_H2 exEs (by decide) s h

example : ∀ s, runG exReach exUniv {} exEs = .ok s → deadlocked s exUniv = false :=
  fun s h => progress_targets exReach exUniv exRank
    (fun u f hf => ⟨exRank_H0 u f hf, by
      have := exRank_H1 u f hf
      have e : exRank (u % 1000000) = exRank u := by simp only [exRank]; rw [Nat.mod_mod]
      rw [e]; exact this⟩) exEs (by decide) s h

/-! ## The recorded finding: with a cyclic declared graph two branches block each other for ever

`redo -j3 top c1` with `c0 → c1 → c2 → c0`, `top → c0` (`top = 9`, `c0 = 1`, `c1 = 2`, `c2 = 3`; `cyReach` is the
transitive relation).  `P0` (top level) owns `top` and `c1` and runs both scripts; `P1` under `top` owns `c0`
and runs its script; `P2` under `c0` blocks on `c1` (owned by `P0`); `P3` under `c1` owns `c2` and runs its
script; `P4` under `c2` blocks on `c0` (owned by `P1`).  Every guard (kernel, `G1`, `G2`, shape, `scriptGuard`)
holds, and nobody can move. -/

def cyReach (u : Nat) : List Nat :=
  if u = 9 ∨ u = 1 ∨ u = 2 ∨ u = 3 then [1, 2, 3] else []

def cyUniv : List Nat := [9, 1, 2, 3]

def cyEs : List Ev :=
  [.start 0 none, .lockOk 0 9, .script 0 9,
   .start 1 (some 9), .lockOk 1 1, .script 1 1,
   .lockOk 0 2, .script 0 2,
   .start 2 (some 1), .waitBegin 2 2,
   .start 3 (some 2), .lockOk 3 3, .script 3 3,
   .start 4 (some 3), .waitBegin 4 1]

/-- Even the guarded acceptor takes it … -/
theorem cross_branch_deadlock_guarded :
    ∃ s, runG cyReach cyUniv {} cyEs = .ok s ∧ deadlocked s cyUniv = true :=
  exists_of_endsWith (by decide)

/-- … and hence the plain one. -/
theorem cross_branch_deadlock :
    ∃ s, run cyReach cyUniv {} cyEs = .ok s ∧ deadlocked s cyUniv = true :=
  let ⟨s, h, hd⟩ := cross_branch_deadlock_guarded
  ⟨s, RedoModel.Waits.runG_ok_run h, hd⟩

/-- All its events mention only targets in `univ`: the only hypothesis of `progress` that fails is the rank. -/
theorem cross_branch_mentions : ∀ ev ∈ cyEs, mentionsIn cyUniv ev = true := by decide

/-! ## Finding: without `scriptGuard` the acceptor takes a deadlock on an ACYCLIC graph

`5 → 1 → 2`.  `P0` owns `1` and runs its script; `P1` under `1` starts an execution keyed `5` — a target it
neither owns nor was spawned for; `P2` under `5` blocks on `1`, which `5` declares.  `step` accepts
every event; `stepG` refuses `script 1 5`. -/

def ugReach (u : Nat) : List Nat :=
  if u = 5 then [1, 2] else if u = 1 then [2] else []

def ugUniv : List Nat := [5, 1, 2]

def ugRank (k : Nat) : Nat :=
  if k % 1000000 = 5 then 2 else if k % 1000000 = 1 then 1 else 0

def ugEs : List Ev :=
  [.start 0 none, .lockOk 0 1, .script 0 1, .start 1 (some 1), .script 1 5, .start 2 (some 5), .waitBegin 2 1]

theorem unguarded_script_deadlock :
    (∀ u f, f ∈ ugReach u → f < 1000000) ∧ (∀ u f, f ∈ ugReach u → ugRank f < ugRank u) ∧
    (∀ f, ugRank (oobKey f) = ugRank f) ∧ (∀ ev ∈ ugEs, mentionsIn ugUniv ev = true) ∧
    (∃ s, run ugReach ugUniv {} ugEs = .ok s ∧ deadlocked s ugUniv = true) ∧
    (∀ s, runG ugReach ugUniv {} ugEs ≠ .ok s) := by
  refine ⟨?_, ?_, ?_, by decide, exists_of_endsWith (by decide), not_ok_of_refused (by decide)⟩
  · intro u f hf
    unfold ugReach at hf
    repeat' split at hf
    all_goals simp at hf
    all_goals omega
  · intro u f hf
    unfold ugReach at hf
    repeat' split at hf
    all_goals simp at hf
    all_goals first
    | (rcases hf with rfl | rfl <;> subst_vars <;> decide)
    | (subst_vars; decide)
  · intro f
    have e : oobKey f % 1000000 = f % 1000000 := by simp only [oobKey]; omega
    simp only [ugRank, e]

/-! ## The hypothesis `evIn` is needed: an awaited lock that `univ` does not list hides an enabled owner

`1 → 7`, `univ = [1]`.  `P0` owns `1` and `7` and runs the script of `1`; `P1` under `1` blocks on `7`.
`P0` could start the script of `7`, but `enabled` only looks at the locks listed in `univ`. -/

def ulReach (u : Nat) : List Nat := if u = 1 then [7] else []

def ulEs : List Ev :=
  [.start 0 none, .lockOk 0 1, .lockOk 0 7, .script 0 1, .start 1 (some 1), .waitBegin 1 7]

theorem unlisted_wait_deadlock :
    (∃ s, runG ulReach [1] {} ulEs = .ok s ∧ deadlocked s [1] = true) ∧
    (∃ s, runG ulReach [1, 7] {} ulEs = .ok s ∧ enabledTable [1, 7] s = [(1, false), (0, true)]) :=
  ⟨exists_of_endsWith (by decide),
   exists_of_endsWith (P := fun s => enabledTable [1, 7] s == [(1, false), (0, true)]) (by decide) |>.imp
     (fun _ h => ⟨h.1, by simpa using h.2⟩)⟩

#print axioms inv_init
#print axioms step_preserves_inv
#print axioms inv_not_deadlocked
#print axioms runG_ok_run
#print axioms progress_measure
#print axioms progress
#print axioms progress_targets
#print axioms progress_mentions
#print axioms enabled_can_step
#print axioms progress_step
#print axioms ex_accepted
#print axioms cross_branch_deadlock
#print axioms cross_branch_deadlock_guarded
#print axioms unguarded_script_deadlock
#print axioms unlisted_wait_deadlock

end C09
