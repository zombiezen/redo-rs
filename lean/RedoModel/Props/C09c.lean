import RedoModel.Lemmas.DepsOkEx
import RedoModel.Lemmas.DepsOkPEx
/-!
# C09 / C10 / C05 — the SUCCESS direction of the serial engine: a build whose scripts all succeed exits 0
The general theorems are applications of `RedoModel/Lemmas/DepsOk*.lean`; the instances and the necessity of the clauses
are evaluated here on the histories of `Lemmas/DepsOkEx.lean`.  Model: `RedoModel/Deps.lean`.

`Buildable w f` (`Lemmas/DepsOk.lean`) : "a from-scratch build of `f` would succeed" —
* `source`   : no .do candidate of `f` exists, and `f` exists;
* `user` / `override` / `edited` : `f` exists and redo does not own it (not generated / marked overridden / a
  generated file whose (mtime,size) differs from the recorded stamp): it stands for itself;
* `target`   : the chosen .do (`firstEx w (w.rules t) = some dof`) has a script `sc := scriptAt w dof` with
  `sc.exit = 0`, every file in `sc.ifchange.flatten` is `Buildable`, every existing `sc.cond` file is `Buildable`,
  no `sc.ifcreate` object exists, and `failNowOf w sc = false` (the content-dependent failure does not fire on the
  present contents; a target's own output never makes it fire).
`Buildable` does not look at the records of earlier runs at all (`failed` marks, stale stamps, rows, half-built
states), nor at whether a target's file exists.

At the end (`namespace C10`): the same for plain histories WITH kills (`UserOp.crashCmd`), hypotheses exactly those of
`C10.recovers_plain` (`SingleDo`), proofs in `Lemmas/DepsOkP*.lean` (the success direction over the plain invariant, the
one the kill theorems of `DepsSoundKill.lean` are stated for).

Hypotheses: exactly those of `C01.no_stale_full_rich` — none was added (the command may name a target twice;
`t ≠ alwaysId` follows from `Buildable`).  The bound `∀ f, rank f < n` IS needed for success (`fuel_bound_needed`).
-/
namespace C09
open RedoModel.Deps RedoModel.Deps.Rich

/-- **C09 for the full serial engine over rich histories.**  Start from an empty project; after any rich history
(scripts in place respect one rank, no `setProg` redefines a .do content in place) — whatever was built, failed,
removed, overridden or half-built before — if every target named is `Buildable` in the present world then
`redo-ifchange ts` exits 0, and so does `redo ts`, with and without `--keep-going`. -/
theorem buildable_exits_zero (n : Nat) (rules : Nat → List Nat) (rank : Nat → Nat) (ops : List UserOp) (ts : List Nat)
    (kg forced : Bool) (hr : RulesOk rules) (hp : ∀ op ∈ ops, RichOp rules op)
    (hrk : ∀ w ∈ worldsOf n {} (initWorld rules) ops, RankedR rank w) (hN : ∀ f, rank f < n)
    (hok : OpsOkW n (initWorld rules) ops) :
    let w := ops.foldl (fun w op => (applyOp {} n op w).2) (initWorld rules)
    (∀ t ∈ ts, Buildable w t) →
    (runCmd {} n (if forced then .redo ts kg else .ifchange ts kg) w).1.status = 0 := by
  intro w hB
  have hb := Rich.btw_of_history hr hN ops hp hrk hok
  exact runCmd_succ {} hN hb ts kg forced hB

/-- The same from any state satisfying the between-commands invariant `Btw` of the soundness proof. -/
theorem buildable_exits_zero_btw {rank : Nat → Nat} {N : Nat} {w : World} (hN : ∀ f, rank f < N) (h : Rich.Btw rank w)
    (ts : List Nat) (kg forced : Bool) (hB : ∀ t ∈ ts, Buildable w t) :
    (runCmd {} N (if forced then .redo ts kg else .ifchange ts kg) w).1.status = 0 :=
  runCmd_succ {} hN h ts kg forced hB

/-- C10 for a buildable project: success and freshness together — the command exits 0 and (by
`C01.no_stale_full_rich`) every target named is up to date afterwards. -/
theorem buildable_exits_zero_and_is_fresh (n : Nat) (rules : Nat → List Nat) (rank : Nat → Nat) (ops : List UserOp)
    (ts : List Nat) (kg forced : Bool) (hr : RulesOk rules) (hp : ∀ op ∈ ops, RichOp rules op)
    (hrk : ∀ w ∈ worldsOf n {} (initWorld rules) ops, RankedR rank w) (hN : ∀ f, rank f < n)
    (hok : OpsOkW n (initWorld rules) ops) :
    let w := ops.foldl (fun w op => (applyOp {} n op w).2) (initWorld rules)
    let r := runCmd {} n (if forced then .redo ts kg else .ifchange ts kg) w
    (∀ t ∈ ts, Buildable w t) → r.1.status = 0 ∧ ∀ t ∈ ts, UpToDateR r.2 t := by
  intro w r hB
  have hb := Rich.btw_of_history hr hN ops hp hrk hok
  have hz := buildable_exits_zero n rules rank ops ts kg forced hr hp hrk hN hok hB
  exact ⟨hz, noStaleRichFree n rules rank ops ts kg forced hr hp hrk hN hok (fun t ht => (hB t ht).ne_always hb) hz⟩

/-- **C05, last clause, at history level.**  History `ops1`; `redo-ifchange ts` (which may fail: a script exits
non-zero, `failIfOdd` fires, a source is missing …); the user repairs (`repair`: writes sources, replaces .do
files, removes `redo-ifcreate` objects …).  If after that the targets are `Buildable`, the next `redo-ifchange ts`
runs them again, exits 0, and leaves them up to date: the recorded failure is neither sticky nor skipped. -/
theorem failure_is_retried_and_repaired (n : Nat) (rules : Nat → List Nat) (rank : Nat → Nat)
    (ops1 repair : List UserOp) (ts : List Nat) (kg kg' : Bool) (hr : RulesOk rules)
    (hp : ∀ op ∈ ops1 ++ .cmd (.ifchange ts kg) :: repair, RichOp rules op)
    (hrk : ∀ w ∈ worldsOf n {} (initWorld rules) (ops1 ++ .cmd (.ifchange ts kg) :: repair), RankedR rank w)
    (hN : ∀ f, rank f < n) (hok : OpsOkW n (initWorld rules) (ops1 ++ .cmd (.ifchange ts kg) :: repair)) :
    let w := (ops1 ++ .cmd (.ifchange ts kg) :: repair).foldl (fun w op => (applyOp {} n op w).2) (initWorld rules)
    let r := runCmd {} n (.ifchange ts kg') w
    (∀ t ∈ ts, Buildable w t) → r.1.status = 0 ∧ ∀ t ∈ ts, UpToDateR r.2 t :=
  buildable_exits_zero_and_is_fresh n rules rank (ops1 ++ .cmd (.ifchange ts kg) :: repair) ts kg' false hr hp hrk hN hok

/-! ### Non-vacuity: a concrete history with two failures and two repairs (`Lemmas/DepsOkEx.lean`)

Target 2, .do file 1; content `[17]` = "declare and read source 5, fail if 5 holds an odd version", content `[19]` =
"exit 1".  `rpOps` = set both meanings; write 5 (odd) and the good .do; `redo-ifchange 2` (fails); write 5 (even)
and the bad .do; `redo-ifchange 2` (fails); write the good .do. -/

/-- The two commands inside the history fail (kernel-checked): once by `failIfOdd`, once by `exit 1`; the record
of the target says "failed in run 2" when the last command starts. -/
theorem example_failures :
    (runCmd {} 2 (.ifchange [2] false) rpW1).1.status = 1 ∧ (runCmd {} 2 (.ifchange [2] false) rpW2).1.status = 1 ∧
    (rpW.recs 2).failed = some 2 :=
  ⟨rp_fail1, rp_fail2, rp_failed_mark⟩

/-- All hypotheses of `failure_is_retried_and_repaired` hold for that history; hence the next `redo-ifchange 2`
exits 0 and 2 is up to date. -/
theorem example_repaired :
    (runCmd {} 2 (.ifchange [2] false) rpW).1.status = 0 ∧ UpToDateR (runCmd {} 2 (.ifchange [2] false) rpW).2 2 := by
  obtain ⟨a, b⟩ := buildable_exits_zero_and_is_fresh 2 cxRules cxRank rpOps [2] false false cx_rulesOk rp_ops rp_ranked cxRank_lt
    rp_opsOk (fun t ht => by simp only [List.mem_singleton] at ht; subst ht; exact rp_buildable)
  exact ⟨a, b 2 (by simp)⟩

/-- No hypothesis about duplicates is needed: `redo --keep-going 2 2` after the same history exits 0. -/
theorem example_named_twice : (runCmd {} 2 (.redo [2, 2] true) rpW).1.status = 0 :=
  buildable_exits_zero 2 cxRules cxRank rpOps [2, 2] true true cx_rulesOk rp_ops rp_ranked cxRank_lt rp_opsOk
    (fun t ht => by simp only [List.mem_cons, List.not_mem_nil, or_false, or_self] at ht; subst ht; exact rp_buildable)

/-- A source named on the command line that does not exist makes the command fail (empty project, empty history):
the `existsF` clause of `Buildable.source` is needed. -/
theorem missing_source_fails : (runCmd {} 2 (.ifchange [5] false) (initWorld cxRules)).1.status = 1 := by
  decide +kernel

/-- The clause `failNowOf w sc = false` is needed: before the first repair the target satisfies every other clause
of `Buildable.target` (the source exists, the script exits 0), and the command fails (`example_failures`). -/
theorem odd_clause_needed :
    Rich.firstEx rpW1 (rpW1.rules 2) = some 1 ∧ Rich.scriptAt rpW1 1 = rpGood ∧ existsF rpW1 5 = true ∧
    failNowOf rpW1 rpGood = true := by decide +kernel

/-- The clause `sc.exit = 0` is needed: before the second repair the chosen script is the one that exits 1. -/
theorem exit_clause_needed : Rich.firstEx rpW2 (rpW2.rules 2) = some 1 ∧ Rich.scriptAt rpW2 1 = rpBad := by
  decide +kernel

/-- The bound `rank f < n` (engine depth / fuel `2n+4`) is needed for SUCCESS, not only for soundness: a chain of
five buildable targets is built with `n = 6` and fails with `n = 0` (kernel-checked). -/
theorem fuel_bound_needed :
    Buildable chW 15 ∧ (runCmd {} 0 (.ifchange [15] false) chW).1.status ≠ 0 ∧
    (runCmd {} 6 (.ifchange [15] false) chW).1.status = 0 :=
  ⟨ch_buildable, ch_small_fuel_fails, ch_enough_fuel⟩

end C09

namespace C10
open RedoModel.Deps
open RedoModel.Deps.Rich (Buildable)

/-- **C10, success direction, plain histories with kills.**  After ANY plain history interleaved with ANY number
of killed `redo-ifchange` runs (whole process tree killed when any script reaches any step; hypotheses exactly
those of `C10.recovers_plain`, in particular `SingleDo`), if the targets are `Buildable` then the next
`redo-ifchange ts` / `redo ts` exits 0 and leaves every target up to date: "simply running redo again" works. -/
theorem recovery_exits_zero_plain (n : Nat) (rules : Nat → List Nat) (rank : Nat → Nat) (ops : List UserOp)
    (ts : List Nat) (kg forced : Bool) (hr : RulesOk rules) (hS : SingleDo rules) (hp : ∀ op ∈ ops, PlainOpK rules op)
    (hrk : ∀ w ∈ worldsOf n {} (initWorld rules) ops, Ranked rank w) (hN : ∀ f, rank f < n)
    (hok : OpsOk n (initWorld rules) ops) :
    let w := ops.foldl (fun w op => (applyOp {} n op w).2) (initWorld rules)
    let r := runCmd {} n (if forced then .redo ts kg else .ifchange ts kg) w
    (∀ t ∈ ts, Buildable w t) → r.1.status = 0 ∧ ∀ t ∈ ts, UpToDateD r.2 t :=
  recoveryExitsZeroPlain n rules rank ops ts kg forced hr hS hp hrk hN hok

/-- Kill anywhere, then build: from any state satisfying the between-commands invariant of the plain development,
after a killed `redo-ifchange ts` the next command over buildable targets exits 0. -/
theorem kill_then_build_succeeds {rank : Nat → Nat} {N : Nat} {w : World} (hN : ∀ f, rank f < N)
    (hS : SingleDo w.rules) (h : RedoModel.Deps.Btw rank w) (ts : List Nat) (t k : Nat) (ts' : List Nat)
    (kg forced : Bool) :
    let w1 := (applyOp {} N (.crashCmd ts t k) w).2
    (∀ x ∈ ts', Buildable w1 x) →
    (runCmd {} N (if forced then .redo ts' kg else .ifchange ts' kg) w1).1.status = 0 := by
  intro w1 hB
  obtain ⟨hb1, _⟩ := RedoModel.Deps.crashCmd_btw {} hN hS h ts t k
  exact RedoModel.Deps.runCmd_succP {} hN hb1 ts' kg forced hB

/-- Non-vacuity: the history `exOps` of `Lemmas/DepsSoundKillEx.lean` (two-level project; build; edit a source;
rebuild killed at step 1 of the inner script) satisfies every hypothesis, the project is buildable after the
kill, so the recovery run exits 0 and 5 is up to date. -/
theorem example_recovery_succeeds :
    (runCmd {} 3 (.ifchange [5] false) (exOps.foldl (fun w op => (applyOp {} 3 op w).2) (initWorld exRules))).1.status = 0 ∧
    UpToDateD (runCmd {} 3 (.ifchange [5] false)
      (exOps.foldl (fun w op => (applyOp {} 3 op w).2) (initWorld exRules))).2 5 := by
  obtain ⟨a, b⟩ := recovery_exits_zero_plain 3 exRules exRank exOps [5] false false ex_rulesOk ex_single ex_plainK ex_ranked
    ex_rank_lt ex_opsOk (fun t ht => by
      simp only [List.mem_singleton] at ht; subst ht
      exact ex_buildable9)
  exact ⟨a, b 5 (by simp)⟩

end C10
