import RedoModel.Lemmas.RunLoopInv
/-!
# C09 — the discipline of waiting in `builder::run` (builder.rs "blocking lock wait only after all own jobs are done
and their results recorded, own token given up first"; "we should never run ensure_token() while holding a lock"),
derived from the control-flow model `RedoModel/RunLoop.lean`.  These are the local guards the wait-for acceptor
`WaitsG` assumes of every process.  Property theorems; `heldAt`, `needsToken`, `inSecondBody` are `RunLoop.heldAtPc`,
`needsTokenPc`, `inSecondBodyPc` of the invariant (`heldAt_eq`, `needsToken_eq`, `inSecondBody_eq`; C09e states its
theorem with `needsTokenPc`).
-/
namespace C09
open RedoModel.RunLoop

/-- The locks the process itself owns (not through a job) are determined by the program counter: exactly the target
being handled between a successful `try_lock` / `wait_lock` and the hand-over to the job or the release. -/
def heldAt : Pc → List Nat
  | .l1own f => [f] | .l1started f => [f] | .l2own f => [f] | .l2started f => [f] | .l2got f => [f]
  | _ => []

theorem heldAt_eq : heldAt = heldAtPc := by funext p; cases p <;> rfl

theorem held_is_determined (c : Cfg) (es : List Ev) (s : St) (h : run c {} es = .ok s) : s.held = heldAt s.pc :=
  heldAt_eq ▸ (run_inv1 h).held

/-- When the process is about to block in `wait_lock`, none of its jobs is under way (all results recorded), it owns
no lock, and it has given up its token. -/
theorem blocking_wait_discipline (c : Cfg) (es : List Ev) (s : St) (f : Nat) (h : run c {} es = .ok s)
    (hp : s.pc = .l2wait f) : s.jobs = [] ∧ s.held = [] ∧ s.tokHeld = false := by
  have hi := run_inv1 h
  exact ⟨hi.body (by rw [hp]; rfl), by rw [hi.held, hp]; rfl, hi.wait f hp⟩

/-- Wherever the process waits for a token it owns no idle lock (only its running jobs own locks). -/
def awaitsToken : Pc → Bool
  | .l1 => true | .l2go => true | .l2retok _ => true
  | _ => false

theorem token_wait_without_idle_lock (c : Cfg) (es : List Ev) (s : St) (h : run c {} es = .ok s)
    (hp : awaitsToken s.pc = true) : s.held = [] := by
  rw [(run_inv1 h).held]
  cases hpc : s.pc <;> simp [hpc, awaitsToken] at hp <;> rfl

/-- `BuildJob::start` (which may fork, `assert_eq!(my_tokens, 1)`) and `release_mine` (`assert!(my_tokens >= 1)`) are
reached only with a token in hand: a token wait has returned and nothing has used or released the token since.
These are the enabling conditions `TokLoop` assumes for its `start` and `releaseMine` steps. -/
def needsToken : Pc → Bool
  | .l1tok => true | .l1go => true | .l1lock _ => true | .l1own _ => true | .l1started _ => true
  | .l2try _ => true | .l2rel _ => true | .l2own _ => true | .l2started _ => true
  | _ => false

theorem needsToken_eq : needsToken = needsTokenPc := by funext p; cases p <;> rfl

theorem token_in_hand (c : Cfg) (es : List Ev) (s : St) (h : run c {} es = .ok s)
    (hp : needsToken s.pc = true) : s.tokHeld = true :=
  (run_inv1 h).tok (needsToken_eq ▸ hp)

/-- Inside the body of the second loop no job of this process is under way. -/
def inSecondBody : Pc → Bool
  | .l2all => true | .l2go => true | .l2try _ => true | .l2rel _ => true | .l2wait _ => true | .l2got _ => true
  | .l2retok _ => true | .l2own _ => true | .l2started _ => true
  | _ => false

theorem inSecondBody_eq : inSecondBody = inSecondBodyPc := by funext p; cases p <;> rfl

theorem second_loop_body_has_no_jobs (c : Cfg) (es : List Ev) (s : St) (h : run c {} es = .ok s)
    (hp : inSecondBody s.pc = true) : s.jobs = [] :=
  (run_inv1 h).body (inSecondBody_eq ▸ hp)

/-- `run` returns only after every job it started has been waited for — also after an internal error. -/
theorem returns_after_all_jobs (c : Cfg) (es : List Ev) (s : St) (ok : Bool) (h : run c {} es = .ok s)
    (hp : s.pc = .ended ok) : s.jobs = [] :=
  (run_inv1 h).ended ok hp

/-- Non-vacuity: the blocking wait is reachable. -/
example : (match run {} {}
    [.tok, .chk false, .target 7, .tryLock 7 false, .waitAll, .chk false, .tok, .tryLock 7 false, .releaseMine] with
    | .ok s => s.pc == .l2wait 7
    | .error _ => false) = true := by decide

end C09
