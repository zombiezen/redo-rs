import RedoModel.Lemmas.RunTokInv
/-!
# C09 — the enabling guards of the token counter are consequences of the control flow

`TokLoop` (the token counter of one process, Props/C09 `no_panic`) assumes when the control flow can reach
`JobServerHandle::start` and `release_mine` ("only with a token") and answers `.disabled` otherwise.  Here the counter
runs in PRODUCT with the control flow of `builder::run` (`RedoModel/RunTok.lean` = `RunLoop` × `TokLoop`): the control
flow drives `start`, `release_mine` and `wait_all`, the event loop interleaves child exits, token reads and cheats at
any program counter, and a counter step that the control flow reaches although `TokLoop` calls it unreachable is the
outcome `stuck`.  The only assumption linking the two machines is the contract of `ensure_token_or_cheat` (it returns
only when the process holds a token).  `PSt.treeTop` says whether the process is the top of its redo tree under a
foreign jobserver (then "`run` returned" drives `TokLoop`'s `.exitTop` instead of `.exit`); the theorems hold for both
(argument `top`, default `false`).  Every theorem is a reading of the invariant `PInv` of `Lemmas/RunTokInv.lean`
(`prun_good`; `RunTok.prun_inv` below is its form for accepted runs).
-/
namespace C09
open RedoModel RedoModel.RunTok

/-- No Rust assertion on the token counter fails, whatever the control flow and the environment do. -/
theorem product_never_panics (c : RunLoop.Cfg) (es : List PEv) (top : Bool := false) :
    prun c { treeTop := top } es ≠ .panic := by
  intro h
  have := prun_good (c := c) (PInv.initTop top) es
  rw [h] at this; exact this

/-- `start` and `release_mine` are only ever reached with a token: the enabling guards of `TokLoop` follow from the
control flow and the `ensure_token_or_cheat` contract. -/
theorem product_never_stuck (c : RunLoop.Cfg) (es : List PEv) (top : Bool := false) :
    prun c { treeTop := top } es ≠ .stuck := by
  intro h
  have := prun_good (c := c) (PInv.initTop top) es
  rw [h] at this; exact this

/-- Every state the product reaches satisfies the invariant of `prun_good`. -/
theorem _root_.RedoModel.RunTok.prun_inv {c : RunLoop.Cfg} {es : List PEv} {s : PSt} {top : Bool}
    (h : prun c { treeTop := top } es = .ok s) : PInv s := by
  have := prun_good (c := c) (PInv.initTop top) es
  rwa [h] at this

/-- In every reachable state of the product the process holds at most one token. -/
theorem product_at_most_one_token (c : RunLoop.Cfg) (es : List PEv) (s : PSt) {top : Bool}
    (h : prun c { treeTop := top } es = .ok s) :
    s.tok.my ≤ 1 :=
  (prun_inv h).le

/-- Whenever the control flow believes it has a token in hand (`RunLoop`'s `tokHeld`, see `token_in_hand` in C09d for
the program counters where that is the case), the counter agrees. -/
theorem product_token_in_hand_is_counted (c : RunLoop.Cfg) (es : List PEv) (s : PSt) {top : Bool}
    (h : prun c { treeTop := top } es = .ok s)
    (ht : s.ctl.tokHeld = true) : s.tok.my = 1 :=
  (prun_inv h).hand ht

/-- At the program counters from which `start` or `release_mine` can be reached, the process holds exactly one
token. -/
theorem product_one_token_where_needed (c : RunLoop.Cfg) (es : List PEv) (s : PSt) {top : Bool}
    (h : prun c { treeTop := top } es = .ok s)
    (hp : RunLoop.needsTokenPc s.ctl.pc = true) : s.tok.my = 1 :=
  (prun_inv h).hand ((prun_inv h).ctl.tok hp)

/-- The counter's `running` is the number of forks whose child's exit has not been noticed yet. -/
theorem product_running_counts_unexited_children (c : RunLoop.Cfg) (es : List PEv) (s : PSt) {top : Bool}
    (h : prun c { treeTop := top } es = .ok s) : s.tok.running + es.countP isExit = es.countP isFork := by
  have := prun_running h
  simpa using this

/-- The product only restricts the control flow: the control events of an accepted product run are an accepted run of
`RunLoop`, with the same final control state — so every `RunLoop` theorem (C05c, C06b, C07d, C09d) holds of the
product. -/
theorem product_projects_to_control (c : RunLoop.Cfg) (es : List PEv) (s : PSt) {top : Bool}
    (h : prun c { treeTop := top } es = .ok s) :
    RunLoop.run c {} (es.filterMap ctlOf) = .ok s.ctl :=
  prun_ctl h

/-- An accepted run: two jobs forked (the second with a token read from the pipe), a child exit that gives the token
for a third target whose lock is busy, the jobs end, `wait_all`, the queued target: `try_lock` fails, `release_mine`,
blocking wait, unlock, a cheat (idle, no token), the target is built by a third job whose exit settles the cheat. -/
def sampleRun : List PEv :=
  [.ctl .tok, .ctl (.chk false), .ctl (.target 1), .ctl (.tryLock 1 true), .ctl (.begin 1), .ctl (.forked 1),
   .tokenRead,
   .ctl .tok, .ctl (.chk false), .ctl (.target 2), .ctl (.tryLock 2 true), .ctl (.begin 2), .ctl (.forked 2),
   .childExit,
   .ctl .tok, .ctl (.chk false), .ctl (.target 3), .ctl (.tryLock 3 false),
   .childExit, .ctl (.jobEnd 1 false), .ctl (.jobEnd 2 false),
   .ctl .waitAll, .ctl (.chk false),
   .ctl .tok, .ctl (.tryLock 3 false), .ctl .releaseMine, .ctl (.waited 3), .ctl (.unlock 3),
   .cheat,
   .ctl .tok, .ctl (.tryLock 3 true), .ctl (.begin 3), .ctl (.forked 3),
   .childExit, .ctl (.jobEnd 3 false),
   .ctl .waitAll, .ctl (.chk false), .ctl (.fin true)]

example : (match prun {} {} sampleRun with
    | .ok s => s.ctl.pc == .ended true && s.tok == { my := 0, cheats := 0, running := 0, exited := true }
    | _ => false) = true := by decide

/-- In the middle of it: blocked in `wait_lock` without a token, then with the synthesised one. -/
example : (match prun {} {} (sampleRun.take 26) with
    | .ok s => s.ctl.pc == .l2wait 3 && s.tok == { my := 0, cheats := 0, running := 0 }
    | _ => false) = true := by decide

example : (match prun {} {} (sampleRun.take 30) with
    | .ok s => s.ctl.pc == .l2try 3 && s.tok == { my := 1, cheats := 1, running := 0 }
    | _ => false) = true := by decide

/-- Every cheat of the product is backed (token in hand or a child under way): the invariant behind the two assertions
of `do_force_return_tokens`, which the product reaches at `.ctl (.fin ok)`. -/
theorem product_cheats_are_backed (c : RunLoop.Cfg) (es : List PEv) (s : PSt) {top : Bool}
    (h : prun c { treeTop := top } es = .ok s) :
    TokLoop.Backed s.tok :=
  (prun_inv h).backed

/-- The top of a redo tree under a foreign (make-style) jobserver (`treeTop`): once `run` has returned and
`do_force_return_tokens` has run, the process holds exactly one token — the one make gets back — whatever the control
flow and the environment did before. -/
theorem product_tree_top_leaves_with_a_token (c : RunLoop.Cfg) (es : List PEv) (s : PSt)
    (h : prun c { treeTop := true } es = .ok s) (hx : s.tok.exited = true) : s.tok.my = 1 :=
  (prun_top (PInv.initTop true) h).2 rfl (by intro h; cases h) hx

/-- `treeTop` is a constant of the process. -/
theorem product_tree_top_is_constant (c : RunLoop.Cfg) (es : List PEv) (s : PSt) {top : Bool}
    (h : prun c { treeTop := top } es = .ok s) : s.treeTop = top :=
  (prun_top (PInv.initTop top) h).1

/-- `sampleRun` at the top of a redo tree: the process that would leave with `(0, 0)` leaves with the token taken back;
everything before the exit is the same. -/
example : (match prun {} { treeTop := true } sampleRun with
    | .ok s => s.ctl.pc == .ended true && s.tok == { my := 1, cheats := 0, running := 0, exited := true }
    | _ => false) = true := by decide

example : (match prun {} { treeTop := true } (sampleRun.take 37), prun {} {} (sampleRun.take 37) with
    | .ok s, .ok s' => s.tok == s'.tok && s.tok == { my := 0, cheats := 0, running := 0 }
    | _, _ => false) = true := by decide

/-- The IOU of another process is never taken while the own cheat is outstanding: in `sampleRun`, replacing the exit
of the child that carries the synthesised token by `childExitEat` is not a behaviour, while the same step is one where
no cheat is outstanding (the first child's exit). -/
example : (prun {} {} (sampleRun.take 33 ++ [.childExitEat])).isOk = false ∧
    (prun {} {} (sampleRun.take 33 ++ [.childExit])).isOk = true ∧
    (prun {} {} (sampleRun.take 13 ++ [.childExitEat])).isOk = true := by decide

/-- Environment steps that cannot happen are rejected, not `stuck`: no child to exit, a token read or a cheat while a
token is held. -/
example : (prun {} {} [.childExit]).isOk = false ∧ (prun {} {} [.tokenRead]).isOk = false ∧
    (prun {} {} [.cheat]).isOk = false ∧ (prun {} {} [.childExit]).isStuck = false := by decide

/-- The one assumption is necessary.  Without the `ensure_token_or_cheat` contract a second token wait may return
right after a fork, with no token, and the control flow reaches `start` (or `release_mine`) where `TokLoop` says it
cannot. -/
def noTokenStart : List PEv :=
  [.ctl .tok, .ctl (.chk false), .ctl (.target 1), .ctl (.tryLock 1 true), .ctl (.begin 1), .ctl (.forked 1),
   .ctl .tok, .ctl (.chk false), .ctl (.target 2), .ctl (.tryLock 2 true), .ctl (.begin 2), .ctl (.forked 2)]

def noTokenRelease : List PEv :=
  [.ctl .tok, .ctl (.chk false), .ctl (.target 1), .ctl (.tryLock 1 false), .ctl .waitAll, .ctl (.chk false),
   .ctl .tok, .ctl (.tryLock 1 false), .ctl .releaseMine, .ctl (.waited 1), .ctl (.unlock 1),
   .ctl .tok, .ctl (.tryLock 1 false), .ctl .releaseMine]

example : (prunNoContract {} {} noTokenStart).isStuck = true := by decide
example : (prunNoContract {} {} noTokenRelease).isStuck = true := by decide

/-- With the contract the same lists are not behaviours of the process: the token wait does not return. -/
example : (prun {} {} noTokenStart).isOk = false ∧ (prun {} {} (noTokenStart.take 6)).isOk = true := by decide
example : (prun {} {} noTokenRelease).isOk = false ∧ (prun {} {} (noTokenRelease.take 11)).isOk = true := by decide

/-- `wait_all` and `tokHeld`: `RunLoop` forgets the token at `wait_all` (`tokHeld := false`) whether or not the final
poll gave it up.  Here no child is running, the poll keeps the token (`my = 1`) while `tokHeld = false` — consistent
with `product_token_in_hand_is_counted`, which is an implication, not an equivalence. -/
example : (match prun {} {} [.ctl .tok, .ctl (.chk false), .ctl (.target 1), .ctl (.tryLock 1 false), .ctl .waitAll] with
    | .ok s => s.ctl.tokHeld == false && s.tok.my == 1
    | _ => false) = true := by decide

end C09
