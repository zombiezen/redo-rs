import RedoModel.LogPipe
/-!
# C09 — the log pipe between a top-level redo and its viewer cannot deadlock the build (after repair e7e0e67)
Property theorems only.  Model: `RedoModel/LogPipe.lean`.  The model explains the hang that scenario 4e of tools/c09.py
reproduces on the tree before the repair, and shows what the repair guarantees; its tie to the code is that scenario
(the real `redo -j2 slow <400 long-named targets>` against the time bound), not a trace replay.
-/
namespace C09
open RedoModel.LogPipe

/-- Before the repair: as soon as the top-level process has more lines to write than the pipe holds while the viewer
follows a job of that very process, the system runs into a state in which nobody can move — a deadlock with every script
succeeding. -/
theorem log_pipe_deadlocks_without_drain (cap extra : Nat) :
    ∃ as s, run ⟨cap, false⟩ { toWrite := cap + extra + 1 } as = some s ∧ stuck ⟨cap, false⟩ s = true := by
  refine ⟨List.replicate cap .write, { toWrite := extra + 1, inPipe := cap }, ?_, ?_⟩
  · suffices h : ∀ k n (p : Nat), p + k = cap → run ⟨cap, false⟩ { toWrite := n + k, inPipe := p } (List.replicate k .write) =
        some { toWrite := n, inPipe := p + k } by
      have := h cap (extra + 1) 0 (by omega)
      simpa [Nat.add_comm, Nat.add_left_comm, Nat.add_assoc] using this
    intro k
    induction k with
    | zero => intro n p _; simp [run]
    | succ k ih =>
      intro n p hp
      have hlt : p < cap := by omega
      have hpos : n + (k + 1) > 0 := by omega
      simp only [List.replicate_succ, run, step, enabled, hpos, hlt, decide_true, Bool.and_self, Bool.not_true,
        Bool.false_eq_true, if_false]
      have := ih n (p + 1) (by omega)
      rw [show n + (k + 1) - 1 = n + k by omega]
      rw [this]
      congr 1
      simp only [St.mk.injEq, true_and, and_true]
      omega
  · simp [stuck, finished, enabled]

/-- After the repair no reachable state is stuck, whatever the capacity and however many lines are written. -/
theorem log_pipe_never_stuck_with_drain (cap n : Nat) (hcap : cap > 0) (as : List Act) (s : St)
    (h : run ⟨cap, true⟩ { toWrite := n } as = some s) : stuck ⟨cap, true⟩ s = false := by
  -- no invariant is needed: in EVERY state with the drain thread some action is enabled or the state is finished.
  -- While lines are left, W writes or (the pipe being full) the drain thread moves one; then W records, V leaves,
  -- and V reads what is left.
  rcases s with ⟨tw, ip, fo, rc, bu⟩
  cases fo <;> cases rc <;>
    simp only [stuck, finished, enabled, List.all_cons, List.all_nil, Bool.and_false, Bool.and_true, Bool.false_and,
      Bool.true_and, Bool.and_self, Bool.not_false, Bool.not_true, Bool.not_and, Bool.not_or, Bool.and_eq_false_imp,
      Bool.or_eq_true, Bool.and_eq_true, Bool.not_eq_eq_eq_not, decide_eq_false_iff_not, decide_eq_true_eq, and_imp] <;>
    omega

/-- … and every run ends: each action decreases a measure, so the build and its viewer finish in a bounded number of
steps (no livelock either). -/
def measure (s : St) : Nat :=
  3 * s.toWrite + 2 * s.inPipe + s.buffered + (if s.recorded then 0 else 1) + (if s.following then 1 else 0)

theorem log_pipe_step_decreases (c : Cfg) (s s' : St) (a : Act) (h : step c s a = some s') : measure s' < measure s := by
  rcases s with ⟨tw, ip, fo, rc, bu⟩
  cases a <;> simp only [step, enabled] at h
  · -- write
    by_cases h1 : tw > 0 <;> by_cases h2 : ip < c.cap <;> simp [h1, h2] at h
    subst h; simp only [measure]; omega
  · -- record
    by_cases h1 : tw = 0 <;> cases rc <;> simp [h1] at h
    subst h; simp only [measure]; cases fo <;> simp <;> omega
  · -- read
    cases fo <;> by_cases h1 : ip > 0 <;> by_cases h2 : bu > 0 <;> simp [h1, h2] at h
    all_goals (subst h; simp only [measure]; omega)
  · -- drainOne
    cases hd : c.drain <;> by_cases h1 : ip > 0 <;> simp [hd, h1] at h
    subst h; simp only [measure]; omega
  · -- leave
    cases fo <;> cases rc <;> simp at h
    subst h; simp only [measure]; simp

/-- The scenario of the regression test in the model: capacity 2, five lines. -/
example : stuck ⟨2, false⟩ { toWrite := 3, inPipe := 2 } = true := by decide
example : (run ⟨2, true⟩ { toWrite := 5 }
    [.write, .write, .drainOne, .drainOne, .write, .write, .drainOne, .write, .record, .leave, .read, .read, .read, .drainOne, .read, .read]).map finished
    = some true := by decide

end C09
