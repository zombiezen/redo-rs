import RedoModel.Props.C10b
import RedoModel.Lemmas.Deps
import RedoModel.Lemmas.DepsOverride
import RedoModel.Lemmas.DepsSoundKill
import RedoModel.Lemmas.DepsSoundKillEx
/-!
# C10 — A kill at any moment is recovered from by simply running redo again
Property theorems only.  Model: the engine model with its kill operation (`UserOp.crashCmd`: the
whole process tree is killed when a given script reaches a given step; every transaction committed
before that instant persists, nothing after it happens).  Proven: recovery over whole plain histories with kills at
any script step, for projects with one .do candidate per target (`recovers_plain`, `kill_keeps_invariant`; false
without that hypothesis: `recovery_without_single_do_is_false`); the mechanisms that make a half-finished build
visible to the recovery run; the witness for the recorded finding (kill between `rename` and the recording commit).
A statement for every history is kept visible as `recovers_full` (a proposition, not a theorem).
The statement vocabulary (`PlainOpK`, `NoStalePlainK`, `OpsOk`, `Btw`) is in `Lemmas/DepsSoundPlainSpec.lean`, the
theorems in `Lemmas/DepsSoundKill.lean`, the counterexample in `Lemmas/DepsSoundKillEx.lean`, `DepsSoundKillEx.lean`.
-/
namespace C10
open RedoModel.Deps

/-- A statement for every history (a proposition, not a theorem): after any history, kills included (`crashCmd` is among
the operations), a `redo-ifchange` that exits 0 leaves no target it named marked failed. -/
def recovers_full : Prop :=
  ∀ (n : Nat) (rules : Nat → List Nat) (ops : List UserOp) (ts : List Nat),
    let w := (ops.foldl (fun w op => (applyOp {} n op w).2) (initWorld rules))
    let r := runCmd {} n (.ifchange ts false) w
    r.1.status = 0 → ∀ t ∈ ts, (r.2.recs t).failed = none

/-- Marking a target's dependency rows for deletion (the first thing a build does) does not hide
them from the dirtiness check: a build killed before it re-declares its dependencies leaves a
record from which every old dependency is still examined. -/
theorem zapped_deps_stay_visible (w : World) (t : Nat) (r : Rec) (f s : Nat) (m : Bool) :
    (∃ d ∈ depsOf w r f, d.source = s ∧ d.modeM = m) ↔
    (∃ d ∈ depsOf (zapDeps1 w t) r f, d.source = s ∧ d.modeM = m) := by
  unfold depsOf
  split
  · simp
  · simp only [List.mem_mergeSort, List.mem_filter, zapDeps1, List.mem_map]
    constructor
    · rintro ⟨d, ⟨hd, hf⟩, hs, hm⟩
      refine ⟨if d.target = t then { d with deleteMe := true } else d, ⟨⟨d, hd, rfl⟩, ?_⟩, ?_, ?_⟩
      · split <;> simpa using hf
      · split <;> simpa using hs
      · split <;> simpa using hm
    · rintro ⟨d', ⟨⟨d, hd, rfl⟩, hf⟩, hs, hm⟩
      refine ⟨d, ⟨hd, ?_⟩, ?_, ?_⟩
      · split at hf <;> simpa using hf
      · split at hs <;> simpa using hs
      · split at hm <;> simpa using hm

/-- A killed process starts nothing more: when the tree is killed inside the build of one
target, the remaining targets of every enclosing command are not touched. -/
theorem killed_process_stops (E : Engine) (d : Defects) (cx : Ctx) (fuel t : Nat) (ts seen : List Nat) (w w' : World) (e : Bool)
    (hs : t ∉ seen) (hgo : (e && !cx.keepGoing) = false)
    (hcyc : (!cx.unlocked && decide (t ∈ cx.cycles)) = false)
    (hj : buildJob E d cx fuel t (addKnown w t) = (.done CRASHED, w')) :
    runTargets E d cx fuel (t :: ts) seen e w = (CRASHED, w') := by
  rw [runTargets]
  simp only [hs, if_false, hgo, Bool.false_eq_true, hcyc, hj, if_true]

/-- Witness for the recorded finding `renameBeforeCommit`: a generated target whose file was
already replaced (`rename` done) while its record is still the old one (kill before the commit)
looks exactly like a file edited by hand: the recovery run marks it overridden, leaves it alone
and reports success — so it is never rebuilt again until the user removes it. -/
theorem rename_window_is_taken_for_a_hand_edit (E : Engine) (d : Defects) (cx : Ctx) (t : Nat) (sf : Rec) (w : World)
    (hex : existsF w t = true) (hg : sf.isGenerated = true) (hno : sf.isOverride = false)
    (hdo : detectOverride (sf.stamp.getD .missing) (readStamp w t) = true) :
    (startSelf E d cx t sf w).1 = 0 ∧ (startSelf E d cx t sf w).2.fs = w.fs ∧
    ((startSelf E d cx t sf w).2.recs t).isOverride = true :=
  have h := startSelf_override E d cx t sf w hex hg (.inr hdo)
  ⟨h.1, h.2.1, h.2.2.1⟩

/-! ### Recovery over whole histories (full engine model, plain scripts, kills at any script step) -/

/-- **A kill at any script step is recovered from.**  After any plain history of the full engine model in which
any number of builds were killed (the whole process tree, when any script reaches any step — everything committed
before persists: flagged rows, re-declared rows, finished sub-builds; nothing after happens), whenever a later
`redo-ifchange ts` / `redo ts` exits 0 every target named is up to date.  Hypothesis `SingleDo`: every target has at
most one .do candidate — without it the statement is false (`recovery_without_single_do_is_false`, a recorded
finding of the real tool).  Kill windows inside `record_new_state` (rename before commit) and after `redo-stamp` are
separate recorded findings; the model has the second as a kill point, which plain scripts never reach. -/
theorem recovers_plain (n : Nat) (rules : Nat → List Nat) (rank : Nat → Nat) (ops : List UserOp) (ts : List Nat)
    (kg forced : Bool) (hr : RulesOk rules) (hS : SingleDo rules) (hp : ∀ op ∈ ops, PlainOpK rules op)
    (hrk : ∀ w ∈ worldsOf n {} (initWorld rules) ops, Ranked rank w) (hN : ∀ f, rank f < n)
    (hok : OpsOk n (initWorld rules) ops) :
    let w := ops.foldl (fun w op => (applyOp {} n op w).2) (initWorld rules)
    let r := runCmd {} n (if forced then .redo ts kg else .ifchange ts kg) w
    r.1.status = 0 → ∀ t ∈ ts, UpToDateD r.2 t :=
  noStalePlainK_partial n rules rank ops ts kg forced hr hS hp hrk hN hok

/-- The between-commands invariant of the soundness proof survives a killed run: "no lock or half-written state
from the killed run misleads later runs", and targets built afterwards keep reacting to source changes (apply
`recovers_plain` to the longer history). -/
theorem kill_keeps_invariant {rank : Nat → Nat} {N : Nat} {w : World} (d : Defects) (hN : ∀ f, rank f < N)
    (hS : SingleDo w.rules) (h : Btw rank w) (ts : List Nat) (t k : Nat) :
    Btw rank (applyOp d N (.crashCmd ts t k) w).2 ∧ (applyOp d N (.crashCmd ts t k) w).2.rules = w.rules :=
  crashCmd_btw d hN hS h ts t k

/-- Without `SingleDo` the recovery statement is false in the model — and in the tool (known finding
`killed-build-forgets-old-dofile`): the .do search of the killed rebuild has already replaced the row on the removed
.do by a must-not-exist row; the fallback .do is current for another target's sake; nothing else records what the
file was built by. -/
theorem recovery_without_single_do_is_false : ¬ NoStalePlainK := not_noStalePlainK

end C10
