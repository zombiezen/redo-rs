import RedoModel.Lemmas.DepsSoundRKill
import RedoModel.Lemmas.DepsSoundRKillEx
/-!
# C10, continued — recovery from kills over RICH histories
The general theorems are applications of `RedoModel/Lemmas/DepsSoundRKill.lean`; the counterexamples and instances are
proved here from the histories set up in `RedoModel/Lemmas/DepsSoundRK*.lean`.  Model: `RedoModel/Deps.lean` with its
kill operation (`UserOp.crashCmd ts t k`: `redo-ifchange ts`, the whole process tree killed when the script of `t`
reaches step `k`; everything committed before persists, nothing after happens).

Rich histories (`RichOpK` = `RichOp`, the class of `C01.no_stale_full_rich`, plus `crashCmd`; both in `Lemmas/DepsSoundRSpec.lean`): scripts may use `redo-always`, `redo-ifcreate`,
conditional declarations, may fail depending on what they read; the user may write any file, also at target names.

* The statement asked for (`RecoversRichK`: `C01.no_stale_full_rich` with kills, under `SingleDo`) is FALSE
  (`recovers_rich_is_false`): a kill after a *conditional declaration* that turned an `m` row into a `c` row leaves a
  stale target that every later `redo-ifchange` reports up to date.  A candidate defect of the real tool.
* It holds (`recovers_rich_partial`) when no script uses `redo-ifcreate` or conditional declarations
  (`NoWatchOp`): `redo-always`, content-dependent failure, hand-written files at target names, overrides are covered.
  `SingleDo` cannot be dropped (`recovery_rich_without_single_do_is_false`).
  For `redo-ifcreate` WITHOUT conditional declarations no counterexample is known; it is excluded because the
  invariant `Base.recA` (`RecTruth` asks for the recorded rows unconditionally) does not survive such a kill, not
  because recovery is known to fail.
-/
namespace C10
open RedoModel.Deps RedoModel.Deps.Rich

/-- **The unrestricted statement is false.**  History (`kcOps`; rules: target 2 has the single .do file 1):
`setProg` of the script `if [ -e 5 ]; then redo-ifchange 5; else redo-ifcreate 5; fi; cat 5`; write source 5 and
.do file 1; `redo-ifchange 2` (row `(2, 5, m)`); remove 5; `redo-ifchange 2` killed at step 0 of the script of 2,
i.e. right after the conditional declaration, which has replaced `(2, 5, m)` by `(2, 5, c)`; the record and the file
of 2 are untouched.  Recovery `redo-ifchange 2`: exit status 0, nothing runs (`kc_eval`), 2 keeps the content
computed from the removed file. -/
theorem recovers_rich_is_false : ¬ RecoversRichK := by
  intro h
  exact kc_notUpToDate (h 2 cxRules cxRank kcOps [2] false false cx_rulesOk kc_single kc_ops kc_ranked cxRank_lt
    kc_opsOk (by simp [alwaysId]) kc_eval.1 2 (by simp))

/-- **A kill at any script step is recovered from, rich histories** (partial: `NoWatchOp` — no script of the history
uses `redo-ifcreate` or conditional declarations — is added; forced for conditional declarations by
`recovers_rich_is_false`).  After any rich history (`redo-always`, content-dependent failure, hand-written files at
target names, hand edits of generated targets) in which any number of `redo-ifchange` runs were killed (whole tree,
any script, any step), whenever a later `redo-ifchange ts` / `redo ts` exits 0 every target named is up to date. -/
theorem recovers_rich_partial (n : Nat) (rules : Nat → List Nat) (rank : Nat → Nat) (ops : List UserOp) (ts : List Nat)
    (kg forced : Bool) (hr : RulesOk rules) (hS : SingleDo rules) (hp : ∀ op ∈ ops, RichOpK rules op)
    (hnw : ∀ op ∈ ops, NoWatchOp op)
    (hrk : ∀ w ∈ worldsOf n {} (initWorld rules) ops, RankedR rank w) (hN : ∀ f, rank f < n)
    (hok : OpsOkW n (initWorld rules) ops) (hts0 : ∀ t ∈ ts, t ≠ alwaysId) :
    let w := ops.foldl (fun w op => (applyOp {} n op w).2) (initWorld rules)
    let r := runCmd {} n (if forced then .redo ts kg else .ifchange ts kg) w
    r.1.status = 0 → ∀ t ∈ ts, UpToDateR r.2 t :=
  recoversRichK_partial n rules rank ops ts kg forced hr hS hp hnw hrk hN hok hts0

/-- **`AlwaysOp` histories with kills, full strength**: for histories of `AlwaysOp` operations (`redo-always`, content-dependent
failure, reads ⊆ declarations; plain user writes) and killed runs nothing but `SingleDo` (necessary) is added to the
hypotheses of `C01.no_stale_full_always`. -/
theorem recovers_always (n : Nat) (rules : Nat → List Nat) (rank : Nat → Nat) (ops : List UserOp) (ts : List Nat)
    (kg forced : Bool) (hr : RulesOk rules) (hS : SingleDo rules) (hp : ∀ op ∈ ops, AlwaysOpK rules op)
    (hrk : ∀ w ∈ worldsOf n {} (initWorld rules) ops, RankedR rank w) (hN : ∀ f, rank f < n)
    (hok : OpsOkW n (initWorld rules) ops) (hts0 : ∀ t ∈ ts, t ≠ alwaysId) :
    let w := ops.foldl (fun w op => (applyOp {} n op w).2) (initWorld rules)
    let r := runCmd {} n (if forced then .redo ts kg else .ifchange ts kg) w
    r.1.status = 0 → ∀ t ∈ ts, UpToDateR r.2 t :=
  recoversRichK_partial n rules rank ops ts kg forced hr hS (fun op h => (hp op h).toRichK)
    (fun op h => alwaysOpK_noWatch (hp op h)) hrk hN hok hts0

/-- Over `WatchOp` histories with kills (`redo-ifcreate`, conditional declarations, plain user writes) the statement is
already false: the counterexample history of `recovers_rich_is_false` writes plain files only. -/
theorem recovers_watch_is_false : ¬ RecoversWatchK := by
  intro h
  exact kc_notUpToDate (h 2 cxRules cxRank kcOps [2] false false cx_rulesOk kc_single kc_opsW kc_ranked cxRank_lt
    kc_opsOk (by simp [alwaysId]) kc_eval.1 2 (by simp))

/-- `SingleDo` cannot be dropped from `recovers_rich_partial` (the finding `killed-build-forgets-old-dofile`, for
the rich notion of up-to-date). -/
theorem recovery_rich_without_single_do_is_false : ¬ RecoversRichK_noSingle := by
  intro h
  exact kx_notUpToDateR (h 2 kxRules kxRank kxOps [5] false false kx_rulesOk kx_richK kx_noWatch kx_rankedR
    kx_rank_lt kx_opsOkW (by simp [alwaysId]) kx_evalR.1 5 (by simp))

/-- **The rich between-commands invariant survives a killed run** (partial: side conditions `SK w` — `SingleDo`, no
script in place uses `redo-ifcreate`/conditional declarations, `c` rows only for absent .do candidates).  "No
half-written state of the killed run misleads later runs"; targets built afterwards keep reacting to source changes
(apply `recovers_rich_partial` to the longer history).  The side conditions hold again afterwards
(`side_conditions_survive`). -/
theorem kill_keeps_invariant_rich_partial {rank : Nat → Nat} {N : Nat} {w : World} (d : Defects) (hN : ∀ f, rank f < N)
    (hS : SK w) (h : Rich.Btw rank w) (ts : List Nat) (t k : Nat) (hts0 : ∀ x ∈ ts, x ≠ alwaysId) :
    Rich.Btw rank (applyOp d N (.crashCmd ts t k) w).2 ∧ (applyOp d N (.crashCmd ts t k) w).2.rules = w.rules :=
  crashCmd_btw d hN hS h ts t k hts0

/-- Under `SingleDo` alone the invariant does NOT survive every kill (scripts with conditional declarations). -/
theorem kill_keeps_invariant_rich_is_false : ¬ KillKeepsBtw := by
  intro h
  have hp : ∀ op ∈ kcOps.take 5, RichOp cxRules op := by decide +kernel
  have hw : ∀ w ∈ worldsOf 2 {} (initWorld cxRules) (kcOps.take 5), RankedR cxRank w :=
    fun w hw => kc_ranked w (worldsOf_take 2 {} 5 kcOps _ w hw)
  have h0 : Rich.Btw cxRank (initWorld cxRules) := Rich.Btw_init cx_rulesOk (hw _ (worldsOf_head 2 {} _ _))
  obtain ⟨hb, hr⟩ := Rich.history_btw cxRank_lt (kcOps.take 5) (initWorld cxRules) h0 rfl hp hw
    (OpsOkW.of_progsFirst _ _ _ (fun _ => rfl) rfl)
  have hb6 := h cxRank 2 _ [2] 2 0 cxRank_lt (by rw [hr]; exact kc_single) hb
    (by intro t ht; simp only [List.mem_singleton] at ht; subst ht; simp [alwaysId])
  have hs := Rich.runCmd_sound {} cxRank_lt hb6 [2] false false (by simp [alwaysId])
  exact kc_notUpToDate (hs kc_eval.1 2 (by simp))

/-- The side conditions hold in the empty project … -/
theorem side_conditions_init {rules : Nat → List Nat} (hS : SingleDo rules) : SK (initWorld rules) := SK_init hS

/-- … and survive every operation that introduces no watching script — kills included. -/
theorem side_conditions_survive (d : Defects) (n : Nat) (op : UserOp) (w : World) (hop : NoWatchOp op) (h : SK w) :
    SK (applyOp d n op w).2 := applyOp_sk d n op w hop h

/-- Kill, then recover: invariant and side conditions after the kill and after the recovery command, and soundness
of the recovery command. -/
theorem kill_then_recover_rich {rank : Nat → Nat} {N : Nat} {w : World} (hN : ∀ f, rank f < N) (hS : SK w)
    (h : Rich.Btw rank w) (ts : List Nat) (t k : Nat) (hts0 : ∀ x ∈ ts, x ≠ alwaysId) (ts' : List Nat) (kg forced : Bool)
    (hts0' : ∀ x ∈ ts', x ≠ alwaysId) :
    let w1 := (applyOp {} N (.crashCmd ts t k) w).2
    let r := runCmd {} N (if forced then .redo ts' kg else .ifchange ts' kg) w1
    Rich.Btw rank w1 ∧ SK w1 ∧ Rich.Btw rank r.2 ∧ SK r.2 ∧ (r.1.status = 0 → ∀ x ∈ ts', UpToDateR r.2 x) :=
  recovery_is_sound_rich hN hS h ts t k hts0 ts' kg forced hts0'

/-- **Non-vacuity**: the history `kaOps` (target 3 <- 2; target 2: `redo-always; redo-ifchange 5`, fails on odd
versions of 5; built; 5 edited; the rebuild killed at step 1 of the script of 3, after the nested rebuild of 2)
satisfies every hypothesis of `recovers_rich_partial`; evaluated: the run is killed (`CRASHED`), the recovery exits 0
and runs 3 and 2 again. -/
theorem recovers_rich_example_run :
    kaSummary = (some CRASHED, [.ran 2, .ran 3, .ran 2, .ran 3], 0,
      [.ran 2, .ran 3, .ran 2, .ran 3, .ran 2, .ran 3], some [4, 0, 7, 1], some [6, 0, 4, 0, 7, 1, 1]) := ka_eval

/-- … and the conclusion of `recovers_rich_partial` on it. -/
theorem recovers_rich_example :
    UpToDateR (runCmd {} 3 (.ifchange [3] false)
      (kaOps.foldl (fun w op => (applyOp {} 3 op w).2) (initWorld r3Rules))).2 3 := by
  have h : (runCmd {} 3 (.ifchange [3] false)
      (kaOps.foldl (fun w op => (applyOp {} 3 op w).2) (initWorld r3Rules))).1.status = 0 := congrArg (·.2.2.1) ka_eval
  exact recoversRichK_partial 3 r3Rules r3Rank kaOps [3] false false r3_rulesOk ka_single ka_richK ka_noWatch
    ka_ranked r3_rankLt ka_opsOk (by simp [alwaysId]) h 3 (by simp)

/-- Evidence for `redo-ifcreate` (one evaluated instance, outside `recovers_rich_partial`): target 2 built by
`redo-ifchange 5; cat 5`; the .do file edited to `redo-ifcreate 5`, 5 removed; the rebuild killed at step 0 (the row
`(2, 5, m)` already replaced by `(2, 5, c)`); the recovery `redo-ifchange 2` exits 0 and DOES rebuild 2 (the killed
build re-stamped the edited .do file, which keeps 2 dirty). -/
theorem ifcreate_kill_instance_recovers :
    icSummary = (some CRASHED, 0, [.ran 2, .ran 2, .ran 2], some [6]) := by
  unfold icSummary
  eval_model

end C10
