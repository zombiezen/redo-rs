import RedoModel.Lemmas.Deps
import RedoModel.Lemmas.DepsOverride
import RedoModel.Lemmas.DepsOwned
import RedoModel.Props.C11b
/-!
# C11 — redo never overwrites or deletes files it did not produce
Model: `RedoModel/Deps.lean`.
-/
namespace C11
open RedoModel.Deps

def ranIn (w : World) : List Nat := w.trace.filterMap (fun e => match e with | .ran t => some t | _ => none)

/-- A file that exists and is not recorded as generated is treated as a source when a build of
its name is requested, even though a .do rule may match: nothing is executed, no file changes,
the command succeeds. -/
theorem source_untouched (E : Engine) (d : Defects) (cx : Ctx) (t : Nat) (sf : Rec) (w : World)
    (hex : existsF w t = true) (hng : sf.isGenerated = false) :
    (startSelf E d cx t sf w).1 = 0 ∧ (startSelf E d cx t sf w).2.fs = w.fs ∧
    ranIn (startSelf E d cx t sf w).2 = ranIn w := by
  -- the branch `(0, setRec w t _)`: a record is written, files and trace are not
  simp only [startSelf, hng, hex, Bool.false_and, Bool.false_eq_true, if_false, Bool.not_false, Bool.or_true,
    Bool.and_true, if_true, ranIn]
  split <;> exact ⟨trivial, rfl, rfl⟩

/-- A generated target that was edited or replaced by hand (its stamp differs in mtime or
size) is detected, marked overridden with a warning, and left untouched. -/
theorem hand_edit_detected (E : Engine) (d : Defects) (cx : Ctx) (t : Nat) (sf : Rec) (w : World)
    (hex : existsF w t = true) (hg : sf.isGenerated = true) (hno : sf.isOverride = false)
    (hdo : detectOverride (sf.stamp.getD .missing) (readStamp w t) = true) :
    (startSelf E d cx t sf w).1 = 0 ∧ (startSelf E d cx t sf w).2.fs = w.fs ∧
    ((startSelf E d cx t sf w).2.recs t).isOverride = true ∧
    Ev.warnOverride t ∈ (startSelf E d cx t sf w).2.trace ∧
    ranIn (startSelf E d cx t sf w).2 = ranIn w := by
  obtain ⟨h1, h2, h3, h4⟩ := startSelf_override E d cx t sf w hex hg (.inr hdo)
  exact ⟨h1, h2, h3, h4 ▸ List.mem_cons_self, by rw [ranIn, h4]; rfl⟩

/-- … and stays untouched by every later request while it exists (override is sticky). -/
theorem override_sticky (E : Engine) (d : Defects) (cx : Ctx) (t : Nat) (sf : Rec) (w : World)
    (hex : existsF w t = true) (hg : sf.isGenerated = true) (ho : sf.isOverride = true) :
    (startSelf E d cx t sf w).1 = 0 ∧ (startSelf E d cx t sf w).2.fs = w.fs ∧
    ((startSelf E d cx t sf w).2.recs t).isOverride = true ∧
    ranIn (startSelf E d cx t sf w).2 = ranIn w := by
  obtain ⟨h1, h2, h3, h4⟩ := startSelf_override E d cx t sf w hex hg (.inl ho)
  exact ⟨h1, h2, h3, by rw [ranIn, h4]; rfl⟩

/-- The dirtiness check (used by every command, and by `redo-ood`) never touches a file. -/
theorem check_never_writes_files (ood : Bool) (R fuel : Nat) (w : World) (c : List Nat) (f mx : Nat) (seen : List Nat) :
    (isDirty ood R fuel w c f mx seen none).2.1.fs = w.fs :=
  (isDirty_frame ood R fuel w c f mx seen none).1

/-- Recording a build writes only the target's own name. -/
theorem record_writes_only_target (cx : Ctx) (t : Nat) (sf : Rec) (rv : Status) (out : Option Content) (w : World)
    (f : Nat) (hf : f ≠ t) : (recordNewState cx t sf rv out w).2.fs f = w.fs f := by
  unfold recordNewState
  split
  · cases out <;> simp [setRec, setFile, zapDeps2, newNode, hf]
  · simp [setRec, zapDeps2]

/-- **No redo command ever modifies or removes a file it does not own.**  A file is the user's
(`UserOwned`) when it exists and is not recorded as generated, or is marked overridden, or is
recorded as generated but differs in mtime/size from what redo recorded (edited or replaced by
hand).  For every command (`redo`, `redo-ifchange`, with or without `-k`, `redo-ood`, `redo-targets`,
`redo-sources`), every world and every defect setting, such a file has byte-for-byte the same node
afterwards and is still the user's — even when a .do rule matches its name, at any depth of nested
`redo-ifchange` calls, including the out-of-band rebuild path. -/
theorem command_never_touches_user_files (d : Defects) (n : Nat) (c : Cmd) (w : World) (f : Nat)
    (h : UserOwned w f) :
    (runCmd d n c w).2.fs f = w.fs f ∧ UserOwned (runCmd d n c w).2 f :=
  runCmd_keepsUser d n c w f h

/-- … and so for every sequence of commands (killed ones included) run between two actions of the
user: the override is sticky until the user removes the file. -/
theorem history_never_touches_user_files (d : Defects) (n : Nat) (ops : List UserOp)
    (hops : ∀ op ∈ ops, op.isCommand = true) (w : World) (f : Nat) (h : UserOwned w f) :
    (runOps d n ops w).fs f = w.fs f ∧ UserOwned (runOps d n ops w) f :=
  history_keepsUser d n ops hops w f h

end C11
