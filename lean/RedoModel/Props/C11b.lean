import RedoModel.Lemmas.StampStr
/-!
# C11 (continued) — recognising a hand-edited generated file, at the level of the stamp strings
Model: `RedoModel/StampStr.lean`; supporting lemmas: `Lemmas/StampStr.lean`; abstraction to `Deps.DStamp`.
-/
namespace C11
open RedoModel.StampStr

/-- A decimal number token is non-empty and all digits (so it holds neither '-' nor '+'); a well-formed
time token is non-empty and holds neither '-' nor '+'. -/
theorem num_chars :
    (∀ n, num n ≠ [] ∧ (∀ c ∈ num n, c.isDigit = true) ∧ '-' ∉ num n ∧ '+' ∉ num n) ∧
    (∀ t, timeOk t = true → '-' ∉ t ∧ '+' ∉ t ∧ t ≠ []) :=
  ⟨fun n => ⟨num_ne_nil n, num_isDigit n, num_no_dash n, num_no_plus n⟩,
   fun t h => ⟨timeOk_no_dash t h, timeOk_no_plus t h, (timeOk_chars t h).1⟩⟩

example : timeOk "1.500000".toList = true := by
  -- a literal is `String.ofList` of its characters: rewriting spares the kernel the UTF-8 decoding
  rw [String.toList_ofList]
  decide +kernel

theorem num_injective (a b : Nat) : num a = num b ↔ a = b := ⟨num_inj, fun h => h ▸ rfl⟩

/-- The deciding fields of a file's stamp are its modification time and its size. -/
theorem crit_render (m : Meta) (h : timeOk m.mtime = true) : crit (render m) = [m.mtime, num m.size] := by
  simpa using crit_render_app m h []

/-- … and of a symlink's stamp (`lstat` fields, '+', the target's stamp): the link's own time and size,
whatever follows the '+'. -/
theorem crit_render_link (l : Meta) (h : timeOk l.mtime = true) (s : List Char) :
    crit (render l ++ '+' :: s) = [l.mtime, num l.size] := crit_render_app l h _

/-- The two constant stamps are their own deciding field. -/
theorem crit_consts : crit missing = [missing] ∧ crit dir = [dir] := ⟨crit_missing, crit_dir⟩

example : crit (render ⟨"1.500000".toList, 3, 9, 33188, 0, 0⟩) = ["1.500000".toList, "3".toList] := by
  repeat rw [String.toList_ofList]
  decide +kernel

/-- A change of modification time or of size is always recognised as an edit, and nothing else is. -/
theorem edit_is_detected (a b : Meta) (ha : timeOk a.mtime = true) (hb : timeOk b.mtime = true) :
    detectOverride (render a) (render b) = true ↔ (a.mtime ≠ b.mtime ∨ a.size ≠ b.size) := by
  rw [detect_iff_crit_ne, crit_render a ha, crit_render b hb, fields_ne_iff]

/-- A change of only inode, mode or owner of a file is not taken for an edit. -/
theorem metadata_only_change_is_not_an_edit (a b : Meta) (ha : timeOk a.mtime = true)
    (hm : a.mtime = b.mtime) (hs : a.size = b.size) : detectOverride (render a) (render b) = false := by
  rw [detect_false_iff, crit_render a ha, crit_render b (hm ▸ ha), hm, hs]

/-- The deciding fields of each kind of stamp, read off the file's metadata rather than off the string. -/
def key : FileStamp → List (List Char)
  | .missing => [missing]
  | .dir => [dir]
  | .file m => [m.mtime, num m.size]
  | .link l _ => [l.mtime, num l.size]

/-- `key` is what `crit` extracts from the stamp string, for every well-formed stamp. -/
theorem key_eq_crit (s : FileStamp) (h : s.ok = true) : key s = crit s.str := by
  cases s with
  | missing => exact crit_missing.symm
  | dir => exact crit_dir.symm
  | file m => exact (crit_render m h).symm
  | link l t =>
    unfold FileStamp.ok at h
    simp only [Bool.and_eq_true] at h
    exact (crit_render_link l h.1 _).symm

/-- The test on well-formed stamps, in terms of the metadata: the strings differ and the deciding
fields differ. -/
theorem general (a b : FileStamp) (ha : a.ok = true) (hb : b.ok = true) :
    detectOverride a.str b.str = (decide (a.str ≠ b.str) && decide (key a ≠ key b)) := by
  rw [key_eq_crit a ha, key_eq_crit b hb]
  unfold detectOverride
  by_cases e : a.str = b.str <;> by_cases e2 : crit a.str = crit b.str <;> simp [e, e2, bne]

example : (FileStamp.link ⟨"1.500000".toList, 3, 9, 33188, 0, 0⟩ .dir).ok = true := by decide

/-- A generated file that vanished, or a file that appeared where none was recorded, is always
recognised; likewise a directory replaced by a file or link and the reverse. -/
theorem vanished_or_appeared (s : FileStamp) (h : s.ok = true) :
    (s ≠ .missing → detectOverride missing s.str = true ∧ detectOverride s.str missing = true) ∧
    (s ≠ .missing → s ≠ .dir → detectOverride dir s.str = true ∧ detectOverride s.str dir = true) := by
  have hk := key_eq_crit s h
  refine ⟨fun hs => ?_, fun hs hd => ?_⟩
  · have : crit s.str ≠ [missing] := by
      rw [← hk]; cases s <;> simp [key] at hs ⊢ <;> decide
    exact ⟨(detect_iff_crit_ne _ _).2 (by rw [crit_missing]; exact Ne.symm this),
           (detect_iff_crit_ne _ _).2 (by rw [crit_missing]; exact this)⟩
  · have : crit s.str ≠ [dir] := by
      rw [← hk]; cases s <;> simp [key] at hs hd ⊢
    exact ⟨(detect_iff_crit_ne _ _).2 (by rw [crit_dir]; exact Ne.symm this),
           (detect_iff_crit_ne _ _).2 (by rw [crit_dir]; exact this)⟩

/-- Retargeting a symlink, or a change to the file it points to, is not taken for an edit of the link:
only the link's own `lstat` fields are compared.  (No well-formedness needed.) -/
theorem link_target_change_is_not_an_edit (l : Meta) (t t' : FileStamp) :
    detectOverride (FileStamp.link l t).str (FileStamp.link l t').str = false := by
  rw [detect_false_iff]
  simp only [FileStamp.str]
  rw [crit_render_app_any, crit_render_app_any]

example : (FileStamp.link ⟨"1.5".toList, 3, 9, 33188, 0, 0⟩ .dir).str ≠
    (FileStamp.link ⟨"1.5".toList, 3, 9, 33188, 0, 0⟩ .missing).str := by
  repeat rw [String.toList_ofList]
  decide +kernel

/-- A change of the link's own modification time or size is recognised, whatever the targets. -/
theorem link_edit_is_detected (l l' : Meta) (t t' : FileStamp) (hl : timeOk l.mtime = true)
    (hl' : timeOk l'.mtime = true) :
    detectOverride (FileStamp.link l t).str (FileStamp.link l' t').str = true ↔
      (l.mtime ≠ l'.mtime ∨ l.size ≠ l'.size) := by
  rw [detect_iff_crit_ne]
  simp only [FileStamp.str]
  rw [crit_render_link l hl, crit_render_link l' hl', fields_ne_iff]

example : detectOverride (FileStamp.link ⟨"1.5".toList, 3, 9, 33188, 0, 0⟩ .dir).str
    (FileStamp.link ⟨"1.5".toList, 4, 9, 33188, 0, 0⟩ .dir).str = true := by
  repeat rw [String.toList_ofList]
  decide +kernel

/-- The abstraction of a stamp string the dependency engine's model works with: `missing`, or a pair of
numbers — a code of the deciding fields and a code of the whole string. -/
def abs (encK : List (List Char) → Nat) (encS : List Char → Nat) (s : FileStamp) : RedoModel.Deps.DStamp :=
  if s.str = missing then .missing else .st (encK (crit s.str)) (encS s.str)

/-- The engine model's "stamp unchanged" is equality of the stamp strings. -/
theorem abs_eq_iff (encK : List (List Char) → Nat) (encS : List Char → Nat)
    (hS : Function.Injective encS) (a b : FileStamp) :
    abs encK encS a = abs encK encS b ↔ a.str = b.str := by
  unfold abs
  by_cases ea : a.str = missing <;> by_cases eb : b.str = missing
  · simp [ea, eb]
  · simp [ea, eb]; exact fun e => eb e.symm
  · simp [ea, eb]
  · simp only [ea, eb, if_false, RedoModel.Deps.DStamp.st.injEq]
    exact ⟨fun h => hS h.2, fun h => by rw [h]; exact ⟨rfl, rfl⟩⟩

/-- The engine model's override test on abstract stamps is redo's test on the stamp strings, for any
injective coding of the deciding fields and of the strings. -/
theorem abs_detectOverride (encK : List (List Char) → Nat) (encS : List Char → Nat)
    (hK : Function.Injective encK) (hS : Function.Injective encS) (a b : FileStamp)
    (ha : a.ok = true) (hb : b.ok = true) :
    RedoModel.Deps.detectOverride (abs encK encS a) (abs encK encS b) = detectOverride a.str b.str := by
  have hiff := abs_eq_iff encK encS hS a b
  by_cases e : a.str = b.str
  · simp [RedoModel.Deps.detectOverride, hiff.2 e, detectOverride, e]
  · have hne : abs encK encS a ≠ abs encK encS b := fun h => e (hiff.1 h)
    unfold RedoModel.Deps.detectOverride
    rw [if_neg hne]
    by_cases ea : a.str = missing <;> by_cases eb : b.str = missing
    · exact absurd (ea.trans eb.symm) e
    · have hb' : b ≠ .missing := fun h => eb (by rw [h]; rfl)
      simp only [abs, ea, eb, if_true, if_false]
      exact ((vanished_or_appeared b hb).1 hb').1.symm
    · have ha' : a ≠ .missing := fun h => ea (by rw [h]; rfl)
      simp only [abs, ea, eb, if_true, if_false]
      exact ((vanished_or_appeared a ha).1 ha').2.symm
    · simp only [abs, ea, eb, if_false, detectOverride, e]
      by_cases ec : crit a.str = crit b.str
      · rw [ec]; simp
      · have : encK (crit a.str) ≠ encK (crit b.str) := fun h => ec (hK h)
        have h1 : (encK (crit a.str) != encK (crit b.str)) = true := bne_iff_ne.2 this
        have h2 : (crit a.str != crit b.str) = true := bne_iff_ne.2 ec
        rw [h1, h2]

/-- Non-vacuity: injective codings exist, and the abstraction then agrees on a concrete pair. -/
example : RedoModel.Deps.detectOverride
      (abs encK0 encS0 (.file ⟨"1.500000".toList, 3, 9, 33188, 0, 0⟩))
      (abs encK0 encS0 (.link ⟨"1.500000".toList, 4, 9, 33188, 0, 0⟩ .dir)) = true := by
  repeat rw [String.toList_ofList]
  rw [abs_detectOverride _ _ encK0_inj encS0_inj _ _ (by decide +kernel) (by decide +kernel)]
  decide +kernel

/-- A change of the inode number alone is not an edit. -/
theorem ex_inode_only : detectOverride "1.500000-3-9-33188-0-0".toList "1.500000-3-8-33188-0-0".toList = false := by
  repeat rw [String.toList_ofList]
  decide +kernel
/-- A change of size is. -/
theorem ex_size : detectOverride "1.500000-3-9-33188-0-0".toList "1.500000-4-9-33188-0-0".toList = true := by
  repeat rw [String.toList_ofList]
  decide +kernel
theorem ex_missing_dir : detectOverride "0".toList "dir".toList = true := by
  repeat rw [String.toList_ofList]
  decide +kernel
/-- The test is total on malformed strings too: the empty string against "--". -/
theorem ex_malformed : detectOverride "".toList "--".toList = true := by
  repeat rw [String.toList_ofList]
  decide +kernel

end C11
