import RedoModel.Props.C12c
import RedoModel.Lemmas.Deps
import RedoModel.Props.C09b
import RedoModel.Props.C12b
import RedoModel.Props.C03b
import RedoModel.Lemmas.DepsEval
/-!
# C12 — Dependency cycles end in an error, never in a hang
Model: `RedoModel/Deps.lean`.  Every function of the model is total
(structural recursion on fuel and lists), so "terminates" is by construction in the model; what is
proven are the two detection mechanisms and their status.
-/
namespace C12
open RedoModel.Deps RedoModel.Generated

/-- A target that is currently being built by an ancestor (its lock id is in `REDO_CYCLES`) is
refused with the cyclic-dependency status before anything is checked or run. -/
theorem ancestor_is_refused (E : Engine) (d : Defects) (cx : Ctx) (fuel t : Nat) (ts seen : List Nat) (w : World) (e : Bool)
    (hs : t ∉ seen) (hgo : (e && !cx.keepGoing) = false) (hu : cx.unlocked = false) (hc : t ∈ cx.cycles) :
    runTargets E d cx fuel (t :: ts) seen e w = (EXIT_CYCLIC_DEPENDENCY, addKnown w t) ∧
    EXIT_CYCLIC_DEPENDENCY = 208 := by
  refine ⟨?_, rfl⟩
  rw [runTargets]
  simp [hs, hgo, hu, hc]

/-- The dirtiness check refuses to walk a dependency chain that returns to a file already on
the path. -/
theorem check_detects_cycle (ood : Bool) (R n : Nat) (w : World) (c : List Nat) (f mx : Nat) (seen : List Nat)
    (h : f ∈ seen) : isDirty ood R (n + 1) w c f mx seen none = (.cyclic, w, c) := by
  simp (config := { zeta := true, zetaHave := true }) only [isDirty, Option.getD_none, h, if_true]

/-- … and that verdict leaves `builder::run` with the cyclic-dependency status. -/
theorem cyclic_verdict_status (E : Engine) (d : Defects) (cx : Ctx) (fuel t : Nat) (w w' : World)
    (h : shouldBuild cx fuel t w = (some .cyclic, w')) :
    buildJob E d cx fuel t w = (.abort EXIT_CYCLIC_DEPENDENCY, w') := by
  simp [buildJob, h]

/-- A cyclic status is never zero: whoever asked gets a failure. -/
theorem cyclic_is_failure : EXIT_CYCLIC_DEPENDENCY ≠ 0 := by decide

/-- The environment of `redo-unlocked`'s first `redo-ifchange`. -/
def oobCtx1 (d : Defects) (cx : Ctx) (t : Nat) : Ctx :=
  { cx with noOob := true, unlocked := false, isRedo := false, cycles := t :: cx.cycles,
            parent := if d.oobRecordsDepsOnCaller then cx.parent else none }

/-- The out-of-band branch of a job, for any nested engine `E`: the first nested command runs in a
locked context whose `REDO_CYCLES` is `t :: cx.cycles`, on the requested list (duplicates erased, possibly reversed);
when it fails, its status is the job's and the second phase does not happen. -/
theorem oob_first_command_sees_target (E : Engine) (d : Defects) (cx : Ctx) (fuel t : Nat) (w : World) (ts : List Nat)
    (hno : cx.noOob = false) (hs : (shouldBuild cx fuel t w).1 = some (.need ts)) :
    ∃ cx1 ts', cx1.cycles = t :: cx.cycles ∧ cx1.unlocked = false ∧ cx1.noOob = true ∧ cx1.runid = cx.runid ∧
      cx1.crash = cx.crash ∧ (∀ x, x ∈ ts' ↔ x ∈ ts) ∧
      ((E.ifchangeCmd cx1 ts' (shouldBuild cx fuel t w).2).1 ≠ 0 →
        buildJob E d cx fuel t w = (.done (E.ifchangeCmd cx1 ts' (shouldBuild cx fuel t w).2).1,
          (E.ifchangeCmd cx1 ts' (shouldBuild cx fuel t w).2).2)) := by
  refine ⟨oobCtx1 d cx t,
    (if (shouldBuild cx fuel t w).2.oobRev then ts.eraseDups.reverse else ts.eraseDups), rfl, rfl, rfl, rfl, rfl, ?_, ?_⟩
  · intro x
    split
    · rw [List.mem_reverse, List.mem_eraseDups]
    · rw [List.mem_eraseDups]
  · unfold buildJob oobCtx1
    dsimp only
    generalize shouldBuild cx fuel t w = sb at hs
    obtain ⟨o, w1⟩ := sb
    dsimp only at hs
    subst hs
    simp only [hno, Bool.false_eq_true, if_false]
    generalize E.ifchangeCmd _ _ w1 = r
    obtain ⟨rv, w2⟩ := r
    intro hnz
    split
    · rename_i heq
      cases heq
      exact absurd rfl hnz
    · rename_i heq
      cases heq
      rfl

/-- During an out-of-band rebuild (`redo-unlocked t deps…`) the caller holds `t`'s lock, so the first nested
`redo-ifchange deps…` runs with `t` among the targets under construction (`REDO_CYCLES`).  Hence, if the
dirtiness check asks to rebuild a list that contains `t` itself first (a dependency chain leading back to `t`), the
job does not wait for its own lock: it ends with a non-zero status.  Any defect switches, any engine level. -/
theorem oob_target_is_under_construction (d : Defects) (n : Nat) (cx : Ctx) (fuel t : Nat) (w : World) (ts : List Nat)
    (hno : cx.noOob = false) (hs : (shouldBuild cx fuel t w).1 = some (.need ts)) (ht : t ∈ ts) :
    ∃ rv w', buildJob (engine d n) d cx fuel t w = (.done rv, w') ∧ rv ≠ 0 := by
  obtain ⟨cx1, ts', hc, hu, _, _, _, hmem, himp⟩ := oob_first_command_sees_target (engine d n) d cx fuel t w ts hno hs
  have hnz := cycle_member_fails_cmd d n cx1 ts' (shouldBuild cx fuel t w).2 hu
    ⟨t, (hmem t).2 ht, by rw [hc]; exact List.mem_cons_self⟩
  exact ⟨_, _, himp hnz, hnz⟩

/-! Non-vacuity: `top` (5) depends on the checksummed `mid` (3); `mid.do` (2) is then rewritten so that it asks for
`top`.  The next `redo-ifchange top` takes the out-of-band path (`need [3]`), `mid` runs below `redo-unlocked`, its
request for `top` is refused (208) because `top` is under construction, and the command fails instead of waiting. -/
namespace ExOob

def backSc : Script := { ifchange := [[5]], reads := [], tag := 1, stamp := 1 }

def hist : List UserOp := [.write 1 0, .write 2 1, .write 4 2,
  .setProg (srcContent 1) C03.midRead, .setProg (srcContent 2) C03.topSc, .setProg (srcContent 3) backSc,
  .cmd (.ifchange [5] false), .write 2 3]

def wB : World := hist.foldl (fun w op => (applyOp {} 0 op w).2) (initWorld C03.csRules)

theorem eraseDups_one (a : Nat) : [a].eraseDups = [a] := by simp [List.eraseDups_cons]

/- The hypotheses of `oob_target_…`/`oob_first_command_sees_target` are met: the verdict for `top` is `need [mid]`. -/
set_option linter.unusedSimpArgs false in
set_option maxRecDepth 8000 in
set_option maxHeartbeats 4000000 in
example : (shouldBuild { runid := 2 } 4 5 (addKnown wB 5)).1 = some (.need [3]) := by
  unfold wB
  eval_model

def summ (r : Result × World) := (r.1.status, r.2.trace.take 1, (r.2.recs 3).failed, (r.2.recs 5).failed)

/- The command fails; only `mid` ran in it (and is recorded as failed); `top` was not started. -/
set_option linter.unusedSimpArgs false in
set_option maxRecDepth 8000 in
set_option maxHeartbeats 4000000 in
example : summ (runCmd {} 0 (.ifchange [5] false) wB) = (1, [.ran 3], some 2, none) := by
  unfold summ wB
  eval_model

/-- The refused request: what `mid`'s script issues below the first phase (`REDO_CYCLES = mid top`). -/
example : ((engine {} 3).ifchangeCmd { runid := 2, parent := some 3, cycles := [3, 5], noOob := true } [5] wB).1 = 208 := by
  decide +kernel

end ExOob

/-! ### At -j>1: the wait-for protocol (model `RedoModel/Waits.lean`, guarded acceptor `WaitsG`) -/

/-- On an acyclic declared graph no accepted state of the lock hand-over protocol is a deadlock
(`C09.progress`): whatever the number of processes and the interleaving, somebody can move.  So a
hang at -j>1 needs a cycle in what the scripts declare. -/
theorem acyclic_never_hangs (reach : Nat → List Nat) (univ : List Nat) (rank : Nat → Nat)
    (H0 : ∀ u f, f ∈ reach u → f < 1000000) (H1 : ∀ u f, f ∈ reach u → rank f < rank u)
    (H2 : ∀ f, rank (RedoModel.Waits.oobKey f) = rank f)
    (es : List RedoModel.Waits.Ev) (hin : ∀ ev ∈ es, RedoModel.Waits.evIn univ ev = true) (s : RedoModel.Waits.State)
    (h : RedoModel.Waits.runG reach univ {} es = .ok s) : RedoModel.Waits.deadlocked s univ = false :=
  C09.progress reach univ rank H0 H1 H2 es hin s h

/-- Witness for the recorded finding `crossBranchCycleUndetected`: with a cyclic declared graph
(`top → c0 → c1 → c2 → c0`, entered at `top` and at `c1`) the protocol accepts a run that ends with
every process waiting — each branch blocks on a lock held by an ancestor of the other, and neither
lock is in the waiter's inherited `REDO_CYCLES`.  Every local guard holds; only acyclicity fails. -/
theorem cross_branch_cycle_deadlocks :
    ∃ s, RedoModel.Waits.runG C09.cyReach C09.cyUniv {} C09.cyEs = .ok s ∧ RedoModel.Waits.deadlocked s C09.cyUniv = true :=
  C09.cross_branch_deadlock_guarded

end C12
