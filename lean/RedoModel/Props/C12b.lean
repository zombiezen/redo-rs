import RedoModel.Lemmas.DepsCycleFail
import RedoModel.Lemmas.DepsFuelEngine
import RedoModel.Lemmas.DepsFuelCheck
/-!
# C12 (continued) — the fuel is an artefact; a cycle of any length is reported at every level
The property theorems; what they rest on is in `RedoModel/Lemmas/DepsFuel*.lean` and `DepsCycleFail.lean`.  Model: `RedoModel/Deps.lean`.

Every function of the model is total, so "terminates" holds by construction.  What is proven here is that
this is not bought by the fuel: with all ids below `N`

1. the dirtiness check never reaches its `fuel = 0` case (`.cyclic` always stems from a genuine revisit);
2. (A) the engine never reaches its innermost level (`engine d 0`, which answers `EXIT_FAILURE`), at the bound
   `2 * (N - |REDO_CYCLES|) + 2` — so never in `runCmd d nfiles` when `N ≤ nfiles + 1`;
   (B) the *whole* result of a nested command is independent of the fuel from `N` levels more: the dirtiness
   check inside a nested command is handed the engine's index as its fuel, and the index has gone down by up
   to two per level of nesting (a script level and the out-of-band level in front of it) — see
   `Ex.suggested_bound_too_small` for why the `N` cannot be dropped for arbitrary contexts and worlds.  For
   `runCmd` this means `2 * nfiles + 4 ≥ 3 * N + 1`;
   (B′) in a project that never uses `redo-stamp` there is no out-of-band level and `runCmd` at `nfiles = N`
   already has more fuel than can be used.
   NOT proven: that `runCmd d N` with `redo-stamp` in use never exhausts the fuel of a dirtiness check deep
   inside a build (`N ≥ 4`); the reason it should hold is semantic (every out-of-band level marks a distinct
   file as checked in this run), not the counting argument used here.
3. a request that leads back to a target being built is refused with 208, and that failure travels up through
   every script, job and command of a chain of any length, from every entry point, whatever the innermost
   engine level would answer.
-/
namespace C12
open RedoModel.Deps RedoModel.Generated

/-! ## 1. The dirtiness check -/

/-- More fuel changes nothing once the fuel exceeds the number of files not yet on the path. -/
theorem isDirty_fuel_irrelevant (ood : Bool) (R N fuel k : Nat) (w : World) (cache : List Nat) (f mx : Nat)
    (seen : List Nat) (pre : Option Rec)
    (hb : ∀ d ∈ w.deps, d.source < N) (hf : f < N) (hnd : seen.Nodup) (hsb : ∀ x ∈ seen, x < N)
    (hfuel : N - seen.length + 1 ≤ fuel) :
    isDirty ood R fuel w cache f mx seen pre = isDirty ood R (fuel + k) w cache f mx seen pre :=
  RedoModel.Deps.isDirty_fuel_irrelevant ood R N fuel k w cache f mx seen pre hb hf hnd hsb hfuel

/-- The `fuel = 0` case is never consulted: put *any* answer `base` there (`isDirtyFrom base`), the result is
that of the model.  Hence a `.cyclic` verdict always stems from `f ∈ seen`. -/
theorem isDirty_base_irrelevant (base) (ood : Bool) (R N n1 n2 : Nat) (w : World) (cache : List Nat) (f mx : Nat)
    (seen : List Nat) (pre : Option Rec)
    (hb : ∀ d ∈ w.deps, d.source < N) (hf : f < N) (hnd : seen.Nodup) (hsb : ∀ x ∈ seen, x < N)
    (h1 : N - seen.length + 1 ≤ n1) (h2 : N - seen.length + 1 ≤ n2) :
    isDirtyFrom base ood R n1 w cache f mx seen pre = isDirty ood R n2 w cache f mx seen pre :=
  isDirtyFrom_eq_isDirty base ood R N n1 n2 w cache f mx seen pre hb hf hnd hsb h1 h2

/-- `isDirtyFrom` is the model's `isDirty` when `base` is the model's answer. -/
theorem isDirty_is_from (ood : Bool) (R n : Nat) :
    isDirty ood R n = isDirtyFrom (fun w c _ _ _ _ => (.cyclic, w, c)) ood R n :=
  isDirty_eq_from ood R n

/-- In `runCmd`'s own top-level checks (`fuel = 2 * nfiles + 4`, `seen = []`) the base case is never reached. -/
theorem isDirty_top_level (base) (ood : Bool) (R nf : Nat) (w : World) (cache : List Nat) (f mx : Nat)
    (hb : ∀ d ∈ w.deps, d.source < nf) (hf : f < nf) :
    isDirtyFrom base ood R (2 * nf + 4) w cache f mx [] none = isDirty ood R (2 * nf + 4) w cache f mx [] none :=
  isDirtyFrom_eq_isDirty base ood R nf _ _ w cache f mx [] none hb hf List.nodup_nil (fun _ h => by cases h)
    (by simp; omega) (by simp; omega)

/-- `redo-ood` (the query walks every known target with the model's fuel): any fuel above `nfiles` gives the
same listing and world; the files it starts from are below `nfiles` by construction. -/
theorem ood_fuel_irrelevant (d : Defects) (nf fuel : Nat) (w : World) (hb : ∀ dp ∈ w.deps, dp.source < nf)
    (hfuel : nf + 1 ≤ fuel) : runCmd d nf .ood w = oodWith fuel nf w := by
  rw [runCmd_ood_eq]
  exact oodWith_fuel nf _ fuel w hb (by omega) hfuel

/-! ## 2. The engine -/

/-- `engine d n` is `engineFrom failBase d n`: the engine over the innermost level that answers `EXIT_FAILURE`. -/
theorem engine_is_from (d : Defects) (n : Nat) : engine d n = engineFrom failBase d n := engine_eq_from d n

/-- **(A)** The innermost level is never consulted: over any two innermost levels the nested command gives the
same result, from index `2 * (N - |cycles|) + 2` on (`+ 1` when no out-of-band rebuild can follow).
(`WInv false N w`: every id in `w` — sources of dependency rows, .do candidates, names in programs — is
below `N`; `CtxOK N cx`: `REDO_CYCLES` holds distinct ids below `N`.) -/
theorem engine_base_irrelevant (b1 b2 : Engine) (d : Defects) (N n : Nat) (cx : Ctx) (ts : List Nat) (w : World)
    (hcx : CtxOK N cx) (hts : ∀ t ∈ ts, t < N) (hun : cx.unlocked = true → ∀ t ∈ ts, t ∉ cx.cycles) (hw : WInv false N w)
    (hn : 2 * (N - cx.cycles.length) + 2 ≤ n) :
    (engineFrom b1 d n).ifchangeCmd cx ts w = (engineFrom b2 d n).ifchangeCmd cx ts w :=
  (engineFrom_agree b1 b2 d N n n cx ts w hcx hts hun hw
    (.same (by simp only [lvl, Bool.false_eq_true, if_false]; split <;> omega))).1

/-- **(B)** Fuel irrelevance of nested commands: `N` more levels (the share of the dirtiness check, which
is handed the engine's index as its fuel) make the result independent of the fuel altogether. -/
theorem engine_fuel_irrelevant (d : Defects) (N n k : Nat) (cx : Ctx) (ts : List Nat) (w : World)
    (hcx : CtxOK N cx) (hts : ∀ t ∈ ts, t < N) (hun : cx.unlocked = true → ∀ t ∈ ts, t ∉ cx.cycles) (hw : WInv false N w)
    (hn : 2 * (N - cx.cycles.length) + 2 + N ≤ n) :
    (engine d n).ifchangeCmd cx ts w = (engine d (n + k)).ifchangeCmd cx ts w := by
  rw [engine_eq_from, engine_eq_from]
  exact (engineFrom_agree failBase failBase d N n (n + k) cx ts w hcx hts hun hw
    (.both (by simp only [lvl, Bool.false_eq_true, if_false]; split <;> omega)
      (by simp only [lvl, Bool.false_eq_true, if_false]; split <;> omega))).1

/-- **(B′)** In a project that never uses `redo-stamp` (`WInv true N w`: moreover no record carries a checksum and
no program calls `redo-stamp`) there is no out-of-band level: one engine level per id that is not yet an
ancestor, plus the share of the dirtiness check. -/
theorem engine_fuel_irrelevant_nostamp (d : Defects) (N n k : Nat) (cx : Ctx) (ts : List Nat) (w : World)
    (hcx : CtxOK N cx) (hts : ∀ t ∈ ts, t < N) (hun : cx.unlocked = true → ∀ t ∈ ts, t ∉ cx.cycles) (hw : WInv true N w)
    (hn : (N - cx.cycles.length) + N + 1 ≤ n) :
    (engine d n).ifchangeCmd cx ts w = (engine d (n + k)).ifchangeCmd cx ts w := by
  rw [engine_eq_from, engine_eq_from]
  exact (engineFrom_agree failBase failBase d N n (n + k) cx ts w hcx hts hun hw
    (.both (by simp only [lvl]; simp; omega) (by simp only [lvl]; simp; omega))).1

/-- The invariant "all ids below `N`" survives every nested command. -/
theorem engine_keeps_ids_below (d : Defects) (N n : Nat) (cx : Ctx) (ts : List Nat) (w : World)
    (hcx : CtxOK N cx) (hts : ∀ t ∈ ts, t < N) (hun : cx.unlocked = true → ∀ t ∈ ts, t ∉ cx.cycles) (hw : WInv false N w)
    (hn : 2 * (N - cx.cycles.length) + 2 ≤ n) : WInv false N ((engine d n).ifchangeCmd cx ts w).2 := by
  rw [engine_eq_from]
  exact (engineFrom_agree failBase failBase d N n n cx ts w hcx hts hun hw
    (.same (by simp only [lvl, Bool.false_eq_true, if_false]; split <;> omega))).2

/-- (A) for the model's commands: in `runCmd d nf (redo-ifchange ts)` with all ids below `N ≤ nf + 1` the
`EXIT_FAILURE` answer of `engine d 0` is never observed — any other innermost level gives the same run. -/
theorem runCmd_ifchange_base_irrelevant (base : Engine) (d : Defects) (N nf : Nat) (ts : List Nat) (kg : Bool) (w : World)
    (hw : WInv false N w) (hts : ∀ t ∈ ts, t < N) (hN : N ≤ nf + 1) :
    runCmd d nf (.ifchange ts kg) w = runTop (engineFrom base d (2 * nf + 4)) d (2 * nf + 4) false kg ts w := by
  rw [(runCmd_build_from d nf ts kg w).2]
  exact runTop_agree failBase base d N _ _ _ _ false kg ts w hw hts (.inl rfl) (.same (by simp; omega))

theorem runCmd_redo_base_irrelevant (base : Engine) (d : Defects) (N nf : Nat) (ts : List Nat) (kg : Bool) (w : World)
    (hw : WInv false N w) (hts : ∀ t ∈ ts, t < N) (hN : N ≤ nf + 1) :
    runCmd d nf (.redo ts kg) w = runTop (engineFrom base d (2 * nf + 4)) d (2 * nf + 4) true kg ts w := by
  rw [(runCmd_build_from d nf ts kg w).1]
  exact runTop_agree failBase base d N _ _ _ _ true kg ts w hw hts (.inl rfl) (.same (by simp; omega))

/-- (B) for the model's commands: the result does not depend on `nfiles` once `2 * nfiles + 4 ≥ 3 * N + 1`. -/
theorem runCmd_ifchange_fuel_irrelevant (d : Defects) (N nf nf' : Nat) (ts : List Nat) (kg : Bool) (w : World)
    (hw : WInv false N w) (hts : ∀ t ∈ ts, t < N) (h : 3 * N ≤ 2 * nf + 3) (h' : 3 * N ≤ 2 * nf' + 3) :
    runCmd d nf (.ifchange ts kg) w = runCmd d nf' (.ifchange ts kg) w := by
  rw [(runCmd_build_from d nf ts kg w).2, (runCmd_build_from d nf' ts kg w).2]
  exact runTop_agree failBase failBase d N _ _ _ _ false kg ts w hw hts (.inr ⟨by omega, by omega⟩)
    (.both (by simp; omega) (by simp; omega))

theorem runCmd_redo_fuel_irrelevant (d : Defects) (N nf nf' : Nat) (ts : List Nat) (kg : Bool) (w : World)
    (hw : WInv false N w) (hts : ∀ t ∈ ts, t < N) (h : 3 * N ≤ 2 * nf + 3) (h' : 3 * N ≤ 2 * nf' + 3) :
    runCmd d nf (.redo ts kg) w = runCmd d nf' (.redo ts kg) w := by
  rw [(runCmd_build_from d nf ts kg w).1, (runCmd_build_from d nf' ts kg w).1]
  exact runTop_agree failBase failBase d N _ _ _ _ true kg ts w hw hts (.inr ⟨by omega, by omega⟩)
    (.both (by simp; omega) (by simp; omega))

/-- (B′) for the model's commands: in a project that never uses `redo-stamp`, `runCmd` at its own setting
`nfiles = N` already has more fuel than can be used: any larger `nfiles` gives the same run. -/
theorem runCmd_ifchange_fuel_irrelevant_nostamp (d : Defects) (N nf nf' : Nat) (ts : List Nat) (kg : Bool) (w : World)
    (hw : WInv true N w) (hts : ∀ t ∈ ts, t < N) (h : N ≤ nf) (h' : N ≤ nf') :
    runCmd d nf (.ifchange ts kg) w = runCmd d nf' (.ifchange ts kg) w := by
  rw [(runCmd_build_from d nf ts kg w).2, (runCmd_build_from d nf' ts kg w).2]
  exact runTop_agree failBase failBase d N _ _ _ _ false kg ts w hw hts (.inr ⟨by omega, by omega⟩)
    (.both (by simp; omega) (by simp; omega))

theorem runCmd_redo_fuel_irrelevant_nostamp (d : Defects) (N nf nf' : Nat) (ts : List Nat) (kg : Bool) (w : World)
    (hw : WInv true N w) (hts : ∀ t ∈ ts, t < N) (h : N ≤ nf) (h' : N ≤ nf') :
    runCmd d nf (.redo ts kg) w = runCmd d nf' (.redo ts kg) w := by
  rw [(runCmd_build_from d nf ts kg w).1, (runCmd_build_from d nf' ts kg w).1]
  exact runTop_agree failBase failBase d N _ _ _ _ true kg ts w hw hts (.inr ⟨by omega, by omega⟩)
    (.both (by simp; omega) (by simp; omega))

/-! ## 3. Cycles are reported -/

/-- `redo-ifchange` naming the target whose script runs it: 208, nothing recorded. -/
theorem self_request_is_208 (E : Engine) (d : Defects) (fuel : Nat) (cx : Ctx) (ts : List Nat) (w : World) (p : Nat)
    (hp : cx.parent = some p) (hu : cx.unlocked = false) (hm : p ∈ ts) :
    ifchangeWith E d fuel cx ts w = (EXIT_CYCLIC_DEPENDENCY, w) ∧ EXIT_CYCLIC_DEPENDENCY = 208 :=
  ⟨ifchangeWith_self E d fuel cx ts w p hp hu hm, rfl⟩

/-- A target list that contains a member of `REDO_CYCLES` has a non-zero status — with and without
`--keep-going`, wherever the member stands in the list, whatever the other targets do. -/
theorem cycle_member_fails (E : Engine) (d : Defects) (cx : Ctx) (fuel : Nat) (ts : List Nat) (e : Bool) (w : World)
    (hu : cx.unlocked = false) (h : ∃ t ∈ ts, t ∈ cx.cycles) : (runTargets E d cx fuel ts [] e w).1 ≠ 0 :=
  runTargets_cycle_nonzero E d cx fuel hu ts [] e w (h.elim fun t ht => ⟨t, ht.1, ht.2, by simp⟩)

/-- … the same for the whole command, at every engine level. -/
theorem cycle_member_fails_cmd (d : Defects) (n : Nat) (cx : Ctx) (ts : List Nat) (w : World)
    (hu : cx.unlocked = false) (h : ∃ t ∈ ts, t ∈ cx.cycles) : ((engine d n).ifchangeCmd cx ts w).1 ≠ 0 := by
  cases n with
  | zero => simp [engine, EXIT_FAILURE]
  | succ n => exact ifchangeWith_cycle_nonzero (engine d n) d (n + 1) cx ts w hu h

/-- … and exactly 208 when the member is the first target. -/
theorem cycle_head_is_208 (E : Engine) (d : Defects) (fuel : Nat) (cx : Ctx) (t : Nat) (ts : List Nat) (w : World)
    (hu : cx.unlocked = false) (h : t ∈ cx.cycles) : (ifchangeWith E d fuel cx (t :: ts) w).1 = 208 :=
  ifchangeWith_cases (P := fun r => r.1 = 208) (fun _ _ _ _ => rfl) fun w' _ => by
    rw [runTargets_cons]; simp [hu, h]; rfl

/-- Step, script: `sh -e` — a script one of whose `redo-ifchange` commands fails (in every world) fails. -/
theorem failing_command_fails_script (E : Engine) (d : Defects) (cx : Ctx) (t : Nat) (sc : Script) (w : World)
    (c : List Nat) (hc : c ∈ sc.ifchange) (h : ∀ w', (E.ifchangeCmd (scriptCtx cx t) c w').1 ≠ 0) :
    (runScript E d cx t sc w).1 ≠ 0 := by
  rw [runScript_eq]
  split
  · simp
  · exact rsBody_nonzero E cx t sc _ (fun w1 _ => cmds_mem_nonzero E cx t _ c h sc.ifchange 0 w1 hc)

/-- Step, job: a target that is forced to run (missing; never built, or failed when last built) and whose
script starts with a failing `redo-ifchange` is a failed job: its result is never `.done 0` (it is the script's
failure recorded by `record_new_state`, or `EXIT_TARGET_FAILED` if it already failed in this run). -/
theorem failing_command_fails_job (E : Engine) (d : Defects) (cx : Ctx) (fuel t x : Nat) (w : World)
    (hF : Forced w t x) (hfuel : 0 < fuel)
    (hE : ∀ rest w', Desc w w' → (E.ifchangeCmd (scriptCtx cx t) (x :: rest) w').1 ≠ 0) :
    ∀ rv w1, buildJob E d cx fuel t w = (.done rv, w1) → rv ≠ 0 :=
  buildJob_forced E d cx fuel t x w hF hfuel hE

/-- Step, command: a failed job makes the enclosing command fail, whatever else it names. -/
theorem failing_job_fails_command (E : Engine) (d : Defects) (cx : Ctx) (fuel t : Nat) (ts seen : List Nat) (e : Bool)
    (w : World) (hs : t ∉ seen) (hj : ∀ rv w1, buildJob E d cx fuel t (addKnown w t) = (.done rv, w1) → rv ≠ 0) :
    (runTargets E d cx fuel (t :: ts) seen e w).1 ≠ 0 :=
  runTargets_head_nonzero E d cx fuel t ts seen e w hs hj

/-- **The chain theorem.**  `ch 0 → ch 1 → … → ch k → ch (k+1) = ch j`, `j ≤ k`: every element is forced to
run and its script starts by asking for the next; the last request returns into the chain.  Then a command
that starts with `ch 0` fails — for every length `k`, every entry point (every rotation of the loop is such a
chain, as is every path leading into one), every context that is not `redo-unlocked`'s, with and without
`--keep-going`, and *whatever the innermost engine level `base` answers* as soon as there is one engine
level per chain element: the failure is the cycle's, not the fuel's. -/
theorem cycle_of_any_length_fails (base : Engine) (d : Defects) (w0 : World) (ch : Nat → Nat) (k j : Nat)
    (hL : Lasso w0 ch k j) (n fuel : Nat) (cx : Ctx) (rest : List Nat) (w : World) (hn : k + 1 ≤ n) (hfuel : 0 < fuel)
    (hu : cx.unlocked = false) (hw : Desc w0 w) :
    (runTargets (engineFrom base d n) d cx fuel (ch 0 :: rest) [] false w).1 ≠ 0 :=
  lasso_runTargets base d w0 ch k j hL (k + 1) 0 (by omega) n fuel cx rest w hn hfuel hu (fun l _ h => by omega) hw

/-- … for the model's own commands. -/
theorem cycle_fails_redo_ifchange (d : Defects) (nf : Nat) (w : World) (ch : Nat → Nat) (k j : Nat) (hL : Lasso w ch k j)
    (hk : k ≤ 2 * nf + 3) (rest : List Nat) (kg : Bool) :
    (runCmd d nf (.ifchange (ch 0 :: rest) kg) w).1.status ≠ 0 := by
  have h := cycle_of_any_length_fails failBase d w ch k j hL (2 * nf + 4) (2 * nf + 4)
    { runid := w.runCounter + 1, keepGoing := kg } rest { w with runCounter := w.runCounter + 1 } (by omega) (by omega) rfl
    ⟨rfl, rfl, rfl, fun _ _ _ => ⟨rfl, rfl⟩⟩
  rw [← engine_eq_from] at h
  exact h

theorem cycle_fails_redo (d : Defects) (nf : Nat) (w : World) (ch : Nat → Nat) (k j : Nat) (hL : Lasso w ch k j)
    (hk : k ≤ 2 * nf + 3) (rest : List Nat) (kg : Bool) :
    (runCmd d nf (.redo (ch 0 :: rest) kg) w).1.status ≠ 0 := by
  have h := cycle_of_any_length_fails failBase d w ch k j hL (2 * nf + 4) (2 * nf + 4)
    { runid := w.runCounter + 1, keepGoing := kg, isRedo := true } rest { w with runCounter := w.runCounter + 1 }
    (by omega) (by omega) rfl ⟨rfl, rfl, rfl, fun _ _ _ => ⟨rfl, rfl⟩⟩
  rw [← engine_eq_from] at h
  exact h

/-! ## 4. Non-vacuity: concrete worlds -/

namespace Ex

/-- A fresh project with the 3-cycle `1 → 2 → 3 → 1`: `1.do = 4`, `2.do = 5`, `3.do = 6`. -/
def rules3 : Nat → List Nat := fun t => if t = 1 then [4] else if t = 2 then [5] else if t = 3 then [6] else []

def ops3 : List UserOp :=
  [ .setProg (srcContent 1) { ifchange := [[2]] }, .setProg (srcContent 2) { ifchange := [[3]] },
    .setProg (srcContent 3) { ifchange := [[1]] }, .write 4 1, .write 5 2, .write 6 3 ]

def w3 : World := ops3.foldl (fun w op => (applyOp {} 7 op w).2) (initWorld rules3)

/-- Entered at each of its three members (and with `redo`, and with `--keep-going`), the cycle gives a non-zero status… -/
example : (runCmd {} 7 (.ifchange [1] false) w3).1.status = 1 := by decide +kernel
example : (runCmd {} 7 (.ifchange [2] false) w3).1.status = 1 := by decide +kernel
example : (runCmd {} 7 (.ifchange [3] false) w3).1.status = 1 := by decide +kernel
example : (runCmd {} 7 (.redo [2] true) w3).1.status = 1 := by decide +kernel
example : (runCmd {} 7 (.ifchange [1, 2, 3] true) w3).1.status = 1 := by decide +kernel

/-- … each member ran exactly once, innermost last (the descent stopped where the loop closed)… -/
example : (runCmd {} 7 (.ifchange [1] false) w3).2.trace = [.ran 3, .ran 2, .ran 1] := by decide +kernel
example : (runCmd {} 7 (.ifchange [2] false) w3).2.trace = [.ran 1, .ran 3, .ran 2] := by decide +kernel
example : (runCmd {} 7 (.ifchange [3] false) w3).2.trace = [.ran 2, .ran 1, .ran 3] := by decide +kernel

/-- … the innermost, detecting command (the one `3.do` issues with `REDO_CYCLES = 3 2 1`) answers exactly 208,
and the commands above it answer 1 … -/
example : ((engine {} 3).ifchangeCmd { runid := 1, parent := some 3, cycles := [3, 2, 1] } [1] w3).1 = 208 := by
  decide +kernel
example : ((engine {} 9).ifchangeCmd { runid := 1, parent := some 2, cycles := [2, 1] } [3] w3).1 = 1 := by
  decide +kernel
example : ((engine {} 9).ifchangeCmd { runid := 1, parent := some 1, cycles := [1] } [2] w3).1 = 1 := by
  decide +kernel

/-- … all three are recorded as failed in this run. -/
example : ((runCmd {} 7 (.ifchange [1] false) w3).2.recs 1).failed = some 1 ∧
    ((runCmd {} 7 (.ifchange [1] false) w3).2.recs 2).failed = some 1 ∧
    ((runCmd {} 7 (.ifchange [1] false) w3).2.recs 3).failed = some 1 := by decide +kernel

def ch3 (a : Nat) : Nat → Nat := fun i => (a + i - 1) % 3 + 1

theorem forced12 : Forced w3 1 2 :=
  ⟨by decide, by decide +kernel, Or.inr (by decide +kernel), 4, { content := srcContent 1, ms := 1, rest := 0 },
    { ifchange := [[2]] }, [], [], by decide +kernel, by decide +kernel, by decide +kernel, (fun _ h => by cases h), rfl⟩

theorem forced23 : Forced w3 2 3 :=
  ⟨by decide, by decide +kernel, Or.inr (by decide +kernel), 5, { content := srcContent 2, ms := 2, rest := 0 },
    { ifchange := [[3]] }, [], [], by decide +kernel, by decide +kernel, by decide +kernel, (fun _ h => by cases h), rfl⟩

theorem forced31 : Forced w3 3 1 :=
  ⟨by decide, by decide +kernel, Or.inr (by decide +kernel), 6, { content := srcContent 3, ms := 3, rest := 0 },
    { ifchange := [[1]] }, [], [], by decide +kernel, by decide +kernel, by decide +kernel, (fun _ h => by cases h), rfl⟩

/-- The hypotheses of the chain theorem hold for the 3-cycle from every entry point `a ∈ {1, 2, 3}`. -/
theorem lasso3 (a : Nat) (ha : a = 1 ∨ a = 2 ∨ a = 3) : Lasso w3 (ch3 a) 2 0 := by
  refine ⟨?_, ?_, by decide⟩
  · intro i hi
    have hi' : i = 0 ∨ i = 1 ∨ i = 2 := by omega
    rcases ha with rfl | rfl | rfl <;> rcases hi' with rfl | rfl | rfl <;>
      first | exact forced12 | exact forced23 | exact forced31
  · rcases ha with rfl | rfl | rfl <;> rfl

example (a : Nat) (ha : a = 1 ∨ a = 2 ∨ a = 3) (kg : Bool) :
    (runCmd {} 7 (.ifchange (ch3 a 0 :: []) kg) w3).1.status ≠ 0 :=
  cycle_fails_redo_ifchange {} 7 w3 (ch3 a) 2 0 (lasso3 a ha) (by omega) [] kg

/-- The next run reports the cycle again (now every member is a target that failed when last built). -/
def w3' : World := (runCmd {} 7 (.ifchange [1] false) w3).2

theorem lasso3' : Lasso w3' (ch3 1) 2 0 := by
  refine ⟨?_, rfl, by decide⟩
  intro i hi
  have hi' : i = 0 ∨ i = 1 ∨ i = 2 := by omega
  rcases hi' with rfl | rfl | rfl
  · exact ⟨by decide, by decide +kernel, Or.inl (by decide +kernel), 4, { content := srcContent 1, ms := 1, rest := 0 },
      { ifchange := [[2]] }, [], [], by decide +kernel, by decide +kernel, by decide +kernel, (fun _ h => by cases h), rfl⟩
  · exact ⟨by decide, by decide +kernel, Or.inl (by decide +kernel), 5, { content := srcContent 2, ms := 2, rest := 0 },
      { ifchange := [[3]] }, [], [], by decide +kernel, by decide +kernel, by decide +kernel, (fun _ h => by cases h), rfl⟩
  · exact ⟨by decide, by decide +kernel, Or.inl (by decide +kernel), 6, { content := srcContent 3, ms := 3, rest := 0 },
      { ifchange := [[1]] }, [], [], by decide +kernel, by decide +kernel, by decide +kernel, (fun _ h => by cases h), rfl⟩

example : (runCmd {} 7 (.ifchange [1] true) w3').1.status ≠ 0 :=
  cycle_fails_redo_ifchange {} 7 w3' (ch3 1) 2 0 lasso3' (by omega) [] true
example : (runCmd {} 7 (.ifchange [1] false) w3').1.status = 1 ∧
    (runCmd {} 7 (.ifchange [1] false) w3').2.trace = [.ran 3, .ran 2, .ran 1, .ran 3, .ran 2, .ran 1] := by decide +kernel

/-- The bound `k + 1 ≤ n` of the chain theorem is sharp: over an innermost level that answers 0, two engine
levels let the 3-cycle "succeed", three do not. -/
def zeroBase : Engine := { ifchangeCmd := fun _ _ w => (0, w) }
example : (runTop (engineFrom zeroBase {} 2) {} 1 false false [1] w3).1.status = 0 := by decide +kernel
example : (runTop (engineFrom zeroBase {} 3) {} 1 false false [1] w3).1.status = 1 := by decide +kernel

/-! ### A long recorded chain, deep in a build -/

/-- Files 1…7, all built in run 1, with the recorded chain `7 → 1 → 2 → 3 → 4 → 5 → 6`; nothing changed. -/
def wc : World :=
  { fs := fun f => if 1 ≤ f ∧ f ≤ 7 then some { content := [f], ms := 1, rest := 0 } else none,
    recs := fun f => if 1 ≤ f ∧ f ≤ 7 then
        { row := f + 1, isGenerated := true, checked := some 1, changed := some 1, stamp := some (.st 1 0) }
      else if f = 0 then { row := 1 } else {},
    deps := [⟨7, 1, true, false⟩, ⟨1, 2, true, false⟩, ⟨2, 3, true, false⟩, ⟨3, 4, true, false⟩, ⟨4, 5, true, false⟩,
      ⟨5, 6, true, false⟩],
    runCounter := 2, clock := 1, nextRow := 9, progs := fun _ => none, rules := fun _ => [], trace := [] }

/-- A context six levels deep: `1 … 6` are being built. -/
def cxc : Ctx := { runid := 2, cycles := [1, 2, 3, 4, 5, 6] }

theorem wc_inv (nc : Bool) : WInv nc 8 wc :=
  ⟨by decide, (by unfold DepsBelow; decide), (fun _ _ h => by cases h), (fun _ _ h => by cases h),
    (fun _ f => by unfold wc; dsimp only; repeat' split
                   all_goals rfl)⟩

theorem cxc_ok : CtxOK 8 cxc := ⟨by decide, by decide, (fun h => by cases h)⟩

/-- Theorem 1 on it: the walk from 7 needs 7 units of fuel; 9 or 14 make no difference, and any base will do. -/
example : isDirty false 2 9 wc [] 7 2 [] none = isDirty false 2 (9 + 5) wc [] 7 2 [] none :=
  C12.isDirty_fuel_irrelevant false 2 8 9 5 wc [] 7 2 [] none (by decide) (by decide) (by decide) (by decide) (by decide)
example : (isDirty false 2 9 wc [] 7 2 [] none).1 = .clean := by decide +kernel
example : (isDirty false 2 6 wc [] 7 2 [] none).1 = .cyclic := by decide +kernel

/-- Theorems (A) and (B) on it (`N = 8`, six ancestors: (A) from index 6, (B) from index 14). -/
example (b1 b2 : Engine) : (engineFrom b1 {} 6).ifchangeCmd cxc [7] wc = (engineFrom b2 {} 6).ifchangeCmd cxc [7] wc :=
  engine_base_irrelevant b1 b2 {} 8 6 cxc [7] wc cxc_ok (by decide) (fun h => by cases h) (wc_inv false) (by decide)
example : (engine {} 14).ifchangeCmd cxc [7] wc = (engine {} (14 + 3)).ifchangeCmd cxc [7] wc :=
  engine_fuel_irrelevant {} 8 14 3 cxc [7] wc cxc_ok (by decide) (fun h => by cases h) (wc_inv false) (by decide)

/-- (A), (B), (B′) for the model's commands on it (`wc` has no checksums, so both invariants hold). -/
example (base : Engine) : runCmd {} 8 (.ifchange [7] false) wc =
    runTop (engineFrom base {} (2 * 8 + 4)) {} (2 * 8 + 4) false false [7] wc :=
  runCmd_ifchange_base_irrelevant base {} 8 8 [7] false wc (wc_inv false) (by decide) (by decide)
example : runCmd {} 11 (.ifchange [7] false) wc = runCmd {} 20 (.ifchange [7] false) wc :=
  runCmd_ifchange_fuel_irrelevant {} 8 11 20 [7] false wc (wc_inv false) (by decide) (by decide) (by decide)
example : runCmd {} 8 (.redo [7] true) wc = runCmd {} 20 (.redo [7] true) wc :=
  runCmd_redo_fuel_irrelevant_nostamp {} 8 8 20 [7] true wc (wc_inv true) (by decide) (by decide) (by decide)
example : (runCmd {} 8 (.ifchange [7] false) wc).1.status = 0 := by decide +kernel
example : runCmd {} 8 .ood wc = oodWith 9 8 wc :=
  ood_fuel_irrelevant {} 8 9 wc (by decide) (by decide)

/-- **Counterexample to the bound `2 * (N - |cycles|) + 2` for full fuel irrelevance** (the statement
`(engine d n).ifchangeCmd cx ts w = (engine d (n + k)).ifchangeCmd cx ts w` for `n ≥ 2 * (N - |cycles|) + 2`):
all ids are below `N = 8`, six ancestors, `n = 6`.  The nested command hands its index `6` to the dirtiness
check as fuel; the recorded chain from `7` has seven files, the check runs out at the last one and reports a
cyclic dependency that does not exist; one more level and the target is (correctly) clean.  The engine's own
innermost level is *not* involved (that is (A)); what is too small is the fuel of `isDirty` deep inside a
build.  `runCmd` hands `2 * nfiles + 4` to the top level and one less per level of nesting. -/
theorem suggested_bound_too_small :
    WInv true 8 wc ∧ CtxOK 8 cxc ∧ 2 * (8 - cxc.cycles.length) + 2 = 6 ∧
    ((engine {} 6).ifchangeCmd cxc [7] wc).1 = 208 ∧ ((engine {} (6 + 1)).ifchangeCmd cxc [7] wc).1 = 0 :=
  ⟨wc_inv true, cxc_ok, rfl, by decide +kernel, by decide +kernel⟩

end Ex

end C12
