import RedoModel.Lemmas.Cycles
/-!
# C12 (continued) — `REDO_CYCLES`: the set handed down is exactly the set of locks held by the ancestors
Property theorems only (one-line applications of `RedoModel/Lemmas/Cycles*.lean`).  Model: `RedoModel/Cycles.lean`.

The variable is a `:`-separated list read into a hash set and written back in the set's iteration order.  That
order is a parameter `ord`; all that is assumed of it is `Rearranges ord` (the output is a permutation of the
input).  Lock ids are decimal numbers (`IsFid`), in particular colon-free — the only thing the theorems need.
-/
namespace C12
open RedoModel.Cycles

/-- Joining a non-empty list of colon-free items and splitting again gives the list back. -/
theorem split_join (l : List (List Char)) (hne : l ≠ []) (hcf : ∀ x ∈ l, ':' ∉ x) :
    splitColon (joinColon l) = l :=
  RedoModel.Cycles.split_join l hne hcf

/-- Splitting always gives at least one item, and no item contains a colon. -/
theorem split_items_colon_free (s : List Char) : splitColon s ≠ [] ∧ ∀ x ∈ splitColon s, ':' ∉ x :=
  ⟨RedoModel.Cycles.split_ne_nil s, RedoModel.Cycles.split_colon_free s⟩

/-- Splitting any string and joining again gives the string back. -/
theorem join_split (s : List Char) : joinColon (splitColon s) = s :=
  RedoModel.Cycles.join_split s

/-- Why `split_join` needs `l ≠ []`: no string splits into zero items. -/
theorem split_join_nil_false : splitColon (joinColon []) ≠ [] := by decide

/-- After `add`, the set read back is the old set plus the new lock — nothing lost, nothing else gained —
whatever the write-back order, and whatever the inherited variable was (unset, empty, repeated/empty items). -/
theorem add_exact (ord : List (List Char) → List (List Char)) (hord : Rearranges ord) (v : Option (List Char))
    (fid : List Char) (hfid : ':' ∉ fid) (x : List Char) :
    x ∈ items (add ord v fid) ↔ (x ∈ items v ∨ x = fid) :=
  RedoModel.Cycles.add_exact ord hord v fid hfid x

/-- A lock that was added is refused afterwards. -/
theorem check_after_add (ord : List (List Char) → List (List Char)) (hord : Rearranges ord)
    (v : Option (List Char)) (fid : List Char) (hfid : ':' ∉ fid) : check (add ord v fid) fid = true :=
  RedoModel.Cycles.check_after_add ord hord v fid hfid

/-- `check` refuses exactly the items of the variable. -/
theorem check_iff (v : Option (List Char)) (fid : List Char) : check v fid = true ↔ fid ∈ items v :=
  RedoModel.Cycles.check_iff v fid

/-- A lock refused before an `add` is still refused after it. -/
theorem add_monotone (ord : List (List Char) → List (List Char)) (hord : Rearranges ord)
    (v : Option (List Char)) (fid : List Char) (hfid : ':' ∉ fid) (x : List Char)
    (h : check v x = true) : check (add ord v fid) x = true :=
  RedoModel.Cycles.add_monotone ord hord v fid hfid x h

/-- Adding a lock that is already in the set leaves the variable as it is (for any `ord` at all). -/
theorem add_idempotent (ord : List (List Char) → List (List Char)) (v : Option (List Char)) (fid : List Char)
    (h : check v fid = true) : add ord v fid = v :=
  RedoModel.Cycles.add_idempotent ord v fid h

/-- After the ancestors `fs` have each added their lock, a lock is refused exactly when it was in the variable
the outermost one inherited or one of the ancestors holds it. -/
theorem ancestor_set (ord : List (List Char) → List (List Char)) (hord : Rearranges ord)
    (v : Option (List Char)) (fs : List (List Char)) (hfs : ∀ f ∈ fs, ':' ∉ f) (x : List Char) :
    check (addAll ord v fs) x = true ↔ (x ∈ items v ∨ x ∈ fs) :=
  RedoModel.Cycles.ancestor_set ord hord v fs hfs x

/-- Starting from an unset variable: a lock is refused exactly when an ancestor holds it. -/
theorem ancestor_set_unset (ord : List (List Char) → List (List Char)) (hord : Rearranges ord)
    (fs : List (List Char)) (hfs : ∀ f ∈ fs, ':' ∉ f) (x : List Char) :
    check (addAll ord none fs) x = true ↔ x ∈ fs :=
  RedoModel.Cycles.ancestor_set_unset ord hord fs hfs x

/-- A decimal lock id contains no colon. -/
theorem fid_colon_free (f : List Char) (h : IsFid f) : ':' ∉ f :=
  RedoModel.Cycles.fid_colon_free f h

/-- The same for decimal lock ids, as the code writes them. -/
theorem ancestor_set_fids (ord : List (List Char) → List (List Char)) (hord : Rearranges ord)
    (fs : List (List Char)) (hfs : ∀ f ∈ fs, IsFid f) (x : List Char) :
    check (addAll ord none fs) x = true ↔ x ∈ fs :=
  RedoModel.Cycles.ancestor_set_unset ord hord fs (fun f hf => RedoModel.Cycles.fid_colon_free f (hfs f hf)) x

/-- Reversing is a rearrangement that is not the identity; "1", "10", "100" are lock ids. -/
theorem hypotheses_satisfiable :
    Rearranges List.reverse ∧ IsFid Ex.one ∧ IsFid Ex.ten ∧ IsFid Ex.hundred ∧ [Ex.ten, Ex.hundred].reverse ≠ [Ex.ten, Ex.hundred] :=
  ⟨rearranges_reverse, Ex.one_fid, Ex.ten_fid, Ex.hundred_fid, Ex.reverse_not_id⟩

/-- Ancestors hold 10 and 100, write-back order reversed (the variable reads `100:10`): 1 is not refused
although it is a prefix of both; 10 and 100 are; holding 100 alone does not refuse 10; holding 1 alone refuses
neither 10 nor 100. -/
theorem prefix_distinguished :
    check (addAll List.reverse none [Ex.ten, Ex.hundred]) Ex.one = false ∧
    check (addAll List.reverse none [Ex.ten, Ex.hundred]) Ex.ten = true ∧
    check (addAll List.reverse none [Ex.ten, Ex.hundred]) Ex.hundred = true ∧
    check (addAll List.reverse none [Ex.hundred]) Ex.ten = false ∧
    check (addAll List.reverse none [Ex.one]) Ex.ten = false ∧
    check (addAll List.reverse none [Ex.one]) Ex.hundred = false :=
  Ex.prefix_distinguished

/-- An id containing a colon would not be found again after being added: `':' ∉ fid` cannot be dropped. -/
theorem colon_needed : check (add id none [':']) [':'] = false ∧ items (add id none [':']) = [[], []] :=
  Ex.colon_needed

/-- An order that loses an item loses an ancestor's lock: `Rearranges ord` cannot be dropped. -/
theorem rearranges_needed : check (add (fun l => l.drop 1) (some Ex.ten) Ex.hundred) Ex.ten = false :=
  Ex.rearranges_needed

/-- Corners: an unset variable has no items; an empty one has one item, the empty string (refusing only the
empty id, which is no lock id); repeated and empty items are written back once each. -/
theorem corners :
    items none = [] ∧ items (some []) = [[]] ∧ check (some []) [] = true ∧ check none [] = false ∧
    items (some "1:1:".toList) = [Ex.one, Ex.one, []] ∧
    add List.reverse (some "1:1:".toList) Ex.one = some "1:1:".toList ∧
    add List.reverse (some "1:1:".toList) Ex.ten = some "10::1".toList ∧
    add List.reverse (some []) Ex.ten = some "10:".toList ∧
    add List.reverse none Ex.ten = some "10".toList :=
  Ex.corners

end C12
