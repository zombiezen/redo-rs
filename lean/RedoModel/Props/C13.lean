import RedoModel.DoFiles
import RedoModel.Props.C13b
import RedoModel.Props.C13c
import RedoModel.Lemmas.Paths
/-!
# C13 — .do rule selection order and script arguments
Property theorems only.  Model: `RedoModel/DoFiles.lean`.  `C13b.lean`: order of the candidate list, duplicates,
arguments, choice; `C13c.lean`: the command line a script is started with.
-/
namespace C13
open RedoModel.Paths RedoModel.DoFiles

/-- The first candidate is `<dir>/<name>.do` with `$1 = $2 = name`. -/
theorem first_specific (dirs : List (List Char)) (f : List Char) :
    (candidates dirs f).head? =
      some { doDir := render true dirs, doFile := f ++ ".do".toList, baseDir := [], baseName := f, ext := [] } := rfl

/-- `$1 = $2 ++ ext` for every candidate (by construction of the arguments). -/
theorem arg1_eq_arg2_ext (c : Cand) : arg1 c = arg2 c ++ c.ext := rfl

/-- `redo-whichdo` lists exactly the candidates considered: a prefix of the candidate list,
none of whose members but the last exists; it reports success iff the last one exists;
and the script `find_do_file` chooses is the last one listed. -/
theorem whichdo_spec (exist : List Char → Bool) (cs : List Cand) :
    let r := whichdo exist cs
    let fd := findDoFile exist cs
    r.1 = (fd.2 ++ fd.1.toList).map doPath ∧
    (fd.2 ++ fd.1.toList) <+: cs ∧
    (∀ c ∈ fd.2, exist (doPath c) = false) ∧
    (r.2 = true ↔ ∃ c, fd.1 = some c ∧ exist (doPath c) = true) ∧
    (fd.1 = none → fd.2 = cs) := by
  induction cs with
  | nil => simp [whichdo, findDoFile]
  | cons c cs ih =>
    simp only [whichdo, findDoFile]
    by_cases h : exist (doPath c) = true
    · simp [h]
    · simp only [h, if_false, Bool.false_eq_true]
      obtain ⟨h1, h2, h3, h4, h5⟩ := ih
      refine ⟨by simp [h1], ?_, ?_, h4, ?_⟩
      · simpa using h2
      · intro x hx
        rcases List.mem_cons.1 hx with e | e
        · subst e; simpa using h
        · exact h3 x e
      · intro hn; simp [h5 hn]

/-- Candidates for every (ancestor directory, dot-suffix) pair are present: completeness. -/
theorem complete (dirs : List (List Char)) (f : List Char) (k : Nat) (hk : k ≤ dirs.length)
    (b e : List Char) (hcut : (b, e) ∈ dotCuts f) :
    ∃ c ∈ candidates dirs f, c.doDir = render true (dirs.take k) ∧
      c.doFile = "default".toList ++ e ++ ".do".toList ∧ c.ext = e ∧
      c.baseName = pushPath (joinSlash (dirs.drop k)) b :=
  ⟨mkCand dirs k b e, mem_candidates.2 (.inr ⟨k, hk, b, e, List.mem_append_left _ hcut, rfl⟩), rfl, rfl, rfl, rfl⟩

/-- … and `default.do` in every ancestor directory. -/
theorem complete_default (dirs : List (List Char)) (f : List Char) (k : Nat) (hk : k ≤ dirs.length) :
    ∃ c ∈ candidates dirs f, c.doDir = render true (dirs.take k) ∧
      c.doFile = "default.do".toList ∧ c.ext = [] ∧ arg1 c = pushPath (joinSlash (dirs.drop k)) f := by
  refine ⟨mkCand dirs k f [], mem_candidates.2 (.inr ⟨k, hk, f, [], ?_, rfl⟩), rfl, ?_, rfl, List.append_nil _⟩
  · exact List.mem_append_right _ (List.mem_singleton.2 rfl)
  · -- a literal is `String.ofList` of its characters (rewriting spares the kernel the UTF-8 decoding); the two
    -- spellings of `default.do` then agree by `rfl`
    rw [mkCand]
    repeat rw [String.toList_ofList]
    rfl

/-- Non-vacuity: the documented example `foo.gen.c`. -/
example : (defaultDoFiles "foo.gen.c".toList).map (fun x => String.ofList x.1) =
    ["default.gen.c.do", "default.c.do", "default.do"] := by
  rw [String.toList_ofList]
  decide +kernel

end C13
