import RedoModel.Lemmas.DoFilesOrder
/-!
# C13 (continued) — order of the candidate list, no duplicates, arguments, choice
Model: `RedoModel/DoFiles.lean`; supporting lemmas: `RedoModel/Lemmas/DoFilesOrder.lean`.

Throughout, `dirs` are the directory components of the (cleaned, absolute) target and `f` its file name.
`GoodComp c` = non-empty, no `/` (what `comps` produces); `NormComp c` = `GoodComp c`, `c ≠ "."`, `c ≠ ".."`
(what `cleanComps true` leaves).

Findings:
* for `f = "default"` the candidate list contains the *same* candidate twice (the specific script
  `default.do` is also the default rule of the target's directory), so no key computed from the fields
  can be strictly increasing: `order` is therefore stated up to identical repeats, `order_partial` is the
  strict version for `f ≠ "default"`, and `order_defaults` says the default rules alone are always strictly sorted;
* for `f = "default"` or `f = "default.<…>"` two candidates share a script path (`nodup_iff`);
  for `default.<ext>` they even differ in `$2` (`default.x` vs `default`).  The earlier (specific) one wins:
  `earlier_wins`, `later_dups_irrelevant`.
-/
namespace C13
open RedoModel.Paths RedoModel.DoFiles

/-- **Order.**  With the key `prio` (levels above the target's directory; then specific script first,
longer extension first, `default.do` last — see `RedoModel.DoFiles.prio`), the candidate list is sorted
strictly increasingly for the lexicographic order `PLt`, except that an identical candidate may repeat
(this happens exactly for `f = "default"`, whose specific script *is* `default.do`). -/
theorem order (dirs : List (List Char)) (f : List Char) (hd : ∀ c ∈ dirs, GoodComp c) :
    (candidates dirs f).Pairwise (fun a b => PLt (prio dirs f a) (prio dirs f b) ∨ a = b) := by
  by_cases hf : f = "default".toList
  · rw [candidates_eq, List.pairwise_cons]
    refine ⟨?_, (RedoModel.DoFiles.order_defaults dirs f hd).imp (fun h => .inl h)⟩
    intro c hc
    obtain ⟨k, hk', b, e, hp, rfl⟩ := mem_defaults.1 hc
    have hbe : b = f ∧ e = [] := by
      subst hf
      have hcd : cuts' "default".toList = [("default".toList, [])] := by rw [default_chars]; decide
      rw [hcd] at hp
      simpa using hp
    obtain ⟨rfl, rfl⟩ := hbe
    by_cases hkn : k = dirs.length
    · right
      subst hkn
      rw [specCand_eq]
      subst hf
      rfl
    · left
      rw [prio_spec _ _ hd, prio_mk _ _ _ _ _ hd hk']
      left
      show 0 < dirs.length - k
      omega
  · exact (order_strict dirs f hd hf).imp (fun h => .inl h)

/-- Strict version; the added hypothesis `f ≠ "default"` is necessary (see the counterexample below). -/
theorem order_partial (dirs : List (List Char)) (f : List Char) (hd : ∀ c ∈ dirs, GoodComp c)
    (hf : f ≠ "default".toList) :
    (candidates dirs f).Pairwise (fun a b => PLt (prio dirs f a) (prio dirs f b)) :=
  order_strict dirs f hd hf

/-- The default rules (everything after the specific script) are strictly sorted for every `f`. -/
theorem order_defaults (dirs : List (List Char)) (f : List Char) (hd : ∀ c ∈ dirs, GoodComp c) :
    (candidates dirs f).tail.Pairwise (fun a b => PLt (prio dirs f a) (prio dirs f b)) := by
  rw [candidates_eq]; exact RedoModel.DoFiles.order_defaults dirs f hd

/-- Counterexample to strictness: for `f = "default"` the list has two identical entries. -/
example : candidates [] "default".toList =
    [specCand [] "default".toList, specCand [] "default".toList] := by
  -- a literal is `String.ofList` of its characters: rewriting spares the kernel the UTF-8 decoding
  repeat rw [String.toList_ofList]
  decide +kernel

/-- Non-vacuity: `/a/b/x.tar.gz`. -/
example : (candidates exDirs exF).Pairwise (fun a b => PLt (prio exDirs exF a) (prio exDirs exF b)) :=
  order_partial exDirs exF exDirs_good (by
    unfold exF
    repeat rw [String.toList_ofList]
    decide +kernel)

/-- The candidate list and the keys of `/a/b/x.tar.gz`, evaluated. -/
example : (candidates exDirs exF).map
      (fun c => (String.ofList (doPath c), String.ofList (arg1 c), String.ofList (arg2 c), prio exDirs exF c)) =
    [("/a/b/x.tar.gz.do",       "x.tar.gz",     "x.tar.gz",     (0, 0)),
     ("/a/b/default.tar.gz.do", "x.tar.gz",     "x",            (0, 2)),
     ("/a/b/default.gz.do",     "x.tar.gz",     "x.tar",        (0, 6)),
     ("/a/b/default.do",        "x.tar.gz",     "x.tar.gz",     (0, 9)),
     ("/a/default.tar.gz.do",   "b/x.tar.gz",   "b/x",          (1, 2)),
     ("/a/default.gz.do",       "b/x.tar.gz",   "b/x.tar",      (1, 6)),
     ("/a/default.do",          "b/x.tar.gz",   "b/x.tar.gz",   (1, 9)),
     ("/default.tar.gz.do",     "a/b/x.tar.gz", "a/b/x",        (2, 2)),
     ("/default.gz.do",         "a/b/x.tar.gz", "a/b/x.tar",    (2, 6)),
     ("/default.do",            "a/b/x.tar.gz", "a/b/x.tar.gz", (2, 9))] := by
  unfold exDirs exF
  repeat rw [String.toList_ofList]
  decide +kernel

/-- **No duplicates**, exactly when the name is not `default` / `default.<…>`. -/
theorem nodup_iff (dirs : List (List Char)) (f : List Char) (hd : ∀ c ∈ dirs, GoodComp c)
    (hf : GoodComp f) : ((candidates dirs f).map doPath).Nodup ↔ ¬ DefaultLike f :=
  RedoModel.DoFiles.nodup_iff dirs f hd hf

/-- No script is considered twice — under the (necessary, by `nodup_iff`) hypothesis that `f` is neither
`default` nor starts with `default.`. -/
theorem nodup_partial (dirs : List (List Char)) (f : List Char) (hd : ∀ c ∈ dirs, GoodComp c)
    (hf : GoodComp f) (hnd : ¬ DefaultLike f) : ((candidates dirs f).map doPath).Nodup :=
  nodup_of_not_defaultLike dirs f hd hf hnd

/-- Counterexample: `/a/default.x` — `/a/default.x.do` is listed as the specific script (`$2 = default.x`)
and again as the default rule for `.x` (`$2 = default`). -/
example : ((candidates ["a".toList] "default.x".toList).map
      (fun c => (String.ofList (doPath c), String.ofList (arg2 c)))).take 2 =
    [("/a/default.x.do", "default.x"), ("/a/default.x.do", "default")] := by
  repeat rw [String.toList_ofList]
  decide +kernel

example : ¬ ((candidates ["a".toList] "default.x".toList).map doPath).Nodup := by
  repeat rw [String.toList_ofList]
  decide +kernel

example : ((candidates exDirs exF).map doPath).Nodup :=
  nodup_partial exDirs exF exDirs_good exF_norm.1 (by
    unfold exF
    repeat rw [String.toList_ofList]
    decide +kernel)

/-- The choice is deterministic all the same: the chosen candidate sits at the first position whose
script exists, and no earlier candidate has the same script path: among candidates sharing a path only the earliest can
win. -/
theorem earlier_wins (exist : List Char → Bool) (cs : List Cand) (c : Cand) (pre : List Cand)
    (h : findDoFile exist cs = (some c, pre)) :
    ∃ rest, cs = pre ++ c :: rest ∧ exist (doPath c) = true ∧
      ∀ a ∈ pre, exist (doPath a) = false ∧ doPath a ≠ doPath c := by
  rw [findDoFile_eq] at h
  obtain ⟨hf, rfl⟩ := Prod.mk.inj h
  obtain ⟨hc, as, bs, rfl, has⟩ := List.find?_eq_some_iff_append.1 hf
  have has' : ∀ a ∈ as, exist (doPath a) = false := fun a ha => by simpa using has a ha
  rw [List.takeWhile_append_of_pos (fun a ha => by simp [has' a ha]), List.takeWhile_cons_of_neg (by simp [hc]),
    List.append_nil]
  exact ⟨bs, rfl, hc, fun a ha => ⟨has' a ha, fun e => by simpa [e, hc] using has' a ha⟩⟩

/-- Removing the later candidates that share the script path of an earlier one does not change the choice. -/
theorem later_dups_irrelevant (exist : List Char → Bool) (l1 l2 : List Cand) (a : Cand) :
    (findDoFile exist (l1 ++ a :: l2)).1 =
      (findDoFile exist (l1 ++ a :: l2.filter (fun b => doPath b != doPath a))).1 :=
  RedoModel.DoFiles.later_dups_irrelevant exist l1 l2 a

/-- With only `/a/default.x.do` present, `/a/default.x` is built by it as the *specific* script. -/
example : (findDoFile (fun p => p == "/a/default.x.do".toList)
      (candidates ["a".toList] "default.x".toList)).1 = some (specCand ["a".toList] "default.x".toList) := by
  repeat rw [String.toList_ofList]
  decide +kernel

/-- **Arguments.**  `$1` read in the script's directory is the target; the script's directory is the target's
directory or an ancestor; `$3` is the target path with `.redo.tmp` appended. -/
theorem args_rejoin (dirs : List (List Char)) (f : List Char) (hd : ∀ c ∈ dirs, NormComp c)
    (hf : NormComp f) (c : Cand) (hc : c ∈ candidates dirs f) :
    normpath (pushPath c.doDir (arg1 c)) = render true (dirs ++ [f]) ∧
    (∃ k, k ≤ dirs.length ∧ c.doDir = render true (dirs.take k)) ∧
    normpath (tmpName c) = render true (dirs ++ [f ++ ".redo.tmp".toList]) :=
  RedoModel.DoFiles.args_rejoin dirs f hd hf hc

example : ∀ c ∈ candidates exDirs exF,
    normpath (pushPath c.doDir (arg1 c)) = "/a/b/x.tar.gz".toList ∧
    normpath (tmpName c) = "/a/b/x.tar.gz.redo.tmp".toList :=
  fun c hc => ⟨(args_rejoin exDirs exF exDirs_norm exF_norm c hc).1, (args_rejoin exDirs exF exDirs_norm exF_norm c hc).2.2⟩

/-- `f ≠ ".."` is needed for the first part (`possibleDoFiles` never produces such an `f`). -/
example : normpath (pushPath (specCand ["a".toList] dotdot).doDir (arg1 (specCand ["a".toList] dotdot))) ≠
    render true (["a".toList] ++ [dotdot]) := by
  repeat rw [String.toList_ofList]
  decide +kernel

/-- **Shape.**  Every candidate is the specific one or a default rule `default<ext>.do`, and in all cases
the file name is `b ++ ext` with `$2 = baseDir/b` and `ext` empty or starting with a dot. -/
theorem exhaustive_shape (dirs : List (List Char)) (f : List Char) (c : Cand) (hc : c ∈ candidates dirs f) :
    (c = specCand dirs f ∨ c.doFile = "default".toList ++ c.ext ++ ".do".toList) ∧
    ∃ b, f = b ++ c.ext ∧ c.baseName = pushPath c.baseDir b ∧ (c.ext = [] ∨ c.ext.head? = some '.') := by
  rw [mem_candidates] at hc
  rcases hc with rfl | ⟨k, hk, b, e, hp, rfl⟩
  · exact ⟨.inl rfl, f, by simp [specCand], by simp [specCand, pushPath_nil], .inl rfl⟩
  · have := mem_cuts' hp
    exact ⟨.inr rfl, b, this.1, rfl, this.2⟩

example : (mkCand exDirs 1 "x.tar".toList ".gz".toList) ∈ candidates exDirs exF := by
  unfold exDirs exF
  repeat rw [String.toList_ofList]
  decide +kernel

/-- **Choice.**  `find_do_file` returns the first candidate whose script exists and records exactly the
candidates before it. -/
theorem choice_is_first_existing (exist : List Char → Bool) (cs : List Cand) :
    (findDoFile exist cs).1 = cs.find? (fun c => exist (doPath c)) ∧
    (findDoFile exist cs).2 = cs.takeWhile (fun c => !exist (doPath c)) := by
  rw [findDoFile_eq]; exact ⟨rfl, rfl⟩

example : (findDoFile (fun p => p == "/a/default.gz.do".toList || p == "/default.do".toList)
      (candidates exDirs exF)).1 = some (mkCand exDirs 1 "x.tar".toList ".gz".toList) := by
  unfold exDirs exF
  repeat rw [String.toList_ofList]
  decide +kernel

/-- The hypotheses used above (`NormComp` for every directory component and for the file name) hold for
every list `possibleDoFiles` produces from an arbitrary path. -/
theorem hyps_realised (p : List Char) (cs : List Cand) (h : possibleDoFiles p = some cs) :
    ∃ dirs f, cs = candidates dirs f ∧ (∀ c ∈ dirs, NormComp c) ∧ NormComp f ∧
      cleanComps true (comps p) = dirs ++ [f] := by
  unfold possibleDoFiles at h
  split at h
  · cases h
  · rename_i f revDirs heq
    simp only [Option.some.injEq] at h
    have hcl : cleanComps true (comps p) = revDirs.reverse ++ [f] := by
      have := congrArg List.reverse heq
      simpa using this
    have hall : ∀ c ∈ cleanComps true (comps p), NormComp c :=
      fun c hc => ⟨cleanComps_good (comps_good p) c hc, cleanComps_true_plain _ c hc⟩
    rw [hcl] at hall
    exact ⟨revDirs.reverse, f, h.symm, fun c hc => hall c (by simp [hc]), hall f (by simp), hcl⟩

example : possibleDoFiles "/a/./c/../b//x.tar.gz".toList = some (candidates exDirs exF) := by
  unfold exDirs exF
  repeat rw [String.toList_ofList]
  decide +kernel

#print axioms order
#print axioms order_partial
#print axioms order_defaults
#print axioms nodup_iff
#print axioms nodup_partial
#print axioms earlier_wins
#print axioms later_dups_irrelevant
#print axioms args_rejoin
#print axioms exhaustive_shape
#print axioms choice_is_first_existing
#print axioms hyps_realised

end C13
