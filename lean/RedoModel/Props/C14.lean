import RedoModel.Lemmas.Deps
import RedoModel.Props.C14b
/-!
# C14 — redo-ifcreate and redo-always dependencies
Model: `RedoModel/Deps.lean`.
-/
namespace C14
open RedoModel.Deps

/-- Declaring `redo-ifcreate F` for an existing `F` is an error: the script fails (status 1)
and no dependency is recorded by that command. -/
theorem ifcreate_existing_is_error (E : Engine) (d : Defects) (cx : Ctx) (t : Nat) (sc : Script) (w : World)
    (f : Nat) (hf : f ∈ sc.ifcreate) (hex : existsF w f = true) (hna : sc.always = false) :
    runScript E d cx t sc w = (1, none, w) := by
  have : sc.ifcreate.any (fun f => existsF w f) = true := List.any_eq_true.2 ⟨f, hf, hex⟩
  simp [runScript, hna, this]

/-- A `c` dependency (declared by `redo-ifcreate`, or a higher-priority .do candidate that was
absent) fires exactly when the path exists: not before. -/
theorem created_dep_fires_iff (chk : World → List Nat → Nat → Rec → DR × World × List Nat) (hc : Bool) (f : Nat)
    (d : Dep) (snap : Rec) (ds : List (Dep × Rec)) (w : World) (cache must : List Nat) (hm : d.modeM = false) :
    (existsF w d.source = true →
      (goDeps chk hc f ((d, snap) :: ds) w cache must).1 = some (if hc then .need [f] else .dirty)) ∧
    (existsF w d.source = false →
      goDeps chk hc f ((d, snap) :: ds) w cache must = goDeps chk hc f ds w cache must) := by
  constructor <;> intro h <;> simp [goDeps, hm, h]

/-- The `//ALWAYS` pseudo file is dirty for every dependent whose own mark is older than the
current run: a target that declared `redo-always` is rebuilt by every run that needs it. -/
theorem always_is_newer (ood : Bool) (R n : Nat) (w : World) (c : List Nat) (mx : Nat) (seen : List Nat)
    (hs : alwaysId ∉ seen) (hf : (w.recs alwaysId).failed = none) (hmx : mx < R) :
    isDirty ood R (n + 1) w c alwaysId mx seen none = (.dirty, w, c) :=
  -- the snapshot of `//ALWAYS` reads as changed in run `R`
  have ⟨ch, h, hle⟩ := getRec_always_changed w R
  isDirty_record_dirty ood R n w c alwaysId mx seen none hs (.inr (.inr ⟨ch, h, Nat.lt_of_lt_of_le hmx hle⟩))

/-- … but within the run in which it was rebuilt, the always-target is not rebuilt again for
further dependents: once its record is marked changed/checked in this run the verdict is
memoised (see `C02.memoised_clean`); stated here for the pseudo file itself: for a dependent
built in this run (mark = R) `//ALWAYS` is not newer. -/
theorem always_not_newer_within_run (R n : Nat) (w : World) (c : List Nat) (seen : List Nat)
    (hs : alwaysId ∉ seen) (hf : (w.recs alwaysId).failed = none)
    (hch : ∀ c0, (w.recs alwaysId).changed = some c0 → c0 ≤ R)
    (hst : (w.recs alwaysId).stamp = some .missing) (hfs : w.fs alwaysId = none)
    (hng : (w.recs alwaysId).isGenerated = false) (hck : isCheckedR (w.recs alwaysId) R = false) :
    (isDirty false R (n + 1) w c alwaysId R seen none).1 = .clean := by
  have h1 : (getRec w R alwaysId).failed = none := by simp [getRec, hf]
  have h2 : (getRec w R alwaysId).changed = some R := by
    unfold getRec
    simp only [if_true]
    cases h : (w.recs alwaysId).changed with
    | none => rfl
    | some c0 => have := hch c0 h; simp; omega
  have h3 : (getRec w R alwaysId).stamp = some .missing := by simp [getRec, hst]
  have h4 : isCheckedR (getRec w R alwaysId) R = false := by simpa [getRec, isCheckedR] using hck
  have h5 : (getRec w R alwaysId).isGenerated = false := by simp [getRec, hng]
  -- `//ALWAYS` is not redo's: it has no rows
  have hd : depsWithRecs w R (getRec w R alwaysId) alwaysId = [] := by simp [depsWithRecs, depsOf, h5]
  rw [isDirty_current (r := getRec w R alwaysId) (pre := none) rfl hs h1 h2 (Nat.le_refl R) h4
    (by rw [h3]; simp [readStamp, hfs]), hd, goDeps]
  rfl

end C14
