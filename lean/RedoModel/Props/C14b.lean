import RedoModel.Lemmas.DepsRows
import RedoModel.Lemmas.DepsOwned
import RedoModel.Lemmas.DepsEval
/-!
# C14 at the level of whole top-level commands

"A target that declared `redo-ifcreate F` is rebuilt by the next redo-ifchange after F comes into existence and
not before; a target that declared `redo-always` is rebuilt by every top-level run that needs it, exactly once
per run however many dependents request it."

The property theorems; what they rest on is in `RedoModel/Lemmas/DepsTrace.lean`,
`DepsIfcreate.lean`, `DepsRows.lean`.  Vocabulary (all in `RedoModel.Deps`):

* `Current w t` — the record of `t` says "built successfully in an earlier run, file as recorded":
  generated, not overridden, not failed, `changed = some ch` with `ch ≤ w.runCounter`, `checked` none or
  `≤ w.runCounter`, recorded stamp = `readStamp w t`.
* `RanIn t w w'` — `w'.trace = pre ++ w.trace` with `.ran t ∈ pre`: the script of `t` was executed between `w`
  and `w'` (stronger than `.ran t ∈ w'.trace`, which an earlier build already makes true).
* `QuietDep w t d0` — the row `d0` of `t` gives no reason to rebuild: a `c` row whose source does not exist; an
  `m` row on a plain source (not `//ALWAYS`, record not generated, not failed, changed no later than
  `mark (w.recs t) = max changed checked`, stamp current).
* `QuietExt w w'` — same files, rows, clock, programs, rules; the new part of the trace has no `.ran`.
* `AlwaysFresh w R` — the `//ALWAYS` record as `redo-always` leaves it in run `R`.

All defect switches are arbitrary in every theorem.
-/
namespace C14
open RedoModel.Deps RedoModel.Generated

/-- **ifcreate fires.**  `t` has a current record, a `c` row (declared by `redo-ifcreate`, or an absent
higher-priority .do candidate) whose source now exists, and still some existing .do candidate.  Then the
top-level `redo-ifchange t` executes `t`'s script — or exits with the cyclic-dependency status (208) because a
row that SQLite yields before the `c` row runs into a dependency cycle.  It never answers "up to date", and
never takes the out-of-band (`redo-unlocked`) path: the `c` row turns any pending `need` into `dirty`. -/
theorem ifcreate_fires (d : Defects) (n : Nat) (kg : Bool) (w : World) (t : Nat) (ht : t ≠ alwaysId)
    (hcur : Current w t) (d0 : Dep) (hd : d0 ∈ w.deps) (hdt : d0.target = t) (hm : d0.modeM = false)
    (hF : existsF w d0.source = true) (hdo : ∃ c ∈ w.rules t, existsF w c = true) :
    (runCmd d n (.ifchange [t] kg) w).1.status = EXIT_CYCLIC_DEPENDENCY ∨
    RanIn t w (runCmd d n (.ifchange [t] kg) w).2 :=
  runCmd_fires d n kg w t ht hcur d0 hd hdt (Or.inl ⟨hm, hF⟩) hdo

/-- Exit status 0 implies the script of `t` was executed by this command. -/
theorem ifcreate_fires_of_success (d : Defects) (n : Nat) (kg : Bool) (w : World) (t : Nat) (ht : t ≠ alwaysId)
    (hcur : Current w t) (d0 : Dep) (hd : d0 ∈ w.deps) (hdt : d0.target = t) (hm : d0.modeM = false)
    (hF : existsF w d0.source = true) (hdo : ∃ c ∈ w.rules t, existsF w c = true)
    (h0 : (runCmd d n (.ifchange [t] kg) w).1.status = 0) :
    RanIn t w (runCmd d n (.ifchange [t] kg) w).2 :=
  (ifcreate_fires d n kg w t ht hcur d0 hd hdt hm hF hdo).resolve_left fun h => by rw [h] at h0; cases h0

/-- **… and not before.**  Current record, every `c` row's source still absent, every `m` row on an unchanged
plain source: the top-level `redo-ifchange t` exits 0, executes no script, and changes no file (nor any
dependency row). -/
theorem ifcreate_not_before (d : Defects) (n : Nat) (kg : Bool) (w : World) (t : Nat) (ht : t ≠ alwaysId)
    (hcur : Current w t) (hq : ∀ d0 ∈ w.deps, d0.target = t → QuietDep w t d0) :
    (runCmd d n (.ifchange [t] kg) w).1.status = 0 ∧ QuietExt w (runCmd d n (.ifchange [t] kg) w).2 :=
  ifchangeWith_cutoff (engine d (2 * n + 4)) d (2 * n + 3) (by omega) { runid := w.runCounter + 1, keepGoing := kg } t
    (nextRun w) (.inl rfl) (.inr (by simp)) rfl (by simp) ht hcur.before (fun d0 hd hdt => .inl (hq d0 hd hdt))

/-- **always, every run.**  `t` has a current record and a row on `//ALWAYS`: every top-level `redo-ifchange t`
executes `t`'s script (or exits 208, as above).  No condition on the `//ALWAYS` record is needed: its snapshot
reads as changed in the current run, which is newer than any mark of an earlier run — and were it failed, that
is dirty too. -/
theorem always_every_run (d : Defects) (n : Nat) (kg : Bool) (w : World) (t : Nat) (ht : t ≠ alwaysId)
    (hcur : Current w t) (d0 : Dep) (hd : d0 ∈ w.deps) (hdt : d0.target = t) (hm : d0.modeM = true)
    (hs : d0.source = alwaysId) (hdo : ∃ c ∈ w.rules t, existsF w c = true) :
    (runCmd d n (.ifchange [t] kg) w).1.status = EXIT_CYCLIC_DEPENDENCY ∨
    RanIn t w (runCmd d n (.ifchange [t] kg) w).2 :=
  runCmd_fires d n kg w t ht hcur d0 hd hdt (Or.inr ⟨hm, hs⟩) hdo

theorem always_every_run_of_success (d : Defects) (n : Nat) (kg : Bool) (w : World) (t : Nat) (ht : t ≠ alwaysId)
    (hcur : Current w t) (d0 : Dep) (hd : d0 ∈ w.deps) (hdt : d0.target = t) (hm : d0.modeM = true)
    (hs : d0.source = alwaysId) (hdo : ∃ c ∈ w.rules t, existsF w c = true)
    (h0 : (runCmd d n (.ifchange [t] kg) w).1.status = 0) :
    RanIn t w (runCmd d n (.ifchange [t] kg) w).2 :=
  (always_every_run d n kg w t ht hcur d0 hd hdt hm hs hdo).resolve_left fun h => by rw [h] at h0; cases h0

/-- **always, once per run (local form).**  After `t` was rebuilt in run `R = cx.runid` (record `changed = R`,
stamp current, `//ALWAYS` as `redo-always` left it; or `checked = R` after a `redo-stamp` that found the same
checksum), the `should_build` of any further dependent's `redo-ifchange t` in the same run answers `clean`
— so the job is `done 0` without `start_self` — provided `t`'s other rows are quiet. -/
theorem always_once (cx : Ctx) (m : Nat) (hm : 0 < m) (t : Nat) (w : World) (hr : cx.isRedo = false)
    (ht : t ≠ alwaysId) (hg : (w.recs t).isGenerated = true) (hf : (w.recs t).failed = none)
    (h : (cx.runid ≠ 0 ∧ (w.recs t).checked = some cx.runid ∧ ∃ ch, (w.recs t).changed = some ch ∧ ch ≤ cx.runid) ∨
      ((w.recs t).changed = some cx.runid ∧ (w.recs t).stamp = some (readStamp w t) ∧ AlwaysFresh w cx.runid ∧
        ∀ d0 ∈ w.deps, d0.target = t → (d0.modeM = true ∧ d0.source = alwaysId) ∨ QuietDep w t d0)) :
    (shouldBuild cx (m + 1) t w).1 = some .clean :=
  shouldBuild_after_rebuild cx m hm t w hr ht hg hf h

/-- … hence that job runs nothing. -/
theorem always_once_job (E : Engine) (d : Defects) (cx : Ctx) (m : Nat) (hm : 0 < m) (t : Nat) (w : World)
    (hr : cx.isRedo = false)
    (ht : t ≠ alwaysId) (hg : (w.recs t).isGenerated = true) (hf : (w.recs t).failed = none)
    (h : (cx.runid ≠ 0 ∧ (w.recs t).checked = some cx.runid ∧ ∃ ch, (w.recs t).changed = some ch ∧ ch ≤ cx.runid) ∨
      ((w.recs t).changed = some cx.runid ∧ (w.recs t).stamp = some (readStamp w t) ∧ AlwaysFresh w cx.runid ∧
        ∀ d0 ∈ w.deps, d0.target = t → (d0.modeM = true ∧ d0.source = alwaysId) ∨ QuietDep w t d0)) :
    (buildJob E d cx (m + 1) t w).1 = .done 0 ∧ QuietExt w (buildJob E d cx (m + 1) t w).2 := by
  rw [buildJob_of_clean E d cx _ t w (shouldBuild_after_rebuild cx m hm t w hr ht hg hf h)]
  exact ⟨rfl, shouldBuild_rel QuietExt.dirtyRel cx _ t w⟩

/-- **always, once per run, for each further dependent.**  `RebuiltIn R t w` bundles the hypothesis of
`always_once`.  In the run in which `t` was rebuilt, the `redo-ifchange t` run by the script of another
dependent `p` exits 0 and only records the row `p → t`: no script is executed, no file changes. -/
theorem always_once_cmd (d : Defects) (n : Nat) (hn : 0 < n) (cx : Ctx) (p t : Nat) (w : World)
    (hp : cx.parent = some p) (hpt : p ≠ t) (hu : cx.unlocked = false) (hcy : t ∉ cx.cycles)
    (hr : cx.isRedo = false) (ht : t ≠ alwaysId) (hb : RebuiltIn cx.runid t w) :
    ((engine d (n + 1)).ifchangeCmd cx [t] w).1 = 0 ∧
    QuietExt (addDep (addKnown w p) p t true) ((engine d (n + 1)).ifchangeCmd cx [t] w).2 :=
  have h := ifchangeCmd_after_rebuild_step d n hn cx p t w hp hpt hu hcy hr ht hb
  ⟨h.1, h.2.1⟩

/-- **always, once per run, however many dependents.**  `Dependent R t cx`: a process of run `R` whose parent
is some `p ≠ t`, not `redo-unlocked`, `t` not among its `REDO_CYCLES`, not `redo`.  After `t` was rebuilt in
run `R ≠ 0` (run ids start at 1), any number of such processes may run `redo-ifchange t` one after the other
(`runDependents`): every command exits 0, no script is executed, no file changes — and `t` is still
`RebuiltIn R` afterwards. -/
theorem always_once_many (d : Defects) (n : Nat) (hn : 0 < n) (R t : Nat) (ht : t ≠ alwaysId) (h0 : R ≠ 0)
    (cxs : List Ctx) (w : World) (hc : ∀ cx ∈ cxs, Dependent R t cx) (hb : RebuiltIn R t w) :
    (∀ rv ∈ (runDependents d n t cxs w).1, rv = 0) ∧ NoRun w (runDependents d n t cxs w).2 ∧
    RebuiltIn R t (runDependents d n t cxs w).2 := by
  induction cxs generalizing w with
  | nil => exact ⟨(fun _ h => by cases h), NoRun.refl w, hb⟩
  | cons cx cxs ih =>
    obtain ⟨hR, ⟨p, hp, hpt⟩, hu, hcy, hr⟩ := hc cx (List.mem_cons_self ..)
    subst hR
    obtain ⟨h1, h2, h3⟩ := ifchangeCmd_after_rebuild_keeps d n hn cx p t w hp hpt hu hcy hr ht h0 hb
    obtain ⟨h4, h5, h6⟩ := ih _ (fun c hcm => hc c (List.mem_cons_of_mem _ hcm)) h3
    rw [runDependents]
    refine ⟨fun rv hrv => ?_, h2.trans h5, h6⟩
    rcases List.mem_cons.1 hrv with rfl | h
    · exact h1
    · exact h4 rv h

/-- `redo-always` establishes the part of `AlwaysFresh` that concerns the record, and the row. -/
theorem always_declares (cx : Ctx) (t : Nat) (sc : Script) (w : World) (ha : sc.always = true)
    (hng : (w.recs alwaysId).isGenerated = false) :
    ((rsAlways cx t sc w).recs alwaysId).failed = none ∧ ((rsAlways cx t sc w).recs alwaysId).changed = some cx.runid ∧
    ((rsAlways cx t sc w).recs alwaysId).stamp = some .missing ∧
    ((rsAlways cx t sc w).recs alwaysId).isGenerated = false ∧
    { target := t, source := alwaysId, modeM := true, deleteMe := false } ∈ (rsAlways cx t sc w).deps := by
  unfold rsAlways
  simp only [ha, if_true]
  obtain ⟨row, hrow⟩ := addKnown_recs_self w alwaysId
  have h1 : (addDep w t alwaysId true).recs alwaysId = (addKnown w alwaysId).recs alwaysId := rfl
  refine ⟨by simp [setRec, setChanged], by simp [setRec, setChanged], by simp [setRec, setChanged], ?_, ?_⟩
  · simp only [setRec, setChanged, if_true]
    rw [h1, hrow]
    exact hng
  · show _ ∈ (addDep w t alwaysId true).deps
    unfold addDep
    exact List.mem_cons_self ..

/-! ### Non-vacuity: concrete histories from `initWorld`

A command that re-checks a built target sorts two or more rows with `List.mergeSort`, which the kernel cannot
unfold (well-founded recursion): such commands are evaluated by `eval_model` (`Lemmas/DepsEval.lean`).

ifcreate.  Files: 2 = `t.do`, 3 = the target `t`, 4 = `F`.  `t.do` is `redo-ifcreate F; output`. -/

def icRules : Nat → List Nat := fun t => if t = 3 then [2] else []

/-- `t` built once; `F` does not exist. -/
def icA : World :=
  runOps {} 5 [.write 2 0, .setProg (srcContent 0) { ifcreate := [4], tag := 7 }, .cmd (.ifchange [3] false)]
    (initWorld icRules)

/-- … then the user creates `F`. -/
def icB : World := runOps {} 5 [.write 4 1] icA

theorem icA_current : Current icA 3 := by decide +kernel

theorem icB_current : Current icB 3 := by decide +kernel

/-- Before `F` exists: the hypotheses of `ifcreate_not_before` hold on `icA` (rows of `t`: the `c` row on `F`
and the `m` row on `t.do`), so the next `redo-ifchange t` does nothing. -/
example : (runCmd {} 5 (.ifchange [3] false) icA).1.status = 0 ∧
    QuietExt icA (runCmd {} 5 (.ifchange [3] false) icA).2 :=
  ifcreate_not_before {} 5 false icA 3 (by decide) icA_current (by decide +kernel)

/-- After `F` was created: the hypotheses of `ifcreate_fires` hold on `icB`. -/
example : (runCmd {} 5 (.ifchange [3] false) icB).1.status = EXIT_CYCLIC_DEPENDENCY ∨
    RanIn 3 icB (runCmd {} 5 (.ifchange [3] false) icB).2 :=
  ifcreate_fires {} 5 false icB 3 (by decide) icB_current
    { target := 3, source := 4, modeM := false, deleteMe := false } (by decide +kernel) rfl rfl (by decide +kernel)
    ⟨2, (by decide +kernel), (by decide +kernel)⟩

/-- Checked independently by evaluation: the script ran a second time — and since it declares `redo-ifcreate F`
for the now existing `F`, this rebuild fails with status 1 (`ifcreate_existing_is_error` seen from the command). -/
example : (runCmd {} 5 (.ifchange [3] false) icB).2.trace = [.ran 3, .ran 3] ∧
    (runCmd {} 5 (.ifchange [3] false) icB).1.status = 1 := by
  unfold icB icA runOps
  eval_model

/-- The hypothesis "some .do candidate of `t` still exists" is needed: remove `t.do` as well and the same
command exits 0 *without* executing anything (`t` silently becomes a source file). -/
example : (runCmd {} 5 (.ifchange [3] false) (runOps {} 5 [.remove 2] icB)).2.trace = [.ran 3] ∧
    (runCmd {} 5 (.ifchange [3] false) (runOps {} 5 [.remove 2] icB)).1.status = 0 := by
  unfold icB icA runOps
  eval_model

/-- The same with the usual idiom `if [ -e F ]; then redo-ifchange F; else redo-ifcreate F; fi`: after `F` is
created the rebuild succeeds. -/
def icC : World :=
  runOps {} 5 [.write 2 0, .setProg (srcContent 0) { cond := [4], tag := 7 }, .cmd (.ifchange [3] false),
    .write 4 1] (initWorld icRules)

example : Current icC 3 ∧ (⟨3, 4, false, false⟩ : Dep) ∈ icC.deps ∧ existsF icC 4 = true :=
  ⟨by decide +kernel, by decide +kernel, by decide +kernel⟩

example : (runCmd {} 5 (.ifchange [3] false) icC).2.trace = [.ran 3, .ran 3] ∧
    (runCmd {} 5 (.ifchange [3] false) icC).1.status = 0 := by
  unfold icC runOps
  eval_model

/-- The `cyclic` alternative of `ifcreate_fires` is real in the model (a hand-made state, not a history): `t = 3`
and `4` depend on each other, both records current; the row on `4` comes before the `c` row on `5`. -/
def cycW : World :=
  { fs := fun f => if f = 2 ∨ f = 3 ∨ f = 4 ∨ f = 5 then some { content := [], ms := 1, rest := 0 } else none,
    recs := fun f => if f = 3 ∨ f = 4 then
        { row := f, isGenerated := true, changed := some 1, stamp := some (.st 1 0) } else { row := f },
    deps := [⟨3, 4, true, false⟩, ⟨4, 3, true, false⟩, ⟨3, 5, false, false⟩],
    runCounter := 1, clock := 1, nextRow := 6, progs := fun _ => none, rules := fun _ => [2], trace := [] }

example : Current cycW 3 ∧ (⟨3, 5, false, false⟩ : Dep) ∈ cycW.deps ∧ existsF cycW 5 = true ∧
    (∃ c ∈ cycW.rules 3, existsF cycW c = true) :=
  ⟨by decide +kernel, by decide +kernel, by decide +kernel, ⟨2, (by decide +kernel), (by decide +kernel)⟩⟩

example : (runCmd {} 6 (.ifchange [3] false) cycW).1.status = EXIT_CYCLIC_DEPENDENCY ∧
    (runCmd {} 6 (.ifchange [3] false) cycW).2.trace = [] := by
  unfold cycW
  eval_model

/-! always.  Files: 1, 2, 3 = the .do files of 5, 6, 7; `5.do` and `6.do` are `redo-ifchange 7; output`,
`7.do` is `redo-always; output`. -/

def alRules : Nat → List Nat := fun t => if t = 5 then [1] else if t = 6 then [2] else if t = 7 then [3] else []

def al0 : World :=
  runOps {} 8 [.write 1 0, .write 2 1, .write 3 2,
    .setProg (srcContent 0) { ifchange := [[7]], tag := 1 }, .setProg (srcContent 1) { ifchange := [[7]], tag := 2 },
    .setProg (srcContent 2) { always := true, tag := 3 }] (initWorld alRules)

/-- After `redo-ifchange 5` (run 1): 5 was built, and with it 7.  This is also the state *in the middle* of a run
`redo-ifchange 5 6`, at the moment the second dependent 6 is about to ask for 7. -/
def alM : World := runOps {} 8 [.cmd (.ifchange [5] false)] al0

example : alM.trace = [.ran 7, .ran 5] ∧ alM.runCounter = 1 ∧ (alM.recs 7).checked = none := by decide +kernel

theorem alM_current : Current alM 7 := by decide +kernel

/-- `always_every_run` applies to that state: a later run that needs 7 rebuilds it … -/
example : (runCmd {} 8 (.ifchange [7] false) alM).1.status = EXIT_CYCLIC_DEPENDENCY ∨
    RanIn 7 alM (runCmd {} 8 (.ifchange [7] false) alM).2 :=
  always_every_run {} 8 false alM 7 (by decide) alM_current
    { target := 7, source := 0, modeM := true, deleteMe := false } (by decide +kernel) rfl rfl rfl
    ⟨3, (by decide +kernel), (by decide +kernel)⟩

/-- … (checked independently by evaluation: run 2 executes 7's script again, successfully). -/
example : (runCmd {} 8 (.ifchange [7] false) alM).2.trace = [.ran 7, .ran 7, .ran 5] ∧
    (runCmd {} 8 (.ifchange [7] false) alM).1.status = 0 := by
  unfold alM al0 runOps
  eval_model

theorem alM_fresh : AlwaysFresh alM 1 :=
  ⟨(by decide +kernel), (by decide +kernel), (by decide +kernel), (by decide +kernel),
   (fun c h => by
     have h' : (alM.recs alwaysId).changed = some 1 := by decide +kernel
     rw [h'] at h; cases h; exact Nat.le_refl 1)⟩

/-- Within run 1 the hypothesis of the once-per-run theorems holds (second alternative: `changed = R`, not yet
checked; rows of 7: the one on `//ALWAYS` and the quiet one on `7.do`). -/
theorem alM_rebuilt : RebuiltIn 1 7 alM :=
  ⟨(by decide +kernel), (by decide +kernel),
   Or.inr ⟨(by decide +kernel), (by decide +kernel), alM_fresh, (by decide +kernel)⟩⟩

/-- `always_once`: the second dependent's `should_build 7` (same run id 1) answers `clean` … -/
example : (shouldBuild { runid := 1, parent := some 6, cycles := [6] } 20 7 alM).1 = some .clean :=
  always_once { runid := 1, parent := some 6, cycles := [6] } 19 (by decide) 7 alM rfl (by decide)
    alM_rebuilt.1 alM_rebuilt.2.1 alM_rebuilt.2.2

/-- … and `always_once_cmd`: the `redo-ifchange 7` inside `6.do` exits 0 without executing anything. -/
example : ((engine {} 20).ifchangeCmd { runid := 1, parent := some 6, cycles := [6] } [7] alM).1 = 0 ∧
    QuietExt (addDep (addKnown alM 6) 6 7 true)
      ((engine {} 20).ifchangeCmd { runid := 1, parent := some 6, cycles := [6] } [7] alM).2 :=
  always_once_cmd {} 19 (by decide) { runid := 1, parent := some 6, cycles := [6] } 6 7 alM rfl (by decide) rfl
    (by decide) rfl (by decide) alM_rebuilt

/-- `always_once_many`: three more dependents (6, 8, 9) ask for 7 in run 1, one after the other. -/
example :
    let cxs : List Ctx := [{ runid := 1, parent := some 6, cycles := [6] }, { runid := 1, parent := some 8, cycles := [8] },
      { runid := 1, parent := some 9, cycles := [9, 8] }]
    (∀ rv ∈ (runDependents {} 19 7 cxs alM).1, rv = 0) ∧ NoRun alM (runDependents {} 19 7 cxs alM).2 ∧
      RebuiltIn 1 7 (runDependents {} 19 7 cxs alM).2 :=
  always_once_many {} 19 (by decide) 1 7 (by decide) (by decide) _ alM
    (by
      intro cx hcx
      simp only [List.mem_cons, List.not_mem_nil, or_false] at hcx
      rcases hcx with rfl | rfl | rfl
      · exact ⟨rfl, ⟨6, rfl, (by decide)⟩, rfl, (by decide), rfl⟩
      · exact ⟨rfl, ⟨8, rfl, (by decide)⟩, rfl, (by decide), rfl⟩
      · exact ⟨rfl, ⟨9, rfl, (by decide)⟩, rfl, (by decide), rfl⟩)
    alM_rebuilt


end C14

section
open C14
#print axioms ifcreate_fires
#print axioms ifcreate_fires_of_success
#print axioms ifcreate_not_before
#print axioms always_every_run
#print axioms always_every_run_of_success
#print axioms always_once
#print axioms always_once_job
#print axioms always_once_cmd
#print axioms always_once_many
#print axioms always_declares
end
