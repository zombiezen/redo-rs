import RedoModel.Props.C15c
import RedoModel.Lemmas.Paths
import RedoModel.Props.C15b

/-!
# C15 — Every spelling of a path denotes the same target

Property theorems only.  Model: `RedoModel/Paths.lean`; helper lemmas: `Lemmas/Paths.lean`.  `C15b.lean`: cleaning keeps
the meaning in a symlink-free file system, relative + re-join is the identity, one key per target; `C15c.lean`: which
project database a command uses does not depend on the spelling.
-/
namespace C15
open RedoModel.Paths

/-- The components of a cleaned path are in normal form: no `.`, `..` only as a
leading block and only when the path is not rooted; every component non-empty
and free of `/`. -/
theorem normal_form (p : List Char) :
    NormalComps (rooted p) (cleanComps (rooted p) (comps p)) ∧
    (∀ c ∈ cleanComps (rooted p) (comps p), GoodComp c) ∧
    normpath p = render (rooted p) (cleanComps (rooted p) (comps p)) ∧
    rooted (normpath p) = rooted p :=
  ⟨cleanComps_normal _ _, cleanComps_good (comps_good p), rfl,
   rooted_render (cleanComps_good (comps_good p))⟩

/-- Lexical path cleaning is idempotent, for every string. -/
theorem idempotent (p : List Char) : normpath (normpath p) = normpath p :=
  normpath_idem p

/-- The result is never the empty string (the empty path cleans to `.`). -/
theorem nonempty (p : List Char) : normpath p ≠ [] :=
  render_ne_nil (cleanComps_good (comps_good p))

end C15
