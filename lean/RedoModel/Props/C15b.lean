import RedoModel.Lemmas.PathsSem

/-!
# C15 (continued) — cleaning preserves meaning; relative + re-join is the identity; one key per target

Model: `RedoModel/Paths.lean`; the symlink-free file-system semantics (`Tree`, `resolve`, `ValidCwd`) and the supporting
lemmas: `Lemmas/PathsSem.lean`.
-/
namespace C15
open RedoModel.Paths

/-- If `p` (absolute or relative) resolves in a symlink-free tree, the cleaned path resolves
to the same node, reached through the same chain of directories.  (The converse is false,
see the example below.) -/
theorem preserves {root : Tree} {cwd : List Tree} {p : List Char} {n : List Tree}
    (hcwd : ValidCwd root cwd) (h : resolve root cwd p = some n) :
    resolve root cwd (normpath p) = some n :=
  resolve_normpath hcwd.2 h

/-- The same with the POSIX rule that a path with a trailing `/` must name a directory. -/
theorem preserves_strict {root : Tree} {cwd : List Tree} {p : List Char} {n : List Tree}
    (hcwd : ValidCwd root cwd) (h : resolveStrict root cwd p = some n) :
    resolveStrict root cwd (normpath p) = some n :=
  resolveStrict_normpath hcwd.2 h

/-- Resolution from a valid cwd stays inside the tree: the result is a chain from the root. -/
theorem resolve_chain {root : Tree} {cwd : List Tree} {p : List Char} {n : List Tree}
    (hcwd : ValidCwd root cwd) (h : resolve root cwd p = some n) : Chain root n := by
  unfold resolve at h
  split at h
  · exact walk_chain .root h
  · exact walk_chain hcwd.1 h

section Examples

/-- `/a/b/`, `/a/c/d` (a file), `/x/`. -/
def dC : Tree := .dir [("d".toList, .file)]
def dA : Tree := .dir [("b".toList, .dir []), ("c".toList, dC)]
def dX : Tree := .dir []
def exRoot : Tree := .dir [("a".toList, dA), ("x".toList, dX)]

theorem exRoot_wf : exRoot.WF := by
  refine .dir (by decide) ?_
  intro nm t h
  simp only [List.mem_cons, Prod.mk.injEq, List.not_mem_nil, or_false] at h
  rcases h with ⟨_, rfl⟩ | ⟨_, rfl⟩
  · refine .dir (by decide) ?_
    intro nm t h
    simp only [List.mem_cons, Prod.mk.injEq, List.not_mem_nil, or_false] at h
    rcases h with ⟨_, rfl⟩ | ⟨_, rfl⟩
    · exact .dir (by simp) (by simp)
    · refine .dir (by decide) ?_
      intro nm t h
      simp only [List.mem_cons, Prod.mk.injEq, List.not_mem_nil, or_false] at h
      rcases h with ⟨_, rfl⟩
      exact .file
  · exact .dir (by simp) (by simp)

theorem valid_root : ValidCwd exRoot [exRoot] := ⟨.root, trivial⟩

theorem valid_x : ValidCwd exRoot [dX, exRoot] :=
  ⟨.child (nm := "x".toList) .root (List.Mem.tail _ (List.Mem.head _)), trivial⟩

/-- relative, from the root directory -/
example : resolve exRoot [exRoot] (normpath "a/./b/../c//d".toList) = some [.file, dC, dA, exRoot] := by
  -- a literal is `String.ofList` of its characters: rewriting spares the kernel the UTF-8 decoding
  rw [String.toList_ofList]
  exact preserves valid_root rfl

example : normpath "a/./b/../c//d".toList = "a/c/d".toList := by
  repeat rw [String.toList_ofList]
  decide +kernel

/-- relative with leading `..`, from the cwd `/x` -/
example : resolve exRoot [dX, exRoot] (normpath ".././a/b/../c//d/".toList) =
    some [.file, dC, dA, exRoot] := by
  rw [String.toList_ofList]
  exact preserves valid_x rfl

/-- absolute, climbing above the root -/
example : resolve exRoot [dX, exRoot] (normpath "/../a/./b/../c//d".toList) =
    some [.file, dC, dA, exRoot] := by
  rw [String.toList_ofList]
  exact preserves valid_x rfl

/-- strict variant: a directory with a trailing slash -/
example : resolveStrict exRoot [dX, exRoot] (normpath "../a/./b/..//c/".toList) =
    some [dC, dA, exRoot] := by
  rw [String.toList_ofList]
  exact preserves_strict valid_x rfl

/-- strict resolution refuses `file/` while the permissive one accepts it -/
example : resolveStrict exRoot [exRoot] "a/c/d/".toList = none ∧
    resolve exRoot [exRoot] "a/c/d/".toList = some [.file, dC, dA, exRoot] := by
  rw [String.toList_ofList]
  exact ⟨rfl, rfl⟩

/-- The converse of `preserves` is false: `nope/../a` does not resolve, its cleaning `a` does. -/
example : resolve exRoot [exRoot] "nope/../a".toList = none ∧
    resolve exRoot [exRoot] (normpath "nope/../a".toList) = some [dA, exRoot] := by
  rw [String.toList_ofList]
  exact ⟨rfl, rfl⟩

/-- … also through a file: `a/c/d/../d` fails (`d` is not a directory), `a/c/d` resolves. -/
example : resolve exRoot [exRoot] "a/c/d/../d".toList = none ∧
    resolve exRoot [exRoot] (normpath "a/c/d/../d".toList) = some [.file, dC, dA, exRoot] := by
  rw [String.toList_ofList]
  exact ⟨rfl, rfl⟩

end Examples

/-- Expressing an absolute normalised path relative to an absolute normalised base and
joining it back onto the base yields the original path — including `t = b` (empty
relative path) and `b = "/"`. -/
theorem rejoin {t b : List Char}
    (hrt : rooted t = true) (hnt : normpath t = t) (hrb : rooted b = true) (hnb : normpath b = b) :
    normpath (pushPath b (relpathLex t b)) = t := by
  rw [rejoin_lex_gen hrt hrb, hnt]

/-- Without the normalisation hypotheses: any two absolute spellings. -/
theorem rejoin_any_spelling {t b : List Char} (hrt : rooted t = true) (hrb : rooted b = true) :
    normpath (pushPath b (relpathLex t b)) = normpath t :=
  rejoin_lex_gen hrt hrb

example : relpathLex "/a/b/c".toList "/a/x/y".toList = "../../b/c".toList := by
  repeat rw [String.toList_ofList]
  decide +kernel
example : normpath (pushPath "/a/x/y".toList (relpathLex "/a/b/c".toList "/a/x/y".toList)) =
    "/a/b/c".toList :=
  rejoin (by decide +kernel) (by decide +kernel) (by decide +kernel) (by decide +kernel)

/-- `t = b`: the relative path is empty -/
example : relpathLex "/a/b".toList "/a/b".toList = [] := by
  repeat rw [String.toList_ofList]
  decide +kernel
example : normpath (pushPath "/a/b".toList (relpathLex "/a/b".toList "/a/b".toList)) = "/a/b".toList :=
  rejoin (by decide +kernel) (by decide +kernel) (by decide +kernel) (by decide +kernel)

/-- base `/` and target `/` -/
example : normpath (pushPath "/".toList (relpathLex "/a".toList "/".toList)) = "/a".toList :=
  rejoin (by decide +kernel) (by decide +kernel) (by decide +kernel) (by decide +kernel)
example : normpath (pushPath "/a".toList (relpathLex "/".toList "/a".toList)) = "/".toList :=
  rejoin (by decide +kernel) (by decide +kernel) (by decide +kernel) (by decide +kernel)

example : normpath (pushPath "/a//x/../y/".toList (relpathLex "/a/./b/c".toList "/a//x/../y/".toList)) =
    "/a/b/c".toList :=
  (rejoin_any_spelling (by decide +kernel) (by decide +kernel)).trans (by decide +kernel)

/-- Rootedness is needed: with a relative target the re-joined path is a different one. -/
example : normpath (pushPath "/x".toList (relpathLex "a".toList "/x".toList)) ≠ normpath "a".toList := by
  repeat rw [String.toList_ofList]
  decide +kernel

/-- `splitLast` really splits the spelling: `t = d ++ f`, `d` ends in `/`, `f` has no `/`. -/
theorem splitLast_split {t d f : List Char} (h : splitLast t = some (d, f)) :
    t = d ++ f ∧ d.getLast? = some '/' ∧ '/' ∉ f :=
  splitLast_spec h

/-- Two spellings with the same final component whose directory parts canonicalise to the
same directory get the same key from `realdirpath`. -/
theorem one_key_realdirpath {canon : List Char → Option (List Char)}
    {cwd t1 t2 d1 d2 f D : List Char}
    (hs1 : splitLast t1 = some (d1, f)) (hs2 : splitLast t2 = some (d2, f))
    (hd1 : isDotPath d1 = false) (hd2 : isDotPath d2 = false)
    (hc1 : canon d1 = some D) (hc2 : canon d2 = some D) :
    realdirpath canon cwd t1 = realdirpath canon cwd t2 :=
  realdirpath_one_key hs1 hs2 hd1 hd2 hc1 hc2

/-- … and hence the same `relpath` against every base.  For absolute spellings the
"not a dot-path" side condition holds automatically. -/
theorem one_key {canon : List Char → Option (List Char)}
    {cwd t1 t2 d1 d2 f D : List Char} (base : List Char)
    (hr1 : rooted t1 = true) (hr2 : rooted t2 = true)
    (hs1 : splitLast t1 = some (d1, f)) (hs2 : splitLast t2 = some (d2, f))
    (hc1 : canon d1 = some D) (hc2 : canon d2 = some D) :
    relpath canon cwd t1 base = relpath canon cwd t2 base := by
  have e1 : absPath cwd t1 = t1 := by simp [absPath, hr1]
  have e2 : absPath cwd t2 = t2 := by simp [absPath, hr2]
  exact relpath_one_key_abs base (by rw [e1]; exact hs1) (by rw [e2]; exact hs2)
    (splitLast_rooted hs1 hr1).2 (splitLast_rooted hs2 hr2).2 hc1 hc2

/-- Relative spellings: `relpath` first makes them absolute against `cwd`; the hypotheses
speak about the absolute forms. -/
theorem one_key_rel {canon : List Char → Option (List Char)}
    {cwd t1 t2 d1 d2 f D : List Char} (base : List Char)
    (hs1 : splitLast (absPath cwd t1) = some (d1, f))
    (hs2 : splitLast (absPath cwd t2) = some (d2, f))
    (hd1 : isDotPath d1 = false) (hd2 : isDotPath d2 = false)
    (hc1 : canon d1 = some D) (hc2 : canon d2 = some D) :
    relpath canon cwd t1 base = relpath canon cwd t2 base :=
  relpath_one_key_abs base hs1 hs2 hd1 hd2 hc1 hc2

/-! ### Directories that do not exist yet (repaired in /repo, a2f90ab)

`realdirpath` resolves the longest leading part of the directory that exists and keeps the rest as spelled.  The key
therefore depends only on the canonical form of that leading part and on the components after it. -/

/-- What `resolveLongest` finds: the canonical form of the longest proper leading part that exists, and the components
that follow it. -/
def longestExisting (canon : List Char → Option (List Char)) (a : List Char) :
    Option (List Char × List (List Char)) :=
  (properPrefixes ((comps a).filter (fun c => c != dot))).findSome?
    (fun pr => (canon ('/' :: joinSlash pr.1)).map (fun P => (P, pr.2)))

/-- The key of a file in a directory that does not exist yet is the real path: the canonical form of the longest existing
leading part of the directory, followed by the remaining components, cleaned. -/
theorem missing_dir_key {canon : List Char → Option (List Char)}
    {cwd t d f P : List Char} {rest : List (List Char)}
    (hs : splitLast t = some (d, f)) (hd : isDotPath d = false) (hr : rooted d = true)
    (hn : canon d = none) (hl : longestExisting canon d = some (P, rest)) :
    realdirpath canon cwd t = pushPath (normpath (rest.foldl (fun acc c => pushPath acc c) P)) f := by
  unfold longestExisting at hl
  simp only [realdirpath, hs, hd, hn, hr, resolveLongest, hl, Bool.false_eq_true, if_false, if_true]

/-- Hence two absolute spellings of a file in a directory that does not exist yet — through a symlinked directory and
through the real one, say — get the same key from `realdirpath` as soon as their longest existing leading parts
canonicalise to the same directory and the same components follow. -/
theorem one_key_missing_dir {canon : List Char → Option (List Char)}
    {cwd t1 t2 d1 d2 f P : List Char} {rest : List (List Char)}
    (hs1 : splitLast t1 = some (d1, f)) (hs2 : splitLast t2 = some (d2, f))
    (hd1 : isDotPath d1 = false) (hd2 : isDotPath d2 = false)
    (hr1 : rooted d1 = true) (hr2 : rooted d2 = true)
    (hn1 : canon d1 = none) (hn2 : canon d2 = none)
    (hl1 : longestExisting canon d1 = some (P, rest)) (hl2 : longestExisting canon d2 = some (P, rest)) :
    realdirpath canon cwd t1 = realdirpath canon cwd t2 := by
  rw [missing_dir_key hs1 hd1 hr1 hn1 hl1, missing_dir_key hs2 hd2 hr2 hn2 hl2]

section Examples

/-- A `canonicalize` that knows `/link/` and `/real/sub/../` both denote `/real`. -/
def exCanon (d : List Char) : Option (List Char) :=
  if d = "/link/".toList ∨ d = "/real/sub/../".toList ∨ d = "/w/./".toList then some "/real".toList
  else none

example : relpath exCanon "/w".toList "/link/f.o".toList "/real/out".toList =
    relpath exCanon "/w".toList "/real/sub/../f.o".toList "/real/out".toList := by
  unfold exCanon
  repeat rw [String.toList_ofList]
  -- `d1 = /link/`, `d2 = /real/sub/../`, `f = f.o`, `D = /real`
  exact one_key _ rfl rfl rfl rfl rfl rfl

example : relpath exCanon "/w".toList "/link/f.o".toList "/real/out".toList = "../f.o".toList := by
  unfold exCanon
  repeat rw [String.toList_ofList]
  decide +kernel

/-- a relative spelling (made absolute against the cwd `/w`) and an absolute one -/
example : relpath exCanon "/w".toList "./f.o".toList "/real/out".toList =
    relpath exCanon "/w".toList "/link/f.o".toList "/real/out".toList := by
  unfold exCanon
  repeat rw [String.toList_ofList]
  -- `d1 = /w/./`, `d2 = /link/`, `f = f.o`, `D = /real`
  exact one_key_rel _ rfl rfl rfl rfl rfl rfl

/-- The dot-path side condition of `one_key_realdirpath` matters: `realdirpath` leaves `./f`
untouched, so on its own it does not give `./f` and `/w/f` one key even when `canon` agrees. -/
example :
    let canon : List Char → Option (List Char) := fun _ => some "/w".toList
    realdirpath canon "/w".toList "./f".toList ≠ realdirpath canon "/w".toList "/w/f".toList := by
  repeat rw [String.toList_ofList]
  decide +kernel

/-- `/link` is a symlink to `/real/sub`; neither `/link/new` nor `/real/sub/new` exists yet. -/
def exCanon2 (d : List Char) : Option (List Char) :=
  if d = "/link".toList ∨ d = "/real/sub".toList then some "/real/sub".toList
  else if d = "/real".toList then some "/real".toList
  else if d = "/".toList then some "/".toList
  else none

example : realdirpath exCanon2 "/w".toList "/link/new/a.out".toList = "/real/sub/new/a.out".toList ∧
    realdirpath exCanon2 "/w".toList "/real/sub/new/a.out".toList = "/real/sub/new/a.out".toList ∧
    realdirpath exCanon2 "/w".toList "/link/newer/../new/./a.out".toList = "/real/sub/new/a.out".toList := by
  unfold exCanon2
  repeat rw [String.toList_ofList]
  decide +kernel

example : realdirpath exCanon2 "/w".toList "/link/new/a.out".toList =
    realdirpath exCanon2 "/w".toList "/real/sub/new/a.out".toList := by
  unfold exCanon2
  repeat rw [String.toList_ofList]
  -- `d1 = /link/new/`, `d2 = /real/sub/new/`, `f = a.out`, `P = /real/sub`, `rest = [new]`
  exact one_key_missing_dir rfl rfl rfl rfl rfl rfl rfl rfl rfl rfl

/-- Before the repair the first spelling kept the link in its name (lexical cleaning only): the two spellings of one
file were two database records, two locks and two builds. -/
example : normpath "/link/new/".toList ≠ normpath "/real/sub/new/".toList := by
  repeat rw [String.toList_ofList]
  decide +kernel

end Examples

end C15
