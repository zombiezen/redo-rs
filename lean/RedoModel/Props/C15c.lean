import RedoModel.Base
/-!
# C15 — which project database a command uses does not depend on how its targets are spelled
Property theorems (and `mem_upwards`, what `upwards` lists).  Model: `RedoModel/Base.lean` (`Env::init`'s search for `.redo`, after the repair 19552e2 and the
one that resolves symbolic links), tied to the code by the process-level differential `base_level` of tools/c15.py (the directory in which the real command
creates or finds `.redo/db.sqlite3` against `Base.baseOf`).
-/
namespace C15
open RedoModel.Paths RedoModel.Base

/-- The base is a function of the RESOLVED absolute directories of the targets (symbolic links resolved as for the
record key, then cleaned): two command lines whose targets have the same resolved directories, position by position, use
the same project database whatever the spellings (`other/../sub/x`, `./sub//x`, `$PWD/sub/x`, `link/x`). -/
theorem base_spelling_independent (canon : List Char → Option (List Char)) (hasRedo : List (List Char) → Bool)
    (cwd : List Char) (ts1 ts2 : List (List Char))
    (h : ts1.map (dirOf canon cwd) = ts2.map (dirOf canon cwd)) : baseOf canon hasRedo cwd ts1 = baseOf canon hasRedo cwd ts2 := by
  simp only [baseOf, h]

/-- Resolution is what makes it so: two spellings whose directory `realdirpath` resolves to the same path give the same
`dirOf`. -/
theorem dirOf_of_resolved_eq (canon : List Char → Option (List Char)) (cwd t1 t2 : List Char)
    (h : realdirpath canon cwd (pushPath (absPath cwd (parentOf t1)) ['_'])
       = realdirpath canon cwd (pushPath (absPath cwd (parentOf t2)) ['_'])) : dirOf canon cwd t1 = dirOf canon cwd t2 := by
  simp only [dirOf, h]

theorem mem_upwards (cs b : List (List Char)) : b ∈ upwards cs ↔ ∃ k, k ≤ cs.length ∧ b = cs.take k := by
  simp only [upwards, List.mem_map, List.mem_reverse, List.mem_range]
  constructor
  · rintro ⟨k, hk, rfl⟩; exact ⟨k, by omega, rfl⟩
  · rintro ⟨k, hk, rfl⟩; exact ⟨k, by omega, rfl⟩

/-- The base is the common leading part of all the directories involved, or one of its ancestors that holds `.redo`;
and it is the common part itself exactly when no directory from there upwards holds `.redo`. -/
theorem base_is_common_part_or_holds_redo (canon : List Char → Option (List Char)) (hasRedo : List (List Char) → Bool)
    (cwd : List Char) (ts : List (List Char)) :
    let orig := commonAll (ts.map (dirOf canon cwd) ++ [comps cwd])
    (∃ k, k ≤ orig.length ∧ baseOf canon hasRedo cwd ts = orig.take k) ∧
    (hasRedo (baseOf canon hasRedo cwd ts) = true ∨
      (baseOf canon hasRedo cwd ts = orig ∧ ∀ b ∈ upwards orig, hasRedo b = false)) := by
  intro orig
  simp only [baseOf]
  cases hf : (upwards (commonAll (ts.map (dirOf canon cwd) ++ [comps cwd]))).find? hasRedo with
  | none =>
    refine ⟨⟨orig.length, Nat.le_refl _, by simp [orig]⟩, Or.inr ⟨rfl, ?_⟩⟩
    intro b hb
    have := List.find?_eq_none.1 hf b hb
    simpa using this
  | some b =>
    have hb := List.mem_of_find?_eq_some hf
    have hp := List.find?_some hf
    exact ⟨(mem_upwards _ _).1 hb, Or.inl hp⟩

/-- The nearest one wins: no directory strictly between the base and the common part holds `.redo`. -/
theorem base_is_nearest (canon : List Char → Option (List Char)) (hasRedo : List (List Char) → Bool) (cwd : List Char)
    (ts : List (List Char)) (k : Nat) :
    let orig := commonAll (ts.map (dirOf canon cwd) ++ [comps cwd])
    k ≤ orig.length → (baseOf canon hasRedo cwd ts).length < k → hasRedo (orig.take k) = false := by
  intro orig hk hlt
  simp only [baseOf] at hlt
  cases hf : (upwards (commonAll (ts.map (dirOf canon cwd) ++ [comps cwd]))).find? hasRedo with
  | none =>
    have := List.find?_eq_none.1 hf (orig.take k) ((mem_upwards _ _).2 ⟨k, hk, rfl⟩)
    simpa using this
  | some b =>
    rw [hf] at hlt
    simp only at hlt
    -- `b` is the first element of `upwards orig` (longest first) that holds `.redo`; `orig.take k` is longer, so earlier
    rcases List.find?_eq_some_iff_append.1 hf with ⟨hpb, pre, post, hsplit, hpre⟩
    have hmem : orig.take k ∈ upwards orig := (mem_upwards _ _).2 ⟨k, hk, rfl⟩
    rw [show upwards orig = pre ++ b :: post from hsplit] at hmem
    rcases List.mem_append.1 hmem with h1 | h2
    · have := hpre _ h1; simpa using this
    · exfalso
      -- everything from `b` on in `upwards orig` is no longer than `b`
      have hsorted : ∀ x ∈ b :: post, x.length ≤ b.length := by
        have hup : upwards orig = pre ++ b :: post := hsplit
        unfold upwards at hup
        -- lengths along `upwards` are decreasing
        have hpw : (upwards orig).Pairwise (fun x y => y.length ≤ x.length) := by
          unfold upwards
          rw [List.pairwise_map]
          have : (List.range (orig.length + 1)).reverse.Pairwise (fun a b => b ≤ a) := by
            rw [List.pairwise_reverse]
            exact (List.pairwise_lt_range).imp (fun h => Nat.le_of_lt h)
          refine this.imp_of_mem ?_
          intro a c ha hc hca
          simp only [List.mem_reverse, List.mem_range] at ha hc
          simp only [List.length_take]
          omega
        rw [hsplit] at hpw
        have hp2 := (List.pairwise_append.1 hpw).2.1
        intro x hx
        rcases List.mem_cons.1 hx with rfl | hx'
        · exact Nat.le_refl _
        · exact (List.pairwise_cons.1 hp2).1 x hx'
      have := hsorted _ h2
      simp only [List.length_take] at this
      omega

section Examples

/-- `.redo` lives in `/p/sub`. -/
def exRedo (d : List (List Char)) : Bool := d == ["p".toList, "sub".toList]

/-- A tree without symbolic links in which `/p`, `/p/sub`, `/p/other` exist: `canonicalize` cleans. -/
def exCanonB (d : List Char) : Option (List Char) :=
  let c := normpath d
  if c = "/p".toList || c = "/p/sub".toList || c = "/p/other".toList || c = "/".toList then some c else none

example : baseOf exCanonB exRedo "/p/sub".toList ["x".toList] = ["p".toList, "sub".toList] := by
  unfold exCanonB exRedo
  -- a literal is `String.ofList` of its characters: rewriting spares the kernel the UTF-8 decoding
  repeat rw [String.toList_ofList]
  decide +kernel
example : baseOf exCanonB exRedo "/p/sub".toList ["/p/other/../sub/x".toList] = ["p".toList, "sub".toList] := by
  unfold exCanonB exRedo
  repeat rw [String.toList_ofList]
  decide +kernel
example : baseOf exCanonB exRedo "/p/sub".toList ["../other/../sub/x".toList, "./x".toList] = ["p".toList, "sub".toList] := by
  unfold exCanonB exRedo
  repeat rw [String.toList_ofList]
  decide +kernel
/-- a target really outside: the common part is `/p`, nothing up there holds `.redo`, so `/p` becomes the base -/
example : baseOf exCanonB exRedo "/p/sub".toList ["../other/y".toList] = ["p".toList] := by
  unfold exCanonB exRedo
  repeat rw [String.toList_ofList]
  decide +kernel
/-- Before the repair 19552e2 the directories were compared as spelled: `/p/other/../sub` and `/p/sub` share only `/p`. -/
example : common2 (comps "/p/other/../sub".toList) (comps "/p/sub".toList) = ["p".toList] := by
  repeat rw [String.toList_ofList]
  decide +kernel

/-- `/D/link` is a symbolic link to `/D/real`; the project (with `.redo`) is `/D/real/proj`. -/
def lnCanon (d : List Char) : Option (List Char) :=
  let c := normpath d
  if c = "/D/link/proj".toList || c = "/D/real/proj".toList then some "/D/real/proj".toList
  else if c = "/D/link".toList || c = "/D/real".toList then some "/D/real".toList
  else if c = "/D".toList then some c else if c = "/".toList then some c else none

def lnRedo (d : List (List Char)) : Bool := d == ["D".toList, "real".toList, "proj".toList]

/-- **A spelling through a symlinked directory selects the same project database** (run in `/D/real/proj`, the target
named as `/D/link/proj/x`): the base is the project, not `/D`. -/
theorem base_through_symlink :
    baseOf lnCanon lnRedo "/D/real/proj".toList ["/D/link/proj/x".toList] = ["D".toList, "real".toList, "proj".toList] := by
  unfold lnCanon lnRedo
  repeat rw [String.toList_ofList]
  decide +kernel

/-- What the code did before the repair (directories only cleaned): the common part of `/D/link/proj` and `/D/real/proj`
is `/D`, where a second database was created. -/
theorem base_through_symlink_before_the_repair :
    baseOf (fun d => some (normpath d)) lnRedo "/D/real/proj".toList ["/D/link/proj/x".toList] = ["D".toList] := by
  unfold lnRedo
  repeat rw [String.toList_ofList]
  decide +kernel

/-- … and in a project that does not exist yet (nothing holds `.redo`) both spellings agree on where it will be. -/
example : baseOf lnCanon (fun _ => false) "/D/real/proj".toList ["/D/link/proj/x".toList]
    = baseOf lnCanon (fun _ => false) "/D/real/proj".toList ["x".toList] := by
  unfold lnCanon
  repeat rw [String.toList_ofList]
  decide +kernel

end Examples

end C15
