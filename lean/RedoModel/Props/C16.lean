import RedoModel.Props.C16b
import RedoModel.SqlTxn
import RedoModel.Generated
/-!
# C16 — Concurrent commands do not fail spuriously or lose state
Property theorems only.  Model: `RedoModel/SqlTxn.lean`.  SQLite's own behaviour is an assumption;
what is proven is the discipline that makes "database is locked" impossible under that assumption,
and that discipline is checked against every real trace and against the transaction sites
re-extracted from the source.  `C16b.lean`: no save of a database row carries stale columns over another process's
update.
-/
namespace C16
open RedoModel.SqlTxn

/-- One step never introduces a possible `SQLITE_BUSY` unless it is a write inside a DEFERRED
transaction. -/
theorem step_no_busy (s s' : State) (e : Ev) (h : step s e = .ok s') (hw : deferredWrite s e = false) :
    s'.busyPossible = s.busyPossible := by
  cases e with
  | beginDeferred c => simp only [step] at h; split at h <;> cases h; simp [setMode]
  | beginImmediate c =>
    simp only [step] at h
    split at h
    · cases h
    · split at h <;> cases h; simp [setMode]
  | read c =>
    simp only [step] at h
    split at h <;> cases h <;> simp [setMode]
  | write c what =>
    simp only [step] at h
    simp only [deferredWrite] at hw
    split at h
    · cases h; simp [setMode]
    · rename_i heq; rw [heq] at hw; cases hw
    · cases h
  | commit c =>
    simp only [step] at h
    split at h <;> cases h <;> simp [setMode]
  | rollback c =>
    simp only [step] at h
    split at h <;> cases h <;> simp [setMode]

/-- If every writing transaction is IMMEDIATE (no write happens inside a DEFERRED one), then no
interleaving of any number of connections reaches a point where SQLite may answer
"database is locked". -/
theorem no_busy (s s' : State) (es : List Ev) (h : run s es = .ok s') (hw : WritesAreImmediate s es) :
    s'.busyPossible = s.busyPossible := by
  induction es generalizing s with
  | nil => simp [run] at h; cases h; rfl
  | cons e es ih =>
    simp only [run] at h
    split at h
    · cases h
    · rename_i s1 hs1
      obtain ⟨h1, h2⟩ := hw
      rw [hs1] at h2
      rw [ih s1 h h2, step_no_busy s s1 e hs1 h1]

/-- At most one connection is inside `BEGIN IMMEDIATE` at any time in an accepted trace: the
write lock serialises all writers (so no update is lost: writes apply in commit order). -/
theorem single_writer (s s' : State) (e : Ev) (h : step s e = .ok s') (c : Nat)
    (he : e = .beginImmediate c) : s.writer = none ∧ s'.writer = some c := by
  subst he
  simp only [step] at h
  split at h
  · cases h
  · split at h
    · cases h
    · cases h
      rename_i hw
      simp at hw
      exact ⟨hw, rfl⟩

/-- Witness for the recorded finding `runidInDeferredTxn`: start-up reads the schema version in a
DEFERRED transaction and then inserts the run id; when another connection commits in between,
the model marks the insert as a point where "database is locked" can be answered. -/
theorem runid_busy_witness :
    (match run {} [.beginDeferred 1, .read 1, .beginImmediate 2, .write 2 "x", .commit 2, .write 1 "insert into Runid"] with
     | .ok s => s.busyPossible.length
     | .error _ => 0) = 1 := by decide

/-- The transaction sites of the source (re-extracted on every run): every `ProcessTransaction`
begun by a command that writes build state is IMMEDIATE; the DEFERRED ones are the three listing
commands, `redo-log`, and the start-up transaction of a process that inherits its run id (and
therefore only reads). -/
theorem deferred_sites :
    (RedoModel.Generated.txnSites.filter (fun s => s.2.2 == .deferred)).map (·.1) =
      ["src/state.rs", "src/bin/redo/log.rs", "src/bin/redo/ood.rs",
       "src/bin/redo/sources.rs", "src/bin/redo/targets.rs"] := by decide

/-- A fact about one constant of the source (re-extracted on every run), not a theorem about behaviour: writers are
serialised by waiting for the write lock (`single_writer`), and the wait is bounded by the connection's busy timeout —
a command gives up with "database is locked" when another one holds the lock longer than that.  The value the rest of
the argument relies on ("long compared with any transaction of a redo command": a minute) is pinned here; what a
short timeout does is shown on the implementation by the slow-writer scenarios of tools/c16.py. -/
theorem busy_timeout_is_a_minute : 60 ≤ RedoModel.Generated.busyTimeoutSecs := by decide

end C16
