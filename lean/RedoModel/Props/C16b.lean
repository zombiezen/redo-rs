import RedoModel.Lemmas.RowCache
/-!
# C16 (continued) — "the dependency records written by each concurrent command are all present afterwards"

Property theorems; the invariant and the lemmas they rest on: `RedoModel/Lemmas/RowCache.lean`.
Model: `RedoModel/RowCache.lean` — processes inside transactions (one at a time holds the write lock), loading copies of
database rows and saving them back whole.  `File::save` writes EVERY column from the in-memory copy, so a copy that is
older than another process's save would wipe that save out (a lost update).  The acceptor checks the discipline
"a copy is saved only by the process that loaded it, inside the transaction that loaded it" on every real trace; here is
what that discipline buys.

`s.writes f` is the log of row `f`: the processes that saved it, most recent first; `s.stamps f` the same log with the
number of the saver's transaction added (its first transaction is number 1); `since s p f id` is the part of
`s.writes f` that is newer than the load of copy `id` by process `p`.
-/
namespace C16
open RedoModel.RowCache

/-- In every accepted event list, whenever a save is accepted, every save of that row since the copy was loaded was made
by the saving process itself.  So the copy lacks nobody else's update, and writing all its columns loses nothing. -/
theorem no_lost_update (es : List Ev) (s s' : State) (p f id : Nat) (h : run {} es = some s)
    (hs : step s (.save p f id) = some s') : ∀ q ∈ since s p f id, q = p := by
  obtain ⟨hh, hl, hr, _⟩ := step_save_some hs
  exact ((Inv_run es s h).fresh p id f hh hl hr).2

/-- `since` in `no_lost_update` is not cut short by a wrong count: the number of saves the copy has seen at load time
is at most the length of the log, so `since` is exactly the log entries added after the load. -/
theorem since_is_exact (es : List Ev) (s s' : State) (p f id : Nat) (h : run {} es = some s)
    (hs : step s (.save p f id) = some s') : s.seenAt p id ≤ (s.writes f).length := by
  obtain ⟨hh, hl, hr, _⟩ := step_save_some hs
  exact ((Inv_run es s h).fresh p id f hh hl hr).1

/-- The same without any ghost field, on the event list alone: an accepted save of copy `id` of row `f` by `p` comes
after a load of exactly that copy of that row by `p`, and every event in between is a load or a save of `p` itself — no
other process saved anything, and no transaction began or ended, between the load and the save. -/
theorem save_follows_own_load (es : List Ev) (s s' : State) (p f id : Nat) (h : run {} es = some s)
    (hs : step s (.save p f id) = some s') :
    ∃ pre post, es = pre ++ .load p f id :: post ∧ ∀ e ∈ post, ownRowOp p e :=
  RedoModel.RowCache.save_follows_own_load es s s' p f id h hs

/-- Not vacuous: process 1 saves its copy twice; at the second save the log since the load is its own first save. -/
theorem no_lost_update_nonvacuous :
    (run {} [.begin 1, .load 1 5 1, .save 1 5 1, .save 1 5 1]).map (fun s => (s.writes 5, since s 1 5 1))
      = some ([1, 1], [1, 1]) := by decide

/-- `stamps` is `writes` with the transaction numbers added. -/
theorem stamps_are_writes (es : List Ev) (s : State) (h : run {} es = some s) (f : Nat) :
    (s.stamps f).map Prod.fst = s.writes f := (Inv_run es s h).stampFst f

/-- The saves of one transaction are a contiguous block of the row's log: between two saves of transaction `a` (the
`n`-th transaction of process `p`, `a = (p, n)`) there is no save of any other transaction — never A … B … A. -/
theorem saves_are_contiguous (es : List Ev) (s : State) (h : run {} es = some s) (f : Nat) (a : Nat × Nat)
    (i j k : Nat) (hi : (s.stamps f)[i]? = some a) (hk : (s.stamps f)[k]? = some a) (hij : i ≤ j) (hjk : j ≤ k) :
    (s.stamps f)[j]? = some a :=
  ((Inv_run es s h).serial f).block hi hk hij hjk

/-- Hence the log is serial: if ONE save of transaction `a` is more recent than ONE save of a different transaction `b`
(positions `i < j`; the log is most recent first), then EVERY save of `a` is more recent than EVERY save of `b`
(`i' < j'`).  In particular for transactions of two different processes. -/
theorem saves_are_serial (es : List Ev) (s : State) (h : run {} es = some s) (f : Nat) (a b : Nat × Nat) (hab : a ≠ b)
    (i j i' j' : Nat) (hi : (s.stamps f)[i]? = some a) (hj : (s.stamps f)[j]? = some b) (hij : i < j)
    (hi' : (s.stamps f)[i']? = some a) (hj' : (s.stamps f)[j']? = some b) : i' < j' := by
  have blk := saves_are_contiguous es s h f
  apply Classical.byContradiction
  intro hn
  have hne : i' ≠ j' := by
    intro he; subst he; rw [hi'] at hj'; cases hj'; exact hab rfl
  by_cases h1 : j' ≤ i
  · -- b at j', a at i, b at j
    have := blk b j' i j hj' hj h1 (by omega)
    rw [hi] at this; cases this; exact hab rfl
  · -- a at i, b at j', a at i'
    have := blk a i j' i' hi hi' (by omega) (by omega)
    rw [hj'] at this; cases this; exact hab rfl

/-- The transaction numbers in the log are numbers of transactions that have begun, … -/
theorem stamps_are_begun (es : List Ev) (s : State) (h : run {} es = some s) (f q n : Nat)
    (hm : (q, n) ∈ s.stamps f) : 1 ≤ n ∧ n ≤ s.txn q := (Inv_run es s h).stampLe f q n hm

/-- … and for one process the order of the log is the order of its transaction numbers (most recent first). -/
theorem stamps_follow_txn_numbers (es : List Ev) (s : State) (h : run {} es = some s) (f p n m i j : Nat)
    (hi : (s.stamps f)[i]? = some (p, n)) (hj : (s.stamps f)[j]? = some (p, m)) (hij : i < j) : m ≤ n := by
  have hp := List.pairwise_iff_getElem.mp ((Inv_run es s h).mono f)
  obtain ⟨hi1, hi2⟩ := List.getElem?_eq_some_iff.mp hi
  obtain ⟨hj1, hj2⟩ := List.getElem?_eq_some_iff.mp hj
  have := hp i j hi1 hj1 hij
  rw [hi2, hj2] at this
  exact this rfl

/-- Not vacuous: three transactions of two processes saving row 5 twice each (process 2 also saves row 6 in between). -/
theorem saves_are_serial_nonvacuous :
    (run {} [.begin 1, .load 1 5 1, .save 1 5 1, .save 1 5 1, .commit 1,
             .begin 2, .load 2 5 7, .save 2 5 7, .load 2 6 8, .save 2 6 8, .save 2 5 7, .commit 2,
             .begin 1, .load 1 5 2, .save 1 5 2, .save 1 5 2]).map (fun s => s.stamps 5)
      = some [(1, 2), (1, 2), (2, 1), (2, 1), (1, 1), (1, 1)] := by decide

/-! ### The lost-update pattern of the seeded mutant -/

/-- `staleTrace`: process 1 loads row 5 (load id 1) in its transaction 1 and commits; process 2 begins, loads row 5,
saves it and commits; process 1 begins its transaction 2.  All that is accepted; saving load id 1 now is rejected … -/
theorem stale_copy_is_rejected :
    (run {} staleTrace).isSome = true ∧ (run {} (staleTrace ++ [.save 1 5 1])).isNone = true := by decide

/-- … (the replay reports the last event, index 8, as the first rejected one) … -/
theorem stale_copy_is_rejected_at :
    (match runIdx {} (staleTrace ++ [.save 1 5 1]) 0 with | .error i => i = 8 | .ok _ => False) := (rfl : (8 : Nat) = 8)

/-- … whereas loading the row again in transaction 2 (load id 2) and saving that copy is accepted, and the log of row 5
then is: process 1 in its transaction 2, before that process 2 in its transaction 1. -/
theorem reloaded_copy_is_accepted :
    (run {} (staleTrace ++ [.load 1 5 2, .save 1 5 2])).isSome = true ∧
    (run {} (staleTrace ++ [.load 1 5 2, .save 1 5 2])).map (fun s => s.stamps 5) = some [(1, 2), (2, 1)] := by
  decide

/-- The guard is needed: the acceptor without the `loadedIn` test (`stepNoGuard`, otherwise identical) accepts the
stale save after `staleTrace`, and process 2 has saved row 5 since that copy was loaded: the conclusion of
`no_lost_update` fails. -/
theorem guard_needed :
    ∃ s s', runNoGuard {} staleTrace = some s ∧ stepNoGuard s (.save 1 5 1) = some s' ∧
      2 ∈ since s 1 5 1 ∧ 2 ≠ 1 := by
  refine ⟨(runNoGuard {} staleTrace).get (by decide),
    (stepNoGuard ((runNoGuard {} staleTrace).get (by decide)) (.save 1 5 1)).get (by decide),
    (Option.some_get _).symm, (Option.some_get _).symm, by decide, by decide⟩

/-- So `no_lost_update` is false for the acceptor without the guard. -/
theorem no_lost_update_fails_without_guard :
    ¬ ∀ (es : List Ev) (s s' : State) (p f id : Nat), runNoGuard {} es = some s →
        stepNoGuard s (.save p f id) = some s' → ∀ q ∈ since s p f id, q = p := by
  intro hall
  obtain ⟨s, s', h1, h2, h3, h4⟩ := guard_needed
  exact h4 (hall staleTrace s s' 1 5 1 h1 h2 2 h3)

/-- Clones share the load id: after an accepted save the same copy can be saved again (same process, same
transaction). -/
theorem clones_share_load (s s' : State) (p f id : Nat) (hs : step s (.save p f id) = some s') :
    (step s' (.save p f id)).isSome = true := by
  obtain ⟨hh, hl, hr, rfl⟩ := step_save_some hs
  exact step_save_isSome hh hl hr

/-- A load id is usable only by the process that loaded it (and only for the row it was loaded from): an accepted save
`save p f id` has a `load p f id` before it. -/
theorem load_id_is_private (es : List Ev) (s s' : State) (p f id : Nat) (h : run {} es = some s)
    (hs : step s (.save p f id) = some s') : Ev.load p f id ∈ es := by
  obtain ⟨pre, post, he, _⟩ := save_follows_own_load es s s' p f id h hs
  rw [he]; simp

/-- Concretely: process 2 offering process 1's load id is rejected. -/
theorem foreign_load_id_is_rejected :
    (run {} [.begin 1, .load 1 5 1, .commit 1, .begin 2]).isSome = true ∧
    (run {} [.begin 1, .load 1 5 1, .commit 1, .begin 2, .save 2 5 1]).isNone = true := by decide

end C16
