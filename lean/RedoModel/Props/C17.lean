import RedoModel.Props.C17d
import RedoModel.Props.C17c
import RedoModel.Props.C17a
import RedoModel.Props.C17b
/-! # C17 — the property theorems are in `C17a.lean` (classification, read-only), `C17b.lean`
(redo-ood's lower bound, queries do not change later builds, cover, the run-id well-formedness invariant), `C17c.lean`
(redo-ood lists nothing right after a successful full build) and `C17d.lean` (redo-ood's upper bound). -/
