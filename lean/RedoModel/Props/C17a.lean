import RedoModel.Lemmas.Deps
import RedoModel.Lemmas.DepsShift
/-!
# C17 — redo-ood / redo-targets / redo-sources are safe and change nothing
Model: `RedoModel/Deps.lean` (`isSource`, `isTarget`, `runCmd`).
-/
namespace C17
open RedoModel.Deps

/-- `redo-targets` and `redo-sources` are disjoint. -/
theorem partition (w : World) (R f : Nat) : ¬ (isTarget w R f = true ∧ isSource w R f = true) := by
  unfold isTarget
  intro ⟨h1, h2⟩
  split at h1
  · cases h1
  · simp [h2] at h1

/-- Everything listed as a target is marked generated. -/
theorem target_is_generated (w : World) (R f : Nat) :
    isTarget w R f = true → (getRec w R f).isGenerated = true := by
  unfold isTarget
  intro h
  split at h
  · cases h
  · rename_i hg; simpa using hg

/-- None of the three queries alters files, records or dependency rows (what `redo-ood`
writes while checking is rolled back with its never-committed transaction); they only consume
a run id. -/
theorem read_only (d : Defects) (n : Nat) (w : World) (c : Cmd)
    (hc : c = .ood ∨ c = .targets ∨ c = .sources) :
    (runCmd d n c w).2.fs = w.fs ∧ (runCmd d n c w).2.recs = w.recs ∧ (runCmd d n c w).2.deps = w.deps ∧
    (runCmd d n c w).2.runCounter = w.runCounter + 1 ∧ (runCmd d n c w).1.status = 0 := by
  rw [query_world d n w c hc]
  refine ⟨rfl, rfl, rfl, rfl, ?_⟩
  rcases hc with h | h | h <;> subst h <;> rfl

end C17

namespace C17
open RedoModel.Deps

/-- The classification agrees with the builder's own override test (repaired in /repo, ecaeab3): a
generated, not overridden, not failed file whose current stamp differs from the recorded one *without*
being a manual override (only mode, owner or inode differ — `chmod`, an mtime-preserving replacement)
is still a target, not a source: `redo-ifchange` of it rebuilds it, so `redo-targets`/`redo-ood`
must consider it. -/
theorem stamp_change_without_override_keeps_target (w : World) (R f : Nat) (st : DStamp)
    (hna : f ≠ alwaysId) (hg : (w.recs f).isGenerated = true) (hno : (w.recs f).isOverride = false)
    (hf : isFailedR (w.recs f) R = false) (hs : (w.recs f).stamp = some st)
    (hd : detectOverride st (readStamp w f) = false) :
    isSource w R f = false ∧ isTarget w R f = true := by
  have hr : getRec w R f = w.recs f := by simp [getRec, hna]
  have h1 : isSource w R f = false := by
    simp [isSource, hna, hr, hg, hno, hf, hs, hd]
  exact ⟨h1, by simp [isTarget, hr, hg, h1]⟩

end C17
