import RedoModel.Lemmas.DepsOod
import RedoModel.Lemmas.DepsShift
import RedoModel.Lemmas.DepsWF
import RedoModel.Props.C17a
/-!
# C17 (continued) — redo-ood is a lower bound of what the next redo-ifchange rebuilds; coverage of
redo-targets / redo-sources

The property theorems; the walks and invariants they rest on are in `RedoModel/Lemmas/DepsOod*.lean`.
-/
namespace C17
open RedoModel.Deps

/-! ### Well-formed worlds: recorded run ids are ids of past runs -/

theorem wf_init (rules : Nat → List Nat) : WF (initWorld rules) := WF_initWorld rules

/-- Every user operation and every command (also a crashed one) keeps the world well-formed. -/
theorem wf_applyOp (d : Defects) (n : Nat) (op : UserOp) (w : World) (hwf : WF w) : WF (applyOp d n op w).2 :=
  WF_applyOp d n op w hwf

/-- Hence every world reachable from the initial one is well-formed. -/
theorem wf_reachable (d : Defects) (n : Nat) (rules : Nat → List Nat) (ops : List UserOp) :
    WF (ops.foldl (fun w op => (applyOp d n op w).2) (initWorld rules)) :=
  WF_reachable d n rules ops

/-! ### redo-targets ∪ redo-sources -/

/-- `redo-targets` and `redo-sources` together list exactly the known files that are marked
generated or exist (the `//ALWAYS` pseudo file counts only if marked generated).  So *no* known
file that exists or was generated is in neither list; with `partition` the two lists split that set. -/
theorem targets_sources_cover (w : World) (R f : Nat) :
    (isTarget w R f = true ∨ isSource w R f = true) ↔
      ((getRec w R f).isGenerated = true ∨ (f ≠ alwaysId ∧ existsF w f = true)) := by
  have hex : existsF w f = (readStamp w f != .missing) := by
    unfold existsF readStamp
    cases w.fs f <;> rfl
  rw [hex]
  unfold isTarget
  cases hg : (getRec w R f).isGenerated
  · simp only [Bool.not_false, if_true, Bool.false_eq_true, false_or]
    unfold isSource
    by_cases h0 : f = alwaysId
    · simp [h0]
    · simp only [h0, if_false, hg]
      generalize readStamp w f = ns
      cases hm : (ns == DStamp.missing) <;> simp [hm, bne, h0]
  · simp only [Bool.not_true, Bool.false_eq_true, if_false, true_or, iff_true]
    cases isSource w R f <;> simp

/-! ### redo-ood lists every target the next redo-ifchange finds not clean -/

/-- The lower bound, with the one extra hypothesis `hb`: the scenario size `n` (from which the model
derives its recursion fuel `2n+4`) bounds the files that occur as sources of `m` (redo-ifchange)
dependency rows.  `w2` is any
world with the files, records and dependency rows of `w` (such as the world after the query). -/
theorem ood_lower_partial (d : Defects) (n : Nat) (w : World) (hwf : WF w)
    (hb : ∀ dep ∈ w.deps, dep.modeM = true → dep.source < n) (t : Nat) (hlt : t < n) (hkn : known w t = true)
    (ht : isTarget w (w.runCounter + 1) t = true)
    (w2 : World) (hfs : w2.fs = w.fs) (hrecs : w2.recs = w.recs) (hdeps : w2.deps = w.deps)
    (hne : (isDirty false (w.runCounter + 2) (2 * n + 4) w2 [] t (w.runCounter + 2) [] none).1 ≠ .clean) :
    t ∈ (runCmd d n .ood w).1.listing :=
  ood_lower_core d n w hwf hb t hlt hkn ht w2 hfs hrecs hdeps hne

/-- The same for the world the query leaves behind. -/
theorem ood_lower_partial_after (d : Defects) (n : Nat) (w : World) (hwf : WF w)
    (hb : ∀ dep ∈ w.deps, dep.modeM = true → dep.source < n) (t : Nat) (hlt : t < n) (hkn : known w t = true)
    (ht : isTarget w (w.runCounter + 1) t = true)
    (hne : (isDirty false (w.runCounter + 2) (2 * n + 4) (runCmd d n .ood w).2 [] t (w.runCounter + 2) [] none).1
      ≠ .clean) :
    t ∈ (runCmd d n .ood w).1.listing :=
  ood_lower_core d n w hwf hb t hlt hkn ht _ (read_only d n w .ood (.inl rfl)).1
    (read_only d n w .ood (.inl rfl)).2.1 (read_only d n w .ood (.inl rfl)).2.2.1 hne

/-- In terms of `should_build` of the following top-level `redo-ifchange` (which allocates the
next run id): whatever it does not find clean was listed. -/
theorem ood_lower_shouldBuild (d : Defects) (n : Nat) (w : World) (hwf : WF w)
    (hb : ∀ dep ∈ w.deps, dep.modeM = true → dep.source < n) (t : Nat) (hlt : t < n) (hkn : known w t = true)
    (ht : isTarget w (w.runCounter + 1) t = true) (kg : Bool)
    (hne : (shouldBuild { runid := (allocRun (runCmd d n .ood w).2).1, keepGoing := kg } (2 * n + 4) t
      (allocRun (runCmd d n .ood w).2).2).1 ≠ some .clean) :
    t ∈ (runCmd d n .ood w).1.listing := by
  have hro := read_only d n w .ood (.inl rfl)
  have hrc : (allocRun (runCmd d n .ood w).2).1 = w.runCounter + 2 := by simp [allocRun, hro.2.2.2.1]
  rw [hrc] at hne
  refine ood_lower_core d n w hwf hb t hlt hkn ht (allocRun (runCmd d n .ood w).2).2 hro.1 hro.2.1 hro.2.2.1
    (fun hcl => hne ?_)
  exact shouldBuild_clean_of_isDirty hwf (allocRun (runCmd d n .ood w).2).2 hro.2.1
    { runid := w.runCounter + 2, keepGoing := kg } rfl
    (by show w.runCounter < w.runCounter + 2; omega) _ t hcl

/-! ### None of the three queries alters what later build commands do -/

/-- The queries keep worlds well-formed (they change no record and consume one run id). -/
theorem wf_query (d : Defects) (n : Nat) (w : World) (hwf : WF w) (c : Cmd)
    (hc : c = .ood ∨ c = .targets ∨ c = .sources) : WF (runCmd d n c w).2 :=
  query_world d n w c hc ▸ fun f =>
    have ⟨h1, h2, h3⟩ := hwf f
    ⟨fun c hc => Nat.le_succ_of_le (h1 c hc), fun c hc => Nat.le_succ_of_le (h2 c hc),
      fun c hc => Nat.le_succ_of_le (h3 c hc)⟩

/-- A query leaves *everything* but the run counter as it was (also the ghost trace, the stash …). -/
theorem query_only_consumes_run_id (d : Defects) (n : Nat) (w : World) (c : Cmd)
    (hc : c = .ood ∨ c = .targets ∨ c = .sources) :
    (runCmd d n c w).2 = { w with runCounter := w.runCounter + 1 } :=
  query_world d n w c hc

/-- Third sentence of C17, at full strength: the build command after a query returns the same
result and leaves the same world as without the query, up to the renaming `sh` of its own run id
(`shW R` maps every recorded run id `≥ R` to its successor and adds one to the run counter;
files, dependency rows, clock, row ids and the trace of executed scripts are untouched by it). -/
theorem queries_do_not_change_builds (d : Defects) (n : Nat) (w : World) (hwf : WF w) (c : Cmd)
    (hc : c = .ood ∨ c = .targets ∨ c = .sources) (b : Cmd)
    (hb : ∃ ts kg, b = .redo ts kg ∨ b = .ifchange ts kg) :
    runCmd d n b (runCmd d n c w).2 = ((runCmd d n b w).1, shW (w.runCounter + 1) (runCmd d n b w).2) :=
  query_world d n w c hc ▸ build_shift d n w hwf b hb

/-- Same files, same exit status, same events (executed scripts, override warnings), same
dependency rows. -/
theorem queries_do_not_change_builds_obs (d : Defects) (n : Nat) (w : World) (hwf : WF w) (c : Cmd)
    (hc : c = .ood ∨ c = .targets ∨ c = .sources) (b : Cmd)
    (hb : ∃ ts kg, b = .redo ts kg ∨ b = .ifchange ts kg) :
    (runCmd d n b (runCmd d n c w).2).2.fs = (runCmd d n b w).2.fs ∧
    (runCmd d n b (runCmd d n c w).2).1.status = (runCmd d n b w).1.status ∧
    (runCmd d n b (runCmd d n c w).2).2.trace = (runCmd d n b w).2.trace ∧
    (runCmd d n b (runCmd d n c w).2).2.deps = (runCmd d n b w).2.deps :=
  queries_do_not_change_builds d n w hwf c hc b hb ▸ ⟨rfl, rfl, rfl, rfl⟩

/-- The scripts executed by the next build command are the same with or without the query. -/
theorem queries_do_not_change_ran (d : Defects) (n : Nat) (w : World) (hwf : WF w) (c : Cmd)
    (hc : c = .ood ∨ c = .targets ∨ c = .sources) (b : Cmd)
    (hb : ∃ ts kg, b = .redo ts kg ∨ b = .ifchange ts kg) (t : Nat) :
    Ev.ran t ∈ (runCmd d n b (runCmd d n c w).2).2.trace ↔ Ev.ran t ∈ (runCmd d n b w).2.trace :=
  Eq.to_iff (congrArg (fun l => Ev.ran t ∈ l) (queries_do_not_change_builds_obs d n w hwf c hc b hb).2.2.1)

/-! ### The extra hypothesis is needed (in the model): counterexample -/

/-- Two targets 1 and 2 (`n = 3`, fuel 10); both reach the chain 10 → … → 15 of files outside the
scenario size, target 2 through five more such files. -/
def cexWorld : World :=
  { fs := fun f => if f = 0 then none else some { content := [], ms := 1, rest := 0 },
    recs := fun f => if f = 0 then { row := 1 } else
      { row := f + 1, isGenerated := true, checked := some 1, changed := some 1, stamp := some (.st 1 0) },
    deps := [(1,10),(10,11),(11,12),(12,13),(13,14),(14,15),
             (2,20),(20,21),(21,22),(22,23),(23,24),(24,10)].map
      (fun p => { target := p.1, source := p.2, modeM := true, deleteMe := false }),
    runCounter := 1, clock := 1, nextRow := 100, progs := fun _ => none, rules := fun _ => [], trace := [] }

theorem cex_wf : WF cexWorld := by
  intro f
  simp only [cexWorld]
  split <;> simp

/-- Without `hb` the statement fails in the model: `redo-ood` walks target 1 first, caches the
chain, and finds target 2 clean at depth 6, while the next command's own walk of target 2 runs out
of fuel at depth 11 and answers "cyclic".  (An artefact of the model's fuel, not of redo: real
walks have no depth limit.) -/
theorem ood_lower_needs_bound :
    WF cexWorld ∧ known cexWorld 2 = true ∧ isTarget cexWorld (cexWorld.runCounter + 1) 2 = true ∧
    (isDirty false (cexWorld.runCounter + 2) (2 * 3 + 4) (runCmd {} 3 .ood cexWorld).2 [] 2
      (cexWorld.runCounter + 2) [] none).1 = .cyclic ∧
    (runCmd {} 3 .ood cexWorld).1.listing = [] :=
  ⟨cex_wf, by decide +kernel, by decide +kernel, by decide +kernel, by decide +kernel⟩

/-- Target 1 was built from source 2, which has been edited since. -/
def exWorld : World :=
  { fs := fun f => if f = 1 ∨ f = 2 then some { content := [], ms := 1, rest := 0 } else none,
    recs := fun f =>
      if f = 0 then { row := 1 }
      else if f = 1 then { row := 2, isGenerated := true, checked := some 1, changed := some 1, stamp := some (.st 1 0) }
      else if f = 2 then { row := 3, checked := some 1, changed := some 1, stamp := some (.st 0 0) }
      else {},
    deps := [{ target := 1, source := 2, modeM := true, deleteMe := false }],
    runCounter := 1, clock := 1, nextRow := 4, progs := fun _ => none, rules := fun _ => [], trace := [] }

theorem ex_wf : WF exWorld := by
  intro f
  simp only [exWorld]
  split
  · simp
  · split
    · simp
    · split <;> simp

example : (runCmd {} 3 .ood exWorld).1.listing = [1] := by decide +kernel

example : 1 ∈ (runCmd {} 3 .ood exWorld).1.listing :=
  ood_lower_partial_after {} 3 exWorld ex_wf (by decide) 1 (by decide) (by decide +kernel) (by decide +kernel)
    (by decide +kernel)

example : (isTarget exWorld 2 1 = true ∨ isSource exWorld 2 1 = true) :=
  (targets_sources_cover exWorld 2 1).2 (.inl (by decide +kernel))

example : (runCmd {} 3 (.ifchange [1] false) (runCmd {} 3 .ood exWorld).2).2.fs
    = (runCmd {} 3 (.ifchange [1] false) exWorld).2.fs :=
  (queries_do_not_change_builds_obs {} 3 exWorld ex_wf .ood (.inl rfl) (.ifchange [1] false) ⟨[1], false, .inr rfl⟩).1

end C17
