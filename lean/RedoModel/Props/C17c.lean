import RedoModel.Lemmas.DepsQuietEx
/-!
# C17 (continued) — `redo-ood` lists nothing right after a successful full build
Property theorem only (application of `RedoModel/Lemmas/DepsQuietHistory.lean`).  Model: `RedoModel/Deps.lean`.
-/
namespace C17
open RedoModel.Deps RedoModel.Deps.Rich

/-- After any rich history, let `redo-ifchange ts` (or `redo ts`: `forced`) exit 0, let the recorded dependency
closure of `ts` hold no row on the `//ALWAYS` pseudo file (a `redo-always` target is always out of date), and let `ts`
name every known target (what `redo-targets` would print).  Then `redo-ood`, run next, prints nothing. -/
theorem ood_empty_after_build (n : Nat) (rules : Nat → List Nat) (rank : Nat → Nat) (ops : List UserOp) (ts : List Nat)
    (kg forced : Bool) (hr : RulesOk rules) (hp : ∀ op ∈ ops, RichOp rules op)
    (hrk : ∀ w ∈ worldsOf n {} (initWorld rules) ops, RankedR rank w) (hN : ∀ f, rank f < n)
    (hok : OpsOkW n (initWorld rules) ops) (hts0 : ∀ t ∈ ts, t ≠ alwaysId) :
    let w := ops.foldl (fun w op => (applyOp {} n op w).2) (initWorld rules)
    let r1 := runCmd {} n (if forced then .redo ts kg else .ifchange ts kg) w
    r1.1.status = 0 → ¬ RecReach r1.2 ts alwaysId →
    (∀ f, f < n → known r1.2 f = true → isTarget r1.2 (r1.2.runCounter + 1) f = true → f ∈ ts) →
    (runCmd {} n .ood r1.2).1.listing = [] :=
  oodEmptyAfterBuild n rules rank ops ts kg forced hr hp hrk hN hok hts0

end C17
