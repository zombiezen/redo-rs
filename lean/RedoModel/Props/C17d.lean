import RedoModel.Lemmas.DepsOodUpEx
/-!
# C17 (continued) — the UPPER bound for `redo-ood`
The property theorems; what they rest on is in `RedoModel/Lemmas/DepsOodUp*.lean`.  Model: `RedoModel/Deps.lean`.

`C17b` has the lower bound (what the next `redo-ifchange`'s check does not find clean is listed).  Here: what is
listed is not found clean by that check (so, for known targets, `redo-ood` is *exact* with respect to `should_build`),
and whenever redo-ood's verdict is `need ts`, the members of `ts` are checksummed targets below the listed one that
themselves need rebuilding — "beyond the targets that will really be rebuilt it lists only direct or indirect
dependents of a checksummed target that needs rebuilding" (the dependents are listed because whether they will be
rebuilt is only known once the checksummed target has been rebuilt: `C17e.overapproximation_is_real`).

Run ids: the query consumes `runCounter + 1`; the following command runs as `runCounter + 2` on the world the
query leaves, which is `w` with the run counter advanced (`C17.query_only_consumes_run_id`).
-/
namespace C17
open RedoModel.Deps RedoModel.Deps.Rich

/-- **Exactness after a rich history** (rich scripts never use `redo-stamp`; the class of `C01.no_stale_full_rich`):
`redo-ood` lists `t` iff `t` is a known target below `n` and `should_build` of the following `redo-ifchange` does
not answer "clean" for it.  No bound on file ids is needed (the fuel is justified by the rank). -/
theorem ood_exact_rich (n : Nat) (rules : Nat → List Nat) (rank : Nat → Nat) (ops : List UserOp)
    (hr : RulesOk rules) (hp : ∀ op ∈ ops, RichOp rules op)
    (hrk : ∀ w ∈ worldsOf n {} (initWorld rules) ops, RankedR rank w) (hN : ∀ f, rank f < n)
    (hok : OpsOkW n (initWorld rules) ops) (kg : Bool) (t : Nat) :
    let w := ops.foldl (fun w op => (applyOp {} n op w).2) (initWorld rules)
    t ∈ (runCmd {} n .ood w).1.listing ↔
      ((t < n ∧ known w t = true ∧ isTarget w (w.runCounter + 1) t = true) ∧
        (shouldBuild { runid := (allocRun (runCmd {} n .ood w).2).1, keepGoing := kg } (2 * n + 4) t
          (allocRun (runCmd {} n .ood w).2).2).1 ≠ some .clean) := by
  intro w
  exact ood_exact_btw {} hN (Rich.btw_of_history hr hN ops hp hrk hok) (WF_reachable {} n rules ops) kg t

/-- **Upper bound after a rich history**: what `redo-ood` lists is a known target that `should_build` of the
following `redo-ifchange` does not find clean (the `→` half of `ood_exact_rich`).  `_partial`: the further step
"not clean ⇒ the script of `t` is executed, unless no .do file exists any more or the command stops earlier" is not
proven here. -/
theorem ood_upper_rich_partial (n : Nat) (rules : Nat → List Nat) (rank : Nat → Nat) (ops : List UserOp)
    (hr : RulesOk rules) (hp : ∀ op ∈ ops, RichOp rules op)
    (hrk : ∀ w ∈ worldsOf n {} (initWorld rules) ops, RankedR rank w) (hN : ∀ f, rank f < n)
    (hok : OpsOkW n (initWorld rules) ops) (kg : Bool) (t : Nat) :
    let w := ops.foldl (fun w op => (applyOp {} n op w).2) (initWorld rules)
    t ∈ (runCmd {} n .ood w).1.listing →
      (shouldBuild { runid := (allocRun (runCmd {} n .ood w).2).1, keepGoing := kg } (2 * n + 4) t
        (allocRun (runCmd {} n .ood w).2).2).1 ≠ some .clean :=
  fun h => ((ood_exact_rich n rules rank ops hr hp hrk hN hok kg t).1 h).2

/-- **Exactness for any well-formed world and any defect switches** (checksums allowed), under the hypothesis of
`ood_lower_partial` (file ids of `m` rows below the scenario size `n`, which justifies the fuel `2n+4`): a known
target below `n` is listed iff the check of the following command (run id `runCounter + 2`) does not find it clean. -/
theorem ood_exact_partial (d : Defects) (n : Nat) (w : World) (hwf : WF w)
    (hb : ∀ dep ∈ w.deps, dep.modeM = true → dep.source < n) (t : Nat) (hlt : t < n) (hkn : known w t = true)
    (ht : isTarget w (w.runCounter + 1) t = true)
    (w2 : World) (hfs : w2.fs = w.fs) (hrecs : w2.recs = w.recs) (hdeps : w2.deps = w.deps) :
    t ∈ (runCmd d n .ood w).1.listing ↔
      (isDirty false (w.runCounter + 2) (2 * n + 4) w2 [] t (w.runCounter + 2) [] none).1 ≠ .clean :=
  ⟨fun h => (ood_upper_core d n w hwf (idCert _ _ n hb) (fun t ht => idFu_top _ _ n _ t ht (by omega)) t h w2 hfs hrecs
      hdeps _).2,
   fun h => ood_lower_core d n w hwf hb t hlt hkn ht w2 hfs hrecs hdeps h⟩

/-- **General upper bound** (any defect switches, checksums allowed; `_partial`: well-formed world and the bound `hb`
on file ids).  If `redo-ood` lists `t` then `t` is a known target; its own dirtiness walk (`isDirty true`, on the
world and with the run id of the query) answers `dirty`, `need _` or `cyclic` — never `clean`; so does the builder's
check of the following command; and whenever redo-ood's walk answers `need ts`, every member `x` of `ts` is in the
recorded dependency closure of `t`, has a recorded checksum, and is itself found clean neither by redo-ood's walk
nor by the check of the following command: a checksummed target that needs rebuilding. -/
theorem ood_upper_general_partial (d : Defects) (n : Nat) (w : World) (hwf : WF w)
    (hb : ∀ dep ∈ w.deps, dep.modeM = true → dep.source < n) (t : Nat) (ht : t ∈ (runCmd d n .ood w).1.listing) :
    (t < n ∧ known w t = true ∧ isTarget w (w.runCounter + 1) t = true) ∧
    (∀ fuel, (isDirty true (w.runCounter + 1) fuel { w with runCounter := w.runCounter + 1 } [] t
        (w.runCounter + 1) [] none).1 ≠ .clean) ∧
    (∀ fuel, (isDirty false (w.runCounter + 2) fuel { w with runCounter := w.runCounter + 2 } [] t
        (w.runCounter + 2) [] none).1 ≠ .clean) ∧
    ∀ fuel ts, (isDirty true (w.runCounter + 1) fuel { w with runCounter := w.runCounter + 1 } [] t
        (w.runCounter + 1) [] none).1 = .need ts → ∀ x ∈ ts,
      RecReach w [t] x ∧ ((w.recs x).csum.isSome = true) ∧
      (∀ fuel' mx', (isDirty true (w.runCounter + 1) fuel' { w with runCounter := w.runCounter + 1 } [] x mx' [] none).1
        ≠ .clean) ∧
      (∀ fuel', (isDirty false (w.runCounter + 2) fuel' { w with runCounter := w.runCounter + 2 } [] x
        (w.runCounter + 2) [] none).1 ≠ .clean) := by
  have hF := idCert { w with runCounter := w.runCounter + 1 } (w.runCounter + 1) n hb
  have hfu : ∀ t, t < n → IdFu { w with runCounter := w.runCounter + 1 } (w.runCounter + 1) n (2 * n + 4) [] t :=
    fun t ht => idFu_top _ _ n _ t ht (by omega)
  obtain ⟨h1, h2⟩ := ood_upper_general_core d n w hF hfu t ht
  refine ⟨h1, h2, fun fuel => (ood_upper_core d n w hwf hF hfu t ht { w with runCounter := w.runCounter + 2 } rfl rfl rfl
    fuel).2, fun fuel ts hts x hx => ?_⟩
  obtain ⟨a, b, c, e⟩ := ood_need_members { w with runCounter := w.runCounter + 1 } (w.runCounter + 1) fuel t _ ts hts x hx
  refine ⟨?_, ?_, e, fun fuel' hcl => ?_⟩
  · have := MReach.recReach a [t] (RecReach.base (by simp))
    exact RecReach_congr (w := { w with runCounter := w.runCounter + 1 }) (w' := w) rfl this
  · have : (getRec { w with runCounter := w.runCounter + 1 } (w.runCounter + 1) x).csum = (w.recs x).csum := by
      simp only [getRec]; split <;> rfl
    rw [← this]; exact b
  · have hpc := builder_clean_pc hwf { w with runCounter := w.runCounter + 2 } rfl rfl rfl x fuel' hcl
    exact c _ (PC.congr (w := w) (w2 := { w with runCounter := w.runCounter + 1 }) rfl rfl rfl hpc)

/-- The part about `need` verdicts needs no hypothesis at all (any world, any fuel, any bound): every member of a
`need ts` verdict of redo-ood's walk for `t` lies below `t` along recorded `m` rows, has a recorded checksum, has no
`PC` ("provably clean") derivation under any bound, and is not found clean by redo-ood's walk itself. -/
theorem need_members_are_dirty_checksummed (w : World) (R fuel t mx : Nat) (ts : List Nat)
    (h : (isDirty true R fuel w [] t mx [] none).1 = .need ts) (x : Nat) (hx : x ∈ ts) :
    MReach w R t x ∧ (getRec w R x).csum.isSome = true ∧ (∀ mx', ¬ PC w R x mx') ∧
    ∀ fuel' mx', (isDirty true R fuel' w [] x mx' [] none).1 ≠ .clean :=
  ood_need_members w R fuel t mx ts h x hx

/-- Non-vacuity (history `uOps`: source 5, checksummed `mid` = 3, `top` = 4 reading `mid`, all built, the file of
`mid` removed; scenario size 6): the hypotheses of `ood_upper_general_partial` hold, `top` is listed, the verdict for
`top` is `need [mid]`, and `mid` is as the theorem says. -/
theorem ood_upper_general_nonvacuous :
    WF uW ∧ (∀ dep ∈ uW.deps, dep.modeM = true → dep.source < 6) ∧ 4 ∈ (runCmd {} 6 .ood uW).1.listing ∧
    (isDirty true 2 16 { uW with runCounter := 2 } [] 4 2 [] none).1 = .need [3] :=
  ⟨u_wf, u_hb, u_top_listed, u_need⟩

end C17
