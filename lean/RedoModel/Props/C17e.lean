import RedoModel.Lemmas.DepsOodUpEx
/-!
# C17 (continued) — the over-approximation of `redo-ood` is real, and of the allowed kind
Property theorem only (evaluation lemmas of `RedoModel/Lemmas/DepsOodUpEx.lean`).  The example history is that of the
`DepsSoundS*` development; `C17d`, which applies the general theorems to it, sets it up again under its own names.
-/
namespace C17e
open RedoModel.Deps RedoModel.Deps.S

/-- History `sOpsA` (`C01.stamp_cutoff_example_trace`): source 5, checksummed `mid` (3, `redo-stamp`) reading it,
`top` (4) reading `mid`; all built; the file of `mid` removed.  On that world
* `redo-ood` (scenario size 5) lists `mid` and `top`;
* redo-ood's verdict for `top` is `need [mid]`, and `mid` carries a checksum: `top` is listed as a dependent of a
  checksummed target that needs rebuilding (`C17.ood_upper_general_partial`);
* `redo-ifchange top` exits 0 and executes `mid` only — its checksum is unchanged, `top` is not rebuilt.
  (A `redo-ood` between does not change that: `C17.queries_do_not_change_builds_obs`.) -/
theorem overapproximation_is_real :
    (runCmd {} 5 .ood (sW sOpsA)).1.listing = [3, 4] ∧
    (isDirty true 2 14 { sW sOpsA with runCounter := 2 } [] 4 2 [] none).1 = .need [3] ∧
    ((sW sOpsA).recs 3).csum.isSome = true ∧ (sW sOpsA).runCounter = 1 ∧
    sResA.1.status = 0 ∧ sResA.2.trace = .ran 3 :: (sW sOpsA).trace :=
  ⟨sA_ood, sA_need, sA_mid_csum, sA_rc, sA_build.1, sA_build.2⟩

end C17e
