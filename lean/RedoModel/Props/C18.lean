import RedoModel.Props.C18d
import RedoModel.Props.C18c
import RedoModel.Lemmas.LogRec
import RedoModel.Props.C18e
import RedoModel.Props.C18f
import RedoModel.Props.C18g
import RedoModel.Props.C18b
import RedoModel.Generated
/-!
# C18 — Build output is logged completely, once, and under the right target
Property theorems only.  Model: `RedoModel/LogRec.lean`.  Parts: `C18b.lean` (the replay `redo-log -r`: every line once,
in order, under its target), `C18c.lean` (`redo-log --follow` on a growing log), `C18d.lean` (the trace acceptor of the
follower against that model), `C18e.lean` (what `PrettyLog::write_line` shows), `C18f.lean` (the status line of the
viewer), `C18g.lean` (the pretty replay is defined on every replay).
-/
namespace C18
open RedoModel.LogRec

/-- The record syntax the theorems are about is the one in the source (re-extracted on every run). -/
theorem syntax_tied : String.ofList pre = RedoModel.Generated.metaPrefix ∧
    String.ofList sep = RedoModel.Generated.metaSep ∧
    RedoModel.Generated.metaFormat = "{}{}:{}:{:.4}{}{}" := by decide

/-- Structured records survive formatting and re-parsing unchanged: for every kind without
`:`, `@`, newline, every canonical pid and timestamp token and every text without newline. -/
theorem roundtrip (r : Rec)
    (hk : ∀ c ∈ r.kind, c ≠ ':' ∧ c ≠ '@' ∧ c ≠ '\n')
    (hp : canonI32 r.pid = some r.pid) (ht : canonTs r.ts = true) (hx : '\n' ∉ r.text) :
    parse (format r) = .ok r := roundtrip_proof r hk hp ht hx

/-- `"<rv> <name>"` of a `done` record re-parses to the same status and name, for any name
(spaces included) and any canonical status. -/
theorem done_roundtrip (rv name : List Char) (hrv : canonI32 rv = some rv) :
    parseDoneText (rv ++ ' ' :: name) = some (rv, name) := done_roundtrip_proof rv name hrv

/-- What `logs::write` accepts: text without newline plus one final newline. -/
theorem valid_line (l : List Char) (h : '\n' ∉ l) : isValidLogLine (l ++ ['\n']) = true := by
  unfold isValidLogLine
  simp [h]

/-- Non-vacuity: a concrete record meets the hypotheses of `roundtrip`. -/
example : parse (format ⟨kDone, ['3','1','9','2','4'], "1790659939.3597".toList, "0 a b".toList⟩)
    = .ok ⟨kDone, ['3','1','9','2','4'], "1790659939.3597".toList, "0 a b".toList⟩ := by
  apply roundtrip <;> decide

/-- Known finding `inbandRecordsInStderr`, stated on the model: a stderr line that has the
record syntax is parsed as a record (so `catlog` consumes it instead of showing it). -/
theorem inband_witness :
    parsedKind "@@REDO:do:1:0.0000@@ x".toList = some (kDo, ['x']) := by decide +kernel

end C18
