import RedoModel.Lemmas.Catlog
import RedoModel.Lemmas.Pretty
import RedoModel.Lemmas.LogRec
import RedoModel.Lemmas.RecordInLine
/-!
# C18 (replay half) — every stderr line appears exactly once, in order, under its target, in `redo-log -r`

Model: `RedoModel/LogRec.lean` (`lines`, `catlog`, `redoLog`); definitions and supporting lemmas:
`RedoModel/Lemmas/Catlog.lean`, `RedoModel/Lemmas/Catlog.lean`.

Vocabulary (all defined in `Lemmas/Catlog.lean`):
* `isRawLine l`   : `l` is emitted verbatim by `lines` — it does not parse as a record, or it is a record whose
                    kind is none of `unchanged do waiting locked unlocked done`, or it is a `done` record whose text is
                    not `<status> <name>` (`parseDoneText` fails; written by a script, passed through like other text)
                    (`isRawLine_iff`, `malformed_done_is_raw`);
* `rawLines ls`   : `(ls.filter isRawLine).map cleanLine`;
* `unglue ls`     : the lines of a log as `catlog`'s line loop sees them — a record glued to unterminated text
                    (`checking y... @@REDO:do:…@@ y`) counts as two lines, the text and the record (`unglue1`; model file);
* `newOut st st'` : the entries appended between `st` and `st'`, oldest first (`st.out` is newest first);
* `rawsOf x c`    : the texts of the `.raw` entries of `c` that are tagged `x`, in order;
* `Step`/`Run`    : the contribution of one log line / of a whole log, in log order;
* `pending F a`   : number of distinct *cleaned* keys (`normpath`) of `F` that are not in `a`.

`St.already` holds cleaned names (`normpath`): `catlog` and `lines` both key it that way.  Forests are keyed by
cleaned project-relative names (the database's key): `catlog t` reads `lookup F (normpath t)`.  Tags are the raw names
`catlog` was called with: a command-line spelling, or `joinP (dirOf t) x` for a record text `x` in the log of `t`
(names in a log are relative to the directory of the log's target); printed names (`do`, `done`) are cleaned.
-/
namespace C18
open RedoModel.LogRec RedoModel.Paths

/-- An evaluated fact about a successful result, read as a fact about the value (for the examples). -/
theorem map_eq_ok {ε α β : Type} {r : Except ε α} {f : α → β} {y : β} (h : r.map f = .ok y) :
    ∃ x, r = .ok x ∧ f x = y := by
  cases r with
  | error e => cases h
  | ok x => exact ⟨x, rfl, Except.ok.inj h⟩

/-- `all` has text, a `do child` record, text, a second `do child`, and its `done`;
`child` has text, an in-band record of a kind `catlog` does not know, and its `done`;
`top` mentions `child` again. -/
def exF : Forest :=
  [("all".toList, some ["compiling  ".toList, "@@REDO:do:7:1.0000@@ child".toList, "linked".toList,
      "@@REDO:do:7:2.0000@@ child".toList, "@@REDO:done:7:3.0000@@ 0 all".toList]),
   ("child".toList, some ["cc child.c".toList, "@@REDO:resumed:8:1.5000@@ x".toList,
      "@@REDO:done:8:1.5000@@ 0 child".toList]),
   ("top".toList, some ["@@REDO:do:9:1.0000@@ child".toList, "top text".toList])]

def exAllLog : List (List Char) :=
  ["compiling  ".toList, "@@REDO:do:7:1.0000@@ child".toList, "linked".toList,
   "@@REDO:do:7:2.0000@@ child".toList, "@@REDO:done:7:3.0000@@ 0 all".toList]

/-- The replay `redo-log -r all top`: `child` is shown once, inside `all`, between `all`'s two text lines;
its second mention in `all` and its mention in `top` show nothing. -/
example : (redoLog exF false true 4 ["all".toList, "top".toList] ⟨[], []⟩).map (fun s => s.out.reverse) =
    .ok [⟨[], .record kDo "all".toList⟩,
         ⟨"all".toList, .raw "compiling".toList⟩,
         ⟨"all".toList, .record kDo "child".toList⟩,
         ⟨"child".toList, .raw "cc child.c".toList⟩,
         ⟨"child".toList, .raw "@@REDO:resumed:8:1.5000@@ x".toList⟩,
         ⟨"child".toList, .record kDone "0 child".toList⟩,
         ⟨"all".toList, .record kResumed "all".toList⟩,
         ⟨"all".toList, .raw "linked".toList⟩,
         ⟨"all".toList, .record kDone "0 all".toList⟩,
         ⟨[], .record kDo "top".toList⟩,
         ⟨"top".toList, .raw "top text".toList⟩] := by
  unfold exF
  -- a literal is `String.ofList` of its characters: rewriting spares the kernel the UTF-8 decoding
  repeat rw [String.toList_ofList]
  decide +kernel

example : rawLines exAllLog = ["compiling".toList, "linked".toList] := by
  unfold exAllLog
  repeat rw [String.toList_ofList]
  decide +kernel

/-! ## 0. Ungluing: a record that follows unterminated text on the same line -/

theorem unglue_nil : unglue [] = [] := rfl

theorem unglue_cons (l : List Char) (ls : List (List Char)) : unglue (l :: ls) = unglue1 l ++ unglue ls := by
  unfold unglue
  rw [List.flatMap_cons]

/-- A line without `@` (hence without a record prefix) is one line. -/
theorem unglue_plain (l : List Char) (h : '@' ∉ l) : unglue1 l = [l] := by
  unfold unglue1
  rw [RedoModel.Pretty.findSub_pre_none l h]

/-- A line that starts with the record prefix is one line (a record at the start of a line is not split off anything). -/
theorem unglue_record_line (x : List Char) : unglue1 (pre ++ x) = [pre ++ x] := by
  have hf : findSub pre (pre ++ x) = some ([], x) := RedoModel.Pretty.findSub_pre_after [] x (by simp)
  unfold unglue1
  rw [hf]
  rfl

/-- A well-formed record (the records of `C18.roundtrip`) glued to non-empty `@`-free text is handled as two lines: the
text, then the record. -/
theorem unglue_glued (b : List Char) (r : Rec) (hb : '@' ∉ b) (hne : b ≠ [])
    (hk : ∀ c ∈ r.kind, c ≠ ':' ∧ c ≠ '@' ∧ c ≠ '\n')
    (hp : canonI32 r.pid = some r.pid) (ht : canonTs r.ts = true) (hx : '\n' ∉ r.text) :
    unglue1 (b ++ format r) = [b, format r] := by
  obtain ⟨a, ha, hf⟩ := findSub_format b r hb
  have hp := roundtrip_proof r hk hp ht hx
  rw [ha] at hp hf ⊢
  exact unglue1_split _ b a r hf hne hp

/-- A log without any `@` is left as it is. -/
theorem unglue_of_plain : ∀ (ls : List (List Char)), (∀ l ∈ ls, '@' ∉ l) → unglue ls = ls
  | [], _ => rfl
  | l :: ls, h => by
    rw [unglue_cons, unglue_plain l (h l (List.mem_cons_self ..)),
      unglue_of_plain ls (fun l' hl' => h l' (List.mem_cons_of_mem _ hl'))]
    rfl

theorem isPrefix_pre_of_no_at (l : List Char) (h : '@' ∉ l) : isPrefix pre l = false := by
  cases l with
  | nil => rfl
  | cons c cs =>
    exact isPrefix_cons_ne (fun e => h (by rw [e]; exact List.mem_cons_self ..))

/-- The scenario of the repair: `all`'s script prints `checking y... ` without a newline and calls `redo-ifchange y`,
whose start record lands on the same line of `all`'s log. -/
def exGlue : Forest :=
  [("all".toList, some ["all 1".toList, "checking y... @@REDO:do:5:1.0000@@ y".toList, "yes".toList]),
   ("y".toList, some ["y 1".toList, "y 2".toList])]

example : unglue ["all 1".toList, "checking y... @@REDO:do:5:1.0000@@ y".toList, "yes".toList] =
    ["all 1".toList, "checking y... ".toList, "@@REDO:do:5:1.0000@@ y".toList, "yes".toList] := by
  repeat rw [String.toList_ofList]
  decide +kernel

/-- The start record that follows unterminated text is followed into `y`'s log: the text is shown as a line of its own
(cleaned: `cleanLine` trims the trailing blank), then `y` is announced and its log shown, then `all` resumes. -/
theorem glued_start_record_is_followed :
    (redoLog exGlue false true (exGlue.length + 2) ["all".toList] ⟨[], []⟩).map (fun s => s.out.reverse) =
    .ok [⟨[], .record kDo "all".toList⟩,
         ⟨"all".toList, .raw "all 1".toList⟩,
         ⟨"all".toList, .raw "checking y...".toList⟩,
         ⟨"all".toList, .record kDo "y".toList⟩,
         ⟨"y".toList, .raw "y 1".toList⟩,
         ⟨"y".toList, .raw "y 2".toList⟩,
         ⟨"all".toList, .record kResumed "all".toList⟩,
         ⟨"all".toList, .raw "yes".toList⟩] := by
  unfold exGlue
  repeat rw [String.toList_ofList]
  decide +kernel

/-- A first `@@REDO:` that does not start a well-formed record leaves the line alone (it is shown as text). -/
example : unglue1 "50% @@REDO: done".toList = ["50% @@REDO: done".toList] := by
  repeat rw [String.toList_ofList]
  decide +kernel

/-! ## 1. The raw lines of a target, each once, in order -/

/-- `isRawLine` is exactly "not one of the records `lines` interprets": not a record, a record of a kind other than
`unchanged do waiting locked unlocked done`, or a `done` record whose text is not `<status> <name>`. -/
theorem isRawLine_spec (l : List Char) :
    isRawLine l = true ↔ ∀ g, parse l = .ok g →
      g.kind ≠ kUnchanged ∧ g.kind ≠ kDo ∧ g.kind ≠ kWaiting ∧ g.kind ≠ kLocked ∧ g.kind ≠ kUnlocked ∧
      (g.kind = kDone → parseDoneText g.text = none) :=
  isRawLine_iff l

/-- A `done` record whose text is not of the form `<status> <name>` (redo never writes one; a script did) is a raw line:
the replay passes it through like other text. -/
theorem malformed_done_is_raw (l : List Char) (g : Rec) (hp : parse l = .ok g) (hk : g.kind = kDone)
    (hd : parseDoneText g.text = none) : isRawLine l = true := by
  rw [isRawLine_iff]
  intro g' hg'
  rw [hp] at hg'
  simp only [Except.ok.injEq] at hg'
  subst hg'
  rw [hk]
  exact ⟨by decide, by decide, by decide, by decide, by decide, fun _ => hd⟩

/-- … and a well-formed one is not (it is printed as a `done` record). -/
theorem wellformed_done_is_not_raw (l : List Char) (g : Rec) (hp : parse l = .ok g) (hk : g.kind = kDone)
    (v : List Char × List Char) (hd : parseDoneText g.text = some v) : isRawLine l = false := by
  cases hr : isRawLine l with
  | false => rfl
  | true =>
    have := ((isRawLine_iff l).1 hr g hp).2.2.2.2.2 hk
    rw [hd] at this; cases this

/-- The scenario of the repair: `a`'s script prints a line that looks like a `done` record but carries no
`<status> <name>`.  -/
def exBadDone : Forest :=
  [("a".toList, some ["a 1".toList, "@@REDO:done:1:1.0000@@ oops".toList, "a 2".toList,
      "@@REDO:do:5:1.0000@@ b".toList, "a 3".toList]),
   ("b".toList, some ["b 1".toList])]

example : isRawLine "@@REDO:done:1:1.0000@@ oops".toList = true ∧
    isRawLine "@@REDO:done:1:1.0000@@ 0 a".toList = false := by
  repeat rw [String.toList_ofList]
  decide +kernel

/-- The malformed `done` line is shown as it is, in its place, and the replay goes on (before the repair it aborted):
the following text, the sub-target `b`, the `resumed` marker and the rest of `a`'s log all follow. -/
theorem malformed_done_passes_through :
    (redoLog exBadDone false true (exBadDone.length + 2) ["a".toList] ⟨[], []⟩).map (fun s => s.out.reverse) =
    .ok [⟨[], .record kDo "a".toList⟩,
         ⟨"a".toList, .raw "a 1".toList⟩,
         ⟨"a".toList, .raw "@@REDO:done:1:1.0000@@ oops".toList⟩,
         ⟨"a".toList, .raw "a 2".toList⟩,
         ⟨"a".toList, .record kDo "b".toList⟩,
         ⟨"b".toList, .raw "b 1".toList⟩,
         ⟨"a".toList, .record kResumed "a".toList⟩,
         ⟨"a".toList, .raw "a 3".toList⟩] := by
  unfold exBadDone
  repeat rw [String.toList_ofList]
  decide +kernel

/-- No replay fails on a `done` record: the line loop reports `badDone` only if its `recurse` argument does,
and `catlog` and the whole `redo-log` run never do — whatever the forest, the options, the fuel and the state are. -/
theorem replay_never_fails_on_done (F : Forest) (optU optR : Bool) (fuel : Nat) :
    (∀ (recurse : List Char → St → Except CErr (St × Nat)), (∀ x s, recurse x s ≠ .error .badDone) →
      ∀ t ls st intr w, lines recurse optU optR t ls st intr w ≠ .error .badDone) ∧
    (∀ t st, catlog F optU optR fuel t st ≠ .error .badDone) ∧
    (∀ ts st, redoLog F optU optR fuel ts st ≠ .error .badDone) :=
  ⟨fun _ hn t ls st intr w => lines_ne_badDone hn optU optR t ls st intr w,
   catlog_ne_badDone F optU optR fuel, redoLog_ne_badDone F optU optR fuel⟩

/-- Replaying a target that was not shown yet and has a log: among the entries the call appends, the raw
ones tagged with that target are exactly the raw lines (cleaned) among the lines of the log after ungluing (a record
glued to unterminated text counts as two lines) — same lines, same order, each once. -/
theorem raw_lines_of_target (F : Forest) (optU optR : Bool) (fuel : Nat) (t : List Char) (st st' : St) (n : Nat)
    (ls : List (List Char)) (h : catlog F optU optR fuel t st = .ok (st', n)) (ht : normpath t ∉ st.already)
    (hl : lookup F (normpath t) = some (some ls)) :
    (newOut st st').filter (fun e => decide (e.tag = t) && isRaw e.out) =
      (((unglue ls).filter isRawLine).map cleanLine).map (fun l => ⟨t, .raw l⟩) := by
  rw [filter_raw_eq, catlog_raws h ht hl]; rfl

/-- The same, reading only the texts. -/
theorem raw_lines_of_target' (F : Forest) (optU optR : Bool) (fuel : Nat) (t : List Char) (st st' : St) (n : Nat)
    (ls : List (List Char)) (h : catlog F optU optR fuel t st = .ok (st', n)) (ht : normpath t ∉ st.already)
    (hl : lookup F (normpath t) = some (some ls)) :
    rawsOf t (newOut st st') = ((unglue ls).filter isRawLine).map cleanLine :=
  catlog_raws h ht hl

/-- A log of plain stderr text (none of the lines of the log after ungluing — a record glued to unterminated text
counts as two lines — starts with `@@REDO:`) is shown entirely. -/
theorem plain_log_shown (F : Forest) (optU optR : Bool) (fuel : Nat) (t : List Char) (st st' : St) (n : Nat)
    (ls : List (List Char)) (h : catlog F optU optR fuel t st = .ok (st', n)) (ht : normpath t ∉ st.already)
    (hl : lookup F (normpath t) = some (some ls)) (hplain : ∀ l ∈ unglue ls, isPrefix pre l = false) :
    rawsOf t (newOut st st') = (unglue ls).map cleanLine := by
  rw [catlog_raws h ht hl, rawLines_of_plain hplain]

/-- In particular a log without any `@` (what a script that prints no record syntax writes) is shown entirely, line
for line. -/
theorem at_free_log_shown (F : Forest) (optU optR : Bool) (fuel : Nat) (t : List Char) (st st' : St) (n : Nat)
    (ls : List (List Char)) (h : catlog F optU optR fuel t st = .ok (st', n)) (ht : normpath t ∉ st.already)
    (hl : lookup F (normpath t) = some (some ls)) (hplain : ∀ l ∈ ls, '@' ∉ l) :
    rawsOf t (newOut st st') = ls.map cleanLine := by
  have hu := unglue_of_plain ls hplain
  have := plain_log_shown F optU optR fuel t st st' n ls h ht hl
    (by rw [hu]; exact fun l hm => isPrefix_pre_of_no_at l (hplain l hm))
  rw [this, hu]

/-- The replay of `all` alone succeeds, and reads the log `exAllLog`: evaluated here, once, for the examples that
instantiate the theorems on it. -/
theorem exF_all_ok : ∃ v, catlog exF false true 4 "all".toList ⟨[], []⟩ = .ok v := by
  have h : (catlog exF false true 4 "all".toList ⟨[], []⟩).map (fun _ => ()) = .ok () := by
    unfold exF
    repeat rw [String.toList_ofList]
    decide +kernel
  exact (map_eq_ok h).imp fun _ hv => hv.1

theorem exF_all_log : lookup exF (normpath "all".toList) = some (some exAllLog) := by
  unfold exF exAllLog
  repeat rw [String.toList_ofList]
  decide +kernel

example : ∃ st' n, catlog exF false true 4 "all".toList ⟨[], []⟩ = .ok (st', n) ∧
    normpath "all".toList ∉ (⟨[], []⟩ : St).already ∧ lookup exF (normpath "all".toList) = some (some exAllLog) ∧
    rawsOf "all".toList (newOut ⟨[], []⟩ st') = ["compiling".toList, "linked".toList] := by
  obtain ⟨⟨st', n⟩, hc⟩ := exF_all_ok
  refine ⟨st', n, hc, by simp, exF_all_log, ?_⟩
  rw [raw_lines_of_target' exF false true 4 _ _ _ _ _ hc (by simp) exF_all_log]
  unfold exAllLog
  repeat rw [String.toList_ofList]
  decide +kernel

/-! ## 2. Replay only appends -/

/-- What a successful call appends (`newOut`) is a good chunk (`catlog_good`, read with `newOut`). -/
theorem catlog_newOut {F : Forest} {optU optR : Bool} {fuel : Nat} {t : List Char} {st st' : St} {n : Nat}
    (h : catlog F optU optR fuel t st = .ok (st', n)) :
    st'.out = (newOut st st').reverse ++ st.out ∧ GoodChunk F st.already (newOut st st') st'.already := by
  obtain ⟨c, hc, hg⟩ := catlog_good F optU optR fuel t st st' n h
  rw [newOut_eq hc]; exact ⟨hc, hg⟩

theorem prefix_preserved (F : Forest) (optU optR : Bool) (fuel : Nat) (t : List Char) (st st' : St) (n : Nat)
    (h : catlog F optU optR fuel t st = .ok (st', n)) :
    st.out <:+ st'.out ∧ st.already ⊆ st'.already :=
  ⟨⟨_, (catlog_newOut h).1.symm⟩, (catlog_newOut h).2.sub⟩

/-- `newOut` is exactly what was appended. -/
theorem out_eq_newOut (F : Forest) (optU optR : Bool) (fuel : Nat) (t : List Char) (st st' : St) (n : Nat)
    (h : catlog F optU optR fuel t st = .ok (st', n)) :
    st'.out.reverse = st.out.reverse ++ newOut st st' := by
  rw [(catlog_newOut h).1]; simp

/-! ## 3. Every target is shown at most once -/

/-- A target whose cleaned name was already shown emits nothing. -/
theorem already_shown_emits_nothing (F : Forest) (optU optR : Bool) (fuel : Nat) (t : List Char) (st : St)
    (h : normpath t ∈ st.already) : catlog F optU optR (fuel + 1) t st = .ok (st, 0) := by
  rw [catlog, if_pos h]

/-- A successful replay marks its target (cleaned name) as shown. -/
theorem replay_marks_shown (F : Forest) (optU optR : Bool) (fuel : Nat) (t : List Char) (st st' : St) (n : Nat)
    (h : catlog F optU optR fuel t st = .ok (st', n)) : normpath t ∈ st'.already :=
  catlog_mem_already h

/-- During any successful `catlog` call, everything appended is attributed to targets that were not shown
before the call and are marked shown after it; and for every target the call shows nothing or that
target's log — the lines of the log after ungluing (a record glued to unterminated text counts as two lines) — once. -/
theorem replay_shows_each_once (F : Forest) (optU optR : Bool) (fuel : Nat) (t : List Char) (st st' : St) (n : Nat)
    (h : catlog F optU optR fuel t st = .ok (st', n)) :
    (∀ e ∈ newOut st st', normpath e.tag ∉ st.already ∧ normpath e.tag ∈ st'.already) ∧
    ∀ x, rawsOf x (newOut st st') = [] ∨
      ∃ ls, lookup F (normpath x) = some (some ls) ∧
        rawsOf x (newOut st st') = ((unglue ls).filter isRawLine).map cleanLine :=
  ⟨(catlog_newOut h).2.tags, (catlog_newOut h).2.raws⟩

/-- One whole `redo-log` run over any command-line targets, from the empty state: for every target `x`,
the raw lines attributed to `x` in the final output are either none, or exactly the raw lines among the lines of
`x`'s log after ungluing (a record glued to unterminated text counts as two lines), once and in order — however many
paths lead to `x`. -/
theorem each_target_once (F : Forest) (optU optR : Bool) (fuel : Nat) (ts : List (List Char)) (st' : St)
    (h : redoLog F optU optR fuel ts ⟨[], []⟩ = .ok st') (x : List Char) :
    rawsOf x st'.out.reverse = [] ∨
      ∃ ls, lookup F (normpath x) = some (some ls) ∧
        rawsOf x st'.out.reverse = ((unglue ls).filter isRawLine).map cleanLine :=
  ((redoLog_inv ts _ st' (InvSt.init F []) h).1 x).2

/-- The same from any state that satisfies the invariant (in particular any state with empty output);
moreover nothing raw is attributed to a target that is not marked shown. -/
theorem each_target_once_from (F : Forest) (optU optR : Bool) (fuel : Nat) (ts : List (List Char)) (st st' : St)
    (hi : InvSt F st) (h : redoLog F optU optR fuel ts st = .ok st') (x : List Char) :
    (normpath x ∉ st'.already → rawsOf x st'.out.reverse = []) ∧
    (rawsOf x st'.out.reverse = [] ∨
      ∃ ls, lookup F (normpath x) = some (some ls) ∧
        rawsOf x st'.out.reverse = ((unglue ls).filter isRawLine).map cleanLine) :=
  (redoLog_inv ts st st' hi h).1 x

/-- The first command-line target is shown completely — the raw lines among the lines of its log after ungluing (a
record glued to unterminated text counts as two lines) — (later targets cannot add to or remove from it). -/
theorem first_target_shown (F : Forest) (optU optR : Bool) (fuel : Nat) (t : List Char) (ts : List (List Char))
    (st' : St) (ls : List (List Char)) (h : redoLog F optU optR fuel (t :: ts) ⟨[], []⟩ = .ok st')
    (hl : lookup F (normpath t) = some (some ls)) :
    rawsOf t st'.out.reverse = ((unglue ls).filter isRawLine).map cleanLine := by
  obtain ⟨st1, n, hc, h⟩ := redoLog_cons_ok h
  obtain ⟨c, hout, hloop⟩ := catlog_loop hc (by simp [emit]) hl
  rw [(redoLog_frozen ts st1 st' (catlog_mem_already hc) h).2, hout, List.reverse_append, List.reverse_reverse,
    rawsOf_append, rawsOf_emit_record, hloop.mine]
  rfl

/-- Once a target is marked shown, the rest of the run attributes nothing raw to it any more. -/
theorem shown_is_final (F : Forest) (optU optR : Bool) (fuel : Nat) (ts : List (List Char)) (st st' : St)
    (x : List Char) (hx : normpath x ∈ st.already) (h : redoLog F optU optR fuel ts st = .ok st') :
    rawsOf x st'.out.reverse = rawsOf x st.out.reverse :=
  (redoLog_frozen ts st st' hx h).2

example : ∃ st', redoLog exF false true 4 ["all".toList, "top".toList] ⟨[], []⟩ = .ok st' ∧
    rawsOf "child".toList st'.out.reverse = ["cc child.c".toList, "@@REDO:resumed:8:1.5000@@ x".toList] ∧
    rawsOf "all".toList st'.out.reverse = ["compiling".toList, "linked".toList] := by
  have hok : (redoLog exF false true 4 ["all".toList, "top".toList] ⟨[], []⟩).map
      (fun s => (rawsOf "child".toList s.out.reverse, rawsOf "all".toList s.out.reverse)) =
      .ok (["cc child.c".toList, "@@REDO:resumed:8:1.5000@@ x".toList], ["compiling".toList, "linked".toList]) := by
    unfold exF
    repeat rw [String.toList_ofList]
    decide +kernel
  obtain ⟨s, hs, hv⟩ := map_eq_ok hok
  exact ⟨s, hs, (Prod.mk.inj hv).1, (Prod.mk.inj hv).2⟩

/-- Limit of `each_target_once` ("nothing or once" cannot be improved to "once" for every name on the command
line): forests are keyed by cleaned names and `already` is keyed by cleaned names, but tags are the spellings used.
`a`'s log says `do ./b`: the log of `b` is shown under the tag `./b` (the `do` record printed for it says `b`), and a
later `redo-log … b` prints nothing more.  This is an instance of `shown_once_per_cleaned_name` below; with the
arguments in the other order `b` is shown under the tag `b`, and `./b` has nothing. -/
def exG : Forest :=
  [("a".toList, some ["@@REDO:do:7:1.0000@@ ./b".toList]), ("b".toList, some ["y".toList])]

example : (redoLog exG false true 4 ["a".toList, "b".toList] ⟨[], []⟩).map
      (fun s => (rawsOf "b".toList s.out.reverse, rawsOf "./b".toList s.out.reverse, s.out.reverse.map (·.out))) =
    .ok ([], ["y".toList], [.record kDo "a".toList, .record kDo "b".toList, .raw "y".toList, .record kDo "b".toList]) := by
  unfold exG
  repeat rw [String.toList_ofList]
  decide +kernel

example : (redoLog exG false true 4 ["b".toList, "a".toList] ⟨[], []⟩).map
      (fun s => (rawsOf "b".toList s.out.reverse, rawsOf "./b".toList s.out.reverse)) =
    .ok (["y".toList], []) := by
  unfold exG
  repeat rw [String.toList_ofList]
  decide +kernel

/-! ## 3b. A target is shown once however it is spelled -/

/-- Within one successful `catlog` call, all entries (records and raw lines) that speak for one cleaned name
carry the same raw tag: a cleaned name is replayed under one spelling only. -/
theorem one_spelling_per_cleaned_name (F : Forest) (optU optR : Bool) (fuel : Nat) (t : List Char) (st st' : St)
    (n : Nat) (h : catlog F optU optR fuel t st = .ok (st', n)) :
    ∀ e1 ∈ newOut st st', ∀ e2 ∈ newOut st st', normpath e1.tag = normpath e2.tag → e1.tag = e2.tag :=
  (catlog_newOut h).2.uniq

/-- … hence of two different spellings of one cleaned name at most one has raw lines in what a call appends.
No side condition on the forest or on the state is needed. -/
theorem shown_once_per_cleaned_name_catlog (F : Forest) (optU optR : Bool) (fuel : Nat) (t : List Char)
    (st st' : St) (n : Nat) (h : catlog F optU optR fuel t st = .ok (st', n)) (x y : List Char) (hxy : x ≠ y)
    (hn : normpath x = normpath y) : rawsOf x (newOut st st') = [] ∨ rawsOf y (newOut st st') = [] :=
  (catlog_newOut h).2.once_per_cleaned hxy hn

/-- One whole `redo-log` run from the empty state: of two different spellings of one cleaned name, at most one
is shown (has raw lines in the output) — whatever the forest, the options and the command-line targets are. -/
theorem shown_once_per_cleaned_name (F : Forest) (optU optR : Bool) (fuel : Nat) (ts : List (List Char)) (st' : St)
    (h : redoLog F optU optR fuel ts ⟨[], []⟩ = .ok st') (x y : List Char) (hxy : x ≠ y)
    (hn : normpath x = normpath y) : rawsOf x st'.out.reverse = [] ∨ rawsOf y st'.out.reverse = [] :=
  (redoLog_inv ts _ st' (InvSt.init F []) h).2 x y hxy hn

/-- The same from any state satisfying the invariant. -/
theorem shown_once_per_cleaned_name_from (F : Forest) (optU optR : Bool) (fuel : Nat) (ts : List (List Char))
    (st st' : St) (hi : InvSt F st) (h : redoLog F optU optR fuel ts st = .ok st') (x y : List Char) (hxy : x ≠ y)
    (hn : normpath x = normpath y) : rawsOf x st'.out.reverse = [] ∨ rawsOf y st'.out.reverse = [] :=
  (redoLog_inv ts st st' hi h).2 x y hxy hn

/-- Non-vacuity, and the scenario of the repair: `a` mentions `b` and then `./b`, and `./b` is named again on the
command line.  The log of `b` is shown once, under the first spelling (a recursion that marks the raw name instead of
the cleaned one replays it again at the second mention: the defect repaired in /repo). -/
def exH : Forest :=
  [("a".toList, some ["@@REDO:do:7:1.0000@@ b".toList, "@@REDO:do:7:2.0000@@ ./b".toList]),
   ("b".toList, some ["y".toList])]

example : "b".toList ≠ "./b".toList ∧ normpath "b".toList = normpath "./b".toList ∧
    (redoLog exH false true 4 ["a".toList, "./b".toList] ⟨[], []⟩).map
      (fun s => (rawsOf "b".toList s.out.reverse, rawsOf "./b".toList s.out.reverse)) =
    .ok (["y".toList], []) := by
  unfold exH
  repeat rw [String.toList_ofList]
  decide +kernel

/-! ## 4. Attribution: the output of a target is its lines in order, with complete sub-replays in between -/

/-- The output of a successful replay of `t` is the concatenation, in the order of the lines of `t`'s log after
ungluing (a record glued to unterminated text counts as two lines), of one `Step` per line; a `Step` is either some entries of `t` itself (at most two; the raw ones being exactly
the cleaned line if it is a raw line) or an optional `do` record of `t` followed by one *complete* successful
`catlog` call of the sub-target named by the line (see `Step`, `Run`). -/
theorem tags_are_nested (F : Forest) (optU optR : Bool) (fuel : Nat) (t : List Char) (st st' : St) (n : Nat)
    (ls : List (List Char)) (h : catlog F optU optR fuel t st = .ok (st', n)) (ht : normpath t ∉ st.already)
    (hl : lookup F (normpath t) = some (some ls)) :
    ∃ fuel', fuel = fuel' + 1 ∧
      Run (catlog F optU optR fuel') t (unglue ls) { st with already := normpath t :: st.already } st' :=
  catlog_run h ht hl

/-- … and the sub-replays in between never speak for `t` (or any other target that is already marked):
`t` stays in `already` during its whole loop (`prefix_preserved`), so every entry of a sub-replay carries a tag
different from `t`; together with `tags_are_nested`, the entries tagged `t` are exactly the own entries
of the steps, in line order. -/
theorem sub_replay_foreign (F : Forest) (optU optR : Bool) (fuel : Nat) (t x : List Char) (s s' : St) (k : Nat)
    (ht : normpath t ∈ s.already) (h : catlog F optU optR fuel x s = .ok (s', k)) :
    ∀ e ∈ newOut s s', e.tag ≠ t ∧ normpath e.tag ≠ normpath t :=
  fun e he => ⟨fun heq => ((catlog_newOut h).2.tags e he).1 (heq ▸ ht),
    fun heq => ((catlog_newOut h).2.tags e he).1 (heq ▸ ht)⟩

/-- Every entry emitted during the replay of `t` is tagged `t`, or with a target that was not shown before
and has been replayed (is marked shown) when the call returns. -/
theorem tags_of_replay (F : Forest) (optU optR : Bool) (fuel : Nat) (t : List Char) (st st' : St) (n : Nat)
    (h : catlog F optU optR fuel t st = .ok (st', n)) :
    ∀ e ∈ newOut st st', e.tag = t ∨ (normpath e.tag ∉ normpath t :: st.already ∧ normpath e.tag ∈ st'.already) := by
  have hg := (catlog_newOut h).2
  intro e he
  by_cases het : e.tag = t
  · exact Or.inl het
  · exact Or.inr ⟨fun hin => by
      rcases List.mem_cons.1 hin with e' | e'
      · exact catlog_foreign h e he het e'
      · exact (hg.tags e he).1 e', (hg.tags e he).2⟩

example : ∃ st' n, catlog exF false true 4 "all".toList ⟨[], []⟩ = .ok (st', n) ∧
    Run (catlog exF false true 3) "all".toList exAllLog ⟨["all".toList], []⟩ st' := by
  obtain ⟨⟨st', n⟩, hc⟩ := exF_all_ok
  obtain ⟨f, hf, hrun⟩ := tags_are_nested exF false true 4 _ _ _ _ _ hc (by simp) exF_all_log
  obtain rfl : f = 3 := by omega
  have hu : unglue exAllLog = exAllLog := by
    unfold exAllLog
    repeat rw [String.toList_ofList]
    decide +kernel
  rw [hu] at hrun
  exact ⟨st', n, hc, hrun⟩

/-! ## 4b. Directories: names in a log are relative to the directory of the log's target -/

/-- Every `do` record emitted by the replay of `t` itself (tag `t`) carries `normpath (joinP (dirOf t) x)` for the
text `x` of some record line among the lines of `t`'s log after ungluing (a record glued to unterminated text counts
as two lines): the name is resolved against the directory of `t`, not against the
directory `redo-log` runs in. -/
theorem names_resolve_against_log_directory (F : Forest) (optU optR : Bool) (fuel : Nat) (t : List Char)
    (st st' : St) (n : Nat) (ls : List (List Char)) (h : catlog F optU optR fuel t st = .ok (st', n))
    (ht : normpath t ∉ st.already) (hl : lookup F (normpath t) = some (some ls)) :
    ∀ e ∈ newOut st st', e.tag = t → ∀ y, e.out = .record kDo y →
      ∃ l ∈ unglue ls, ∃ g, parse l = .ok g ∧ y = normpath (joinP (dirOf t) g.text) := by
  obtain ⟨f, hf, hrun⟩ := catlog_run h ht hl
  obtain ⟨c, hc, hd⟩ := run_doNames (catlog_good F optU optR f) (List.mem_cons_self ..) hrun
  have hc' : st'.out = c.reverse ++ st.out := hc
  rw [newOut_eq hc']
  exact hd

/-- … and the sub-replay that follows such a record is of exactly that file.  Every step of the line loop of `t`
(`tags_are_nested`) is either made of own entries of `t` only, or it is one complete `catlog` call on
`joinP (dirOf t) x` (`x` the text of the record on that line), entered with at most the `do` record carrying
`normpath (joinP (dirOf t) x)` added to the output … -/
theorem sub_replay_is_of_the_resolved_name (F : Forest) (optU optR : Bool) (fuel : Nat) (t l : List Char)
    (st st1 : St) (h : Step (catlog F optU optR fuel) t l st st1) :
    (∃ own : List Tagged, st1.out = own.reverse ++ st.out ∧ ∀ e ∈ own, e.tag = t) ∨
    ∃ (g : Rec) (s sB : St) (k : Nat), parse l = .ok g ∧
      catlog F optU optR fuel (joinP (dirOf t) g.text) s = .ok (sB, k) ∧ s.already = st.already ∧
      (s.out = st.out ∨ s.out = ⟨t, .record kDo (normpath (joinP (dirOf t) g.text))⟩ :: st.out) ∧
      st1 = { sB with already := normpath (joinP (dirOf t) g.text) :: sB.already } :=
  step_sub_call h

/-- … and a `catlog` call on any spelling `x` that is not shown yet reads the forest entry of the cleaned name
`normpath x` — for the sub-replay above the very name its `do` record carries: no log file marks the target shown and
emits nothing, a log file is shown under the tag `x` (all the raw lines among the lines of the log after ungluing — a
record glued to unterminated text counts as two lines — once, in order); an unknown name is an error. -/
theorem replay_reads_cleaned_name (F : Forest) (optU optR : Bool) (fuel : Nat) (x : List Char) (s s' : St) (k : Nat)
    (h : catlog F optU optR fuel x s = .ok (s', k)) (hx : normpath x ∉ s.already) :
    ∃ v, lookup F (normpath x) = some v ∧
      (v = none → s' = { s with already := normpath x :: s.already }) ∧
      ∀ ls, v = some ls → rawsOf x (newOut s s') = ((unglue ls).filter isRawLine).map cleanLine := by
  rcases catlog_ok h with ⟨hx', _⟩ | ⟨_, ⟨hl, hs⟩ | ⟨_, ls, _, hl, _⟩⟩
  · exact absurd hx' hx
  · exact ⟨none, hl, fun _ => hs, nofun⟩
  · exact ⟨some ls, hl, nofun, fun ls' e => Option.some.inj e ▸ catlog_raws h hx hl⟩

/-- Two directories: the log of `sub/a` says `do ../b` and `do c`.  The replay shows `b` (of the top directory) and
`sub/c`, each under the cleaned project-relative name, and reads exactly those two logs; the `c` of the top
directory is not touched.  The `done` record of `sub/a` names `a` relative to `sub` and is printed as `sub/a`. -/
def exD : Forest :=
  [("sub/a".toList, some ["@@REDO:do:7:1.0000@@ ../b".toList, "@@REDO:do:7:2.0000@@ c".toList,
      "@@REDO:done:7:3.0000@@ 0 a".toList]),
   ("b".toList, some ["text of b".toList]), ("c".toList, some ["text of top c".toList]),
   ("sub/c".toList, some ["text of sub/c".toList])]

example : (redoLog exD false true 5 ["./sub/a".toList] ⟨[], []⟩).map (fun s => s.out.reverse) =
    .ok [⟨[], .record kDo "sub/a".toList⟩,
         ⟨"./sub/a".toList, .record kDo "b".toList⟩,
         ⟨"./sub/../b".toList, .raw "text of b".toList⟩,
         ⟨"./sub/a".toList, .record kDo "sub/c".toList⟩,
         ⟨"./sub/c".toList, .raw "text of sub/c".toList⟩,
         ⟨"./sub/a".toList, .record kDone "0 sub/a".toList⟩] := by
  unfold exD
  repeat rw [String.toList_ofList]
  decide +kernel

/-- Non-vacuity of `names_resolve_against_log_directory` on `exD`: its hypotheses hold for `sub/a`, and the two `do`
records it speaks about exist and carry `b` and `sub/c`. -/
example : ∃ st' n ls, catlog exD false true 5 "sub/a".toList ⟨[], []⟩ = .ok (st', n) ∧
    normpath "sub/a".toList ∉ (⟨[], []⟩ : St).already ∧ lookup exD (normpath "sub/a".toList) = some (some ls) ∧
    ((newOut ⟨[], []⟩ st').filter (fun e => decide (e.tag = "sub/a".toList))).map (·.out) =
      [.record kDo "b".toList, .record kDo "sub/c".toList, .record kDone "0 sub/a".toList] ∧
    ∀ e ∈ newOut ⟨[], []⟩ st', e.tag = "sub/a".toList → ∀ y, e.out = .record kDo y →
      ∃ l ∈ unglue ls, ∃ g, parse l = .ok g ∧ y = normpath (joinP (dirOf "sub/a".toList) g.text) := by
  have hok : (catlog exD false true 5 "sub/a".toList ⟨[], []⟩).map
      (fun v => ((newOut ⟨[], []⟩ v.1).filter (fun e => decide (e.tag = "sub/a".toList))).map (·.out)) =
      .ok [.record kDo "b".toList, .record kDo "sub/c".toList, .record kDone "0 sub/a".toList] := by
    unfold exD
    repeat rw [String.toList_ofList]
    decide +kernel
  obtain ⟨⟨st', n⟩, hc, hv⟩ := map_eq_ok hok
  have hl : lookup exD (normpath "sub/a".toList) = some (some ["@@REDO:do:7:1.0000@@ ../b".toList,
      "@@REDO:do:7:2.0000@@ c".toList, "@@REDO:done:7:3.0000@@ 0 a".toList]) := by
    unfold exD
    repeat rw [String.toList_ofList]
    decide +kernel
  exact ⟨st', n, _, hc, by simp, hl, hv,
    names_resolve_against_log_directory exD false true 5 _ _ _ _ _ hc (by simp) hl⟩

/-- `catlog` never runs out of fuel when it has one unit per cleaned forest key not yet shown, plus one
(unknown targets give `unknownTarget`, never `outOfFuel`). -/
theorem terminates (F : Forest) (optU optR : Bool) (fuel : Nat) (t : List Char) (st : St)
    (h : pending F st.already + 1 ≤ fuel) : catlog F optU optR fuel t st ≠ .error .outOfFuel :=
  catlog_no_outOfFuel F optU optR fuel t st h

theorem pending_def (F : Forest) (a : List (List Char)) :
    pending F a = ((F.map (fun e => normpath e.1)).eraseDups.filter (fun k => decide (k ∉ a))).length := by
  unfold pending; rw [List.countP_eq_length_filter]

/-- In particular `F.length + 1` is always enough, for `catlog` and for the whole run. -/
theorem terminates_length (F : Forest) (optU optR : Bool) (fuel : Nat) (t : List Char) (st : St)
    (h : F.length + 1 ≤ fuel) : catlog F optU optR fuel t st ≠ .error .outOfFuel :=
  catlog_no_outOfFuel F optU optR fuel t st (by have := pending_le_length F st.already; omega)

theorem redoLog_terminates (F : Forest) (optU optR : Bool) (fuel : Nat) (ts : List (List Char)) (st : St)
    (h : pending F st.already + 1 ≤ fuel) : redoLog F optU optR fuel ts st ≠ .error .outOfFuel :=
  redoLog_no_outOfFuel F optU optR fuel ts st h

/-- Fuel is only a bound: any result other than `outOfFuel` (success or another error) is unchanged by more fuel. -/
theorem fuel_irrelevant (F : Forest) (optU optR : Bool) (fuel fuel' : Nat) (t : List Char) (st : St)
    (h : catlog F optU optR fuel t st ≠ .error .outOfFuel) (hle : fuel ≤ fuel') :
    catlog F optU optR fuel' t st = catlog F optU optR fuel t st := by
  obtain ⟨k, rfl⟩ := Nat.exists_eq_add_of_le hle
  exact catlog_fuel_mono h k

/-- On the example: three pending keys, so fuel 4 is enough by `terminates`; fuel 1 is not (`all` needs `child`). -/
example : pending exF [] = 3 ∧ catlog exF false true 1 "all".toList ⟨[], []⟩ = .error .outOfFuel ∧
    catlog exF false true 4 "all".toList ⟨[], []⟩ ≠ .error .outOfFuel := by
  unfold exF
  repeat rw [String.toList_ofList]
  exact ⟨by decide +kernel, by decide +kernel, terminates _ false true 4 _ _ (by decide +kernel)⟩

/-- `pending` counts cleaned names: three keys `a`, `./b`, `b` are two targets (the key `./b` is not a cleaned name
and is never read), and fuel 3 is enough. -/
example :
    let G : Forest := [("a".toList, some ["@@REDO:do:7:1.0000@@ ./b".toList]), ("./b".toList, some ["x".toList]),
                       ("b".toList, some ["y".toList])]
    pending G [] = 2 ∧ (redoLog G false true 3 ["a".toList, "b".toList] ⟨[], []⟩).isOk = true := by
  repeat rw [String.toList_ofList]
  decide +kernel

/-- The bound `pending + 1` is tight: a cycle `c0 → c1 → c2 → c0` has 3 pending keys, needs the 4th unit for
the innermost call (which only finds `c0` already shown), and fails with 3. -/
example :
    let G : Forest := [("c0".toList, some ["@@REDO:do:1:1.0000@@ c1".toList]),
                       ("c1".toList, some ["@@REDO:do:1:1.0000@@ c2".toList]),
                       ("c2".toList, some ["@@REDO:do:1:1.0000@@ c0".toList])]
    pending G [] = 3 ∧ catlog G false true 3 "c0".toList ⟨[], []⟩ = .error .outOfFuel ∧
    (catlog G false true 4 "c0".toList ⟨[], []⟩).isOk = true := by
  repeat rw [String.toList_ofList]
  decide +kernel

end C18
