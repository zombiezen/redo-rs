import RedoModel.Lemmas.LogFollowEx
import RedoModel.Lemmas.LogFollowInv
/-!
# C18 (live half) — `redo-log --follow` on one target whose log may be growing

Property theorems; model: `RedoModel/LogFollow.lean`; the invariants and lemmas they rest on: `Lemmas/LogFollowInv.lean` …
`LogFollowEx.lean`, `LogFollowInv.lean`.

Vocabulary: `enter insts ph` — the follower enters the target's log when the instances `insts` (oldest first, the last
one is at the log name) have existed and the builder is in phase `ph`; `run s es = some s'` — the interleaving `es`
of builder events and follower steps (`.fol`) is possible from `s` and leads to `s'`; `current s` — the instance at
the log name; `s.emitted` — the lines shown, most recent first; `remaining s` — lines of the open instance not yet
shown (nothing open: lines of the instance at the name).

Summary of the hypotheses.
* Prefix (`follow_prefix`): none — all interleavings, any number of builds.
* Completeness: false in general (`follow_complete_false_*`).  It holds
  - if no instance is created during the session (`follow_complete_partial`, any phase at entry), or
  - if the lock is not taken again during the session and the follower does not enter in the phase "locked, instance
    not yet created" *with an old instance at the name* (`follow_complete_one_build_partial`).
  Both are instances of `follow_complete_general`: every `create` happens while the follower has no descriptor open
  and has not started or believes the target locked (`CreateSafe`).
  `stale_open_loses_lines` violates only "no old instance"; `rebuild_during_follow_loses_lines` violates only "no
  second build".
* Termination (`follow_stops`): lock free, from any state, `2 * remaining + 5` follower steps (attained).
-/
namespace C18
open RedoModel.LogFollow

/-! ## 1. What has been shown is a prefix of the opened instance — every interleaving -/

/-- In every state of every run — any interleaving, any number of builds — the lines shown so far are, in order
and each once, exactly the first `pos` lines of the instance the follower's descriptor refers to; without a
descriptor nothing has been shown. -/
theorem follow_prefix (insts : List (List Nat)) (ph : Phase) (es : List Ev) (s : Sys)
    (h : run (enter insts ph) es = some s) :
    (∀ g, s.opened = some g → s.emitted.reverse = (s.insts.getD g []).take s.pos) ∧
    (s.opened = none → s.emitted = []) :=
  ⟨fun g hg => ((follow_prefix_core insts ph es s h).1 g hg).2.2, (follow_prefix_core insts ph es s h).2⟩

/-- The descriptor's instance exists, the position is inside it, and `pos` counts the lines shown. -/
theorem follow_prefix_valid (insts : List (List Nat)) (ph : Phase) (es : List Ev) (s : Sys)
    (h : run (enter insts ph) es = some s) (g : Nat) (hg : s.opened = some g) :
    g < s.insts.length ∧ s.pos ≤ (s.insts.getD g []).length ∧ s.emitted.length = s.pos := by
  obtain ⟨h1, h2, h3⟩ := (follow_prefix_core insts ph es s h).1 g hg
  refine ⟨h1, h2, ?_⟩
  have := congrArg List.length h3
  rw [List.length_reverse, List.length_take, Nat.min_eq_left h2] at this
  exact this

/-- Non-vacuity: a descriptor on the second instance, one of its lines shown, a third line arriving. -/
example : (run (enter [[9], [1, 2]] .building) [.fol, .fol, .fol, .append 3]).map
    (fun s => (s.opened, s.pos, s.emitted, s.insts)) = some (some 1, 1, [1], [[9], [1, 2, 3]]) := midRun_outcome

/-! ## 2. When the follower returns, the whole log of this build has been shown -/

/-- Hypothesis `hb`: no instance is created during the session (the target is built at most once — C07 — and this
build's instance exists when the follower enters, or the lock holder never builds).  Then when the follower has
returned, it has shown exactly the log at the name, and in every continuation without `create` the follower stays
returned, the log stays the same and the output stays the same.  The phase at entry is arbitrary: for
`ph = .lockedNoLog` the statement only covers "the lock holder finds the target clean" (the old log is then the
current one); the real restriction on that phase is in `follow_complete_one_build_partial`. -/
theorem follow_complete_partial (insts : List (List Nat)) (ph : Phase) (es : List Ev) (s : Sys)
    (hb : Ev.create ∉ es) (h : run (enter insts ph) es = some s) (hpc : s.pc = .stopped) :
    s.emitted.reverse = current s ∧
    ∀ es' s', Ev.create ∉ es' → run (enter insts ph) (es ++ es') = some s' →
      s'.pc = .stopped ∧ current s' = current s ∧ s'.emitted = s.emitted := by
  obtain ⟨h1, h2⟩ := complete_of_good (Good_enter insts ph) h hb hpc
  refine ⟨h1, ?_⟩
  intro es' s' hnc hr
  obtain ⟨s1, hr1, hr2⟩ := run_append_iff.1 hr
  rw [h] at hr1; cases hr1
  obtain ⟨a, b, c, _⟩ := h2 es' s' hnc hr2
  exact ⟨a, b, c⟩

/-- Under `hb` the descriptor, once open, is on the instance at the log name. -/
theorem follow_on_current_instance (insts : List (List Nat)) (ph : Phase) (es : List Ev) (s : Sys)
    (hb : Ev.create ∉ es) (h : run (enter insts ph) es = some s) (g : Nat) (hg : s.opened = some g) :
    g + 1 = s.insts.length ∧ s.insts.getD g [] = current s := by
  have hgood := Good_run h hb (Good_enter insts ph)
  have hl := hgood.last g hg
  refine ⟨hl, ?_⟩
  unfold current
  rw [← getD_last]; congr 1; omega

/-- One build per session.  `hb`: the lock is not taken again after the follower entered (so at most one `create`
is possible, and only if the follower entered in phase `lockedNoLog`).  `ha`: if the follower enters while the lock
is held and the instance is not yet created, there is NO old instance at the log name.  (`ha` excludes exactly the
reproduced defect: an old log at the name, which the follower would open.)  Then a returned follower has shown
exactly the log at the name, the lock is free, and nothing at all can happen before the next `lock`. -/
theorem follow_complete_one_build_partial (insts : List (List Nat)) (ph : Phase) (es : List Ev) (s : Sys)
    (ha : ph = .lockedNoLog → insts = []) (hb : Ev.lock ∉ es)
    (h : run (enter insts ph) es = some s) (hpc : s.pc = .stopped) :
    s.emitted.reverse = current s ∧ s.phase = .idle ∧
      ∀ es' s', Ev.lock ∉ es' → run s es' = some s' → es' = [] ∧ s' = s := by
  have h0 : Fresh (enter insts ph) ∨ Settled (enter insts ph) := by
    by_cases hph : ph = .lockedNoLog
    · rw [hph, ha hph]; exact .inl Fresh_enter
    · exact .inr (Settled_enter insts ph hph)
  rcases FreshOrSettled_run h hb h0 with hf | ⟨hg, hph⟩
  · exact absurd hpc hf.2.2.2.2.2
  · obtain ⟨hnb, hem⟩ := hg.stop hpc
    have hidle : s.phase = .idle := by
      cases hp : s.phase with
      | idle => rfl
      | lockedNoLog => exact absurd hp hph
      | building => exact absurd hp hnb
    exact ⟨hem, hidle, fun es' s' hnl h' => idle_stopped_run h' hnl hpc hidle⟩

/-- The general condition behind both.  `CreateSafe s` (= `s.opened = none ∧ (s.pc = .start ∨ s.wasLocked = true)`):
the follower has no descriptor open, and it has not made its first step or believes the target locked.
`SafeRun s0 es`: every accepted `create` of the run happens in such a state.  Then a returned follower has shown
exactly the log at the name, and the build is over.  In `stale_open_loses_lines` the `create` happens with a
descriptor open; in `build_after_enter_loses_lines` it happens after the follower saw "no file, not locked". -/
theorem follow_complete_general (insts : List (List Nat)) (ph : Phase) (es : List Ev) (s : Sys)
    (hsafe : SafeRun (enter insts ph) es) (h : run (enter insts ph) es = some s) (hpc : s.pc = .stopped) :
    s.emitted.reverse = current s ∧ s.phase ≠ .building :=
  complete_general insts ph es s hsafe h hpc

/-- The hypothesis of `follow_complete_partial` is an instance. -/
theorem safeRun_of_no_create (s0 : Sys) (es : List Ev) (hb : Ev.create ∉ es) : SafeRun s0 es :=
  RedoModel.LogFollow.safeRun_of_no_create es s0 hb

/-- The hypotheses of `follow_complete_one_build_partial` are an instance. -/
theorem safeRun_of_one_build (insts : List (List Nat)) (ph : Phase) (es : List Ev)
    (ha : ph = .lockedNoLog → insts = []) (hb : Ev.lock ∉ es) : SafeRun (enter insts ph) es := by
  apply RedoModel.LogFollow.safeRun_of_one_build es _ hb
  by_cases hph : ph = .lockedNoLog
  · rw [hph, ha hph]; exact .inl Fresh_enter
  · exact .inr (Settled_enter insts ph hph)

/-- A run covered by neither special case: old instance at the name, entry in phase `lockedNoLog`, but the follower
makes only its first step before the `create`; it then opens the new instance. -/
example :
    SafeRun (enter [[1]] .lockedNoLog) [.fol, .create, .append 2, .fol, .fol, .unlock, .fol, .fol, .fol, .fol, .fol] ∧
    (run (enter [[1]] .lockedNoLog) [.fol, .create, .append 2, .fol, .fol, .unlock, .fol, .fol, .fol, .fol, .fol]).map
      (fun s => (s.pc, s.emitted, current s)) = some (.stopped, [2], [2]) :=
  safeRun_example

/-- Non-vacuity of `follow_complete_partial`: entry during the build, lines before and after the open, a later
lock/unlock by somebody who finds the target clean. -/
example : Ev.create ∉ goodRun ∧
    outcome (enter [[9], [1]] .building) goodRun = some (.stopped, [1, 2, 3], [1, 2, 3]) :=
  ⟨goodRun_no_create, goodRun_outcome⟩

/-- Non-vacuity of `follow_complete_one_build_partial` in the phase `lockedNoLog`: no log yet, the follower spins
until the instance appears. -/
example : Ev.lock ∉ freshRun ∧ outcome (enter [] .lockedNoLog) freshRun = some (.stopped, [1], [1]) :=
  ⟨freshRun_no_lock, freshRun_outcome⟩

/-! ## 3. The hypotheses are necessary -/

/-- The reproduced defect: the follower enters while the builder holds the lock and has not yet replaced the old
log `[1]`.  It opens the old instance, shows the stale line `1`, and returns without ever showing line `2` of this
build.  The lock is taken only once. -/
theorem stale_open_loses_lines :
    ∃ s, run (enter [[1]] .lockedNoLog)
        [.fol, .fol, .create, .append 2, .fol, .fol, .unlock, .fol, .fol, .fol, .fol] = some s ∧
      s.pc = .stopped ∧ s.emitted = [1] ∧ current s = [2] :=
  ⟨_, rfl, rfl, rfl, rfl⟩

/-- A second build while the follower holds a descriptor on the first one: the follower (entered with the lock
free, log `[1]`) shows `1` and returns; line `2` of the new instance is never shown. -/
theorem rebuild_during_follow_loses_lines :
    ∃ s, run (enter [[1]] .idle) [.fol, .fol, .lock, .create, .append 2, .unlock, .fol, .fol, .fol] = some s ∧
      s.pc = .stopped ∧ s.emitted = [1] ∧ current s = [2] :=
  ⟨_, rfl, rfl, rfl, rfl⟩

/-- The follower enters before the build took the lock and there is no log yet: it finds no file, believes the
target unlocked and returns; the build's line is never shown. -/
theorem build_after_enter_loses_lines :
    ∃ s, run (enter [] .idle) [.fol, .fol, .lock, .create, .append 1, .unlock, .fol] = some s ∧
      s.pc = .stopped ∧ s.emitted = [] ∧ current s = [1] :=
  ⟨_, rfl, rfl, rfl, rfl⟩

/-- After a correct return a second build changes the log at the name: "nothing more is written" needs "no
`create`". -/
theorem rebuild_after_stop :
    outcome (enter [[1]] .idle) [.fol, .fol, .fol, .fol, .fol] = some (.stopped, [1], [1]) ∧
    outcome (enter [[1]] .idle) ([.fol, .fol, .fol, .fol, .fol] ++ [.lock, .create, .append 2, .unlock]) =
      some (.stopped, [1], [2]) := by decide

/-- Completeness without "no old instance" is false, even if the lock is never taken again. -/
theorem follow_complete_false_stale :
    ¬ ∀ (insts : List (List Nat)) (ph : Phase) (es : List Ev) (s : Sys), Ev.lock ∉ es →
        run (enter insts ph) es = some s → s.pc = .stopped → s.emitted.reverse = current s := by
  intro h
  have := h [[1]] .lockedNoLog staleRun _ staleRun_no_lock rfl rfl
  revert this; decide

/-- Completeness without "no second build" is false, even if the follower does not enter in phase `lockedNoLog`. -/
theorem follow_complete_false_rebuild :
    ¬ ∀ (insts : List (List Nat)) (ph : Phase) (es : List Ev) (s : Sys), ph ≠ .lockedNoLog →
        run (enter insts ph) es = some s → s.pc = .stopped → s.emitted.reverse = current s := by
  intro h
  have := h [[1]] .idle rebuildRun _ (by decide) rfl rfl
  revert this; decide

/-! ## 4. The follower does not return early -/

/-- In a session without `create`: when the follower has returned the build is over, and no line can be written
any more unless a new instance is created. -/
theorem follow_never_stops_early (insts : List (List Nat)) (ph : Phase) (es : List Ev) (s : Sys)
    (hb : Ev.create ∉ es) (h : run (enter insts ph) es = some s) (hpc : s.pc = .stopped) :
    s.phase ≠ .building ∧
    ∀ es' s', Ev.create ∉ es' → run s es' = some s' → ∀ l, Ev.append l ∉ es' := by
  have hg := Good_run h hb (Good_enter insts ph)
  refine ⟨(hg.stop hpc).1, ?_⟩
  intro es' s' hnc hr
  exact ((complete_of_good (Good_enter insts ph) h hb hpc).2 es' s' hnc hr).2.2.2.1

/-- The same read the other way (this is the invariant of the proof): while the build is running the follower
has not returned, and after its first step it believes the target locked. -/
theorem follow_not_stopped_while_building (insts : List (List Nat)) (ph : Phase) (es : List Ev) (s : Sys)
    (hb : Ev.create ∉ es) (h : run (enter insts ph) es = some s) (hph : s.phase = .building) :
    s.pc ≠ .stopped ∧ (s.pc ≠ .start → s.wasLocked = true) := by
  have hg := Good_run h hb (Good_enter insts ph)
  refine ⟨fun hpc => (hg.stop hpc).1 hph, fun hpc => ?_⟩
  cases hw : s.wasLocked with
  | true => rfl
  | false => exact absurd hph (hg.wl hpc hw)

/-! ## 5. The follower returns once the lock is free -/

/-- From any reachable state with the lock free (in fact from any state: reachability is not used), at most
`2 * remaining + 5` follower steps in a row lead to the return. -/
theorem follow_stops (insts : List (List Nat)) (ph : Phase) (es : List Ev) (s : Sys)
    (h : run (enter insts ph) es = some s) (hph : s.phase = .idle) :
    ∃ n s', n ≤ 2 * remaining s + 5 ∧ run s (List.replicate n .fol) = some s' ∧ s'.pc = .stopped :=
  follow_stops_stmt insts ph es s h hph

/-- Any state, with what does not change on the way. -/
theorem follow_stops_any (s : Sys) (hph : s.phase = .idle) :
    ∃ n s', n ≤ 2 * remaining s + 5 ∧ run s (List.replicate n .fol) = some s' ∧ s'.pc = .stopped ∧
      s'.phase = .idle ∧ s'.insts = s.insts :=
  follow_stops_core s hph

/-- The bound is attained: one line left, follower at the top of the loop believing the target locked: 7 steps and
not fewer. -/
theorem follow_stops_bound_attained :
    remaining slowState = 1 ∧
    (∀ n, n < 7 → (run slowState (List.replicate n .fol)).map (·.pc) ≠ some .stopped) ∧
    (run slowState (List.replicate 7 .fol)).map (·.pc) = some .stopped :=
  ⟨slowState_remaining, slowState_needs_7⟩

/-- Liveness and completeness together: in a session without `create`, once the lock is free a bounded number
of follower steps ends the loop with the whole log shown. -/
theorem follow_stops_complete (insts : List (List Nat)) (ph : Phase) (es : List Ev) (s : Sys)
    (hb : Ev.create ∉ es) (h : run (enter insts ph) es = some s) (hph : s.phase = .idle) :
    ∃ n s', n ≤ 2 * remaining s + 5 ∧ run (enter insts ph) (es ++ List.replicate n .fol) = some s' ∧
      s'.pc = .stopped ∧ s'.emitted.reverse = current s ∧ current s' = current s := by
  obtain ⟨n, s', hn, hr, hst, _, hin⟩ := follow_stops_core s hph
  have hrun := run_append_iff.2 ⟨s, h, hr⟩
  have hnc : Ev.create ∉ es ++ List.replicate n Ev.fol := by
    intro hm; rcases List.mem_append.mp hm with hm | hm
    · exact hb hm
    · exact replicate_fol_no_create n hm
  have hc : current s' = current s := by simp [current, hin]
  refine ⟨n, s', hn, hrun, hst, ?_, hc⟩
  rw [← hc]
  exact (complete_of_good (Good_enter insts ph) hrun hnc hst).1

/-! ## 6. Partial reads are glued into the lines of the byte stream -/

/-- Gluing the results of `read_line` (each non-empty, a newline at most at its end) gives exactly the lines of
the concatenated bytes, and the same unterminated rest — from any `line_head`. -/
theorem feed_is_split (ps : List (List Nat)) (head : List Nat) (h : ∀ p ∈ ps, Piece p) :
    feedAll head ps = splitLines head ps.flatten :=
  feedAll_eq_splitLines ps head (fun p hp => (h p hp).2)

/-- Non-vacuity: six pieces, three lines (one empty), an unterminated rest. -/
example : (∀ p ∈ [[1, 2], [3, 10], [10], [4], [5, 6, 10], [7]], Piece p) ∧
    feedAll [] [[1, 2], [3, 10], [10], [4], [5, 6, 10], [7]] = ([[1, 2, 3], [], [4, 5, 6]], [7]) ∧
    splitLines [] [1, 2, 3, 10, 10, 4, 5, 6, 10, 7] = ([[1, 2, 3], [], [4, 5, 6]], [7]) :=
  pieces_example

/-- The hypothesis is needed: a piece with a newline in its middle is not split. -/
theorem feed_needs_pieces : feedAll [] [[1, 10, 2, 10]] ≠ splitLines [] [[1, 10, 2, 10]].flatten := by decide

end C18
