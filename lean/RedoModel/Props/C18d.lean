import RedoModel.Lemmas.LogFollowObs
/-!
# C18 (live half, continued) — the trace acceptor `Obs` is tied to the model and to the completeness theorem

Property theorems; model and acceptor: `RedoModel/LogFollow.lean` (`Sys`, `step`, `run`; `Obs.ostep`, `Obs.orun`);
the simulation they rest on: `Lemmas/LogFollowObs.lean`.

* `obsOf s es` — what the hooks log of the run `es` from `s`: `lock`, `create i` (`i` = index of the new instance,
  used as its inode), `unlock`; the follower's first step → `enter b`; the `top` step that opens → `opened g`;
  the `check` step → `check b`; a `read` step at the end of the file → `eof`, followed by `stop` if the loop ends
  there; appends, reads of lines, `top` with a descriptor or without a file → nothing.
* `StartOk insts ph o0` — the acceptor starts in the phase `ph`, with no follower session, and (only when
  `ph = .building`) knows the current instance.  `obsStart insts ph` is such a state; so is the wire driver's `{}`
  for `ph = .idle`.
* `CreateSafe s` = `s.opened = none ∧ (s.pc = .start ∨ s.wasLocked = true)`;
  `SafeRun s es` — every accepted `create` of the run happens in a `CreateSafe` state (hypothesis of
  `C18.follow_complete_general`);
  `SafeRunS s es` — … in a `CreateSafe` state *or after the follower has returned*.

Result: the acceptor accepts the projection of a run exactly when the run is `SafeRunS`.  The difference to `SafeRun`
is one corner, and there the acceptor is right: a build that starts after the follower's session is over
(`obs_corner_build_after_return`).  Up to and including the follower's return, accepted ⇒ `SafeRun`, hence the
follower has shown the whole log at that moment (`accepted_trace_complete`).
-/
namespace C18
open RedoModel.LogFollow RedoModel.LogFollow.Obs

theorem obs_start_ok (insts : List (List Nat)) (ph : Phase) : StartOk insts ph (obsStart insts ph) :=
  ⟨rfl, rfl, fun _ h => by simp [obsStart, h]⟩

/-- The wire driver's start state, for a trace that starts with the lock free (whatever old instances exist). -/
theorem obs_start_default_ok (insts : List (List Nat)) : StartOk insts .idle {} :=
  ⟨rfl, rfl, (fun h => by cases h)⟩

/-! ## Accepted without a flag ⇔ every `create` is safe or comes after the follower's return -/

/-- The projection of a run is accepted by the acceptor if and only if every `create` of the run happens while
the follower has no descriptor open and has not started or believes the target locked — or after the follower
has returned.  (Any run, also one the model rejects at some event: the projection stops there.) -/
theorem obs_flags_iff (insts : List (List Nat)) (ph : Phase) (o0 : OSt) (h0 : StartOk insts ph o0)
    (es : List Ev) (i : Nat) :
    (∃ o', orun o0 (obsOf (enter insts ph) es) i = .ok o') ↔ SafeRunS (enter insts ph) es :=
  (obs_run_aux es _ o0 i (Rel_of_StartOk h0) (ObsInv_enter insts ph)).1

/-- In particular every run satisfying the hypothesis of `follow_complete_general` is accepted: the acceptor raises
no flag on a run on which the follower is provably correct. -/
theorem obs_accepts_safe_runs (insts : List (List Nat)) (ph : Phase) (o0 : OSt) (h0 : StartOk insts ph o0)
    (es : List Ev) (i : Nat) (hsafe : SafeRun (enter insts ph) es) :
    ∃ o', orun o0 (obsOf (enter insts ph) es) i = .ok o' :=
  (obs_flags_iff insts ph o0 h0 es i).mpr (safeRunS_of_safeRun es _ hsafe)

/-- The direction the correspondence check needs: if the projection of the whole run is accepted, then the run up to
and including the follower step `es1 ++ [.fol]` (any follower step, e.g. the one that returns) satisfies the hypothesis
of `follow_complete_general`. -/
theorem obs_accepted_safe_until_return (insts : List (List Nat)) (ph : Phase) (o0 : OSt) (h0 : StartOk insts ph o0)
    (es1 es2 : List Ev) (i : Nat) (s1 : Sys)
    (hacc : ∃ o', orun o0 (obsOf (enter insts ph) (es1 ++ .fol :: es2)) i = .ok o')
    (h1 : run (enter insts ph) (es1 ++ [.fol]) = some s1) : SafeRun (enter insts ph) (es1 ++ [.fol]) := by
  have hS := (obs_flags_iff insts ph o0 h0 _ i).mp hacc
  have heq : es1 ++ Ev.fol :: es2 = (es1 ++ [.fol]) ++ es2 := by simp
  rw [heq] at hS
  have hS1 := safeRunS_prefix _ _ _ hS
  obtain ⟨s0, hr0, hr1⟩ := run_append_iff.1 h1
  have hns : s0.pc ≠ .stopped := by
    intro hst; simp [run, step, hst] at hr1
  exact safeRun_of_safeRunS_until es1 _ s0 .fol hS1 hr0 hns

/-- Accepted trace ⇒ complete output: if the projection of the run is accepted, then at the moment the follower
returns (the follower step after `es1` leads to `stopped`) it has shown exactly the log at the name, and the build
is over. -/
theorem accepted_trace_complete (insts : List (List Nat)) (ph : Phase) (o0 : OSt) (h0 : StartOk insts ph o0)
    (es1 es2 : List Ev) (i : Nat) (s1 : Sys)
    (hacc : ∃ o', orun o0 (obsOf (enter insts ph) (es1 ++ .fol :: es2)) i = .ok o')
    (h1 : run (enter insts ph) (es1 ++ [.fol]) = some s1) (hpc : s1.pc = .stopped) :
    s1.emitted.reverse = current s1 ∧ s1.phase ≠ .building :=
  complete_general insts ph _ s1 (obs_accepted_safe_until_return insts ph o0 h0 es1 es2 i s1 hacc h1) h1 hpc

/-- … and this is still so at the end of the run if no instance is created after the return. -/
theorem accepted_trace_complete_end (insts : List (List Nat)) (ph : Phase) (o0 : OSt) (h0 : StartOk insts ph o0)
    (es1 es2 : List Ev) (i : Nat) (s1 s : Sys)
    (hacc : ∃ o', orun o0 (obsOf (enter insts ph) (es1 ++ .fol :: es2)) i = .ok o')
    (h1 : run (enter insts ph) (es1 ++ [.fol]) = some s1) (hpc : s1.pc = .stopped)
    (h2 : run s1 es2 = some s) (hnc : Ev.create ∉ es2) :
    s.pc = .stopped ∧ s.emitted.reverse = current s := by
  obtain ⟨a, b⟩ := accepted_trace_complete insts ph o0 h0 es1 es2 i s1 hacc h1 hpc
  obtain ⟨c1, _, c3, c4, _⟩ := stopped_run h2 hnc hpc b
  refine ⟨c1, ?_⟩
  rw [c4, a]; simp [current, c3]

/-- The corner in which "accepted" and `SafeRun` differ, kernel-checked: the follower shows `[1]` and returns; then
the target is built again.  The acceptor accepts (the session is over), the run is not `SafeRun`, and at the END of
the run the log at the name (`[2]`) is not what was shown — which is why `accepted_trace_complete` speaks about the
moment of the return. -/
theorem obs_corner_build_after_return :
    obsOf (enter [[1]] .idle) afterStopRun = [.enter false, .opened 0, .eof, .stop, .lock, .create 1, .unlock] ∧
    verdict {} (obsOf (enter [[1]] .idle) afterStopRun) = none ∧
    outcome (enter [[1]] .idle) afterStopRun = some (.stopped, [1], [2]) ∧
    ¬ SafeRun (enter [[1]] .idle) afterStopRun :=
  ⟨afterStop_accepted.1, afterStop_accepted.2.1, afterStop_accepted.2.2, afterStop_not_safeRun⟩

/-- When accepted, the acceptor's final state is the observable part of the model's final state: same phase; no
session open iff the follower has not started or has returned; otherwise the same descriptor and the same belief
about the lock. -/
theorem obs_final_state (insts : List (List Nat)) (ph : Phase) (o0 : OSt) (h0 : StartOk insts ph o0)
    (es : List Ev) (i : Nat) (o' : OSt) (s : Sys) (h : orun o0 (obsOf (enter insts ph) es) i = .ok o')
    (hr : run (enter insts ph) es = some s) :
    o'.phase = s.phase ∧ ((s.pc = .start ∨ s.pc = .stopped) → o'.fol = none) ∧
    (s.pc ≠ .start → s.pc ≠ .stopped → ∃ f, o'.fol = some f ∧ f.opened = s.opened ∧ f.wasLocked = s.wasLocked) :=
  have hR := (obs_run_aux es _ o0 i (Rel_of_StartOk h0) (ObsInv_enter insts ph)).2.2 o' s h hr
  ⟨hR.phase, hR.folNone, hR.folSome⟩

/-! ## The consistency flags cannot be raised on the model's own traces -/

/-- Whatever the run, a flag raised on its projection is one of the three creation flags; `badOrder`, `unsoundFree`,
`stopWhileLocked`, `wrongInstance`, `stopWithoutReread` are impossible (on real traces they check that the code's observations are
consistent with the model). -/
theorem obs_consistency_flags_unreachable (insts : List (List Nat)) (ph : Phase) (o0 : OSt)
    (h0 : StartOk insts ph o0) (es : List Ev) (i : Nat) (fl : Flag) (j : Nat)
    (h : orun o0 (obsOf (enter insts ph) es) i = .error (fl, j)) :
    (fl = .staleOpen ∨ fl = .rebuiltDuringFollow ∨ fl = .createAfterFree) ∧
    fl ≠ .badOrder ∧ fl ≠ .unsoundFree ∧ fl ≠ .stopWhileLocked ∧ fl ≠ .wrongInstance ∧
    fl ≠ .stopWithoutReread := by
  have hc := (obs_run_aux es _ o0 i (Rel_of_StartOk h0) (ObsInv_enter insts ph)).2.1 fl j h
  refine ⟨hc, ?_, ?_, ?_, ?_, ?_⟩ <;> (intro hfl; subst hfl; rcases hc with h | h | h <;> cases h)

/-- The condition on the start state is needed: started in the phase `building` without the current instance, the
acceptor raises `wrongInstance` on a correct run. -/
theorem obs_start_state_matters :
    verdict { phase := .building } (obsOf (enter [[9], [1]] .building) goodRun) = some (.wrongInstance, 1) := by
  decide

/-! ## The runs of `C18c`, projected -/

/-- The reproduced defect is flagged `staleOpen`, at the `create`. -/
theorem obs_flags_stale_open :
    obsOf (enter [[1]] .lockedNoLog) staleRun =
      [.enter true, .opened 0, .create 1, .unlock, .eof, .check false, .eof, .stop] ∧
    verdict (obsStart [[1]] .lockedNoLog) (obsOf (enter [[1]] .lockedNoLog) staleRun) = some (.staleOpen, 2) := by
  decide

/-- A rebuild under an open descriptor is flagged `rebuiltDuringFollow`. -/
theorem obs_flags_rebuild :
    obsOf (enter [[1]] .idle) rebuildRun = [.enter false, .opened 0, .lock, .create 1, .unlock, .eof, .stop] ∧
    verdict {} (obsOf (enter [[1]] .idle) rebuildRun) = some (.rebuiltDuringFollow, 3) := by
  decide

/-- A build that starts after the follower saw "no file, not locked" is flagged `createAfterFree`. -/
theorem obs_flags_create_after_free :
    obsOf (enter [] .idle) lateBuildRun = [.enter false, .lock, .create 0, .unlock, .eof, .stop] ∧
    verdict {} (obsOf (enter [] .idle) lateBuildRun) = some (.createAfterFree, 2) := by
  decide

/-- Non-vacuity: the two correct sessions of `C18c` are accepted. -/
example :
    verdict (obsStart [[9], [1]] .building) (obsOf (enter [[9], [1]] .building) goodRun) = none ∧
    verdict (obsStart [] .lockedNoLog) (obsOf (enter [] .lockedNoLog) freshRun) = none :=
  ⟨good_projection.2, fresh_projection.2⟩

/-! ## Outside the model: the tolerance branch of `Obs.ostep (.create i)` (`opened i` logged before `create i`)

On projections the branch is never taken (`opened g` always has `g <` the index of the next instance).  On real traces
it is.  If the follower believes the target locked, the swapped order gives exactly the state of the true order.  If
it believes the target free, both orders are flagged `createAfterFree` (the branch looks at `wasLocked`). -/

theorem obs_swapped_open_create_ok (o : OSt) (f : FolSt) (i k : Nat) (hph : o.phase = .lockedNoLog)
    (hf : o.fol = some f) (hop : f.opened = none) (hw : f.wasLocked = true) :
    orun o [.opened i, .create i] k = orun o [.create i, .opened i] k ∧
    ∃ o', orun o [.create i, .opened i] k = .ok o' := by
  simp [orun, ostep, hph, hf, hop, hw]

theorem obs_swapped_open_create_hole (o : OSt) (f : FolSt) (i k : Nat) (hph : o.phase = .lockedNoLog)
    (hf : o.fol = some f) (hop : f.opened = none) (hw : f.wasLocked = false) :
    orun o [.opened i, .create i] k = .error (.createAfterFree, k + 1) ∧
    orun o [.create i, .opened i] k = .error (.createAfterFree, k) := by
  simp [orun, ostep, hph, hf, hop, hw]

/-- A run that loses a line, its projection (flagged), and the same trace with the two lines swapped (flagged too). -/
theorem obs_swapped_hole_example :
    outcome (enter [] .idle) [.fol, .lock, .create, .fol, .fol, .append 1, .unlock] = some (.stopped, [], [1]) ∧
    obsOf (enter [] .idle) [.fol, .lock, .create, .fol, .fol, .append 1, .unlock] =
      [.enter false, .lock, .create 0, .opened 0, .eof, .stop, .unlock] ∧
    verdict {} [.enter false, .lock, .create 0, .opened 0, .eof, .stop, .unlock] = some (.createAfterFree, 2) ∧
    verdict {} [.enter false, .lock, .opened 0, .create 0, .eof, .stop, .unlock] = some (.createAfterFree, 3) := by
  decide

/-! ## Why the loop reads again after the probe (`stopWithoutReread`)

`stepEarly` is `step` except that the `check` micro-step that finds the lock free goes straight to `stopped`. -/

/-- The early-stopping follower loses the last line although the entry was safe (the build's instance exists, phase
`building`) and no instance is created: it sees the end of the file, the builder writes `1` and unlocks, the probe
finds the lock free, and the follower returns without reading again.  The real loop, continued by four more
follower steps on the same events, shows the line.  The observable trace of the early stop is flagged
`stopWithoutReread`. -/
theorem early_stop_loses_lines :
    Ev.create ∉ earlyRun ∧
    (runEarly (enter [[]] .building) earlyRun).map (fun s => (s.pc, s.emitted.reverse, current s)) =
      some (.stopped, [], [1]) ∧
    outcome (enter [[]] .building) (earlyRun ++ [.fol, .fol, .fol, .fol]) = some (.stopped, [1], [1]) ∧
    verdict (obsStart [[]] .building) [.enter true, .opened 0, .eof, .unlock, .check false, .stop] =
      some (.stopWithoutReread, 5) := by
  decide

/-- `verdict … = none` is "accepted". -/
theorem verdict_none (o : OSt) (evs : List OEv) : verdict o evs = none ↔ ∃ o', orun o evs 0 = .ok o' := by
  unfold verdict
  cases h : orun o evs 0 with
  | ok o' => simp
  | error x => simp

end C18
