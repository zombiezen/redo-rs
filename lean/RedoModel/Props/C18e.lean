import RedoModel.Lemmas.Pretty
import RedoModel.Lemmas.LogRec
import RedoModel.Props.C18b
/-!
# C18 (last stage of the live output) — what `PrettyLog::write_line` shows

Property theorems (and three facts about `done`/`do` records they share: `done_text_no_newline`, `kDone_wf`, `kDo_wf`).
Model: `RedoModel/Pretty.lean` (`writeLine`, `render`, `pretty`, `replayText`), tied to the
code in process (hook `pretty_line`) and through `redo-log -r` in pretty mode on synthetic log forests.

Every line of the live output and of a pretty replay passes through `writeLine`.  The theorems say: a line without a
record is written back unchanged, exactly once (`pretty_plain_line`, `pretty_unparsable_line`); what stands in front of a
record on the same line is kept (`pretty_record`); a failure record is shown under EVERY verbosity configuration with the
target's name and its exit status (`pretty_failure_always_shown`); a start record shows the target's name; a success
record is the only thing the default configuration hides; and the pretty replay is the concatenation, in order, of one
chunk per line of the raw replay, the chunk of a plain line being the line itself (`pretty_replay_chunks`).
-/
namespace C18
open RedoModel.LogRec RedoModel.Pretty

/-- The records the round-trip theorem `C18.roundtrip` is about. -/
def WfRec (r : Rec) : Prop :=
  (∀ c ∈ r.kind, c ≠ ':' ∧ c ≠ '@' ∧ c ≠ '\n') ∧ canonI32 r.pid = some r.pid ∧ canonTs r.ts = true ∧ '\n' ∉ r.text

/-- A line a script wrote (no `@` in it, hence no record prefix) is written back as it is, once, whatever the
configuration, the colours and the depth. -/
theorem pretty_plain_line (cfg : Cfg) (e : Esc) (d : Nat) (l : List Char) (h : '@' ∉ l) :
    writeLine cfg e d l = l ++ ['\n'] := by
  unfold writeLine
  rw [findSub_pre_none l h]

/-- So is a line whose first `@@REDO:` does not start a well-formed record. -/
theorem pretty_unparsable_line (cfg : Cfg) (e : Esc) (d : Nat) (l b a : List Char) (x : PErr)
    (hf : findSub pre l = some (b, a)) (hp : parse (pre ++ a) = .error x) :
    writeLine cfg e d l = l ++ ['\n'] := by
  unfold writeLine
  rw [hf]
  simp only [hp]

/-- A well-formed record, with any `@`-free text in front of it on the same line: the text is kept, the record is
rendered according to its kind. -/
theorem pretty_record (cfg : Cfg) (e : Esc) (d : Nat) (b : List Char) (r : Rec) (hb : '@' ∉ b) (hr : WfRec r) :
    writeLine cfg e d (b ++ format r) = b ++ render cfg e d r := by
  obtain ⟨a, ha, hf⟩ := findSub_format b r hb
  exact writeLine_split cfg e d _ b a r hf (ha ▸ roundtrip_proof r hr.1 hr.2.1 hr.2.2.1 hr.2.2.2)

theorem done_text_no_newline {rv name : List Char} (hrv : canonI32 rv = some rv) (hn : '\n' ∉ name) :
    '\n' ∉ rv ++ ' ' :: name := by
  intro h
  rcases List.mem_append.mp h with h | h
  · rcases RedoModel.LogRec.canonI32_chars hrv _ h with h' | h'
    · exact (RedoModel.LogRec.isDigit_ne h').2.2.1 rfl
    · revert h'; decide
  · rcases List.mem_cons.mp h with h | h
    · revert h; decide
    · exact hn h

theorem kDone_wf : ∀ c ∈ kDone, c ≠ ':' ∧ c ≠ '@' ∧ c ≠ '\n' := by decide
theorem kDo_wf : ∀ c ∈ kDo, c ≠ ':' ∧ c ≠ '@' ∧ c ≠ '\n' := by decide

/-- **A failure is shown under every configuration**: whatever `-v`, `-x`, `-d`, `--debug-locks`, `--debug-pids`,
`--no-log`, colours and depth, the `done` record of a target that exited with a status other than 0 is rendered as one
decorated line carrying `<name> (exit <status>)`. -/
theorem pretty_failure_always_shown (cfg : Cfg) (e : Esc) (d : Nat) (b pid ts rv name : List Char)
    (hb : '@' ∉ b) (hp : canonI32 pid = some pid) (ht : canonTs ts = true)
    (hrv : canonI32 rv = some rv) (hnz : rv ≠ ['0']) (hn : '\n' ∉ name) :
    writeLine cfg e d (b ++ format ⟨kDone, pid, ts, rv ++ ' ' :: name⟩)
      = b ++ pretty cfg e d pid e.red (name ++ (sExit ++ (rv ++ [')']))) := by
  rw [pretty_record cfg e d b _ hb ⟨kDone_wf, hp, ht, done_text_no_newline hrv hn⟩]
  unfold render
  have h1 : (kDone = kUnchanged) = False := by decide
  have h2 : (kDone = kCheck) = False := by decide
  have h3 : (kDone = kDo) = False := by decide
  simp only [h1, h2, h3, if_false, if_true, done_roundtrip_proof rv name hrv, hnz, ne_eq, not_false_eq_true]

/-- The same without colours and pids (what a pipe or a log file receives): the literal text. -/
theorem pretty_failure_text (cfg : Cfg) (d : Nat) (b pid ts rv name : List Char) (hpids : cfg.debugPids = false)
    (hb : '@' ∉ b) (hp : canonI32 pid = some pid) (ht : canonTs ts = true)
    (hrv : canonI32 rv = some rv) (hnz : rv ≠ ['0']) (hn : '\n' ∉ name) :
    writeLine cfg noEsc d (b ++ format ⟨kDone, pid, ts, rv ++ ' ' :: name⟩)
      = b ++ ("redo  ".toList ++ (List.replicate d ' ' ++ (name ++ (" (exit ".toList ++ (rv ++ ")\n".toList))))) := by
  rw [pretty_failure_always_shown cfg noEsc d b pid ts rv name hb hp ht hrv hnz hn]
  unfold pretty sExit redoTag noEsc
  -- a literal is `String.ofList` of its characters: rewriting spares the kernel the UTF-8 decoding
  repeat rw [String.toList_ofList]
  simp only [hpids, Bool.false_eq_true, if_false, List.isEmpty_nil, if_true, List.nil_append, List.append_assoc,
    List.cons_append]

/-- A success record is shown (as `<name> (done)` and an empty line) exactly when `-v`, `-x` or `-d` asks for it. -/
theorem pretty_success (cfg : Cfg) (e : Esc) (d : Nat) (b pid ts name : List Char)
    (hb : '@' ∉ b) (hp : canonI32 pid = some pid) (ht : canonTs ts = true) (hn : '\n' ∉ name) :
    writeLine cfg e d (b ++ format ⟨kDone, pid, ts, '0' :: ' ' :: name⟩)
      = b ++ (if cfg.verbose > 0 ∨ cfg.xtrace > 0 ∨ cfg.debug > 0 then pretty cfg e d pid e.green (name ++ sDone) ++ ['\n'] else []) := by
  have hrv : canonI32 ['0'] = some ['0'] := by decide
  have := pretty_record cfg e d b ⟨kDone, pid, ts, ['0'] ++ ' ' :: name⟩ hb ⟨kDone_wf, hp, ht, done_text_no_newline hrv hn⟩
  rw [show (['0'] ++ ' ' :: name) = '0' :: ' ' :: name from rfl] at this
  rw [this]
  unfold render
  have h1 : (kDone = kUnchanged) = False := by decide
  have h2 : (kDone = kCheck) = False := by decide
  have h3 : (kDone = kDo) = False := by decide
  have hd := done_roundtrip_proof ['0'] name hrv
  rw [show (['0'] ++ ' ' :: name) = '0' :: ' ' :: name from rfl] at hd
  simp only [h1, h2, h3, if_false, if_true, hd, ne_eq, not_true_eq_false, Bool.or_eq_true, decide_eq_true_eq]
  by_cases hv : cfg.verbose > 0 ∨ cfg.xtrace > 0 ∨ cfg.debug > 0
  · rw [if_pos hv, if_pos (by rcases hv with h | h | h; exact Or.inl (Or.inl h); exact Or.inl (Or.inr h); exact Or.inr h)]
  · rw [if_neg hv, if_neg (by
      intro h; apply hv
      rcases h with (h | h) | h
      exact Or.inl h; exact Or.inr (Or.inl h); exact Or.inr (Or.inr h))]

/-- A start record shows the target's name, under every configuration. -/
theorem pretty_start_shown (cfg : Cfg) (e : Esc) (d : Nat) (b pid ts name : List Char)
    (hb : '@' ∉ b) (hp : canonI32 pid = some pid) (ht : canonTs ts = true) (hn : '\n' ∉ name) :
    writeLine cfg e d (b ++ format ⟨kDo, pid, ts, name⟩) = b ++ pretty cfg e d pid e.green name := by
  rw [pretty_record cfg e d b _ hb ⟨kDo_wf, hp, ht, hn⟩]
  unfold render
  have h1 : (kDo = kUnchanged) = False := by decide
  have h2 : (kDo = kCheck) = False := by decide
  simp only [h1, h2, if_false, if_true]

/-- Non-vacuity and a reading aid: a failed target two levels deep, default configuration. -/
example : writeLine ⟨0, false, false, 0, 0, true⟩ noEsc 4 "@@REDO:done:31924:1790659939.3597@@ 7 sub/x.o".toList
    = "redo      sub/x.o (exit 7)\n".toList := by
  repeat rw [String.toList_ofList]
  decide +kernel

/-- The in-band finding on this path: a script line with the syntax of an `unchanged` record is swallowed by the default
live configuration of a top-level `redo --no-log` (`log = false`, no `-d`). -/
theorem pretty_inband_witness :
    writeLine ⟨0, false, false, 0, 0, false⟩ noEsc 0 "@@REDO:unchanged:1:0.0000@@ ghost".toList = [] := by
  repeat rw [String.toList_ofList]
  decide +kernel

/-- The two stages that look for a record inside a line agree on where it starts: for a line with text `b` in front
of its first `@@REDO:` and a well-formed record `r` from there on, the replay (`catlog`, since the repair 2aec02b)
handles the text and the record as two lines, and the printer (`PrettyLog`) writes the text followed by the rendered
record.  (Before the repair the replay treated the whole line as text and never followed the record.) -/
theorem replay_and_printer_split_alike (cfg : Cfg) (e : Esc) (d : Nat) (l b a : List Char) (r : Rec)
    (hf : findSub pre l = some (b, a)) (hne : b ≠ []) (hp : parse (pre ++ a) = .ok r) :
    unglue1 l = [b, pre ++ a] ∧ writeLine cfg e d l = b ++ render cfg e d r :=
  ⟨unglue1_split l b a r hf hne hp, writeLine_split cfg e d l b a r hf hp⟩

/-! ## The pretty replay is the raw replay, line by line -/

/-- `replayText` cuts its result into one chunk per replay line, in order; the chunk of a plain line (no `@`) is the
line itself with its newline: every such line of the raw replay appears exactly once, at its place, unchanged. -/
theorem pretty_replay_chunks (cfg : Cfg) (e : Esc) :
    ∀ (outs : List Tagged) (m : List (List Char × Nat)) (text : List Char),
      replayText cfg e outs m = some text →
      ∃ chunks : List (List Char), text = chunks.flatten ∧ chunks.length = outs.length ∧
        ∀ (i : Nat) (h1 : i < outs.length) (h2 : i < chunks.length) (l : List Char),
          (outs[i]).out = .raw l → '@' ∉ l → chunks[i] = l ++ ['\n'] := by
  intro outs m text h
  obtain ⟨ds, hl, rfl⟩ := replayText_chunks cfg e outs m text h
  refine ⟨_, rfl, by simp [hl], fun i h1 h2 l ho hat => ?_⟩
  rw [List.getElem_zipWith, ho]
  exact pretty_plain_line cfg e _ l hat

end C18
