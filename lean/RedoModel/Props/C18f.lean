import RedoModel.Lemmas.StatusLine
/-!
# C18 (the status line of the log viewer) — arithmetic on target names

Model: `RedoModel/StatusLine.lean` (`thousands`, `tailLoop`, `status`, `shown`, `dropBytes`, `cutIsSafe`), the status line
`LogState::catlog` writes in follow mode (src/bin/redo/log.rs); supporting lemmas: `RedoModel/Lemmas/StatusLine.lean`.

The theorems say: the subtraction that computes where a long name is cut cannot wrap (`status_cut_never_underflows`);
the cut name is a suffix of the name made of whole characters, short enough and no shorter than needed
(`status_cut_is_a_suffix`, `status_cut_drops_enough`, `status_cut_is_minimal`); what reaches the terminal is exactly
`width` characters (`status_shown_width`); and when the terminal has room for `redo N ` and a final `... `, the status is
at most `width` bytes (`status_fits`) — without that room it is longer (last examples), which is why the code must not
assert it.
-/
namespace C18
open RedoModel.StatusLine

/-- The subtraction `n.len() - (remain - 3 - 1)` of the code cannot wrap: whenever the branch that cuts the name is
taken, `remain - 4` is at most the byte length of the name.  Whatever the width, the head, the name and the tail. -/
theorem status_cut_never_underflows (width hlen : Nat) (n tail : List Char) :
    cutIsSafe width hlen n tail = true := by
  simp only [cutIsSafe, Bool.or_eq_true, Bool.not_eq_true', Bool.or_eq_false_iff, decide_eq_true_eq,
    decide_eq_false_iff_not]
  omega

/-- What reaches the terminal is exactly `width` characters: the status is cut to `width` characters and padded. -/
theorem status_shown_width (width : Nat) (s : List Char) : (shown width s).length = width := by
  simp only [shown, List.length_append, List.length_replicate, List.length_take]
  omega

/-- The cut name is a suffix of the name: whole characters were dropped from the front, none was split. -/
theorem status_cut_is_a_suffix (k : Nat) (s : List Char) : dropBytes k s <:+ s := by
  obtain ⟨p, hp, -⟩ := dropBytes_spec k s
  exact ⟨p, hp.symm⟩

/-- At least `k` bytes are gone from a name that has `k` bytes. -/
theorem status_cut_drops_enough (k : Nat) (s : List Char) (h : k ≤ blen s) :
    blen (dropBytes k s) + k ≤ blen s :=
  dropBytes_blen k s h

/-- And no more than needed: the name is the dropped characters followed by the cut name, and the dropped characters
without the last one are fewer than `k` bytes (the cut is at the first character boundary at or after byte `k`). -/
theorem status_cut_is_minimal (k : Nat) (s : List Char) :
    ∃ p, s = p ++ dropBytes k s ∧ (k ≤ blen s → k ≤ blen p) ∧ ∀ q c, p = q ++ [c] → blen q < k :=
  dropBytes_spec k s

/-- Whenever the terminal has room for `redo N ` and a final `... `, the status is at most `width` bytes, whatever the
stack of targets and their names. -/
theorem status_fits (width total : Nat) (depth : List (List Char))
    (h : blen ("redo ".toList ++ thousands total ++ [' ']) + 4 ≤ width) :
    blen (status width total depth) ≤ width := by
  unfold status
  simp only [blen_append]
  simp only [blen_append] at h
  exact tailLoop_fits width _ depth.reverse [] (by simpa using h)

/-- Hence nothing of it is hidden: a character is at least one byte, so the first `width` characters of the status are
the whole status. -/
theorem status_fits_shown (width total : Nat) (depth : List (List Char))
    (h : blen ("redo ".toList ++ thousands total ++ [' ']) + 4 ≤ width) :
    (status width total depth).take width = status width total depth := by
  have hb := status_fits width total depth h
  have hl : ∀ s : List Char, s.length ≤ blen s := by
    intro s
    induction s with
    | nil => simp
    | cons c cs ih => have := Char.utf8Size_pos c; simp only [List.length_cons, blen_cons]; omega
  exact List.take_of_length_le (Nat.le_trans (hl _) hb)

example : thousands 0 = ['0'] := by decide +kernel
example : thousands 999 = "999".toList := by
  -- a literal is `String.ofList` of its characters: rewriting spares the kernel the UTF-8 decoding
  repeat rw [String.toList_ofList]
  decide +kernel
example : thousands 1234 = "1,234".toList := by
  repeat rw [String.toList_ofList]
  decide +kernel
example : thousands 1000000 = "1,000,000".toList := by
  repeat rw [String.toList_ofList]
  decide +kernel

/-- Room for everything: `-` (the standard input of `redo-log`) is not shown. -/
example : status 40 1234567 ["all".toList, "-".toList, "sub/dir/target.o".toList]
    = "redo 1,234,567 all sub/dir/target.o ".toList := by
  repeat rw [String.toList_ofList]
  decide +kernel

/-- A name of 41 bytes (`a` and twenty `é`) in the 22 bytes that remain: 18 bytes of it are kept, the cut falls on a
character boundary. -/
example : status 30 12 ["all".toList, ("a" ++ String.ofList (List.replicate 20 'é')).toList]
    = "redo 12 ...ééééééééé ".toList := by
  rw [String.toList_append]
  repeat rw [String.toList_ofList]
  decide +kernel

example : blen (status 30 12 ["all".toList, ("a" ++ String.ofList (List.replicate 20 'é')).toList]) ≤ 30 := by
  rw [String.toList_append]
  repeat rw [String.toList_ofList]
  decide +kernel

example : blen (status 30 12 ["all".toList, ("a" ++ String.ofList (List.replicate 20 'é')).toList]) = 30 := by
  rw [String.toList_append]
  repeat rw [String.toList_ofList]
  decide +kernel

/-- One column more: the cut (byte 22 of the name) falls inside an `é` and is moved to the next boundary; the status is
the same, two bytes short of the width. -/
example : status 31 12 ["all".toList, ("a" ++ String.ofList (List.replicate 20 'é')).toList]
    = "redo 12 ...ééééééééé ".toList := by
  rw [String.toList_append]
  repeat rw [String.toList_ofList]
  decide +kernel

example : dropBytes 22 ("a" ++ String.ofList (List.replicate 20 'é')).toList
    = dropBytes 23 ("a" ++ String.ofList (List.replicate 20 'é')).toList := by
  rw [String.toList_append]
  repeat rw [String.toList_ofList]
  decide +kernel

/-- A terminal narrower than the head: the status is longer than the width (12 bytes for 5), which is why `status_fits`
has its hypothesis and the code must not assert the bound; the terminal shows the first 5 characters. -/
example : status 5 12 ["all".toList] = "redo 12 ... ".toList := by
  repeat rw [String.toList_ofList]
  decide +kernel

example : ¬ blen (status 5 12 ["all".toList]) ≤ 5 := by
  repeat rw [String.toList_ofList]
  decide +kernel

example : shown 5 (status 5 12 ["all".toList]) = "redo ".toList := by
  repeat rw [String.toList_ofList]
  decide +kernel

/-- A short status is padded. -/
example : shown 12 (status 12 7 []) = "redo 7      ".toList := by
  repeat rw [String.toList_ofList]
  decide +kernel

end C18
