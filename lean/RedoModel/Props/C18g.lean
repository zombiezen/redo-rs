import RedoModel.Lemmas.ReplayText
import RedoModel.Props.C18b
import RedoModel.Props.C18e
/-!
# C18g — the pretty replay is defined on every replay

`Pretty.replayText` looks the indentation of every line up in a map from cleaned target names to stack heights, learnt
from the `do` records on the way, and answers `none` for a line of a target it never saw announced (the driver's answer
`err:depth`).  Here: that answer is unreachable for the outputs of `LogRec.redoLog`, and the end-to-end statement
"`redo-log` in pretty mode shows every plain line of the raw replay, once, at its place, unchanged" without a
definedness hypothesis.

Definitions and proofs: `RedoModel/Lemmas/ReplayText.lean` (`Announced`, `lines_ann`, `catlog_ann`, `redoLog_ann`).
-/
namespace C18
open RedoModel RedoModel.LogRec RedoModel.Paths

/-- In the output of a `redo-log` run, every line that is not of the top level (tag `[]`) comes after a `do` record
whose text is the cleaned name of the target the line is attributed to: a target is announced before anything of it is
shown. -/
theorem announced_before_shown (F : Forest) (optU optR : Bool) (fuel : Nat) (ts : List (List Char)) (st : St)
    (h : redoLog F optU optR fuel ts ⟨[], []⟩ = .ok st) (a b : List Tagged) (o : Tagged)
    (hsplit : st.out.reverse = a ++ o :: b) (ho : o.tag ≠ []) :
    ∃ o' ∈ a, o'.out = .record kDo (normpath o.tag) :=
  (Pretty.redoLog_announced h).earlier_do a b o hsplit ho

/-- The pretty text of a replay is defined for every successful `redo-log` run, whatever the forest, the options, the
targets, the verbosity configuration and the escapes: no line is attributed to a target whose depth is unknown. -/
theorem replay_text_defined (cfg : Pretty.Cfg) (e : Pretty.Esc) (F : Forest) (optU optR : Bool) (fuel : Nat)
    (ts : List (List Char)) (st : St) (h : redoLog F optU optR fuel ts ⟨[], []⟩ = .ok st) :
    (Pretty.replayText cfg e st.out.reverse []).isSome = true :=
  Pretty.replayText_isSome_of_announced cfg e _ [] [] (fun _ hx => by cases hx) (Pretty.redoLog_announced h)

/-- End to end: for every successful `redo-log` run the pretty text exists and is cut into one chunk per line of the raw
replay, in order; the chunk of a plain line (no `@`) is the line itself with its newline. -/
theorem pretty_replay_end_to_end (cfg : Pretty.Cfg) (e : Pretty.Esc) (F : Forest) (optU optR : Bool) (fuel : Nat)
    (ts : List (List Char)) (st : St) (h : redoLog F optU optR fuel ts ⟨[], []⟩ = .ok st) :
    ∃ (text : List Char) (chunks : List (List Char)), Pretty.replayText cfg e st.out.reverse [] = some text ∧
      text = chunks.flatten ∧
      chunks.length = st.out.length ∧
      ∀ (i : Nat) (h1 : i < st.out.reverse.length) (h2 : i < chunks.length) (l : List Char),
        (st.out.reverse[i]).out = .raw l → '@' ∉ l → chunks[i] = l ++ ['\n'] := by
  have hd := replay_text_defined cfg e F optU optR fuel ts st h
  rw [Option.isSome_iff_exists] at hd
  obtain ⟨text, ht⟩ := hd
  obtain ⟨chunks, hc1, hc2, hc3⟩ := pretty_replay_chunks cfg e _ _ _ ht
  exact ⟨text, chunks, ht, hc1, by rw [hc2, List.length_reverse], hc3⟩

/-- Non-vacuity: the replay `redo-log -r all` of the glued-record scenario in pretty mode, default configuration, no
colours.  `y` is shown two columns further in than `all`; the `resumed` line of `all` is two columns further out than
`all`'s own lines would be announced. -/
example : (redoLog exGlue false true (exGlue.length + 2) ["all".toList] ⟨[], []⟩).map
      (fun s => Pretty.replayText ⟨0, false, false, 0, 0, true⟩ Pretty.noEsc s.out.reverse []) =
    .ok (some "redo  all\nall 1\nchecking y...\nredo    y\ny 1\ny 2\nredo  all (resumed)\nyes\n".toList) := by
  unfold exGlue
  -- a literal is `String.ofList` of its characters: rewriting spares the kernel the UTF-8 decoding
  repeat rw [String.toList_ofList]
  decide +kernel

/-- The running example `redo-log -r all top`: `child` is announced once, inside `all`; the in-band `resumed` record in
`child`'s log is rendered at `child`'s depth; the successful `done` records are not shown at the default verbosity. -/
example : (redoLog exF false true 4 ["all".toList, "top".toList] ⟨[], []⟩).map
      (fun s => Pretty.replayText ⟨0, false, false, 0, 0, true⟩ Pretty.noEsc s.out.reverse []) =
    .ok (some ("redo  all\ncompiling\nredo    child\ncc child.c\nredo      x (resumed)\nredo  all (resumed)\nlinked\n" ++
      "redo  top\ntop text\n").toList) := by
  unfold exF
  rw [String.toList_append]
  repeat rw [String.toList_ofList]
  decide +kernel

end C18
