/-
"The dependency records written by each command are all present afterwards": the discipline that keeps concurrent
processes from overwriting each other's records although `File::save` writes EVERY column of a row from an in-memory
copy (src/state.rs `File::from_cols_with_runid` = load, `File::save`).

Processes work inside transactions; writers are serialised by SQLite's write lock (that is `SqlTxn`'s theorem
`single_writer`: a transaction that writes is IMMEDIATE and holds the lock from `begin` to `commit`).  A copy of a row
is *loaded* (every load gets a fresh load id, clones keep it: hook `row.load fid id`), possibly changed in memory, and
*saved* (hook `row.save fid id`).  The discipline the real code follows — and this acceptor checks on every trace:

  save p f id   is accepted only if the copy `id` was loaded by `p` inside the transaction `p` is in right now.

Then no write committed by another process can lie between the load and the save, so a save never carries stale columns
over somebody else's update (`C16.no_lost_update`).
-/
namespace RedoModel.RowCache

inductive Ev
  | begin (p : Nat)
  | commit (p : Nat)           -- or rollback: the transaction ends
  | load (p f id : Nat)
  | save (p f id : Nat)
  deriving DecidableEq, Repr

structure State where
  holder : Option Nat := none              -- the process inside a (writing) transaction: the write lock
  txn : Nat → Nat := fun _ => 0            -- per process: how many transactions it has begun
  loadedIn : Nat → Nat → Option Nat := fun _ _ => none   -- process, load id ↦ the transaction it was loaded in
  loadedRow : Nat → Nat → Option Nat := fun _ _ => none  -- process, load id ↦ the row
  -- ghost, for the statement: per row, the log of saves (the processes that saved it); and per
  -- process and load id the length of that log at load time
  writes : Nat → List Nat := fun _ => []   -- row ↦ the processes that saved it, most recent first
  seenAt : Nat → Nat → Nat := fun _ _ => 0 -- process, load id ↦ number of saves of its row at load time
  -- ghost, for `C16.saves_are_serial`: row ↦ (process, number of the transaction it was in) of every save, most recent
  -- first; `stamps f` is `writes f` with the transaction numbers added (`C16.stamps_are_writes`)
  stamps : Nat → List (Nat × Nat) := fun _ => []

def upd2 {α : Type} (f : Nat → Nat → α) (a b : Nat) (v : α) : Nat → Nat → α :=
  fun x y => if x = a ∧ y = b then v else f x y

def step (s : State) : Ev → Option State
  | .begin p =>
    match s.holder with
    | some _ => none                                     -- the write lock is taken: `BEGIN IMMEDIATE` waits
    | none => some { s with holder := some p, txn := fun x => if x = p then s.txn p + 1 else s.txn x }
  | .commit p => if s.holder = some p then some { s with holder := none } else none
  | .load p f id =>
    if s.holder ≠ some p then none else
    some { s with loadedIn := upd2 s.loadedIn p id (some (s.txn p)),
                  loadedRow := upd2 s.loadedRow p id (some f),
                  seenAt := upd2 s.seenAt p id (s.writes f).length }
  | .save p f id =>
    if s.holder ≠ some p then none
    else if s.loadedIn p id ≠ some (s.txn p) then none      -- THE GUARD: loaded in this very transaction
    else if s.loadedRow p id ≠ some f then none
    else some { s with writes := fun x => if x = f then p :: s.writes f else s.writes x,
                       stamps := fun x => if x = f then (p, s.txn p) :: s.stamps f else s.stamps x }

def run (s : State) : List Ev → Option State
  | [] => some s
  | e :: es =>
    match step s e with
    | none => none
    | some s' => run s' es

/-- Index of the first rejected event (trace replay; real traces are replayed per process, because read transactions of
different processes overlap freely — mutual exclusion of writers is `SqlTxn`'s subject). -/
def runIdx (s : State) : List Ev → Nat → Except Nat State
  | [], _ => .ok s
  | e :: es, i =>
    match step s e with
    | none => .error i
    | some s' => runIdx s' es (i + 1)

/-- The saves of row `f` that happened after the copy `id` of process `p` was loaded (most recent first). -/
def since (s : State) (p f id : Nat) : List Nat := (s.writes f).take ((s.writes f).length - s.seenAt p id)

end RedoModel.RowCache
