/-
Wait-for model of the lock hand-over protocol across all redo processes of a project
(src/builder.rs `run` second loop: blocking `wait_lock` only after all own jobs are done and
recorded; src/state.rs `Lock`; src/cycles.rs), as an acceptor for hook events:

  start p u     process `p` (a `redo-ifchange`/`redo`) begins `builder::run`; `u` = the target whose
                build script (or out-of-band rebuild) it was spawned by, `none` for a top-level command
  lockOk p f    `p` obtained the lock of target `f` without waiting (`try_lock` succeeded)
  waitBegin p f `p` enters the blocking `F_SETLKW` on `f`
  waitEnd p f   the kernel granted it: `p` now owns `f`
  unlock p f
  script p f    `p` starts the build script (or the out-of-band rebuild) of `f`: from now on processes
                may `start` under `f`
  scriptEnd p f that child has been reaped and its result recorded
  exit p

Guards.  Kernel: a lock is granted only when nobody owns it.  Local (what `p` can see of itself):
`G1` a process enters a blocking wait only when it owns no lock and has no job under way;
`G2` a process spawned under `u` only ever asks for locks of targets that `u` (transitively) declares:
the declared-dependency relation `reach` is a parameter of the model, given with every trace.
`scriptEnd` requires that no process started under that execution is still alive (a shell waits
for its children).

The theorem (Props/C09b.lean, `progress`): if `reach` is well-founded by a rank (the declared graph
is acyclic), then in every accepted state in which some process is alive, some process can take a
step — no deadlock; and (Props/C09b.lean, `cross_branch_deadlock`) the witness that with a cyclic `reach` two accepted
processes block each other for ever (the recorded cross-branch finding).

No imports: part of the natively compiled driver.
-/
namespace RedoModel.Waits

structure Proc where
  pid : Nat
  under : Option Nat          -- execution (target) that spawned it
  blocked : Option Nat := none
  deriving DecidableEq, Repr

structure State where
  procs : List Proc := []                 -- alive processes
  owner : Nat → Option Nat := fun _ => none
  scripts : List (Nat × Nat) := []        -- (target, pid of the process that runs it): executions under way

inductive Ev
  | start (p : Nat) (u : Option Nat)
  | lockOk (p f : Nat)
  | waitBegin (p f : Nat)
  | waitEnd (p f : Nat)
  | unlock (p f : Nat)
  | script (p f : Nat)
  | scriptEnd (p f : Nat)
  | exit (p : Nat)
  deriving Repr

inductive Reject
  | kernel (p f : Nat) (what : String)
  | g1 (p f : Nat) (what : String)
  | g2 (p f : Nat) (what : String)
  | shape (p f : Nat) (what : String)
  deriving Repr

/-- The out-of-band rebuild of `f` (`redo-unlocked`, run while its caller keeps `f`'s lock) is an
execution of its own, keyed apart from the script of `f` that its second phase starts. -/
def oobKey (f : Nat) : Nat := f + 1000000

/-- Does execution `e` keep the lock of `f` busy? -/
def covers (e : Nat × Nat) (f : Nat) : Bool := e.1 == f || e.1 == oobKey f

def find (s : State) (p : Nat) : Option Proc := s.procs.find? (fun x => x.pid == p)

def owns (s : State) (p : Nat) (fs : List Nat) : List Nat := fs.filter (fun f => s.owner f == some p)

def setOwner (s : State) (f : Nat) (o : Option Nat) : State :=
  { s with owner := fun x => if x = f then o else s.owner x }

def setBlocked (s : State) (p : Nat) (b : Option Nat) : State :=
  { s with procs := s.procs.map (fun x => if x.pid == p then { x with blocked := b } else x) }

/-- `G2`: may a process spawned under `u` ask for `f`?  Top-level commands may ask for anything. -/
def allowed (reach : Nat → List Nat) (u : Option Nat) (f : Nat) : Bool :=
  match u with
  | none => true
  | some u => (reach u).contains f

/-- Does `p` own a lock?  `univ`: all targets mentioned so far (locks are only ever held on these). -/
def held (s : State) (p : Nat) (univ : List Nat) : Bool := univ.any (fun f => s.owner f == some p)

def step (reach : Nat → List Nat) (univ : List Nat) (s : State) : Ev → Except Reject State
  | .start p u =>
    if (find s p).isSome then .error (.shape p 0 "process started twice")
    else match u with
      | none => .ok { s with procs := { pid := p, under := none } :: s.procs }
      | some t =>
        if s.scripts.any (fun e => e.1 == t) then .ok { s with procs := { pid := p, under := some t } :: s.procs }
        else .error (.shape p t "process spawned under a target whose script is not running")
  | .lockOk p f =>
    match find s p with
    | none => .error (.shape p f "event of a process that never started")
    | some x =>
      if x.blocked.isSome then .error (.shape p f "a blocked process cannot act")
      else if !allowed reach x.under f then .error (.g2 p f "lock requested for a target the spawning target does not declare")
      else match s.owner f with
        | some q => if q = p then .ok s else .error (.kernel p f "lock granted while another process owns it")
        | none => .ok (setOwner s f (some p))
  | .waitBegin p f =>
    match find s p with
    | none => .error (.shape p f "event of a process that never started")
    | some x =>
      if x.blocked.isSome then .error (.shape p f "already blocked")
      else if !allowed reach x.under f then .error (.g2 p f "lock requested for a target the spawning target does not declare")
      else if held s p univ then .error (.g1 p f "blocking wait while owning a lock")
      else if s.scripts.any (fun e => e.2 == p) then .error (.g1 p f "blocking wait while a job of this process is under way")
      else .ok (setBlocked s p (some f))
  | .waitEnd p f =>
    match find s p with
    | none => .error (.shape p f "event of a process that never started")
    | some x =>
      if x.blocked ≠ some f then .error (.shape p f "wait ended that did not begin")
      else match s.owner f with
        | some _ => .error (.kernel p f "lock granted while another process owns it")
        | none => .ok (setOwner (setBlocked s p none) f (some p))
  | .unlock p f =>
    if s.owner f ≠ some p then .error (.shape p f "unlock of a lock this process does not own")
    else if s.scripts.any (fun e => covers e f) then .error (.shape p f "lock released while the target's script is running")
    else .ok (setOwner s f none)
  | .script p f =>
    match find s p with
    | none => .error (.shape p f "event of a process that never started")
    | some x =>
      if x.blocked.isSome then .error (.shape p f "a blocked process cannot act")
      else if s.scripts.any (fun e => e.1 == f) then .error (.shape p f "second execution of a target")
      else .ok { s with scripts := (f, p) :: s.scripts }
  | .scriptEnd p f =>
    if !s.scripts.contains (f, p) then .error (.shape p f "end of an execution that was not started")
    else if s.procs.any (fun x => x.under == some f) then .error (.shape p f "script ended while a process it spawned is alive")
    else .ok { s with scripts := s.scripts.filter (fun e => !(e == (f, p))) }
  | .exit p =>
    match find s p with
    | none => .error (.shape p 0 "exit of a process that never started")
    | some _ =>
      if s.scripts.any (fun e => e.2 == p) then .error (.shape p 0 "exit while a job of this process is under way")
      else .ok { s with procs := s.procs.filter (fun x => !(x.pid == p)),
                        owner := fun f => if s.owner f = some p then none else s.owner f }

def run (reach : Nat → List Nat) (univ : List Nat) (s : State) : List Ev → Except (Nat × Reject) State
  | [] => .ok s
  | e :: es =>
    match step reach univ s e with
    | .error r => .error (es.length, r)
    | .ok s' => run reach univ s' es

/-- Can process `x` take a step of its own?  A blocked process can when the lock it waits for is
free; an unblocked one when it has nothing under way, or one of its scripts has no live process
under it (the script can finish), or it owns a lock whose script is not running (it can start or
record it). -/
def enabled (s : State) (univ : List Nat) (x : Proc) : Bool :=
  match x.blocked with
  | some f => (s.owner f).isNone
  | none =>
    let mine := s.scripts.filter (fun e => e.2 == x.pid)
    mine.isEmpty
      || mine.any (fun e => !s.procs.any (fun y => y.under == some e.1))
      || univ.any (fun f => s.owner f == some x.pid && !s.scripts.any (fun e => covers e f))

/-- A state in which processes are alive and none can move. -/
def deadlocked (s : State) (univ : List Nat) : Bool :=
  !s.procs.isEmpty && s.procs.all (fun x => !enabled s univ x)

end RedoModel.Waits
